import XdslModel.OpDef
import XdslProofs.Lemmas.AL
/-!
The loops behind `XdslProofs/C10Storage.lean`, one step at a time: `__post_init__` (`fillStep`, and what
the whole loop leaves under a name: `get_fillDefaults`), the option loop of `irdl_op_init`
(`storeStep`), and the dictionary accessors.
-/
namespace Xdsl.OpDef

theorem fillDefaults_nil (m : AL Nat Nat) : fillDefaults [] m = m := rfl

theorem fillDefaults_cons (d : AttrDef) (ds : List AttrDef) (m : AL Nat Nat) :
    fillDefaults (d :: ds) m = fillDefaults ds (fillStep m d) := rfl

theorem fillStep_eq (m : AL Nat Nat) (d : AttrDef) :
    fillStep m d = m ∨ ∃ v, AL.get m d.name = none ∧ d.optional = false ∧ d.default = some v ∧
      fillStep m d = AL.set m d.name v := by
  unfold fillStep
  split
  · rename_i v hg ho hd
    exact Or.inr ⟨v, hg, ho, hd, rfl⟩
  · exact Or.inl rfl

/-- what a definition writes under `k` when nothing is there -/
def AttrDef.defaultAt (d : AttrDef) (k : Nat) : Option Nat :=
  if d.name = k ∧ d.optional = false then d.default else none

/-- the default of the first non-optional definition named `k` that declares one -/
def firstDefault (defs : List AttrDef) (k : Nat) : Option Nat := defs.findSome? (·.defaultAt k)

theorem firstDefault_cons (d : AttrDef) (ds : List AttrDef) (k : Nat) :
    firstDefault (d :: ds) k = (d.defaultAt k).or (firstDefault ds k) := by
  unfold firstDefault
  rw [List.findSome?_cons]
  cases d.defaultAt k <;> rfl

theorem firstDefault_eq_some {defs : List AttrDef} {k a : Nat} (h : firstDefault defs k = some a) :
    ∃ d ∈ defs, d.name = k ∧ d.optional = false ∧ d.default = some a := by
  obtain ⟨d, hm, hd⟩ := List.exists_of_findSome?_eq_some h
  unfold AttrDef.defaultAt at hd
  split at hd
  · rename_i hc
    exact ⟨d, hm, hc.1, hc.2, hd⟩
  · cases hd

theorem firstDefault_isSome {defs : List AttrDef} {d : AttrDef} (hm : d ∈ defs) (hr : d.optional = false)
    {v : Nat} (hd : d.default = some v) : (firstDefault defs d.name).isSome = true :=
  List.findSome?_isSome_iff.2 ⟨d, hm, by simp [AttrDef.defaultAt, hr, hd]⟩

theorem get_fillStep (m : AL Nat Nat) (d : AttrDef) (k : Nat) :
    AL.get (fillStep m d) k = (AL.get m k).or (d.defaultAt k) := by
  unfold AttrDef.defaultAt
  by_cases hk : d.name = k
  · subst hk
    unfold fillStep
    cases hg : AL.get m d.name <;> cases ho : d.optional <;> cases hd : d.default <;>
      simp [hg, AL.get_set]
  · rw [if_neg fun h => hk h.1, Option.or_none]
    rcases fillStep_eq m d with e | ⟨v, -, -, -, e⟩ <;> rw [e]
    rw [AL.get_set, if_neg fun h => hk h.symm]

/-- `__post_init__` in closed form: an entry that is present stays, an absent one gets the first
declared default for its name -/
theorem get_fillDefaults (defs : List AttrDef) (m : AL Nat Nat) (k : Nat) :
    AL.get (fillDefaults defs m) k = (AL.get m k).or (firstDefault defs k) := by
  induction defs generalizing m with
  | nil => exact Option.or_none.symm
  | cons d ds ih => rw [fillDefaults_cons, ih, get_fillStep, Option.or_assoc, firstDefault_cons]

theorem dictAccessor_of_present (d : AttrDef) (m : AL Nat Nat)
    (h : d.optional = false → (AL.get m d.name).isSome = true) :
    dictAccessor d m = .ok ((AL.get m d.name).or d.default) := by
  unfold dictAccessor
  cases hg : AL.get m d.name with
  | some a => simp
  | none =>
    cases ho : d.optional with
    | true => simp
    | false => have := h ho; rw [hg] at this; cases this

theorem storeSizes_cons (d : Def) (sizes : Construct → SizeAttr) (c : Construct)
    (order : List Construct) (raw : RawSizes) :
    storeSizes d sizes (c :: order) raw = storeSizes d sizes order (storeStep d sizes raw c) := rfl

/-- the option of `c` writes where the option of `c` reads -/
theorem readSize_storeStep_self (d : Def) (sizes : Construct → SizeAttr) (raw : RawSizes)
    (c : Construct) (hc : (d.get c).opt = .attrSized) :
    readSize (d.get c) c (storeStep d sizes raw c) = sizes c := by
  unfold readSize storeStep
  cases hp : (d.get c).asProp <;> simp [hc, AL.get_set]

/-- the option of another construct writes under another name, whichever dictionary it uses -/
theorem readSize_storeStep_other (d : Def) (sizes : Construct → SizeAttr) (raw : RawSizes)
    (c c' : Construct) (hne : c' ≠ c) :
    readSize (d.get c) c (storeStep d sizes raw c') = readSize (d.get c) c raw := by
  unfold readSize storeStep
  have hne' : ¬ c = c' := fun e => hne e.symm
  cases (d.get c).asProp <;> cases (d.get c').asProp <;>
    by_cases ho : (d.get c').opt = .attrSized <;> simp [ho, AL.get_set, hne']

theorem undefinedSizeProp_storeStep (d : Def) (sizes : Construct → SizeAttr) (raw : RawSizes)
    (c : Construct) (h : undefinedSizeProp d raw = false) :
    undefinedSizeProp d (storeStep d sizes raw c) = false := by
  unfold storeStep
  split
  · rename_i hc
    split
    · rename_i hp
      unfold undefinedSizeProp at h ⊢
      rw [← Bool.not_eq_true, List.any_eq_true] at h ⊢
      rintro ⟨kv, hm, hk⟩
      rcases List.mem_cons.1 hm with rfl | hm
      · simp [declaresSizeProp, hc, hp] at hk
      · exact h ⟨kv, AL.mem_del _ _ _ hm, hk⟩
    · exact h
  · exact h

end Xdsl.OpDef
