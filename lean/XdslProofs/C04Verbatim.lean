import XdslModel.Verbatim
/-!
C04 — "printing it in the generic format and parsing the text … yields equivalent IR … and printing
the parsed IR reproduces the same text": the places of the generic form where a string has to
pass through unchanged (model: `XdslModel/Verbatim.lean`).

* the verbatim body of an unregistered attribute/type is printed with `print_string(…, indent=0)`
  (repaired `UnregisteredAttr.print_builtin`): `printString_zero` — exactly the body reaches the
  stream, at any nesting depth; `printString_eq_self_iff` — this holds ONLY for indentation 0 or a
  body without line breaks, and `printString_length` / `printString_iterate_length` — with the
  unrepaired call (current indentation) every print → parse round adds `k` characters per line
  break, so the text never becomes a fixed point (`unrepaired_body_counterexample`).
* the quoted operation name of the generic form is looked up without the dialects of the enclosing
  operations (repaired `Parser.parse_operation`): `generic_lookup` — the class found carries exactly
  the printed name and is registered iff that name is (`generic_name_roundtrip`: an operation comes
  back under its own name and kind whatever encloses it); `lookup_eq_generic_iff` — the stack-based
  lookup agrees exactly when the name is registered or no enclosing dialect has an operation of that
  short name (`unrepaired_lookup_counterexample`: `"op"` below `test.*` became `test.op`).
* a name is written without quotes (`Printer.print_identifier_or_string_literal`) iff it passes `isBare`, and
  those are exactly the names the lexer reads back whole: `lexBare_whole_iff` (`lexBare_append`: with any text
  after it that does not continue an identifier; `trailing_newline_counterexample`: a test that lets a
  trailing line break through loses it).
-/
namespace Xdsl.Verbatim

/-- indentation 0 (the repaired call for verbatim bodies): the text itself is written -/
theorem printString_zero (t : Str) : printString 0 t = t := by
  induction t with
  | nil => rfl
  | cons c cs ih => simp [printString, ih]

/-- a text without line break is written as it is (first shortcut of `print_string`) -/
theorem printString_no_newline (k : Nat) (t : Str) (h : newlines t = 0) : printString k t = t := by
  induction t with
  | nil => rfl
  | cons c cs ih =>
    by_cases hc : c = '\n'
    · simp [newlines, hc] at h
    · simp [newlines, hc] at h
      simp [printString, hc, ih h]

theorem printString_length (k : Nat) (t : Str) :
    (printString k t).length = t.length + k * newlines t := by
  induction t with
  | nil => simp [printString, newlines]
  | cons c cs ih =>
    by_cases hc : c = '\n'
    · simp [printString, newlines, hc, ih, Nat.mul_add]; omega
    · simp [printString, newlines, hc, ih]; omega

theorem printString_newlines (k : Nat) (t : Str) : newlines (printString k t) = newlines t := by
  have hrep : ∀ (n : Nat) (r : Str), newlines (List.replicate n ' ' ++ r) = newlines r := by
    intro n r
    induction n with
    | zero => simp
    | succ n ih => simp [List.replicate_succ, newlines, ih]
  induction t with
  | nil => rfl
  | cons c cs ih =>
    by_cases hc : c = '\n'
    · simp [printString, newlines, hc, hrep, ih]
    · simp [printString, newlines, hc, ih]

/-- C04 for verbatim bodies: the printed text is the body **iff** the indentation is 0 or the body
has no line break — the repaired printer (indentation 0) is the only one that works at every depth -/
theorem printString_eq_self_iff (k : Nat) (t : Str) :
    printString k t = t ↔ (k = 0 ∨ newlines t = 0) := by
  constructor
  · intro h
    have hl := printString_length k t
    rw [h] at hl
    have : k * newlines t = 0 := by omega
    exact Nat.mul_eq_zero.mp this
  · rintro (rfl | h)
    · exact printString_zero t
    · exact printString_no_newline k t h

/-- `n` print → parse rounds of the unrepaired printer (the parser keeps the body verbatim) -/
def rounds (k : Nat) : Nat → Str → Str
  | 0, t => t
  | n + 1, t => rounds k n (printString k t)

/-- the unrepaired printer: after `n` rounds the body has grown by `n * k` characters per line break;
with `k > 0` and a line break no round reproduces the text of the previous one -/
theorem printString_iterate_length (k n : Nat) (t : Str) :
    (rounds k n t).length = t.length + n * (k * newlines t) := by
  induction n generalizing t with
  | zero => simp [rounds]
  | succ n ih =>
    simp only [rounds]
    rw [ih, printString_length, printString_newlines, Nat.succ_mul]
    omega

/-- witness for the unrepaired code: body `a⏎b` printed one level deep (2 spaces) -/
theorem unrepaired_body_counterexample :
    printString 2 ['a', '\n', 'b'] = ['a', '\n', ' ', ' ', 'b'] ∧ printString 0 ['a', '\n', 'b'] = ['a', '\n', 'b'] := by
  decide

/-- the repaired lookup of a quoted name: the class carries exactly that name and is a registered
one iff the name is registered -/
theorem generic_lookup (known : List Str) (name : Str) :
    lookupGeneric known name = (decide (name ∈ known), name) := by
  unfold lookupGeneric lookup
  by_cases h : name ∈ known <;> simp [h]

/-- C04 "same operations": an operation printed as `"n"` (registered iff `n` is a registered name)
is read back under the same name and kind, whatever operations enclose it -/
theorem generic_name_roundtrip (known : List Str) (n : Str) (isReg : Bool)
    (h : isReg = decide (n ∈ known)) : lookupGeneric known n = (isReg, n) := by
  rw [generic_lookup, h]

theorem lookup_known (known stack : List Str) (name : Str) (h : name ∈ known) :
    lookup known stack name = (true, name) := by
  simp [lookup, h]

/-- the stack-based lookup (custom formats; the unrepaired generic path) gives the answer of the
generic one exactly when the name is registered or no enclosing dialect has that short name -/
theorem lookup_eq_generic_iff (known stack : List Str) (name : Str) :
    lookup known stack name = lookupGeneric known name ↔
      (name ∈ known ∨ ∀ d ∈ stack, qualify d name ∉ known) := by
  rw [generic_lookup]
  by_cases h : name ∈ known
  · simp [lookup, h]
  · simp only [lookup, h, if_false, false_or, decide_false]
    cases hf : (stack.reverse.map (qualify · name)).find? (fun n => decide (n ∈ known)) with
    | none =>
      simp only [true_iff]
      intro d hd hq
      have := List.find?_eq_none.mp hf (qualify d name)
        (List.mem_map.mpr ⟨d, List.mem_reverse.mpr hd, rfl⟩)
      simp [hq] at this
    | some n =>
      have hn := List.find?_some hf
      have hmem := List.mem_of_find?_eq_some hf
      obtain ⟨d, hd, rfl⟩ := List.mem_map.mp hmem
      constructor
      · intro he
        simp at he
      · intro hall
        have := hall d (List.mem_reverse.mp hd)
        simp at hn
        exact absurd hn this

/-- witness for the unrepaired code: the unregistered operation `"op"` below a `test.*` operation was
read back as `test.op`; the repaired lookup keeps it -/
theorem unrepaired_lookup_counterexample :
    lookup [['t', '.', 'o']] [['t']] ['o'] = (true, ['t', '.', 'o']) ∧
    lookupGeneric [['t', '.', 'o']] ['o'] = (false, ['o']) := by
  decide

/-! ## names printed bare or quoted (`Printer.print_identifier_or_string_literal`)
"parsing the text … yields equivalent IR": an attribute / property key, a `DictionaryAttr` key or a symbol
name written WITHOUT quotes is read back by the lexer as the longest identifier prefix of what was written. -/

private theorem all_of_dropWhile_nil (p : Char → Bool) (l : List Char) (h : l.dropWhile p = []) :
    ∀ x ∈ l, p x = true := by
  induction l with
  | nil => simp
  | cons a l ih =>
    by_cases ha : p a = true
    · simp only [List.dropWhile_cons, ha, if_true] at h
      intro x hx
      rcases List.mem_cons.mp hx with rfl | hx
      · exact ha
      · exact ih h x hx
    · simp [ha] at h

/-- a bare name followed by anything that does not continue an identifier (` = `, `,`, `}`, a line break …)
is read back as that name, the rest is left for the parser -/
theorem lexBare_append (s rest : Str) (h : isBare s = true)
    (hr : ∀ c ∈ rest.head?, isIdChar c = false) : lexBare (s ++ rest) = some (s, rest) := by
  cases s with
  | nil => simp [isBare] at h
  | cons c cs =>
    simp only [isBare, Bool.and_eq_true, List.all_eq_true] at h
    have hrest : rest.takeWhile isIdChar = [] ∧ rest.dropWhile isIdChar = rest := by
      cases rest with
      | nil => exact ⟨rfl, rfl⟩
      | cons r rs => simp [hr r (by simp)]
    simp [lexBare, h.1, List.takeWhile_append_of_pos h.2, List.dropWhile_append_of_pos h.2, hrest]

/-- the lexer reads a text back as exactly that name (nothing left over) if and only if the name passes the
printer's test `isBare`: for every other name the unquoted spelling loses or splits characters, so it has
to be printed as a string literal -/
theorem lexBare_whole_iff (s : Str) : lexBare s = some (s, []) ↔ isBare s = true := by
  refine ⟨fun h => ?_, fun h => by simpa using lexBare_append s [] h (by simp)⟩
  cases s with
  | nil => cases h
  | cons c cs =>
    by_cases hc : isIdStart c = true
    · simp only [lexBare, hc, if_true, Option.some.injEq, Prod.mk.injEq, List.cons.injEq,
        true_and] at h
      simp only [isBare, hc, Bool.true_and, List.all_eq_true]
      exact all_of_dropWhile_nil _ _ h.2
    · simp [lexBare, hc] at h

/-- no bare name contains a line break or a blank (the lexer skips those between tokens) -/
theorem isBare_no_space (s : Str) (h : isBare s = true) : '\n' ∉ s ∧ ' ' ∉ s ∧ '\t' ∉ s ∧ '\r' ∉ s := by
  cases s with
  | nil => simp [isBare] at h
  | cons c cs =>
    simp only [isBare, Bool.and_eq_true, List.all_eq_true] at h
    refine ⟨?_, ?_, ?_, ?_⟩ <;>
    · intro hm
      rcases List.mem_cons.mp hm with rfl | hm
      · exact absurd h.1 (by decide)
      · exact absurd (h.2 _ hm) (by decide)

/-- witness for a test that accepts a trailing line break (Python `$` instead of `fullmatch`): the name
`k⏎` written unquoted comes back as `k` -/
theorem trailing_newline_counterexample :
    isBare ['k', '\n'] = false ∧ lexBare ['k', '\n'] = some (['k'], ['\n']) := by
  decide

end Xdsl.Verbatim
