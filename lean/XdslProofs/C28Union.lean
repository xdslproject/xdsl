import XdslProofs.C28
import XdslProofs.Lemmas.DisjointSet
/-!
# C28 — e-class merging on the union-find (`EqsatPDLInterpFunctions.eclass_union`)

`eclassUnion e a b` looks both class handles up in the `DisjointSet` (they may be *stale*: classes
that were replaced by an earlier merge); a constant class (`equivalence.const_class`) is always kept
and made the representative (`union_left`), two plain classes are united by size and the class that
the union-find made the new representative is kept; the other class is merged into the kept one
(`eclassUnion_spec`, from the C12 theorems `find2_spec`, `find_spec`, `union_spec`, `unionLeft_spec` about
`IntDisjointSet`).  If the two handles have equal values — what a sound rule establishes — the graph
stays consistent whichever class is kept, and the union-find keeps mapping every handle ever handed
out to a class with the same value.
(Separate module because the C12 lemmas import Mathlib.)
-/
namespace Xdsl.EGraph
open Xdsl.DisjointSet

variable {V : Type}

/-- the union-find is a well-formed forest over exactly the registered class handles -/
structure EGInv (e : EG) : Prop where
  inv : Inv e.uf
  size : e.uf.size = e.vals.length

/-- every handle ever registered has the value of the class that currently represents it -/
def UFSound (e : EG) (ρ : Nat → V) : Prop :=
  ∀ i, i < e.vals.length → ρ (e.vals.getD i 0) = ρ (e.vals.getD (root e.uf i) 0)

theorem indexOf_spec {e : EG} {c i : Nat} (h : e.indexOf c = some i) :
    i < e.vals.length ∧ e.vals.getD i 0 = c := by
  unfold EG.indexOf at h
  obtain ⟨hi, hp, _⟩ := List.findIdx?_eq_some_iff_getElem.mp h
  refine ⟨hi, ?_⟩
  simp only [decide_eq_true_eq] at hp
  rw [List.getD_eq_getElem?_getD, List.getElem?_eq_getElem hi]
  exact hp

/-- `populate_known_ops` starts from singletons -/
theorem ofProg_inv (g : Prog) : EGInv (EG.ofProg g) ∧ ∀ ρ : Nat → V, UFSound (EG.ofProg g) ρ := by
  refine ⟨⟨init_inv _, by simp [EG.ofProg, init_size]⟩, ?_⟩
  intro ρ i _
  simp [EG.ofProg, init_root]

/-- **What `eclass_union` does to the union-find and the graph**, for registered (possibly stale)
handles: if they already have the same representative only path compression happens; otherwise one
of the two representatives `k` absorbs the class of the other, `r`, in the graph and in the forest. -/
theorem eclassUnion_spec {e : EG} {a b ia ib : Nat} (hi : EGInv e) (ha : e.indexOf a = some ia)
    (hb : e.indexOf b = some ib) :
    (root e.uf ia = root e.uf ib ∧ ∃ u, eclassUnion e a b = some ({ e with uf := u }, false) ∧
      Inv u ∧ u.size = e.uf.size ∧ ∀ i, root u i = root e.uf i) ∨
    ∃ k r u, (k = root e.uf ia ∧ r = root e.uf ib ∨ k = root e.uf ib ∧ r = root e.uf ia) ∧
      eclassUnion e a b =
        some ({ e with uf := u, prog := mergeInto e.prog (e.vals.getD k 0) (e.vals.getD r 0) }, true) ∧
      Inv u ∧ u.size = e.uf.size ∧ ∀ i, root u i = if root e.uf i = r then k else root e.uf i := by
  have hia : ia < e.uf.size := hi.size ▸ (indexOf_spec ha).1
  have hib : ib < e.uf.size := hi.size ▸ (indexOf_spec hb).1
  obtain ⟨u1, u2, e1, e2, c⟩ := find2_spec e.uf hi.inv hia hib
  have hra : root e.uf ia < u2.size := c.size ▸ root_lt e.uf hi.inv hia
  have hrb : root e.uf ib < u2.size := c.size ▸ root_lt e.uf hi.inv hib
  have hidem := root_idem e.uf hi.inv
  -- `eclassUnion` is unfolded once, up to the two `find`s; each branch below rewrites what is left of it
  generalize hres : eclassUnion e a b = res
  simp only [eclassUnion, ha, hb, e1, e2] at hres
  by_cases heq : root e.uf ia = root e.uf ib
  · rw [if_pos heq] at hres
    exact Or.inl ⟨heq, u2, hres.symm, c.inv, c.size, c.root⟩
  right
  rw [if_neg heq] at hres
  cases hc : e.consts.contains (e.vals.getD (root e.uf ia) 0) with
  | true =>
    obtain ⟨u3, e3, i3, s3, r3, _⟩ := unionLeft_spec u2 c.inv hra hrb
    simp only [hc, if_true, e3] at hres
    exact ⟨root e.uf ia, root e.uf ib, u3, Or.inl ⟨rfl, rfl⟩, hres.symm, i3, s3.trans c.size,
      fun i => by simp only [r3, c.root, hidem]⟩
  | false =>
    cases hc' : e.consts.contains (e.vals.getD (root e.uf ib) 0) with
    | true =>
      obtain ⟨u3, e3, i3, s3, r3, _⟩ := unionLeft_spec u2 c.inv hrb hra
      simp only [hc, hc', if_true, if_false, Bool.false_eq_true, e3] at hres
      exact ⟨root e.uf ib, root e.uf ia, u3, Or.inr ⟨rfl, rfl⟩, hres.symm, i3, s3.trans c.size,
        fun i => by simp only [r3, c.root, hidem]⟩
    | false =>
      obtain ⟨u3, e3, i3, s3, r3, _⟩ := union_spec u2 c.inv hra hrb
      obtain ⟨u4, e4, i4, s4, _, r4, _⟩ := find_spec u3 i3 (s3 ▸ hra)
      simp only [hc, hc', if_false, Bool.false_eq_true, e3, e4] at hres
      rcases r3 with r3 | r3
      · have hk : root u3 (root e.uf ia) = root e.uf ia := by simp only [r3, c.root, hidem, if_neg heq]
        rw [hk, if_pos rfl] at hres
        exact ⟨root e.uf ia, root e.uf ib, u4, Or.inl ⟨rfl, rfl⟩, hres.symm, i4, (s4.trans s3).trans c.size,
          fun i => by simp only [r4, r3, c.root, hidem]⟩
      · have hk : root u3 (root e.uf ia) = root e.uf ib := by simp only [r3, c.root, hidem, if_pos]
        rw [hk, if_neg (Ne.symm heq)] at hres
        exact ⟨root e.uf ib, root e.uf ia, u4, Or.inr ⟨rfl, rfl⟩, hres.symm, i4, (s4.trans s3).trans c.size,
          fun i => by simp only [r4, r3, c.root, hidem]⟩

theorem UFSound.absorb {e : EG} {ρ : Nat → V} {u : UF} {g : Prog} {k r : Nat} (hs : UFSound e ρ)
    (hval : ρ (e.vals.getD k 0) = ρ (e.vals.getD r 0))
    (hr : ∀ i, root u i = if root e.uf i = r then k else root e.uf i) :
    UFSound { e with uf := u, prog := g } ρ := by
  intro i hi
  show ρ (e.vals.getD i 0) = ρ (e.vals.getD (root u i) 0)
  rw [hr]
  split
  · rename_i h; rw [hs i hi, h, hval]
  · exact hs i hi

/-- **eclassUnion_preserves_consistency** — merging through the union-find, with possibly stale
handles `a`, `b` that have equal values: consistency, the values of the roots, the forest invariant
and the handle-to-class soundness are all preserved; the call never raises for registered handles. -/
theorem eclassUnion_preserves_consistency (I : Interp V) {env : List V} {ρ : Nat → V} {e : EG} {a b ia ib : Nat}
    (hi : EGInv e) (hs : UFSound e ρ) (hc : Consistent I e.prog env ρ)
    (ha : e.indexOf a = some ia) (hb : e.indexOf b = some ib) (hab : ρ a = ρ b) :
    ∃ e' r, eclassUnion e a b = some (e', r) ∧ Consistent I e'.prog env ρ
      ∧ e'.prog.ret.map ρ = e.prog.ret.map ρ ∧ EGInv e' ∧ UFSound e' ρ ∧ e'.vals = e.vals := by
  obtain ⟨hia, hva⟩ := indexOf_spec ha
  obtain ⟨hib, hvb⟩ := indexOf_spec hb
  -- a handle has the value of its representative's class
  have hρa : ρ (e.vals.getD (root e.uf ia) 0) = ρ a := by rw [← hs ia hia, hva]
  have hρb : ρ (e.vals.getD (root e.uf ib) 0) = ρ b := by rw [← hs ib hib, hvb]
  rcases eclassUnion_spec hi ha hb with ⟨_, u, he, iu, su, ru⟩ | ⟨k, r, u, hkr, he, iu, su, ru⟩
  · refine ⟨_, false, he, hc, rfl, ⟨iu, su.trans hi.size⟩, fun i h => ?_, rfl⟩
    show ρ (e.vals.getD i 0) = ρ (e.vals.getD (root u i) 0)
    rw [ru]; exact hs i h
  · have hval : ρ (e.vals.getD k 0) = ρ (e.vals.getD r 0) := by
      rcases hkr with ⟨rfl, rfl⟩ | ⟨rfl, rfl⟩
      · rw [hρa, hρb, hab]
      · rw [hρa, hρb, hab]
    obtain ⟨c', rr⟩ := mergeInto_keeps I hc hval
    exact ⟨_, true, he, c', rr, ⟨iu, su.trans hi.size⟩, hs.absorb hval ru, rfl⟩

end Xdsl.EGraph
