import XdslProofs.Lemmas.PostOrder
/-!
# C24 — property theorems (post-order part)

"Post-order iteration from the entry yields every reachable block exactly once, no unreachable
block, and the entry block last."

`g : Graph` with all successors inside the region (`WF g`), `r` the start block
(`PostOrderIterator(block)`; the entry is `r = 0`).  The model is the FIXED iterator
(see `XdslModel/PostOrder.lean`).
-/
namespace Xdsl.PostOrder
open Xdsl.Graph

theorem postOrder_final (g : Graph) (hwf : WF g) {r : Nat} (hr : r < g.length) :
    ∃ out, postOrder g r = (out.reverse, true) ∧ Final g r out :=
  run_spec hwf hr _ _ _ (inv_init g r) (measure_init _ _ (by omega))

/-- The iteration ends (`StopIteration`) within `2n + 1` pops of the stack. -/
theorem postorder_terminates (g : Graph) (hwf : WF g) {r : Nat} (hr : r < g.length) :
    (postOrder g r).2 = true := by
  obtain ⟨out, h, _⟩ := postOrder_final g hwf hr; rw [h]

/-- The yielded sequence has no duplicates ("exactly once"), its members are
exactly the blocks reachable from the start block ("every reachable block … no unreachable block"),
and the start block comes last ("the entry block last"). -/
theorem postorder_spec (g : Graph) (hwf : WF g) {r : Nat} (hr : r < g.length) :
    (postOrder g r).1.Nodup
    ∧ (∀ b, b ∈ (postOrder g r).1 ↔ Reach g r b)
    ∧ (postOrder g r).1.getLast? = some r := by
  obtain ⟨out, h, hf⟩ := postOrder_final g hwf hr
  rw [h]
  refine ⟨((List.reverse_perm out).nodup_iff).mpr hf.nodup, fun b => by simpa using hf.mem_iff b, ?_⟩
  obtain ⟨o, rfl⟩ := hf.last
  simp

/-- Children first: every yielded block other than the start block has a CFG predecessor that is
yielded later (in the proof, the block that pushed it: `Inv.later`). -/
theorem postorder_children_first (g : Graph) (hwf : WF g) {r : Nat} (hr : r < g.length) :
    ∀ v ∈ (postOrder g r).1, v ≠ r → ∃ u, Edge g u v ∧ [v, u].Sublist (postOrder g r).1 := by
  obtain ⟨out, h, hf⟩ := postOrder_final g hwf hr
  rw [h]
  intro v hv hne
  exact hf.later v (by simpa using hv) hne

/-- `cf.cond_br %c, ^1, ^1` (the failing input of the pinned code, which yielded `[1, 1, 0]`) -/
example : WF [[1, 1], []] ∧ (postOrder [[1, 1], []] 0).1 = [1, 0] :=
  ⟨(wf_iff _).mp (by decide +kernel), by decide +kernel⟩

/-- loop with exit and an unreachable block `4`: `0→1,2; 1→2; 2→0,3; 4→0` -/
example : WF [[1, 2], [2], [0, 3], [], [0]]
    ∧ (postOrder [[1, 2], [2], [0, 3], [], [0]] 0) = ([1, 3, 2, 0], true) :=
  ⟨(wf_iff _).mp (by decide +kernel), by decide +kernel⟩

end Xdsl.PostOrder
