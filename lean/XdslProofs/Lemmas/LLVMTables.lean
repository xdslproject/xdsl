import XdslModel.LLVM
/-! C23, the mapping tables of `convert_op.py`: op class → mnemonic with its flags, icmp and fcmp predicates
through llvmlite's spelling rules, cast kinds.  Each table theorem says that the emitted instruction means, at
every width and on all operands, what the dialect op means.  No Mathlib. -/
namespace Xdsl.LLVM

theorem bit_cases (ovf : Nat) (h : ovf < 4) :
    (ovf = 0 ∧ bit ovf 0 = false ∧ bit ovf 1 = false) ∨ (ovf = 1 ∧ bit ovf 0 = true ∧ bit ovf 1 = false) ∨
    (ovf = 2 ∧ bit ovf 0 = false ∧ bit ovf 1 = true) ∨ (ovf = 3 ∧ bit ovf 0 = true ∧ bit ovf 1 = true) := by
  rcases ovf with _ | _ | _ | _ | n
  · decide
  · decide
  · decide
  · decide
  · omega

theorem overflowFlags_spec (ovf : Nat) (fl : List IFlag) (h : overflowFlags ovf = some fl) :
    fl.contains .nsw = bit ovf 0 ∧ fl.contains .nuw = bit ovf 1 := by
  unfold overflowFlags at h
  split at h <;> cases h <;> decide

theorem contains_flag (b : Bool) (f : IFlag) : (if b then [f] else []).contains f = b := by
  cases b <;> cases f <;> rfl

/-- "binary ops with overflow/exact flags": the instruction that `_convert_binop` emits for an op of
class `k` with properties `overflowFlags = ovf`, `isExact`, `isDisjoint` computes, at every width and
for all operands, exactly what the dialect op prescribes — including which operands give poison/UB. -/
theorem convBin_sound (k : DBin) (ovf : Nat) (exact disjoint : Bool) (fl : List IFlag)
    (h : convBinFlags k ovf exact disjoint = some fl) {w : Nat} (x y : BitVec w) :
    (convBin k).eval fl x y = k.eval ovf exact disjoint x y := by
  cases k <;> simp only [convBinFlags, Option.some.injEq] at h
  case AddOp | SubOp | MulOp | ShlOp =>
    all_goals
      obtain ⟨h1, h2⟩ := overflowFlags_spec ovf fl h
      dsimp only [convBin, IBin.eval, DBin.eval]
      rw [h1, h2]
  case URemOp | SRemOp | AndOp | XOrOp => all_goals rfl
  all_goals
    subst h
    dsimp only [convBin, IBin.eval, DBin.eval]
    rw [contains_flag]

/-- "comparisons": predicate index `p` of `llvm.icmp` (through `ICmpPredicateFlag.from_int`,
`_ICMP_PRED_MAP` and llvmlite's `icmp_signed`/`icmp_unsigned`) becomes an LLVM condition code with the
same truth table, at every width. -/
theorem convICmp_sound (p : Nat) (q : IPred) (h : convICmpPred p = some q) {w : Nat} (x y : BitVec w) :
    dICmp p x y = some (q.eval x y) := by
  unfold convICmpPred icmpPredMap at h
  split at h <;> cases h <;> rfl

theorem convFCmpPred_none {p : Nat} (hp : 16 ≤ p) : convFCmpPred p = none := by
  have : fcmpFlagName p = none := List.getElem?_eq_none hp
  simp only [convFCmpPred, this]

/-- row `p` of the fcmp table is right: translated exactly for the predicates 1 … 14, and then to a condition
code with the same truth value on each of the four relations.  `convFCmpPred` computes on the spelling of
the predicate, so the 16 rows are settled by evaluation (`convFCmp_table`). -/
def fcmpRowOK (p : Nat) : Bool :=
  (convFCmpPred p).isSome == decide (1 ≤ p ∧ p ≤ 14) &&
  match convFCmpPred p with
  | some q => [FRel.lt, .eq, .gt, .un].all fun r => dFCmp p r == some (q.eval r)
  | none => true

theorem convFCmp_table : ∀ p : Fin 16, fcmpRowOK p.val = true := by decide

/-- "comparisons", `llvm.fcmp`: predicate index `p` (through `FCmpPredicateFlag.from_int`, `_convert_fcmp`'s
ordered/unordered split on the first letter and llvmlite's `fcmp_ordered`/`fcmp_unordered` spelling) becomes a
condition code with the same truth value on each of the four possible relations of two floats. -/
theorem convFCmp_sound (p : Nat) (q : IFPred) (h : convFCmpPred p = some q) (r : FRel) :
    dFCmp p r = some (q.eval r) := by
  by_cases hp : p < 16
  · have hrow := convFCmp_table ⟨p, hp⟩
    simp only [fcmpRowOK, h, Bool.and_eq_true, List.all_cons, List.all_nil, beq_iff_eq, Bool.and_true] at hrow
    obtain ⟨_, a, b, c, d⟩ := hrow
    cases r <;> assumption
  · rw [convFCmpPred_none (Nat.le_of_not_lt hp)] at h; cases h

/-- the fcmp predicates `_false` (0) and `_true` (15) are *not translated*: llvmlite rejects the
spelling `_convert_fcmp` produces (`ValueError`), all others are translated. -/
theorem convFCmp_translated (p : Nat) : (convFCmpPred p).isSome = (decide (1 ≤ p ∧ p ≤ 14)) := by
  by_cases hp : p < 16
  · exact eq_of_beq (Bool.and_eq_true_iff.1 (convFCmp_table ⟨p, hp⟩)).1
  · rw [convFCmpPred_none (Nat.le_of_not_lt hp)]
    exact (decide_eq_false (by omega)).symm

/-- "casts": `_convert_cast` keeps the cast kind and the `nsw`/`nuw` (trunc) and `nneg` (zext) flags. -/
theorem convCast_sound (k : DCast) (ovf : Nat) (nneg : Bool) (fl : List IFlag)
    (h : convCastFlags k ovf nneg = some fl) (toTy : Ty) (a : Val) :
    castCore (convCast k).kind toTy a (convCast k = .trunc && fl.contains .nsw)
        (convCast k = .trunc && fl.contains .nuw) (convCast k = .zext && fl.contains .nneg)
      = castCore k.kind toTy a (k = .TruncOp && bit ovf 0) (k = .TruncOp && bit ovf 1) (k = .ZExtOp && nneg) := by
  cases k <;> simp only [convCastFlags, Option.some.injEq] at h
  case TruncOp =>
    obtain ⟨h1, h2⟩ := overflowFlags_spec ovf fl h
    show castCore .trunc toTy a (fl.contains .nsw) (fl.contains .nuw) false = castCore .trunc toTy a (bit ovf 0) (bit ovf 1) false
    rw [h1, h2]
  case ZExtOp =>
    subst h
    show castCore .zext toTy a false false ((if nneg then [IFlag.nneg] else []).contains .nneg) = castCore .zext toTy a false false nneg
    rw [contains_flag]
  all_goals
    subst h
    rfl

end Xdsl.LLVM
