import XdslModel.EGraph
import XdslProofs.Lemmas.EGraphList
/-!
Semantics for the e-graph model (C28), and that the edits which the transformations of the model share
keep consistency: renaming a value to one of equal value (`replUsesIf_keeps`), dropping nodes
(`filter_keeps`), changing cost attributes (`map_sameSem_keeps`).

* `Interp V` — abstract semantics of operations: an arbitrary function of (name, key, operand values).
* `Node.Sat I ρ n` — the valuation `ρ : Nat → V` satisfies node `n`: an op node has the value of its
  function on its operands' values; every alternative of an e-class has the class's value.
* `Consistent I g env ρ` — `ρ` gives block argument `i` the value `env[i]` and satisfies every node.
* `evalSeq I g env` — ordinary sequential execution of the block (what running the function means);
  fails on a use before its definition.  A leftover e-class evaluates to its alternatives' value.
* `WF p` — source programs; a run of one satisfies every node with the values it computed (`evalNodes_sat`).
* `renIf` / `replUsesIf` — the renaming of a value behind both `replace_uses_with_if` variants of the model.
* `Keeps I env ρ g g'` — what an edit in place preserves: `g'` is consistent with the valuation `ρ` of `g` and
  its roots have the values of the roots of `g`.  Edits are chained with `Keeps.andThen`.
No Mathlib.
-/
namespace Xdsl.EGraph

abbrev Interp (V : Type) := String → String → List V → V

variable {V : Type}

def Node.Sat (I : Interp V) (ρ : Nat → V) : Node → Prop
  | .op r n k a _ => ρ r = I n k (a.map ρ)
  | .cls r a _ => ∀ x ∈ a, ρ x = ρ r

structure Consistent (I : Interp V) (g : Prog) (env : List V) (ρ : Nat → V) : Prop where
  len : env.length = g.nargs
  args : ∀ i (h : i < env.length), ρ i = env[i]
  nodes : ∀ n ∈ g.body, n.Sat I ρ

abbrev Env (V : Type) := Nat → Option V

def Env.set (σ : Env V) (r : Nat) (v : V) : Env V := fun x => if x = r then some v else σ x

def initEnv (env : List V) : Env V := fun i => env[i]?

def evalNode (I : Interp V) (σ : Env V) : Node → Option (Env V)
  | .op r n k a _ => (a.mapM σ).map fun vs => σ.set r (I n k vs)
  | .cls r a _ => match a.mapM σ with
    | some (v :: _) => some (σ.set r v)
    | _ => none

def evalNodes (I : Interp V) : List Node → Env V → Option (Env V)
  | [], σ => some σ
  | n :: rest, σ => (evalNode I σ n).bind (evalNodes I rest)

def evalSeq (I : Interp V) (g : Prog) (env : List V) : Option (List V) :=
  if env.length = g.nargs then (evalNodes I g.body (initEnv env)).bind fun σ => g.ret.mapM σ else none

def Node.result (I : Interp V) : Node → List V → Option V
  | .op _ n k _ _, vs => some (I n k vs)
  | .cls .., vs => vs.head?

theorem evalNode_eq (I : Interp V) (σ : Env V) (n : Node) :
    evalNode I σ n = (n.args.mapM σ).bind fun vs => (n.result I vs).map (σ.set n.res) := by
  cases n with
  | op r nm k a c =>
    show (a.mapM σ).map _ = (a.mapM σ).bind _
    cases a.mapM σ <;> rfl
  | cls r a m =>
    show (match a.mapM σ with | some (v :: _) => some (σ.set r v) | _ => none) = (a.mapM σ).bind _
    rcases a.mapM σ with _ | _ | ⟨v, vs⟩ <;> rfl

theorem evalNodes_cons_eq_some {I : Interp V} {σ σ' : Env V} {n : Node} {rest : List Node} :
    evalNodes I (n :: rest) σ = some σ' ↔
      ∃ vs v, n.args.mapM σ = some vs ∧ n.result I vs = some v ∧ evalNodes I rest (σ.set n.res v) = some σ' := by
  rw [evalNodes, evalNode_eq, Option.bind_eq_some_iff]
  constructor
  · rintro ⟨σ1, h1, h2⟩
    obtain ⟨vs, ha, h1⟩ := Option.bind_eq_some_iff.1 h1
    obtain ⟨v, hv, rfl⟩ := Option.map_eq_some_iff.1 h1
    exact ⟨vs, v, ha, hv, h2⟩
  · rintro ⟨vs, v, ha, hv, h2⟩
    exact ⟨_, Option.bind_eq_some_iff.2 ⟨vs, ha, Option.map_eq_some_iff.2 ⟨v, hv, rfl⟩⟩, h2⟩

theorem evalSeq_eq_some {I : Interp V} {g : Prog} {env rs : List V} :
    evalSeq I g env = some rs ↔
      env.length = g.nargs ∧ ∃ σ, evalNodes I g.body (initEnv env) = some σ ∧ g.ret.mapM σ = some rs := by
  unfold evalSeq
  split
  · rename_i h; simp only [Option.bind_eq_some_iff, h, true_and]
  · rename_i h; simp only [h, false_and, reduceCtorEq]

theorem Env.set_self (σ : Env V) (r : Nat) (v : V) : σ.set r v r = some v := if_pos rfl

theorem Env.set_of_ne (σ : Env V) {r x : Nat} (v : V) (h : x ≠ r) : σ.set r v x = σ x := if_neg h

theorem Env.set_ne_none {σ : Env V} {r x : Nat} {v : V} : σ.set r v x ≠ none ↔ σ x ≠ none ∨ x = r := by
  unfold Env.set
  split
  · rename_i e; exact ⟨fun _ => Or.inr e, fun _ => Option.some_ne_none v⟩
  · rename_i e; exact ⟨Or.inl, fun h => h.resolve_right e⟩

theorem evalNodes_dom (I : Interp V) {b : List Node} : ∀ {σ σ' : Env V}, evalNodes I b σ = some σ' →
    ∀ x, σ' x ≠ none ↔ σ x ≠ none ∨ x ∈ b.map (·.res) := by
  induction b with
  | nil => intro _ _ h x; cases h; simp
  | cons n rest ih =>
    intro σ σ' h x
    obtain ⟨vs, v, _, _, he⟩ := evalNodes_cons_eq_some.1 h
    rw [ih he x, Env.set_ne_none, List.map_cons, List.mem_cons, or_assoc]

def Agrees (σ : Env V) (ρ : Nat → V) : Prop := ∀ x v, σ x = some v → v = ρ x

theorem mapM_agrees {σ : Env V} {ρ : Nat → V} (h : Agrees σ ρ) {a : List Nat} :
    ∀ {vs : List V}, a.mapM σ = some vs → vs = a.map ρ := by
  induction a with
  | nil => intro _ h'; cases h'; rfl
  | cons x a ih =>
    intro _ h'
    obtain ⟨v, ws, hx, ha, rfl⟩ := mapM_cons_eq_some.1 h'
    rw [List.map_cons, ← h x v hx, ← ih ha]

theorem Agrees.set {σ : Env V} {ρ : Nat → V} (h : Agrees σ ρ) (r : Nat) (v : V) (hv : v = ρ r) :
    Agrees (σ.set r v) ρ := by
  intro x w hw
  unfold Env.set at hw
  split at hw
  · rename_i e; subst e; cases hw; exact hv
  · exact h x w hw

theorem Node.Sat.result {I : Interp V} {ρ : Nat → V} {n : Node} {v : V} (hs : n.Sat I ρ)
    (hv : n.result I (n.args.map ρ) = some v) : v = ρ n.res := by
  cases n with
  | op r nm k a c => cases hv; exact hs.symm
  | cls r a m =>
    cases a with
    | nil => cases hv
    | cons x a => cases hv; exact hs x List.mem_cons_self

theorem evalNodes_agrees (I : Interp V) {ρ : Nat → V} (body : List Node) :
    ∀ (σ σ' : Env V), (∀ n ∈ body, n.Sat I ρ) → Agrees σ ρ → evalNodes I body σ = some σ' → Agrees σ' ρ := by
  induction body with
  | nil => intro _ _ _ h he; cases he; exact h
  | cons n rest ih =>
    intro σ σ' hs h he
    obtain ⟨vs, v, ha, hv, he⟩ := evalNodes_cons_eq_some.1 he
    rw [mapM_agrees h ha] at hv
    exact ih _ σ' (fun m hm => hs m (List.mem_cons_of_mem _ hm))
      (h.set _ v ((hs n List.mem_cons_self).result hv)) he

theorem evalSeq_of_consistent (I : Interp V) {g : Prog} {env : List V} {ρ : Nat → V} {rs : List V}
    (hc : Consistent I g env ρ) (he : evalSeq I g env = some rs) : rs = g.ret.map ρ := by
  obtain ⟨_, σ, hb, hr⟩ := evalSeq_eq_some.1 he
  have h0 : Agrees (initEnv env) ρ := fun x v hv => by
    obtain ⟨hx, e⟩ := List.getElem?_eq_some_iff.mp hv
    rw [← e, hc.args x hx]
  exact mapM_agrees (evalNodes_agrees I g.body _ σ hc.nodes h0 hb) hr

/-- source programs: plain operations only, single assignment, results distinct from the arguments -/
structure WF (p : Prog) : Prop where
  noCls : ∀ n ∈ p.body, n.isCls = false
  nodup : (p.body.map (·.res)).Nodup
  fresh : ∀ n ∈ p.body, p.nargs ≤ n.res

def val [Inhabited V] (σ : Env V) : Nat → V := fun x => (σ x).getD default

theorem evalNodes_sat [Inhabited V] (I : Interp V) :
    ∀ (body : List Node) (σ0 σ : Env V), (∀ n ∈ body, n.isCls = false) → (body.map (·.res)).Nodup →
      (∀ n ∈ body, σ0 n.res = none) → evalNodes I body σ0 = some σ →
      (∀ x v, σ0 x = some v → σ x = some v) ∧ ∀ n ∈ body, n.Sat I (val σ) := by
  intro body
  induction body with
  | nil =>
    intro _ _ _ _ _ he
    cases he
    exact ⟨fun _ _ h => h, fun _ h => absurd h List.not_mem_nil⟩
  | cons n rest ih =>
    intro σ0 σ hcls hnd hfresh he
    obtain ⟨vs, v, ha, hv, he⟩ := evalNodes_cons_eq_some.1 he
    obtain ⟨hnr, hnd'⟩ := List.nodup_cons.1 hnd
    obtain ⟨hp, hs⟩ := ih (σ0.set n.res v) σ (fun m hm => hcls m (List.mem_cons_of_mem _ hm)) hnd'
      (fun m hm => by
        rw [Env.set_of_ne σ0 v fun e => hnr (List.mem_map.mpr ⟨m, hm, e⟩)]
        exact hfresh m (List.mem_cons_of_mem _ hm)) he
    have hp0 : ∀ x w, σ0 x = some w → σ x = some w := fun x w hx => hp x w <| by
      rw [Env.set_of_ne σ0 v fun e => by rw [e, hfresh n List.mem_cons_self] at hx; cases hx]
      exact hx
    refine ⟨hp0, fun m hm => ?_⟩
    rcases List.mem_cons.1 hm with rfl | hm
    · -- the node just run: its result and the values of its operands are still there at the end
      cases m with
      | cls r a mm => exact Bool.noConfusion (hcls _ List.mem_cons_self)
      | op r nm k a c =>
        cases hv
        have hvs : vs = a.map (val σ) := mapM_agrees (fun x w hx => by simp [val, hp0 x w hx]) ha
        simp only [Node.Sat, val, hp r _ (Env.set_self σ0 r _), Option.getD_some, hvs]
    · exact hs m hm

/-! ## renaming a value: `replace_uses_with_if`

Both variants of the model, `replUsesNonCls` and `replUsesExcept`, map the body with "rename operand
`old` to `new` unless the node is kept" (`renIf`) for a test `K` of their own, and rename in `ret`. -/

theorem mem_map_substId {old new x : Nat} {a : List Nat} (h : x ∈ a.map (substId old new)) :
    x ∈ a ∨ (x = new ∧ old ∈ a) := by
  obtain ⟨y, hy, e⟩ := List.mem_map.mp h
  unfold substId at e
  split at e
  · rename_i e'; subst e'; exact Or.inr ⟨e.symm, hy⟩
  · exact Or.inl (e ▸ hy)

theorem not_mem_map_substId {old new : Nat} (h : old ≠ new) (a : List Nat) : old ∉ a.map (substId old new) := by
  intro hm
  obtain ⟨y, _, e⟩ := List.mem_map.mp hm
  unfold substId at e
  split at e
  · exact h e.symm
  · rename_i hne; exact hne e

theorem map_substId_of_not_mem {old new : Nat} {a : List Nat} (h : old ∉ a) : a.map (substId old new) = a := by
  conv => rhs; rw [← List.map_id a]
  apply List.map_congr_left
  intro y hy
  unfold substId
  split
  · rename_i e; exact absurd (e ▸ hy) h
  · rfl

theorem mapArgs_res (f : Nat → Nat) (n : Node) : (n.mapArgs f).res = n.res := by
  cases n <;> rfl

theorem mapArgs_args (f : Nat → Nat) (n : Node) : (n.mapArgs f).args = n.args.map f := by
  cases n <;> rfl

theorem mapArgs_isCls (f : Nat → Nat) (n : Node) : (n.mapArgs f).isCls = n.isCls := by
  cases n <;> rfl

theorem mapArgs_eq_cls {f : Nat → Nat} {n : Node} {r : Nat} {a : List Nat} {m : Option Nat}
    (h : n.mapArgs f = .cls r a m) : ∃ a0, n = .cls r a0 m ∧ a = a0.map f := by
  cases n with
  | op _ _ _ _ _ => cases h
  | cls r0 a0 m0 => cases h; exact ⟨a0, rfl, rfl⟩

section renIf
variable (K : Node → Prop) [DecidablePred K] (old new : Nat)

def renIf (n : Node) : Node := if K n then n else n.mapArgs (substId old new)

/-- `old.replace_uses_with_if(new, lambda use: not K(use.operation))` -/
def replUsesIf (g : Prog) : Prog :=
  { g with body := g.body.map (renIf K old new), ret := g.ret.map (substId old new) }

theorem replUsesNonCls_eq (g : Prog) : replUsesNonCls old new g = replUsesIf (fun n => n.isCls = true) old new g := rfl

theorem replUsesExcept_eq (ex : Option Nat) (g : Prog) :
    replUsesExcept old new ex g = replUsesIf (fun n => some n.res = ex) old new g := rfl

variable {K old new}

theorem renIf_res (n : Node) : (renIf K old new n).res = n.res := by
  unfold renIf; split
  · rfl
  · exact mapArgs_res _ _

theorem renIf_isCls (n : Node) : (renIf K old new n).isCls = n.isCls := by
  unfold renIf; split
  · rfl
  · exact mapArgs_isCls _ _

theorem mem_renIf_args {n : Node} {y : Nat} (h : y ∈ (renIf K old new n).args) :
    y ∈ n.args ∨ (y = new ∧ old ∈ n.args) := by
  unfold renIf at h
  split at h
  · exact Or.inl h
  · rw [mapArgs_args] at h
    exact mem_map_substId h

theorem renIf_kept_of_mem {n : Node} (hne : old ≠ new) (h : old ∈ (renIf K old new n).args) :
    K n ∧ renIf K old new n = n := by
  unfold renIf at h ⊢
  split
  · exact ⟨‹K n›, rfl⟩
  · rename_i hk
    rw [if_neg hk, mapArgs_args] at h
    exact absurd h (not_mem_map_substId hne _)

theorem renIf_of_not_mem {n : Node} (h : old ∉ n.args) : renIf K old new n = n := by
  unfold renIf; split
  · rfl
  · cases n with
    | op r nm k a c => exact congrArg (Node.op r nm k · c) (map_substId_of_not_mem h)
    | cls r a m => exact congrArg (Node.cls r · m) (map_substId_of_not_mem h)

theorem renIf_pos {n : Node} (h : K n) : renIf K old new n = n := if_pos h

theorem mem_replUsesIf_cls {g : Prog} {r : Nat} {a : List Nat} {m : Option Nat}
    (h : Node.cls r a m ∈ (replUsesIf K old new g).body) :
    ∃ a0, Node.cls r a0 m ∈ g.body ∧ (a = a0 ∨ a = a0.map (substId old new)) := by
  obtain ⟨n, hn, e⟩ := List.mem_map.mp h
  unfold renIf at e
  split at e
  · exact ⟨a, e ▸ hn, Or.inl rfl⟩
  · obtain ⟨a0, rfl, ea⟩ := mapArgs_eq_cls e
    exact ⟨a0, hn, Or.inr ea⟩

theorem mem_replUsesNonCls_cls {g : Prog} {old new r : Nat} {a : List Nat} {m : Option Nat}
    (h : Node.cls r a m ∈ (replUsesIf (fun n => n.isCls = true) old new g).body) : Node.cls r a m ∈ g.body := by
  obtain ⟨n, hn, e⟩ := List.mem_map.mp h
  have hk : n.isCls = true := by rw [← renIf_isCls (K := fun n => n.isCls = true) (old := old) (new := new), e]; rfl
  rw [renIf_pos hk] at e
  exact e ▸ hn

theorem mem_replUsesIf_of_mem {g : Prog} {n : Node} (hn : n ∈ g.body) (h : K n ∨ old ∉ n.args) :
    n ∈ (replUsesIf K old new g).body :=
  List.mem_map.mpr ⟨n, hn, h.elim renIf_pos renIf_of_not_mem⟩

theorem replUsesIf_res (g : Prog) : (replUsesIf K old new g).body.map (·.res) = g.body.map (·.res) := by
  simp only [replUsesIf, List.map_map]
  exact List.map_congr_left fun n _ => renIf_res n

end renIf

theorem map_substId (ρ : Nat → V) {old new : Nat} (h : ρ old = ρ new) (a : List Nat) :
    (a.map (substId old new)).map ρ = a.map ρ := by
  rw [List.map_map]
  apply List.map_congr_left
  intro x _
  simp only [Function.comp, substId]
  split
  · rename_i e; rw [e, h]
  · rfl

theorem Sat_mapArgs (I : Interp V) (ρ : Nat → V) {old new : Nat} (h : ρ old = ρ new) (n : Node)
    (hs : n.Sat I ρ) : (n.mapArgs (substId old new)).Sat I ρ := by
  cases n with
  | op r nm k a c =>
    simp only [Node.mapArgs, Node.Sat] at *
    rw [map_substId ρ h]; exact hs
  | cls r a m =>
    simp only [Node.mapArgs, Node.Sat] at *
    intro x hx
    rcases mem_map_substId hx with hx | ⟨e, ho⟩
    · exact hs x hx
    · rw [e, ← h]; exact hs old ho

def Keeps (I : Interp V) (env : List V) (ρ : Nat → V) (g g' : Prog) : Prop :=
  Consistent I g' env ρ ∧ g'.ret.map ρ = g.ret.map ρ

theorem Keeps.refl (I : Interp V) {env : List V} {ρ : Nat → V} {g : Prog} (h : Consistent I g env ρ) :
    Keeps I env ρ g g := ⟨h, rfl⟩

theorem Keeps.andThen {I : Interp V} {env : List V} {ρ : Nat → V} {g g' g'' : Prog}
    (h : Keeps I env ρ g g') (h' : Consistent I g' env ρ → Keeps I env ρ g' g'') : Keeps I env ρ g g'' :=
  And.imp_right (·.trans h.2) (h' h.1)

theorem replUsesIf_keeps (I : Interp V) (K : Node → Prop) [DecidablePred K] {g : Prog} {env : List V}
    {ρ : Nat → V} {old new : Nat} (hc : Consistent I g env ρ) (h : ρ old = ρ new) :
    Keeps I env ρ g (replUsesIf K old new g) := by
  refine ⟨⟨hc.len, hc.args, fun n hn => ?_⟩, map_substId ρ h g.ret⟩
  obtain ⟨m, hm, rfl⟩ := List.mem_map.mp hn
  unfold renIf
  split
  · exact hc.nodes m hm
  · exact Sat_mapArgs I ρ h m (hc.nodes m hm)

theorem filter_keeps (I : Interp V) {g : Prog} {env : List V} {ρ : Nat → V} (p : Node → Bool)
    (hc : Consistent I g env ρ) : Keeps I env ρ g { g with body := g.body.filter p } :=
  ⟨⟨hc.len, hc.args, fun n hn => hc.nodes n (List.mem_filter.mp hn).1⟩, rfl⟩

def Node.bare : Node → Node
  | .op r n k a _ => .op r n k a none
  | .cls r a _ => .cls r a none

theorem Node.bare_res (n : Node) : n.bare.res = n.res := by cases n <;> rfl

theorem Node.bare_args (n : Node) : n.bare.args = n.args := by cases n <;> rfl

theorem Node.bare_isCls (n : Node) : n.bare.isCls = n.isCls := by cases n <;> rfl

theorem Node.Sat_bare (I : Interp V) (ρ : Nat → V) (n : Node) : n.bare.Sat I ρ ↔ n.Sat I ρ := by
  cases n <;> exact Iff.rfl

/-- the two nodes differ at most in `eqsat_cost` / `min_cost_index` (which `Sat`, the order of the block
and the class discipline do not look at) -/
def Node.sameSem (n m : Node) : Prop := n.bare = m.bare

theorem Node.sameSem.res {n m : Node} (h : n.sameSem m) : m.res = n.res := by
  rw [← m.bare_res, ← h, n.bare_res]

theorem Node.sameSem.args {n m : Node} (h : n.sameSem m) : m.args = n.args := by
  rw [← m.bare_args, ← h, n.bare_args]

theorem Node.sameSem.isCls {n m : Node} (h : n.sameSem m) : m.isCls = n.isCls := by
  rw [← m.bare_isCls, ← h, n.bare_isCls]

theorem Node.sameSem.cls_left {m : Node} {r : Nat} {a : List Nat} {mci : Option Nat}
    (h : (Node.cls r a mci).sameSem m) : ∃ mci', m = .cls r a mci' := by
  cases m with
  | op _ _ _ _ _ => cases h
  | cls r' a' mci' => cases h; exact ⟨mci', rfl⟩

theorem Node.sameSem.cls_right {n : Node} {r : Nat} {a : List Nat} {mci : Option Nat}
    (h : n.sameSem (Node.cls r a mci)) : ∃ mci', n = .cls r a mci' :=
  Node.sameSem.cls_left h.symm

theorem Sat_of_sameSem (I : Interp V) (ρ : Nat → V) {n m : Node} (h : n.sameSem m) (hs : n.Sat I ρ) :
    m.Sat I ρ := by
  rw [← Node.Sat_bare, ← h, Node.Sat_bare]
  exact hs

theorem map_sameSem_keeps (I : Interp V) {g : Prog} {env : List V} {ρ : Nat → V} (f : Node → Node)
    (hf : ∀ n : Node, n.sameSem (f n)) (hc : Consistent I g env ρ) :
    Keeps I env ρ g { g with body := g.body.map f } := by
  refine ⟨⟨hc.len, hc.args, fun n hn => ?_⟩, rfl⟩
  obtain ⟨m, hm, rfl⟩ := List.mem_map.mp hn
  exact Sat_of_sameSem I ρ (hf m) (hc.nodes m hm)

end Xdsl.EGraph
