import XdslModel.X86
/-!
Soundness of the polynomial operations of `XdslModel.X86` with respect to evaluation in `BitVec w`
(any width).  Only ring laws of `BitVec w` are used, spelt out: `ac_rfl` for what is associativity and
commutativity alone.
-/
namespace Xdsl.X86

variable {w : Nat} (env : Nat → BitVec w)

@[simp] theorem evalMono_nil : evalMono env [] = 1 := rfl
@[simp] theorem evalMono_cons (v : Nat) (m : Mono) : evalMono env (v :: m) = env v * evalMono env m := rfl
@[simp] theorem evalPoly_nil : evalPoly env [] = 0 := rfl
@[simp] theorem evalPoly_cons (t : Mono × Int) (p : Poly) :
    evalPoly env (t :: p) = BitVec.ofInt w t.2 * evalMono env t.1 + evalPoly env p := rfl

theorem evalMono_minsert (v : Nat) (m : Mono) :
    evalMono env (minsert v m) = env v * evalMono env m := by
  fun_induction minsert v m
  next => rfl
  next => rfl
  next x r _ ih => rw [evalMono_cons, ih, evalMono_cons]; ac_rfl

theorem evalMono_mmul (a b : Mono) :
    evalMono env (mmul a b) = evalMono env a * evalMono env b := by
  induction a with
  | nil => exact (BitVec.one_mul _).symm
  | cons v a ih =>
    show evalMono env (minsert v (mmul a b)) = _
    rw [evalMono_minsert, ih, evalMono_cons, BitVec.mul_assoc]

theorem evalPoly_pins (m : Mono) (c : Int) (p : Poly) :
    evalPoly env (pins m c p) = BitVec.ofInt w c * evalMono env m + evalPoly env p := by
  fun_induction pins m c p
  next => rfl
  next => simp only [evalPoly_cons, BitVec.ofInt_add, BitVec.add_mul, BitVec.add_assoc]
  next => rfl
  next ih => simp only [evalPoly_cons, ih]; ac_rfl

theorem evalPoly_padd (p q : Poly) :
    evalPoly env (padd p q) = evalPoly env p + evalPoly env q := by
  induction p with
  | nil => exact (BitVec.zero_add _).symm
  | cons t r ih =>
    show evalPoly env (pins t.1 t.2 (padd r q)) = _
    rw [evalPoly_pins, ih, evalPoly_cons, BitVec.add_assoc]

theorem evalPoly_pscale (m : Mono) (c : Int) (q acc : Poly) :
    evalPoly env (pscale m c q acc)
      = BitVec.ofInt w c * evalMono env m * evalPoly env q + evalPoly env acc := by
  induction q with
  | nil => simp [pscale]
  | cons t r ih =>
    show evalPoly env (pins (mmul m t.1) (c * t.2) (pscale m c r acc)) = _
    rw [evalPoly_pins, ih, evalMono_mmul, BitVec.ofInt_mul, evalPoly_cons, BitVec.mul_add, ← BitVec.add_assoc]
    congr 2
    ac_rfl

theorem evalPoly_pmul (p q : Poly) :
    evalPoly env (pmul p q) = evalPoly env p * evalPoly env q := by
  induction p with
  | nil => exact BitVec.zero_mul.symm
  | cons t r ih =>
    show evalPoly env (pscale t.1 t.2 q (pmul r q)) = _
    rw [evalPoly_pscale, ih, evalPoly_cons, BitVec.add_mul]

theorem evalPoly_pclean (p : Poly) : evalPoly env (pclean p) = evalPoly env p := by
  induction p with
  | nil => rfl
  | cons t r ih =>
    rw [pclean, List.filter_cons]
    split
    · rw [evalPoly_cons, evalPoly_cons, ← ih]; rfl
    · next h =>
      have : t.2 = 0 := by simpa using h
      rw [evalPoly_cons, this, ← ih]; simp [pclean]

theorem evalPoly_pneg (p : Poly) : evalPoly env (pneg p) = - evalPoly env p := by
  induction p with
  | nil => simp [pneg]
  | cons t r ih =>
    show evalPoly env ((t.1, -t.2) :: pneg r) = _
    rw [evalPoly_cons, ih, evalPoly_cons, BitVec.ofInt_neg, BitVec.neg_mul, BitVec.neg_add, BitVec.sub_eq_add_neg]

@[simp] theorem evalPoly_pconst (c : Int) : evalPoly env (pconst c) = BitVec.ofInt w c := by
  simp [pconst]

@[simp] theorem evalPoly_pvar (i : Nat) : evalPoly env (pvar i) = env i := by
  simp [pvar]

theorem evalPoly_pmul? (p q r : Poly) (h : pmul? p q = some r) :
    evalPoly env r = evalPoly env p * evalPoly env q := by
  revert h
  fun_cases pmul? p q <;> intro h <;> cases h
  rw [evalPoly_pclean, evalPoly_pmul]

end Xdsl.X86
