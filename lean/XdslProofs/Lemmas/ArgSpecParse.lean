import XdslProofs.Lemmas.ArgSpecLex
/-!
C18: the parser reads printed text back, and it is total on any token stream of the lexer.

Python's parser pulls its tokens from the lexer one at a time.  The round-trip lemmas are stated the same way: each
runs one parser state over `lexAll (printed item ++ following text)` and lands in the next state over
`lexAll (following text)`; the lexer lemmas are used one token at a time and no list of tokens is built.  Where two
things can follow an item (`}` or a blank after a value list or a parameter; the end of the text or `,` after a spec),
the lemma has one conclusion for each.
-/
namespace Xdsl.ArgSpec

theorem dictSet_new {α β : Type} [DecidableEq α] (d : List (α × β)) (k : α) (v : β)
    (h : k ∉ d.map Prod.fst) : dictSet d k v = d ++ [(k, v)] := by
  induction d with
  | nil => rfl
  | cons x d ih =>
    obtain ⟨a, b⟩ := x
    simp only [List.map_cons, List.mem_cons, not_or] at h
    simp [dictSet, Ne.symm h.1, ih h.2]

section
variable {F : Type} (repr : F → List Char) (ofText : List Char → F)

theorem printParam_stops_space {sep : Char} (p : List Char × List (PVal F)) (hk : IsName p.1) (xs : List (List Char))
    (rest : List Char) : Stops isSpace (joinWith sep (printParam repr p :: xs) ++ rest) := by
  obtain ⟨k, vs⟩ := p
  obtain ⟨c, r, rfl, hc⟩ := isName_head_not_space (t := k) hk
  cases vs <;> cases xs <;> exact hc

/-- `d[k] = v` for every parameter in turn -/
def foldDict (args : List (List Char × List (PVal F))) (ps : List (List Char × List (PVal F))) :
    List (List Char × List (PVal F)) := ps.foldl (fun d p => dictSet d p.1 p.2) args

theorem foldDict_nodup (args ps : List (List Char × List (PVal F)))
    (h : ((args ++ ps).map Prod.fst).Nodup) : foldDict args ps = args ++ ps := by
  induction ps generalizing args with
  | nil => simp [foldDict]
  | cons p ps ih =>
    have hp : p.1 ∉ args.map Prod.fst := by
      simp only [List.map_append, List.map_cons, List.nodup_append, List.nodup_cons] at h
      intro hm
      exact h.2.2 _ hm _ (by simp) rfl
    have : foldDict args (p :: ps) = foldDict (dictSet args p.1 p.2) ps := rfl
    rw [this, dictSet_new args p.1 p.2 hp, ih (args ++ [(p.1, p.2)]) (by simpa using h)]
    simp

/-- the spec the parser rebuilds (duplicate keys would be merged; see `foldDict_nodup`) -/
def normSpec (s : Spec F) : Spec F := ⟨s.name, foldDict [] s.params⟩

theorem normSpec_of_nodup (s : Spec F) (h : (s.params.map Prod.fst).Nodup) : normSpec s = s := by
  obtain ⟨name, params⟩ := s
  simp only [normSpec, foldDict_nodup [] params (by simpa using h), List.nil_append]

theorem read_float {r : List Char} (hr : FloatRepr r) :
    ∃ t, parseElem ofText t = some (.float (ofText (printFloatText r))) ∧
      ∀ {rest}, DelimStart rest → lexAll (printFloatText r ++ rest) = t :: lexAll rest := by
  rcases printFloatText_cases hr with h | h | h | h
  · exact ⟨⟨.number, _⟩, by simp only [parseElem, h.contains_dot, ↓reduceIte], lex_dotted h⟩
  all_goals (rw [h]; exact ⟨_, rfl, lex_keyword (by decide)⟩)

variable (hrepr : ∀ f, FloatRepr (repr f)) (hlaw : ∀ f, ofText (printFloatText (repr f)) = f)
include hrepr hlaw

/-- a printed value is one token, which the element parser reads back -/
theorem read_val (v : PVal F) :
    ∃ t, parseElem ofText t = some v ∧
      ∀ {rest}, DelimStart rest → lexAll (printVal repr v ++ rest) = t :: lexAll rest := by
  cases v with
  | bool b =>
    cases b
    · exact ⟨_, rfl, lex_keyword (t := kwFalse) (by decide)⟩
    · exact ⟨_, rfl, lex_keyword (t := kwTrue) (by decide)⟩
  | str s => exact ⟨_, by simp only [parseElem]; rw [strText_body, unescape_escape], fun _ => lex_string s _⟩
  | int i => exact ⟨_, by simp only [parseElem, showInt_no_dot]; simp [parseInt_showInt], lex_int i⟩
  | float f => simpa only [printVal, hlaw] using read_float ofText (hrepr f)

theorem pElems_read (acc : List (Spec F)) (name : List Char) (args : List (List Char × List (PVal F)))
    (key : List Char) : ∀ (vs : List (PVal F)), vs ≠ [] → ∀ (elems : List (PVal F)) (rest : List Char),
    pElems ofText acc name args key elems (lexAll (joinWith ',' (vs.map (printVal repr)) ++ '}' :: rest)) =
        pAfter ofText (acc ++ [⟨name, dictSet args key (elems ++ vs)⟩]) (lexAll rest) ∧
    (Stops isSpace rest →
      pElems ofText acc name args key elems (lexAll (joinWith ',' (vs.map (printVal repr)) ++ ' ' :: rest)) =
        pParams ofText acc name (dictSet args key (elems ++ vs)) (lexAll rest))
  | [], h, _, _ => absurd rfl h
  | [v], _, elems, rest => by
    obtain ⟨t, ht, hl⟩ := read_val repr ofText hrepr hlaw v
    simp only [List.map_cons, List.map_nil, joinWith]
    refine ⟨?_, fun hs => ?_⟩
    · rw [hl (delimStart_cons (by decide) _), lex_rbrace]; simp only [pElems, ht]
    · rw [hl (delimStart_cons (by decide) _), lex_space hs]; simp only [pElems, ht]
  | v :: w :: r, _, elems, rest => by
    obtain ⟨t, ht, hl⟩ := read_val repr ofText hrepr hlaw v
    have ih := pElems_read acc name args key (w :: r) (List.cons_ne_nil _ _) (elems ++ [v]) rest
    simp only [List.map_cons, joinWith, List.append_assoc, List.cons_append, List.nil_append] at ih ⊢
    rw [hl (delimStart_cons (by decide) _), hl (delimStart_cons (by decide) _), lex_comma, lex_comma]
    simp only [pElems, ht]; exact ih

theorem pParams_read_param (acc : List (Spec F)) (name : List Char) (args : List (List Char × List (PVal F)))
    (p : List Char × List (PVal F)) (hk : IsName p.1) (rest : List Char) :
    pParams ofText acc name args (lexAll (printParam repr p ++ '}' :: rest)) =
        pAfter ofText (acc ++ [⟨name, dictSet args p.1 p.2⟩]) (lexAll rest) ∧
    (Stops isSpace rest →
      pParams ofText acc name args (lexAll (printParam repr p ++ ' ' :: rest)) =
        pParams ofText acc name (dictSet args p.1 p.2) (lexAll rest)) := by
  obtain ⟨k, vs⟩ := p
  have hl := fun d (hd : isDelim d = true) r => lex_name (t := k) hk (delimStart_cons hd r)
  cases vs with
  | nil =>
    simp only [printParam]
    refine ⟨?_, fun hs => ?_⟩
    · rw [hl _ (by decide), lex_rbrace]; simp [pParams]
    · rw [hl _ (by decide), lex_space hs]; simp [pParams]
  | cons v vs =>
    have := pElems_read repr ofText hrepr hlaw acc name args k (v :: vs) (List.cons_ne_nil _ _) [] rest
    simp only [printParam, List.append_assoc, List.cons_append]
    rw [hl _ (by decide), hl _ (by decide), lex_equals, lex_equals]
    simpa [pParams] using this

theorem pParams_read (acc : List (Spec F)) (name : List Char) :
    ∀ (ps : List (List Char × List (PVal F))), ps ≠ [] → (∀ p ∈ ps, IsName p.1) →
    ∀ (args : List (List Char × List (PVal F))) (rest : List Char),
    pParams ofText acc name args (lexAll (joinWith ' ' (ps.map (printParam repr)) ++ '}' :: rest)) =
      pAfter ofText (acc ++ [⟨name, foldDict args ps⟩]) (lexAll rest)
  | [], h, _, _, _ => absurd rfl h
  | [p], _, hk, args, rest => (pParams_read_param repr ofText hrepr hlaw acc name args p (hk p (by simp)) rest).1
  | p :: q :: r, _, hk, args, rest => by
    have ih := pParams_read acc name (q :: r) (List.cons_ne_nil _ _) (fun x hx => hk x (by simp [hx]))
      (dictSet args p.1 p.2) rest
    simp only [List.map_cons, joinWith, List.append_assoc, List.cons_append] at ih ⊢
    -- the blank is a whole SPACE token because the next parameter starts with no whitespace
    rw [(pParams_read_param repr ofText hrepr hlaw acc name args p (hk p (by simp)) _).2
      (printParam_stops_space repr q (hk q (by simp)) _ _), ih]
    rfl

theorem pPipeline_read_spec (acc : List (Spec F)) (s : Spec F) (hn : IsName s.name)
    (hk : ∀ p ∈ s.params, IsName p.1) :
    pPipeline ofText acc (lexAll (printSpec repr s)) = .ok (acc ++ [normSpec s]) ∧
    ∀ rest, pPipeline ofText acc (lexAll (printSpec repr s ++ ',' :: rest)) =
      pPipeline ofText (acc ++ [normSpec s]) (lexAll rest) := by
  obtain ⟨name, params⟩ := s
  cases params with
  | nil =>
    simp only [printSpec]
    refine ⟨?_, fun rest => ?_⟩
    · have h := lex_name hn (rest := []) trivial
      rw [List.append_nil] at h
      rw [h, lexAll_nil]; simp [pPipeline, normSpec, foldDict]
    · rw [lex_name hn (delimStart_cons (by decide) _), lex_comma]; simp [pPipeline, normSpec, foldDict]
  | cons p ps =>
    have h := pParams_read repr ofText hrepr hlaw acc name (p :: ps) (List.cons_ne_nil _ _) hk []
    simp only [printSpec, List.append_assoc, List.cons_append, List.nil_append]
    refine ⟨?_, fun rest => ?_⟩
    · rw [lex_name hn (delimStart_cons (by decide) _), lex_lbrace]
      simp only [pPipeline]
      rw [h, lexAll_nil]; simp [pAfter, normSpec]
    · rw [lex_name hn (delimStart_cons (by decide) _), lex_lbrace]
      simp only [pPipeline]
      rw [h, lex_comma]; simp [pAfter, normSpec]

theorem pPipeline_read : ∀ (ss : List (Spec F)), (∀ s ∈ ss, IsName s.name ∧ ∀ p ∈ s.params, IsName p.1) →
    ∀ acc, pPipeline ofText acc (lexAll (printPipeline repr ss)) = .ok (acc ++ ss.map normSpec)
  | [], _, acc => by simp [printPipeline, joinWith, lexAll_nil, pPipeline]
  | [s], hn, acc => (pPipeline_read_spec repr ofText hrepr hlaw acc s (hn s (by simp)).1 (hn s (by simp)).2).1
  | s :: t :: r, hn, acc => by
    have ih := pPipeline_read (t :: r) (fun x hx => hn x (by simp [hx])) (acc ++ [normSpec s])
    simp only [printPipeline, List.map_cons, joinWith, List.append_assoc, List.cons_append] at ih ⊢
    rw [(pPipeline_read_spec repr ofText hrepr hlaw acc s (hn s (by simp)).1 (hn s (by simp)).2).2, ih]
    simp

/-- parsing printed text gives every spec back with its parameters as a dictionary: a key printed twice is
kept once, at its first position, with its last value -/
theorem parse_print (ss : List (Spec F)) (hn : ∀ s ∈ ss, IsName s.name ∧ ∀ p ∈ s.params, IsName p.1) :
    parsePipeline ofText (printPipeline repr ss) = .ok (ss.map normSpec) := by
  simpa [parsePipeline] using pPipeline_read repr ofText hrepr hlaw ss hn []

end

/-! ### totality: the lexer's stream has an end, and the parser never moves past a token without looking at it -/

/-- a kind of token inside the stream: neither of the two that end it -/
def Kind.inner (k : Kind) : Bool := k != .eof && k != .bad

def Endless (toks : List Token) : Prop := ∀ t ∈ toks, t.kind.inner = true

theorem Endless.nil : Endless [] := nofun

theorem Endless.cons {t : Token} {toks : List Token} (h : t.kind.inner = true) (hr : Endless toks) :
    Endless (t :: toks) := List.forall_mem_cons.2 ⟨h, hr⟩

theorem lexAll_not_endless (s : List Char) : ¬ Endless (lexAll s) := by
  fun_induction lexAll s with
  | case1 => exact fun h => Bool.false_ne_true (h _ (List.mem_singleton.2 rfl))
  | case2 c r _ => exact fun h => Bool.false_ne_true (h _ (List.mem_singleton.2 rfl))
  | case3 c r k n _ ih => exact fun h => ih fun t ht => h t (List.mem_cons_of_mem _ ht)

def IsStop {F : Type} : Res F → Prop
  | .error (.stopIteration, _) => True
  | _ => False

/-- an error raised at a token that is there is never the internal one -/
theorem IsStop.errTok {F : Type} {m : Msg} {t : Token} {r : List Token} {P : Prop}
    (h : IsStop (F := F) (.error (errTok m (t :: r)))) (hm : m ≠ .stopIteration := by decide) : P := by
  simp only [Xdsl.ArgSpec.errTok] at h
  by_cases hb : t.kind = Kind.bad <;> simp [hb, IsStop, hm] at h

theorem parseElem_inner {F : Type} (ofText : List Char → F) {t : Token} {pv : PVal F}
    (h : parseElem ofText t = some pv) : t.kind.inner = true := by
  unfold parseElem at h
  cases hk : t.kind <;> simp [hk] at h <;> rfl

/-- the hypothesis has the form in which `fun_cases` hands over the failed test `k.kind ≠ .ident` of a state -/
theorem inner_of_ident {t : Token} (h : ¬ t.kind ≠ .ident) : t.kind.inner = true := by
  rw [Classical.not_not.1 h]; rfl

/-- A parser state asks for a token that is not there only after it has read the whole stream and found no
`eof` or `bad` token in it.  By the cases of each state's own definition: the state returns, or reports an error
at a token it has, or has looked at the kind of every token it moves past and hands the rest to another state. -/
theorem parser_stop_endless {F : Type} (ofText : List Char → F) (toks : List Token) :
    (∀ acc, IsStop (pPipeline ofText acc toks) → Endless toks) ∧
    (∀ acc, IsStop (pAfter ofText acc toks) → Endless toks) ∧
    (∀ acc name args, IsStop (pParams ofText acc name args toks) → Endless toks) ∧
    (∀ acc name args key elems, IsStop (pElems ofText acc name args key elems toks) → Endless toks) := by
  -- a state hands the list without its first one or two tokens to the next state: induction on the length
  generalize hn : toks.length = n
  induction n using Nat.strongRecOn generalizing toks with
  | _ n ih =>
    subst hn
    replace ih := fun (tail : List Token) (h : tail.length < toks.length) => ih _ h tail rfl
    have one : ∀ {t tail}, toks = t :: tail → tail.length < toks.length := by
      rintro t tail rfl; exact Nat.lt_succ_self _
    have two : ∀ {t u tail}, toks = t :: u :: tail → tail.length < toks.length := by
      rintro t u tail rfl; exact Nat.lt_succ_of_lt (Nat.lt_succ_self _)
    refine ⟨fun acc => ?_, fun acc => ?_, fun acc name args => ?_, fun acc name args key elems => ?_⟩
    · fun_cases pPipeline ofText acc toks with
      | case1 => exact fun _ => .nil
      | case2 => exact (·.elim)
      | case3 => exact (·.errTok)
      | case4 t _ hi => exact fun _ => .cons (inner_of_ident hi) .nil
      | case5 => exact (·.elim)
      | case6 t _ hi u tail hk =>
        exact fun h => .cons (inner_of_ident hi) (.cons (by rw [hk]; rfl) ((ih tail (two rfl)).1 _ h))
      | case7 t _ hi u tail hk =>
        exact fun h => .cons (inner_of_ident hi) (.cons (by rw [hk]; rfl) ((ih tail (two rfl)).2.2.1 _ _ _ h))
      | case8 t _ hi u tail hk =>
        exact fun h => .cons (inner_of_ident hi) (.cons (by rw [hk]; rfl) ((ih tail (two rfl)).2.1 _ h))
      | case9 => exact (·.elim)
      | case10 => exact (·.errTok)
    · fun_cases pAfter ofText acc toks with
      | case1 => exact fun _ => .nil
      | case2 => exact (·.elim)
      | case3 t tail hk => exact fun h => .cons (by rw [hk]; rfl) ((ih tail (one rfl)).1 _ h)
      | case4 => exact (·.errTok)
    · fun_cases pParams ofText acc name args toks with
      | case1 => exact fun _ => .nil
      | case2 t tail hk => exact fun h => .cons (by rw [hk]; rfl) ((ih tail (one rfl)).2.1 _ h)
      | case3 => exact (·.errTok)
      | case4 t _ hi => exact fun _ => .cons (inner_of_ident hi) .nil
      | case5 t _ hi u tail hk =>
        exact fun h => .cons (inner_of_ident hi) (.cons (by rw [hk]; rfl) ((ih tail (two rfl)).2.2.1 _ _ _ h))
      | case6 t _ hi u tail hk =>
        exact fun h => .cons (inner_of_ident hi) (.cons (by rw [hk]; rfl) ((ih tail (two rfl)).2.1 _ h))
      | case7 t _ hi u tail hk =>
        exact fun h => .cons (inner_of_ident hi) (.cons (by rw [hk]; rfl) ((ih tail (two rfl)).2.2.2 _ _ _ _ _ h))
      | case8 => exact (·.errTok)
    · fun_cases pElems ofText acc name args key elems toks with
      | case1 => exact fun _ => .nil
      | case2 => exact (·.errTok)
      | case3 t pv hp => exact fun _ => .cons (parseElem_inner ofText hp) .nil
      | case4 t pv hp u tail hk =>
        exact fun h =>
          .cons (parseElem_inner ofText hp) (.cons (by rw [hk]; rfl) ((ih tail (two rfl)).2.2.2 _ _ _ _ _ h))
      | case5 t pv hp u tail hk =>
        exact fun h => .cons (parseElem_inner ofText hp) (.cons (by rw [hk]; rfl) ((ih tail (two rfl)).2.2.1 _ _ _ h))
      | case6 t pv hp u tail hk =>
        exact fun h => .cons (parseElem_inner ofText hp) (.cons (by rw [hk]; rfl) ((ih tail (two rfl)).2.1 _ h))
      | case7 => exact (·.errTok)
end Xdsl.ArgSpec
