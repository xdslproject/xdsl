import XdslProofs.C27
import XdslProofs.Lemmas.PDLDrive
/-!
# C27 — the DRIVER half: greedy application by `PatternRewriteWalker`  (PARTIAL claim, see C27.lean)

Property: "Applying a PDL rewrite pattern directly and applying the matcher and rewriter that the conversion produces
… to the same payload IR yields equivalent IR."  *Applying* is what the passes `apply-pdl` and `apply-pdl-interp` do:
they hand the (interpreted / compiled) pattern to a `PatternRewriteWalker`.  The result of the passes is therefore a
function of three things: which operations the matcher accepts, what the rewriter does at an accepted operation, and
IN WHICH ORDER the walker visits the operations.  `XdslModel/PDL.lean` models the walker (`driveWith`: worklist,
use lists, listener) on top of the specification of one rewrite (`step`).

What is proved here:

* `drive_congr` — the result depends on the matcher only through its input/output behaviour: two matchers that agree
  on every (payload, operation) give the same payload under the same walker.  Together with `match_iff` /
  `instantiation_unique` this is the reason why "the compiled matcher accepts exactly the operations the pattern
  describes" suffices — PROVIDED both passes drive their pattern with the same walker configuration.
* `walk_order_observable` — that proviso cannot be dropped: for a pattern that is not confluent the walk order
  (`walk_reverse`) changes the payload the walker ends with.  So a difference between the drivers of the two passes
  is a violation of the property, and the harness compares the passes themselves on payloads with overlapping match
  sites (and both with this model).
* `drive_reach`, `drive_closed`, `drive_normal` — what every walk guarantees whatever the order: the final payload is
  reached by rewrites of the pattern alone, has no dangling uses, and no operation of it matches any more.

The real walker, the two interpreters and the predicate-tree compiler are not modelled by anything proved here; the
harness ties `driveW` to both real passes by correspondence on every generated chain payload.
-/
namespace Xdsl.PDL
open Xdsl

/-- Matchers that agree on every payload and operation (as the interpreted matcher and the compiled
predicate tree must, by `match_iff` / `instantiation_unique`, if both implement the pattern) give the same result under
the same walker — same rewrite section, same walk order, same fuel. -/
theorem drive_congr {m₁ m₂ : IR → OpId → Option Binding} (h : ∀ ir o, m₁ ir o = m₂ ir o)
    (rw : List Action) (rev : Bool) (fuel : Nat) (ir : IR) :
    driveWith m₁ rw rev fuel ir = driveWith m₂ rw rev fuel ir := by
  have : m₁ = m₂ := funext fun ir => funext fun o => h ir o
  subst this
  rfl

/-- Whatever the walk order, the walker's result is reached by rewrites of the pattern alone. -/
theorem drive_reach {p : Pattern} {rw : List Action} {rev : Bool} {fuel : Nat} {ir ir' : IR}
    (h : driveW p rw rev fuel ir = .done ir') : Reach p rw ir ir' :=
  driveLoop_reach p rw rev fuel _ ir' h

theorem Reach.closed {p : Pattern} {rw : List Action} {ir ir' : IR} (h : Reach p rw ir ir')
    (hc : ir.closed = true) : ir'.closed = true := by
  induction h with
  | refl => exact hc
  | step o h _ ih => exact ih (rewriteAt_wf hc h)

/-- Greedy application leaves no dangling uses (every walk order). -/
theorem drive_closed {p : Pattern} {rw : List Action} {rev : Bool} {fuel : Nat} {ir ir' : IR}
    (hc : ir.closed = true) (h : driveW p rw rev fuel ir = .done ir') : ir'.closed = true :=
  (drive_reach h).closed hc

/-- When the walker finishes (either walk order), no operation of the final payload matches the
pattern any more — the passes apply the pattern to a fixpoint.  (`rw ≠ []`: a rewrite section without any action
reports no change to the walker.) -/
theorem drive_normal {p : Pattern} {rw : List Action} {rev : Bool} {fuel : Nat} {ir ir' : IR} (hrw : rw ≠ [])
    (h : driveW p rw rev fuel ir = .done ir') : ∀ x ∈ ir'.ops, rewriteAt p rw ir' x.id = .nomatch := by
  intro x hx
  rw [rewriteAt_nomatch]
  refine driveLoop_normal (matchRoot p) rw hrw rev fuel _ ir' ?_ h x hx
  intro _ y hy
  exact Or.inl (mem_populate hy)

/-! ### the walk order is observable

`root(prod(x)) → x` ("skip the producer": the root's operand must be the result of an operation of the same name; the
root is replaced by that operation's operand) on the chain `a; b(a); c(b); d(c); sink(d, d)`.
Program order rewrites `c` first (`b` does not match: its producer `a` has no operand); then `d` reads `a` and no
longer matches either: the walker ends with `a; b(a); d(a); sink(d, d)`.  Reverse order rewrites `d` first, then the
now unused `c`, and ends with `a; b(a); sink(b, b)`.
names: 0 = test.op; type 0 = i32. -/

def skipPattern : Pattern :=
  { types := [none], attrs := [], vals := [none],
    ops := [{ name := some 0, attrs := [], operands := [.val 0], results := [0] },
            { name := some 0, attrs := [], operands := [.res 0 0], results := [0] }] }

def skipRewrite : List Action := [.replaceVals (.m 1) [.cap 0]]

def chainIR : IR :=
  { argTys := [],
    ops := [{ id := 3, name := 0, operands := [], attrs := [], resTys := [0] },
            { id := 10, name := 0, operands := [.res 3 0], attrs := [], resTys := [0] },
            { id := 17, name := 0, operands := [.res 10 0], attrs := [], resTys := [0] },
            { id := 24, name := 0, operands := [.res 17 0], attrs := [], resTys := [0] },
            { id := 31, name := 0, operands := [.res 24 0, .res 24 0], attrs := [], resTys := [] }] }

theorem chain_forward : driveW skipPattern skipRewrite false 40 chainIR = .done
    { argTys := [],
      ops := [{ id := 3, name := 0, operands := [], attrs := [], resTys := [0] },
              { id := 10, name := 0, operands := [.res 3 0], attrs := [], resTys := [0] },
              { id := 24, name := 0, operands := [.res 3 0], attrs := [], resTys := [0] },
              { id := 31, name := 0, operands := [.res 24 0, .res 24 0], attrs := [], resTys := [] }] } := by
  decide +kernel

theorem chain_reverse : driveW skipPattern skipRewrite true 40 chainIR = .done
    { argTys := [],
      ops := [{ id := 3, name := 0, operands := [], attrs := [], resTys := [0] },
              { id := 10, name := 0, operands := [.res 3 0], attrs := [], resTys := [0] },
              { id := 31, name := 0, operands := [.res 10 0, .res 10 0], attrs := [], resTys := [] }] } := by
  decide +kernel

/-- With one and the same matcher and rewriter, a walker that visits the operations in
reverse order ends with a different payload than the default walker.  Equality of the single rewrites is therefore
not enough for the property: the two passes must also drive their pattern in the same way. -/
theorem walk_order_observable :
    ∃ (p : Pattern) (rw : List Action) (ir : IR) (a b : IR),
      driveW p rw false 40 ir = .done a ∧ driveW p rw true 40 ir = .done b ∧ a ≠ b :=
  ⟨skipPattern, skipRewrite, chainIR, _, _, chain_forward, chain_reverse, by decide⟩

/-- … although both results are normal forms reached by the pattern alone (`drive_normal`, `drive_reach`: neither walker
is "wrong" by itself).  The two match sites of `chainIR` are `c` and `d`, which overlap in `c`: -/
example : ∀ x ∈ chainIR.ops, x.id = 17 ∨ x.id = 24 ∨ rewriteAt skipPattern skipRewrite chainIR x.id = .nomatch := by
  decide

end Xdsl.PDL
