import XdslModel.DeclGeneric
import XdslProofs.Lemmas.SkeletonSyntax
import XdslProofs.Lemmas.DeclFormatList
/-!
C05, generic form: parsing the generic text of an instance (C04 skeleton grammar) and reading the
instance off the parsed operation (`instOf`) gives the instance back.
-/
namespace Xdsl.DeclGeneric
open Xdsl.DeclFormat

/-- the codec is a dictionary: every encoding has its decoding -/
structure CodecOK (C : Codec) : Prop where
  vn_nv : ∀ n, C.vn (C.nv n) = n
  bn_nb : ∀ n, C.bn (C.nb n) = n
  name_key : ∀ s, C.name (C.key s).id = s
  tyId_ty : ∀ n, C.tyId (C.ty n) = n
  avId_av : ∀ n, C.avId (C.av n) = n
  sizesOf_sizes : ∀ l, C.sizesOf (C.sizes l) = some l
  regionId_region : ∀ n, C.regionId (C.region n) = n

/-- the instance is one the generic form can carry: segments fit the definitions, the flat lists
determine the segments (one optional/variadic definition, or the sizes are stored), the
dictionaries are dictionaries that do not use the segment-size names, the regions are printable.
`retro`: no property name of the definition (`defs`: operation name ↦ the keys of its properties) sits
only in the attribute dictionary — the generic parser would move it into the properties
(`Skeleton.hdrOK`, the retro-compatibility step of `Skeleton.parseT`). -/
structure GenericOK (C : Codec) (D : Defs) (M : Modes) (defs : Nat → List Nat) (op : OpInst) : Prop where
  fitsO : fits D.operandKinds op.operands = true
  fitsT : fits D.operandKinds op.operandTys = true
  fitsR : fits D.resultKinds op.resultTys = true
  fitsG : fits D.regionKinds op.regions = true
  fitsS : fits D.succKinds op.succs = true
  tysLen : lens op.operandTys = lens op.operands
  uniqO : M.operands = .unique → uniqueVar D.operandKinds = true
  uniqR : M.results = .unique → uniqueVar D.resultKinds = true
  uniqG : uniqueVar D.regionKinds = true
  uniqS : uniqueVar D.succKinds = true
  nodupP : (op.props.map Prod.fst).Nodup
  nodupA : (op.attrs.map Prod.fst).Nodup
  noSegP : ∀ p ∈ op.props, p.1 ≠ opSegName ∧ p.1 ≠ resSegName
  noSegA : ∀ p ∈ op.attrs, p.1 ≠ opSegName ∧ p.1 ≠ resSegName
  retro : ∀ k ∈ defs C.opName, Skeleton.hasKey (hdrOf C M op).attrs k = true →
    Skeleton.hasKey (hdrOf C M op).props k = true
  regions : ∀ n ∈ op.regions.flatten,
    Skeleton.shape defs .blocks (C.region n) = true ∧ Skeleton.labelsOK true (C.region n) = true

def segNamesOf (M : Modes) (asProp : Bool) : List String :=
  (if M.operands = .sized asProp then [opSegName] else []) ++
  (if M.results = .sized asProp then [resSegName] else [])

theorem names_segEntries (C : Codec) (hc : CodecOK C) (M : Modes) (op : OpInst) (b : Bool) :
    (segEntries C M op b).map (fun e => C.name e.1.id) = segNamesOf M b := by
  unfold segEntries segNamesOf
  by_cases h1 : M.operands = .sized b <;> by_cases h2 : M.results = .sized b <;>
    simp [h1, h2, hc.name_key]

theorem names_entries (C : Codec) (hc : CodecOK C) (l : AL String Nat) :
    (l.map (entryOf C)).map (fun e => C.name e.1.id) = l.map Prod.fst := by
  induction l with
  | nil => rfl
  | cons p l ih => simp [entryOf, hc.name_key]

theorem segNamesOf_nodup (M : Modes) (b : Bool) : (segNamesOf M b).Nodup := by
  unfold segNamesOf
  by_cases h1 : M.operands = .sized b <;> by_cases h2 : M.results = .sized b <;>
    simp [h1, h2, opSegName, resSegName]

theorem mem_segNamesOf {M : Modes} {b : Bool} {s : String} (h : s ∈ segNamesOf M b) :
    s = opSegName ∨ s = resSegName := by
  unfold segNamesOf at h
  by_cases h1 : M.operands = .sized b <;> by_cases h2 : M.results = .sized b <;>
    simp [h1, h2] at h <;> first | exact h | exact Or.inl h | exact Or.inr h

theorem dupKey_false_of_names (C : Codec) (l : List Entry)
    (hn : (l.map (fun e => C.name e.1.id)).Nodup) : Skeleton.dupKey l = false := by
  induction l with
  | nil => rfl
  | cons e r ih =>
    simp only [List.map_cons, List.nodup_cons] at hn
    simp only [Skeleton.dupKey, Bool.or_eq_false_iff, List.any_eq_false]
    refine ⟨fun f hf => ?_, ih hn.2⟩
    intro heq
    have heq' : f.1.id = e.1.id := by simpa using heq
    apply hn.1
    rw [← heq']
    exact List.mem_map.mpr ⟨f, hf, rfl⟩

theorem dupKey_dict (C : Codec) (hc : CodecOK C) (M : Modes) (op : OpInst) (b : Bool) (l : AL String Nat)
    (hn : (l.map Prod.fst).Nodup) (hs : ∀ p ∈ l, p.1 ≠ opSegName ∧ p.1 ≠ resSegName) :
    Skeleton.dupKey (l.map (entryOf C) ++ segEntries C M op b) = false := by
  apply dupKey_false_of_names C
  rw [List.map_append, names_entries C hc, names_segEntries C hc]
  rw [List.nodup_append]
  refine ⟨hn, segNamesOf_nodup M b, ?_⟩
  intro a ha b' hb' e
  obtain ⟨p, hp, rfl⟩ := List.mem_map.mp ha
  subst e
  rcases mem_segNamesOf hb' with h | h
  · exact (hs p hp).1 h
  · exact (hs p hp).2 h

theorem shape_chain (C : Codec) (defs : Nat → List Nat) (l : List Nat)
    (h : ∀ n ∈ l, Skeleton.shape defs .blocks (C.region n) = true ∧ Skeleton.labelsOK true (C.region n) = true) :
    Skeleton.shape defs .regions (regionChain C l) = true ∧ Skeleton.labelsOK false (regionChain C l) = true := by
  induction l with
  | nil => exact ⟨rfl, rfl⟩
  | cons n ns ih =>
    have h1 := h n (List.mem_cons_self ..)
    have h2 := ih (fun m hm => h m (List.mem_cons_of_mem _ hm))
    simp [regionChain, Skeleton.shape, Skeleton.labelsOK, h1.1, h1.2, h2.1, h2.2]

theorem generic_readable (C : Codec) (hc : CodecOK C) (D : Defs) (M : Modes) (defs : Nat → List Nat)
    (op : OpInst) (hg : GenericOK C D M defs op) :
    Skeleton.parseT defs (printGeneric C M op) = some (genericTree C M op) := by
  unfold printGeneric
  apply Skeleton.parseT_pr
  · have hsh := (shape_chain C defs op.regions.flatten hg.regions).1
    have hp := dupKey_dict C hc M op true op.props hg.nodupP hg.noSegP
    have ha := dupKey_dict C hc M op false op.attrs hg.nodupA hg.noSegA
    have hr : ((defs (hdrOf C M op).name).all fun k =>
        !Skeleton.hasKey (hdrOf C M op).attrs k || Skeleton.hasKey (hdrOf C M op).props k) = true := by
      rw [List.all_eq_true]
      intro k hk
      have := hg.retro k hk
      cases hh : Skeleton.hasKey (hdrOf C M op).attrs k with
      | false => rfl
      | true => simp [this hh]
    simp only [genericTree, Skeleton.shape, Skeleton.hdrOK, hsh, Bool.and_true]
    have hp' : Skeleton.dupKey (hdrOf C M op).props = false := hp
    have ha' : Skeleton.dupKey (hdrOf C M op).attrs = false := ha
    simp [hp', ha', hr]
  · have hl := (shape_chain C defs op.regions.flatten hg.regions).2
    simp [genericTree, Skeleton.labelsOK, hl]

theorem splitSizes_lens (segs : List (List Nat)) : splitSizes (lens segs) segs.flatten = segs := by
  induction segs with
  | nil => rfl
  | cons s ss ih =>
    simp only [lens, List.map_cons, List.flatten_cons, splitSizes, List.take_left, List.drop_left]
    exact congrArg _ ih

theorem segBySizes_lens (kinds : List Kind) (segs : List (List Nat)) (hf : fits kinds segs = true) :
    segBySizes kinds (lens segs) segs.flatten = some segs := by
  unfold segBySizes
  have h1 : (lens segs).length = kinds.length := by simp [lens, fits_length hf]
  have h2 : (lens segs).sum = segs.flatten.length := by simp [lens, List.length_flatten]
  simp [h1, h2, splitSizes_lens, hf]

theorem key_ne (C : Codec) (hc : CodecOK C) {a b : String} (h : a ≠ b) : (C.key a).id ≠ (C.key b).id := by
  intro e
  have := congrArg C.name e
  rw [hc.name_key, hc.name_key] at this
  exact h this

theorem find_entries_none (C : Codec) (hc : CodecOK C) (l : AL String Nat) (name : String)
    (hs : ∀ p ∈ l, p.1 ≠ name) :
    (l.map (entryOf C)).find? (fun e => e.1.id == (C.key name).id) = none := by
  rw [List.find?_eq_none]
  intro e he
  obtain ⟨p, hp, rfl⟩ := List.mem_map.mp he
  simpa [entryOf] using key_ne C hc (hs p hp)

theorem lookup_op (C : Codec) (hc : CodecOK C) (M : Modes) (op : OpInst) (b : Bool) (l : AL String Nat)
    (hs : ∀ p ∈ l, p.1 ≠ opSegName ∧ p.1 ≠ resSegName) (hm : M.operands = .sized b) :
    lookupSizes C (l.map (entryOf C) ++ segEntries C M op b) opSegName = some (lens op.operands) := by
  unfold lookupSizes
  rw [List.find?_append, find_entries_none C hc l opSegName (fun p hp => (hs p hp).1)]
  simp [segEntries, hm, hc.sizesOf_sizes]

theorem lookup_res (C : Codec) (hc : CodecOK C) (M : Modes) (op : OpInst) (b : Bool) (l : AL String Nat)
    (hs : ∀ p ∈ l, p.1 ≠ opSegName ∧ p.1 ≠ resSegName) (hm : M.results = .sized b) :
    lookupSizes C (l.map (entryOf C) ++ segEntries C M op b) resSegName = some (lens op.resultTys) := by
  unfold lookupSizes
  rw [List.find?_append, find_entries_none C hc l resSegName (fun p hp => (hs p hp).2)]
  have hne : ((C.key opSegName).id == (C.key resSegName).id) = false := by
    simpa using key_ne C hc (a := opSegName) (b := resSegName) (by decide)
  by_cases h1 : M.operands = .sized b
  · simp [segEntries, hm, h1, hne, hc.sizesOf_sizes]
  · simp [segEntries, hm, h1, hc.sizesOf_sizes]

theorem map_map_id {α β : Type} (f : α → β) (g : β → α) (h : ∀ a, g (f a) = a) (l : List α) :
    (l.map f).map g = l := by
  induction l with
  | nil => rfl
  | cons a l ih => simp [h a] at ih ⊢; exact ih

theorem regionList_chain (C : Codec) (hc : CodecOK C) (l : List Nat) :
    regionList C (regionChain C l) = l := by
  induction l with
  | nil => rfl
  | cons n ns ih => simp [regionChain, regionList, hc.regionId_region, ih]

theorem dict_back (C : Codec) (hc : CodecOK C) (M : Modes) (op : OpInst) (b : Bool) (l : AL String Nat)
    (hs : ∀ p ∈ l, p.1 ≠ opSegName ∧ p.1 ≠ resSegName) :
    ((l.map (entryOf C) ++ segEntries C M op b).filter (notSeg C)).map (pairOf C) = l := by
  rw [List.filter_append]
  have h1 : (l.map (entryOf C)).filter (notSeg C) = l.map (entryOf C) := by
    rw [List.filter_eq_self]
    intro e he
    obtain ⟨p, hp, rfl⟩ := List.mem_map.mp he
    simp [notSeg, entryOf, hc.name_key, (hs p hp).1, (hs p hp).2]
  have h2 : (segEntries C M op b).filter (notSeg C) = [] := by
    rw [List.filter_eq_nil_iff]
    intro e he
    have hn : C.name e.1.id ∈ segNamesOf M b := by
      rw [← names_segEntries C hc M op b]
      exact List.mem_map.mpr ⟨e, he, rfl⟩
    rcases mem_segNamesOf hn with h | h <;> simp [notSeg, h]
  rw [h1, h2, List.append_nil]
  exact map_map_id (entryOf C) (pairOf C) (fun p => by simp [entryOf, pairOf, hc.name_key, hc.avId_av]) l

theorem segment_ok (C : Codec) (M : Modes) (op : OpInst) (mode : SegMode)
    (kinds : List Kind) (segs : List (List Nat))
    (hf : fits kinds segs = true) (hu : mode = .unique → uniqueVar kinds = true)
    (name : String)
    (hl : ∀ b, mode = .sized b →
      lookupSizes C (if b then (hdrOf C M op).props else (hdrOf C M op).attrs) name = some (lens segs)) :
    segment C mode kinds name (hdrOf C M op) segs.flatten = some segs := by
  cases mode with
  | unique => exact splitByKinds_flatten kinds segs hf (hu rfl)
  | sized b =>
    simp only [segment, hl b rfl, Option.bind_some]
    exact segBySizes_lens kinds segs hf

/-- the accessors of the operation the generic parser builds return the segments of the instance -/
theorem instOf_genericTree (C : Codec) (hc : CodecOK C) (D : Defs) (M : Modes) (defs : Nat → List Nat)
    (op : OpInst) (hg : GenericOK C D M defs op) :
    instOf C D M (genericTree C M op) = some op := by
  have lookO : ∀ b, M.operands = .sized b →
      lookupSizes C (if b then (hdrOf C M op).props else (hdrOf C M op).attrs) opSegName =
        some (lens op.operands) := by
    intro b hb
    cases b with
    | true => exact lookup_op C hc M op true op.props hg.noSegP hb
    | false => exact lookup_op C hc M op false op.attrs hg.noSegA hb
  have lookR : ∀ b, M.results = .sized b →
      lookupSizes C (if b then (hdrOf C M op).props else (hdrOf C M op).attrs) resSegName =
        some (lens op.resultTys) := by
    intro b hb
    cases b with
    | true => exact lookup_res C hc M op true op.props hg.noSegP hb
    | false => exact lookup_res C hc M op false op.attrs hg.noSegA hb
  have e1 : (hdrOf C M op).operands.map C.vn = op.operands.flatten :=
    map_map_id C.nv C.vn hc.vn_nv _
  have e2 : (hdrOf C M op).inTys.map C.tyId = op.operandTys.flatten :=
    map_map_id C.ty C.tyId hc.tyId_ty _
  have e3 : (hdrOf C M op).outTys.map C.tyId = op.resultTys.flatten :=
    map_map_id C.ty C.tyId hc.tyId_ty _
  have e4 : (hdrOf C M op).succs.map C.bn = op.succs.flatten :=
    map_map_id C.nb C.bn hc.bn_nb _
  have s1 := segment_ok C M op M.operands D.operandKinds op.operands hg.fitsO hg.uniqO opSegName lookO
  have s2 := segment_ok C M op M.operands D.operandKinds op.operandTys hg.fitsT hg.uniqO opSegName
    (by rw [hg.tysLen]; exact lookO)
  have s3 := segment_ok C M op M.results D.resultKinds op.resultTys hg.fitsR hg.uniqR resSegName lookR
  have s4 := splitByKinds_flatten D.regionKinds op.regions hg.fitsG hg.uniqG
  have s5 := splitByKinds_flatten D.succKinds op.succs hg.fitsS hg.uniqS
  have d1 : ((hdrOf C M op).props.filter (notSeg C)).map (pairOf C) = op.props :=
    dict_back C hc M op true op.props hg.noSegP
  have d2 : ((hdrOf C M op).attrs.filter (notSeg C)).map (pairOf C) = op.attrs :=
    dict_back C hc M op false op.attrs hg.noSegA
  simp only [instOf, genericTree, instOfOp, e1, e2, e3, e4, s1, s2, s3, s4, s5, d1, d2,
    regionList_chain C hc, Option.bind_some, Option.map_some]

theorem parseGeneric_printGeneric (C : Codec) (hc : CodecOK C) (D : Defs) (M : Modes)
    (defs : Nat → List Nat) (op : OpInst) (hg : GenericOK C D M defs op) :
    parseGeneric C D M defs (printGeneric C M op) = some op := by
  unfold parseGeneric
  rw [generic_readable C hc D M defs op hg]
  exact instOf_genericTree C hc D M defs op hg

end Xdsl.DeclGeneric
