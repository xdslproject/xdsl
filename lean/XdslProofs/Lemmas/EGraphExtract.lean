import XdslProofs.Lemmas.EGraphOrd
/-!
`eqsat-extract` terminates successfully and keeps the block ordered on e-graphs in which every
remaining e-class is a singleton class that is the only user of its operand (the shape produced by
`eqsat-create-eclasses`; C28, totality part).  No Mathlib.
-/
namespace Xdsl.EGraph

/-- the class `c` is the only user of `x` -/
def OnlyUser (g : Prog) (x c : Nat) : Prop := (∀ n ∈ g.body, x ∈ n.args → n.res = c) ∧ x ∉ g.ret

def IsClsRes (g : Prog) (x : Nat) : Prop := ∃ a m, Node.cls x a m ∈ g.body

/-- loop invariant of `eqsat_extract`; `W` = the classes still on the work list -/
structure LInv (g : Prog) (W : List Nat) : Prop where
  nodup : (g.body.map (·.res)).Nodup
  fresh : ∀ n ∈ g.body, g.nargs ≤ n.res
  ord : Ordered g
  wnodup : W.Nodup
  cls : ∀ c ∈ W, ∃ x m, Node.cls c [x] m ∈ g.body ∧ (m = none ∨ m = some 0) ∧ x ≠ c ∧ OnlyUser g x c
    ∧ ¬ IsClsRes g x

theorem used_eq_false_iff {g : Prog} {v : Nat} :
    used g v = false ↔ (∀ n ∈ g.body, v ∉ n.args) ∧ v ∉ g.ret := by
  unfold used
  simp only [Bool.or_eq_false_iff, List.any_eq_false, List.contains_eq_mem, decide_eq_true_eq, decide_eq_false_iff_not]

def eraseNode (g : Prog) (v : Nat) : Prog := { g with body := g.body.filter (·.res ≠ v) }

theorem eraseDef_of_unused {g : Prog} {v : Nat} (hb : ∀ n ∈ g.body, v ∉ n.args) (hr : v ∉ g.ret) :
    eraseDef g v = some (eraseNode g v) := by
  unfold eraseDef
  rw [used_eq_false_iff.2 ⟨hb, hr⟩]
  rfl

theorem eraseDefs_cons_of_unused {g : Prog} {v : Nat} (hb : ∀ n ∈ g.body, v ∉ n.args) (hr : v ∉ g.ret)
    (vs : List Nat) : eraseDefs g (v :: vs) = eraseDefs (eraseNode g v) vs := by
  simp only [eraseDefs, List.foldlM_cons, eraseDef_of_unused hb hr]
  rfl

theorem mem_eraseNode {g : Prog} {v : Nat} {n : Node} : n ∈ (eraseNode g v).body ↔ n ∈ g.body ∧ n.res ≠ v := by
  simp [eraseNode, List.mem_filter]

theorem LInv.erase {g : Prog} {W : List Nat} {v : Nat} (h : LInv g W) (hb : ∀ n ∈ g.body, v ∉ n.args)
    (hr : v ∉ g.ret) (hw : ∀ c ∈ W, c ≠ v) : LInv (eraseNode g v) W := by
  refine ⟨?_, fun n hn => h.fresh n (mem_eraseNode.mp hn).1, ⟨?_, ?_, ?_⟩, h.wnodup, ?_⟩
  · exact List.Nodup.sublist (List.Sublist.map _ List.filter_sublist) h.nodup
  · exact OrdFrom.erase h.ord.body hb
  · intro x hx
    refine (h.ord.ret x hx).imp_right fun h' => ?_
    obtain ⟨n, hn, e⟩ := List.mem_map.mp h'
    exact List.mem_map.mpr ⟨n, mem_eraseNode.mpr ⟨hn, fun e' => hr (e' ▸ e ▸ hx)⟩, e⟩
  · intro r a m hm
    exact h.ord.clsArgs r a m (mem_eraseNode.mp hm).1
  · intro c hc
    obtain ⟨x, m, hm, hmv, hxc, hou, hnc⟩ := h.cls c hc
    exact ⟨x, m, mem_eraseNode.mpr ⟨hm, hw c hc⟩, hmv, hxc,
      ⟨fun n hn => hou.1 n (mem_eraseNode.mp hn).1, hou.2⟩,
      fun ⟨a, m', hm'⟩ => hnc ⟨a, m', (mem_eraseNode.mp hm').1⟩⟩

theorem LInv.map {g : Prog} {W : List Nat} (f : Node → Node) (h : LInv g W) (hf : ∀ n : Node, n.sameSem (f n))
    (hm : ∀ c x m m', Node.cls c [x] m ∈ g.body → f (.cls c [x] m) = .cls c [x] m' →
      (m = none ∨ m = some 0) → (m' = none ∨ m' = some 0)) :
    LInv { g with body := g.body.map f } W := by
  have hres : (g.body.map f).map (·.res) = g.body.map (·.res) := by
    rw [List.map_map]; exact List.map_congr_left fun n _ => (hf n).res
  have hcls : ∀ {r a m}, Node.cls r a m ∈ g.body.map f → ∃ m0, Node.cls r a m0 ∈ g.body := by
    intro r a m hm'
    obtain ⟨n, hn, e⟩ := List.mem_map.mp hm'
    obtain ⟨m0, rfl⟩ := (e ▸ hf n).cls_right
    exact ⟨m0, hn⟩
  refine ⟨by rw [hres]; exact h.nodup, fun n hn => ?_,
    ⟨OrdFrom.congr f hf h.ord.body, fun x hx => by rw [hres]; exact h.ord.ret x hx, fun r a m hm' => ?_⟩,
    h.wnodup, fun c hc => ?_⟩
  · obtain ⟨n0, hn0, rfl⟩ := List.mem_map.mp hn
    rw [(hf n0).res]; exact h.fresh n0 hn0
  · obtain ⟨m0, h0⟩ := hcls hm'
    exact h.ord.clsArgs r a m0 h0
  · obtain ⟨x, m, hmem, hmv, hxc, hou, hnc⟩ := h.cls c hc
    obtain ⟨m', hm'⟩ := (hf (.cls c [x] m)).cls_left
    refine ⟨x, m', List.mem_map.mpr ⟨_, hmem, hm'⟩, hm c x m m' hmem hm' hmv, hxc,
      ⟨fun n hn hx => ?_, hou.2⟩, fun ⟨a, m'', h''⟩ => ?_⟩
    · obtain ⟨n0, hn0, rfl⟩ := List.mem_map.mp hn
      rw [(hf n0).res]; exact hou.1 n0 hn0 ((hf n0).args ▸ hx)
    · obtain ⟨m0, h0⟩ := hcls h''
      exact hnc ⟨a, m0, h0⟩

theorem OnlyUser.replUsesIf {K : Node → Prop} [DecidablePred K] {g : Prog} {y u old new : Nat}
    (h : OnlyUser g y u) (hy : y ≠ new) : OnlyUser (replUsesIf K old new g) y u :=
  ⟨fun n hn hx => by
    obtain ⟨n0, hn0, rfl⟩ := List.mem_map.mp hn
    rw [renIf_res]
    exact h.1 n0 hn0 ((mem_renIf_args hx).resolve_right fun e => hy e.1),
   fun hx => (mem_map_substId hx).elim h.2 fun e => hy e.1⟩

theorem IsClsRes.of_replUsesIf {K : Node → Prop} [DecidablePred K] {g : Prog} {y old new : Nat} :
    IsClsRes (replUsesIf K old new g) y → IsClsRes g y
  | ⟨_, m, h⟩ => (mem_replUsesIf_cls h).elim fun a0 h0 => ⟨a0, m, h0.1⟩

/-- redirecting the uses of the pending class `c = [x]` to `x` -/
theorem LInv.replace {g : Prog} {W : List Nat} {c x : Nat} {m : Option Nat} (h : LInv g (c :: W))
    (hmem : Node.cls c [x] m ∈ g.body) (hxc : x ≠ c) (hou : OnlyUser g x c) :
    LInv (replUsesExcept c x (some c) g) W
    ∧ (∀ n ∈ (replUsesExcept c x (some c) g).body, c ∉ n.args) ∧ c ∉ (replUsesExcept c x (some c) g).ret := by
  rw [replUsesExcept_eq]
  have hwn := List.nodup_cons.1 h.wnodup
  have hnode : ∀ n ∈ g.body, n.res = c → n = Node.cls c [x] m :=
    fun n hn e => eq_of_res_eq h.nodup hn hmem e
  have hcx : x < g.nargs ∨ x ∈ g.body.map (·.res) := h.ord.body.arg_defined _ hmem x List.mem_cons_self
  refine ⟨⟨by rw [replUsesIf_res]; exact h.nodup, fun n hn => ?_, ⟨?_, fun y hy => ?_, fun r a m' hm' => ?_⟩,
    hwn.2, fun c' hc' => ?_⟩, fun n hn hc => ?_, not_mem_map_substId (Ne.symm hxc) _⟩
  · obtain ⟨n0, hn0, rfl⟩ := List.mem_map.mp hn
    rw [renIf_res]; exact h.fresh n0 hn0
  · -- `c` is a result id of the body, hence not a block argument; `x` is an operand of its class
    exact OrdFrom.rename h.ord.body (fun hc => absurd hc (Nat.not_lt.2 (h.fresh _ hmem)))
      fun n hn e => Or.inr (hnode n hn e ▸ List.mem_cons_self)
  · rw [replUsesIf_res]
    rcases mem_map_substId hy with hy | ⟨rfl, _⟩
    · exact h.ord.ret y hy
    · exact hcx
  · obtain ⟨a0, h0, ha⟩ := mem_replUsesIf_cls hm'
    have hne := h.ord.clsArgs r a0 m' h0
    rcases ha with rfl | rfl
    · exact hne
    · exact fun e => hne (List.map_eq_nil_iff.1 e)
  · obtain ⟨x', m', hmem', hmv, hxc', hou', hnc'⟩ := h.cls c' (List.mem_cons_of_mem _ hc')
    have hx'c : x' ≠ c := fun e => hnc' ⟨[x], m, e ▸ hmem⟩
    -- `x` is used by `c` only, and `c'` is another class
    have hx'x : x' ≠ x := fun e => hwn.1 (hou.1 _ hmem' (e ▸ List.mem_cons_self) ▸ hc')
    exact ⟨x', m', mem_replUsesIf_of_mem hmem' (Or.inr fun hc => hx'c (List.mem_singleton.1 hc).symm), hmv, hxc',
      hou'.replUsesIf hx'x, fun hcl => hnc' hcl.of_replUsesIf⟩
  · -- only the class op itself is kept, and its operand is `x`
    obtain ⟨n0, hn0, rfl⟩ := List.mem_map.mp hn
    obtain ⟨hk, e⟩ := renIf_kept_of_mem (Ne.symm hxc) hc
    rw [e, hnode n0 hn0 (Option.some.inj hk)] at hc
    exact hxc (List.mem_singleton.1 hc).symm

theorem LInv.tail {g : Prog} {W : List Nat} {c : Nat} (h : LInv g (c :: W)) : LInv g W :=
  ⟨h.nodup, h.fresh, h.ord, (List.nodup_cons.mp h.wnodup).2, fun c' hc' => h.cls c' (List.mem_cons_of_mem _ hc')⟩

theorem dropIdx_singleton (x : Nat) : dropIdx [x] 0 = [] := by simp [dropIdx]

section extractStep
variable {g : Prog} {c r : Nat} {args : List Nat}

theorem extractStep_unused {mci : Option Nat} (hf : findDef g.body c = some (.cls r args mci))
    (hu : used g c = false) : extractStep g c = eraseDefs g (c :: args.filter (isOpResult g)) := by
  simp only [extractStep, hf, hu, Bool.not_false, if_true]

theorem extractStep_uncosted (hf : findDef g.body c = some (.cls r args none)) (hu : used g c = true) :
    extractStep g c = some g := by
  simp only [extractStep, hf, hu, Bool.not_true, Bool.false_eq_true, if_false]

theorem extractStep_costed {i m : Nat} (hf : findDef g.body c = some (.cls r args (some i)))
    (hu : used g c = true) (hm : args[i]? = some m) :
    extractStep g c =
      (eraseDefs (replUsesExcept c m (some c) g)
        (c :: (dropIdx args i).filter (isOpResult (replUsesExcept c m (some c) g)))).map
        fun g2 => { g2 with body := clearCost m g2.body } := by
  simp only [extractStep, hf, hu, hm, Bool.not_true, Bool.false_eq_true, if_false]
  cases eraseDefs (replUsesExcept c m (some c) g)
    (c :: (dropIdx args i).filter (isOpResult (replUsesExcept c m (some c) g))) <;> rfl

end extractStep

theorem extractStep_total {g : Prog} {W : List Nat} {c : Nat} (h : LInv g (c :: W)) :
    ∃ g', extractStep g c = some g' ∧ LInv g' W ∧ g'.nargs = g.nargs := by
  obtain ⟨x, m, hmem, hmv, hxc, hou, hnc⟩ := h.cls c List.mem_cons_self
  have hf : findDef g.body c = some (.cls c [x] m) := findDef_of_mem h.nodup hmem
  have hwn := List.nodup_cons.mp h.wnodup
  have hWc : ∀ c' ∈ W, c' ≠ c := fun c' hc' e => hwn.1 (e ▸ hc')
  cases hu : used g c with
  | false =>
    obtain ⟨hb, hr⟩ := used_eq_false_iff.1 hu
    have h1 : LInv (eraseNode g c) W := h.tail.erase hb hr hWc
    rw [extractStep_unused hf hu, eraseDefs_cons_of_unused hb hr]
    cases hx : isOpResult g x with
    | true =>
      -- the operand is an op result that only the class used: it is erased with the class
      have hxu : ∀ n ∈ (eraseNode g c).body, x ∉ n.args :=
        fun n hn hxa => (mem_eraseNode.1 hn).2 (hou.1 n (mem_eraseNode.1 hn).1 hxa)
      refine ⟨eraseNode (eraseNode g c) x, ?_, h1.erase hxu hou.2 fun c' hc' e => ?_, rfl⟩
      · rw [List.filter_cons_of_pos hx, List.filter_nil, eraseDefs_cons_of_unused hxu hou.2]
        rfl
      · obtain ⟨x', m', hm', _⟩ := h.cls c' (List.mem_cons_of_mem _ hc')
        exact hnc (e ▸ (⟨[x'], m', hm'⟩ : IsClsRes g c'))
    | false =>
      refine ⟨eraseNode g c, ?_, h1, rfl⟩
      rw [List.filter_cons_of_neg (by simp [hx]), List.filter_nil]
      rfl
  | true =>
    rcases hmv with rfl | rfl
    · exact ⟨g, extractStep_uncosted hf hu, h.tail, rfl⟩
    · obtain ⟨h1, hb1, hr1⟩ := h.replace hmem hxc hou
      have h2 : LInv (eraseNode (replUsesExcept c x (some c) g) c) W := h1.erase hb1 hr1 hWc
      refine ⟨{ eraseNode (replUsesExcept c x (some c) g) c with
                body := clearCost x (eraseNode (replUsesExcept c x (some c) g) c).body }, ?_, ?_, rfl⟩
      · rw [extractStep_costed hf hu (m := x) rfl, dropIdx_singleton, List.filter_nil,
          eraseDefs_cons_of_unused hb1 hr1]
        rfl
      · exact h2.map _ (clearCost_sameSem x) fun _ _ _ _ _ e hv => by cases e; exact hv

theorem extractLoop_total : ∀ {W : List Nat} {g : Prog}, LInv g W →
    ∃ g', W.foldlM extractStep g = some g' ∧ LInv g' [] ∧ g'.nargs = g.nargs := by
  intro W
  induction W with
  | nil => exact fun {g} h => ⟨g, rfl, h, rfl⟩
  | cons c W ih =>
    intro g h
    obtain ⟨g1, e1, h1, n1⟩ := extractStep_total h
    obtain ⟨g2, e2, h2, n2⟩ := ih h1
    exact ⟨g2, by rw [List.foldlM_cons, e1]; exact e2, h2, n2.trans n1⟩

theorem extract_total {g : Prog} (h : LInv g (classIds g.body).reverse) :
    ∃ p', extract g = some p' ∧ Ordered p' ∧ p'.nargs = g.nargs := by
  obtain ⟨g', e, h', hn⟩ := extractLoop_total h
  refine ⟨g', ?_, h'.ord, hn⟩
  rw [extract_eq, extractLoop, e, Option.map_some]
  unfold topoSort
  rw [isOrdered_of_ordFrom h'.fresh h'.ord.body]
  rfl

end Xdsl.EGraph
