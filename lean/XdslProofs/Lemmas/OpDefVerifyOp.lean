import XdslProofs.Lemmas.OpDefConstraints
import XdslProofs.Lemmas.OpDef
import XdslProofs.Lemmas.Except
/-!
The loops of `OpDef.verify` as `verifyPieces`, and `OpDef.verify` as a chain of stages (C10).

A `VerifyException` is modelled as `none` in the constraint checks and as `.error .verify` in the
loops that also call accessors; `liftV` goes from the first to the second.  A stage that is a lifted
`Option`, or a bind of such stages, can only fail with `.error .verify` (`liftV_error`, `bind_error`).
-/
namespace Xdsl.OpDef

def liftV {α : Type} : Option α → Except VErr α
  | some a => .ok a
  | none => .error .verify

theorem liftV_eq_ok {α : Type} (x : Option α) (a : α) : liftV x = .ok a ↔ x = some a := by
  cases x <;> simp [liftV]

theorem liftV_error {α : Type} (x : Option α) (e : VErr) (h : liftV x = .error e) : e = .verify := by
  cases x with
  | none => cases h; rfl
  | some a => cases h

theorem bind_error {α β : Type} {x : Except VErr α} {f : α → Except VErr β}
    (hx : ∀ e, x = .error e → e = .verify) (hf : ∀ a e, f a = .error e → e = .verify) (e : VErr)
    (h : x >>= f = .error e) : e = .verify := by
  cases x with
  | error e' => cases h; exact hx _ rfl
  | ok a => exact hf a e h

/-- the pieces of an operand/result list: constraint of definition `i` with the `i`-th segment -/
def piecesFrom (sizes : List Nat) (tys : List Nat) : List SegDef → Nat → List (RangeC × List Nat)
  | [], _ => []
  | sd :: r, i => (sd.constr, segAt sizes tys i) :: piecesFrom sizes tys r (i + 1)

theorem forall_piecesFrom {Q : RangeC → Prop} (sizes tys : List Nat) : ∀ (rest : List SegDef) (i : Nat),
    (∀ sd ∈ rest, Q sd.constr) → ∀ p ∈ piecesFrom sizes tys rest i, Q p.1
  | [], _, _, _, h => nomatch h
  | sd :: r, i, hq, p, h => by
    rcases List.mem_cons.1 h with rfl | h
    · exact hq sd (List.mem_cons_self ..)
    · exact forall_piecesFrom sizes tys r (i + 1) (fun s hs => hq s (List.mem_cons_of_mem _ hs)) p h

theorem verifyArgsLoop_eq (kinds : List Seg) (opt : Opt) (attr : SizeAttr) (tys sizes : List Nat) :
    ∀ (rest : List SegDef) (i : Nat) (ctx : Ctx),
      (∀ j, i ≤ j → j < i + rest.length → accessor kinds opt attr tys j = .ok (segAt sizes tys j)) →
      verifyArgsLoop kinds opt attr tys rest i ctx = liftV (verifyPieces (piecesFrom sizes tys rest i) ctx)
  | [], i, ctx, _ => rfl
  | sd :: r, i, ctx, h => by
    simp only [verifyArgsLoop, piecesFrom, verifyPieces]
    rw [h i (Nat.le_refl _) (by simp)]
    dsimp only
    cases sd.constr.verify (segAt sizes tys i) ctx with
    | none => rfl
    | some ctx' =>
      exact verifyArgsLoop_eq kinds opt attr tys sizes r (i + 1) ctx'
        (fun j h1 h2 => h j (by omega) (by simp only [List.length_cons]; omega))

/-- the entry-argument pieces of the regions in one segment: only regions that have a block -/
def entryPieces (c : RangeC) (rs : List RegionInst) : List (RangeC × List Nat) :=
  (rs.filter fun r => r.blocks != 0).map fun r => (c, r.entryArgs)

theorem verifyEntryArgs_eq (c : RangeC) : ∀ (rs : List RegionInst) (ctx : Ctx),
    verifyEntryArgs c rs ctx = verifyPieces (entryPieces c rs) ctx
  | [], ctx => rfl
  | r :: rs, ctx => by
    simp only [verifyEntryArgs, entryPieces, List.filter_cons]
    by_cases hb : r.blocks = 0
    · simp only [hb, if_true, bne_self_eq_false, Bool.false_eq_true, if_false]
      exact verifyEntryArgs_eq c rs ctx
    · have : (r.blocks != 0) = true := by simpa using hb
      simp only [hb, if_false, this, if_true, List.map_cons, verifyPieces]
      cases c.verify r.entryArgs ctx with
      | none => rfl
      | some ctx' => exact verifyEntryArgs_eq c rs ctx'

/-- pieces contributed by the region definitions `rest`, the first of which has number `i` -/
def regionPiecesFrom (sizes : List Nat) (rs : List RegionInst) : List SegDef → Nat → List (RangeC × List Nat)
  | [], _ => []
  | sd :: r, i => entryPieces sd.constr (segAt sizes rs i) ++ regionPiecesFrom sizes rs r (i + 1)

/-- every region in a segment declared `single_block` has exactly one block -/
def SingleBlockOk (sizes : List Nat) (rs : List RegionInst) : List SegDef → Nat → Prop
  | [], _ => True
  | sd :: r, i =>
    (sd.singleBlock = true → ∀ x ∈ segAt sizes rs i, x.blocks = 1) ∧ SingleBlockOk sizes rs r (i + 1)

theorem forall_regionPiecesFrom {Q : RangeC → Prop} (sizes : List Nat) (rs : List RegionInst) :
    ∀ (rest : List SegDef) (i : Nat),
    (∀ sd ∈ rest, Q sd.constr) → ∀ p ∈ regionPiecesFrom sizes rs rest i, Q p.1
  | [], _, _, _, h => nomatch h
  | sd :: r, i, hq, p, h => by
    rcases List.mem_append.1 h with h | h
    · obtain ⟨x, -, rfl⟩ := List.mem_map.1 h
      exact hq sd (List.mem_cons_self ..)
    · exact forall_regionPiecesFrom sizes rs r (i + 1) (fun s hs => hq s (List.mem_cons_of_mem _ hs)) p h

theorem verifyRegionsLoop_cons (kinds : List Seg) (opt : Opt) (attr : SizeAttr) (rs seg : List RegionInst)
    (sd : SegDef) (rest : List SegDef) (i : Nat) (ctx : Ctx) (h : accessor kinds opt attr rs i = .ok seg) :
    verifyRegionsLoop kinds opt attr rs (sd :: rest) i ctx =
      liftV (if sd.singleBlock && seg.any (fun r => r.blocks != 1) then none
             else verifyPieces (entryPieces sd.constr seg) ctx) >>=
        verifyRegionsLoop kinds opt attr rs rest (i + 1) := by
  simp only [verifyRegionsLoop, h, verifyEntryArgs_eq]
  split
  · rfl
  · cases verifyPieces (entryPieces sd.constr seg) ctx <;> rfl

theorem verifyRegionsLoop_iff (kinds : List Seg) (opt : Opt) (attr : SizeAttr)
    (rs : List RegionInst) (sizes : List Nat) :
    ∀ (rest : List SegDef) (i : Nat) (ctx : Ctx),
      (∀ j, i ≤ j → j < i + rest.length → accessor kinds opt attr rs j = .ok (segAt sizes rs j)) →
      (∀ ctx', verifyRegionsLoop kinds opt attr rs rest i ctx = .ok ctx' ↔
        SingleBlockOk sizes rs rest i ∧ verifyPieces (regionPiecesFrom sizes rs rest i) ctx = some ctx')
      ∧ ∀ e, verifyRegionsLoop kinds opt attr rs rest i ctx = .error e → e = .verify
  | [], i, ctx, _ => by
    simp [verifyRegionsLoop, SingleBlockOk, regionPiecesFrom, verifyPieces]
  | sd :: r, i, ctx, h => by
    have ih := fun ctx' => verifyRegionsLoop_iff kinds opt attr rs sizes r (i + 1) ctx'
      (fun j h1 h2 => h j (by omega) (by simp only [List.length_cons]; omega))
    rw [verifyRegionsLoop_cons _ _ _ _ _ _ _ _ _ (h i (Nat.le_refl _) (by simp))]
    refine ⟨fun ctx' => ?_, bind_error (liftV_error _) fun c => (ih c).2⟩
    simp only [bind_eq_ok, liftV_eq_ok, Option.ite_none_left_eq_some, (ih _).1, SingleBlockOk,
      regionPiecesFrom, verifyPieces_append_some, Bool.and_eq_true, List.any_eq_true, bne_iff_ne]
    constructor
    · rintro ⟨c, ⟨hsb, hp⟩, hok, hr⟩
      exact ⟨⟨fun h1 x hx => Classical.not_not.1 fun hne => hsb ⟨h1, x, hx, hne⟩, hok⟩, c, hp, hr⟩
    · rintro ⟨⟨hsb, hok⟩, c, hp, hr⟩
      exact ⟨c, ⟨fun ⟨h1, x, hx, hne⟩ => hne (hsb h1 x hx), hp⟩, hok, hr⟩

/-- the property (attribute) pieces: one per definition that is present on the operation -/
def dictPieces (defs : List AttrDef) (m : AL Nat Nat) : List (RangeC × List Nat) :=
  defs.filterMap fun d => (AL.get m d.name).map fun a => (RangeC.single d.constr, [a])

/-- every non-optional definition is present -/
def RequiredPresent (defs : List AttrDef) (m : AL Nat Nat) : Prop :=
  ∀ d ∈ defs, d.optional = false → (AL.get m d.name).isSome = true

theorem forall_dictPieces {Q : RangeC → Prop} (defs : List AttrDef) (m : AL Nat Nat)
    (hq : ∀ ad ∈ defs, Q (.single ad.constr)) : ∀ p ∈ dictPieces defs m, Q p.1 := by
  intro p h
  obtain ⟨ad, hm, a, -, rfl⟩ := by simpa only [dictPieces, List.mem_filterMap, Option.map_eq_some_iff] using h
  exact hq ad hm

theorem verifyDict_cons (d : AttrDef) (ds : List AttrDef) (m : AL Nat Nat) (ctx : Ctx) :
    verifyDict (d :: ds) m ctx =
      (match AL.get m d.name with
       | none => if d.optional then some ctx else none
       | some a => d.constr.verify a ctx).bind (verifyDict ds m) := rfl

theorem requiredPresent_cons (d : AttrDef) (ds : List AttrDef) (m : AL Nat Nat) :
    RequiredPresent (d :: ds) m ↔
      (d.optional = false → (AL.get m d.name).isSome = true) ∧ RequiredPresent ds m :=
  List.forall_mem_cons

theorem dictPieces_cons (d : AttrDef) (ds : List AttrDef) (m : AL Nat Nat) :
    dictPieces (d :: ds) m =
      match AL.get m d.name with
      | none => dictPieces ds m
      | some a => (RangeC.single d.constr, [a]) :: dictPieces ds m := by
  unfold dictPieces
  rw [List.filterMap_cons]
  cases AL.get m d.name <;> rfl

theorem verifyDict_iff : ∀ (defs : List AttrDef) (m : AL Nat Nat) (ctx ctx' : Ctx),
    verifyDict defs m ctx = some ctx' ↔
      RequiredPresent defs m ∧ verifyPieces (dictPieces defs m) ctx = some ctx'
  | [], m, ctx, ctx' => ⟨fun h => ⟨fun _ h => (nomatch h), h⟩, fun h => h.2⟩
  | d :: ds, m, ctx, ctx' => by
    rw [verifyDict_cons, requiredPresent_cons, dictPieces_cons]
    cases AL.get m d.name with
    | none => cases d.optional <;> simp [verifyDict_iff ds m]
    | some a =>
      simp only [verifyPieces, RangeC.verify, Option.isSome_some, implies_true, true_and]
      cases d.constr.verify a ctx with
      | none => simp
      | some ctx₁ => exact verifyDict_iff ds m ctx₁ ctx'

/-- the three stages that read segments through accessors, then the steps that cannot raise
anything but a `VerifyException` -/
theorem verifyOp_eq (d : Def) (o : Inst) : verifyOp d o =
    (verifyArgList d.operands o.operands o.operandAttr {} >>= fun c1 =>
     verifyArgList d.results o.results o.resultAttr c1 >>= fun c2 =>
     verifyRegions d.regions o.regions o.regionAttr c2 >>= fun c3 =>
     liftV (if verifySizes d.successors.kinds d.successors.opt o.successors o.succAttr = false then none else
       (verifyDict d.props o.props c3).bind fun c4 =>
         if o.props.any (fun kv => !(d.props.any fun pd => pd.name == kv.1)) then none
         else (verifyDict d.attrs o.attrs c4).map fun _ => ())) := by
  unfold verifyOp
  congr 1; funext c1; congr 1; funext c2; congr 1; funext c3
  cases verifySizes d.successors.kinds d.successors.opt o.successors o.succAttr
  · rfl
  · cases verifyDict d.props o.props c3 with
    | none => rfl
    | some c4 =>
      cases (o.props.any fun kv => !(d.props.any fun pd => pd.name == kv.1))
      · show (match verifyDict d.attrs o.attrs c4 with
            | some _ => pure ()
            | none => throw VErr.verify : Except VErr Unit)
          = liftV ((verifyDict d.attrs o.attrs c4).map fun _ => ())
        cases verifyDict d.attrs o.attrs c4 <;> rfl
      · rfl

theorem verifyOp_ok_iff (d : Def) (o : Inst) :
    verifyOp d o = .ok () ↔
      ∃ c1, verifyArgList d.operands o.operands o.operandAttr {} = .ok c1 ∧
      ∃ c2, verifyArgList d.results o.results o.resultAttr c1 = .ok c2 ∧
      ∃ c3, verifyRegions d.regions o.regions o.regionAttr c2 = .ok c3 ∧
        verifySizes d.successors.kinds d.successors.opt o.successors o.succAttr = true ∧
      ∃ c4, verifyDict d.props o.props c3 = some c4 ∧
        (o.props.any fun kv => !(d.props.any fun pd => pd.name == kv.1)) = false ∧
      ∃ c5, verifyDict d.attrs o.attrs c4 = some c5 := by
  rw [verifyOp_eq]
  simp only [bind_eq_ok, liftV_eq_ok, Option.ite_none_left_eq_some, Option.bind_eq_some_iff,
    Option.map_eq_some_iff, Bool.not_eq_false, Bool.not_eq_true, and_true]

end Xdsl.OpDef
