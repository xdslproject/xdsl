import XdslModel.Affine
/-!
Integer facts behind C26: Python floor division / modulo / the `-(-a // b)` ceiling against their
mathematical characterisations (for a positive divisor), cancellation of a common factor, gcd of a
row, and the dot product used to give rows of the flattener a value.
-/
namespace Xdsl.Affine

theorem pyFloorDiv_eq_ediv {a c : Int} (hc : 0 < c) : pyFloorDiv a c = a / c :=
  Int.fdiv_eq_ediv_of_nonneg a (Int.le_of_lt hc)

theorem pyMod_eq_emod {a c : Int} (hc : 0 < c) : pyMod a c = a % c :=
  Int.fmod_eq_emod_of_nonneg a (Int.le_of_lt hc)

theorem pyFloorDiv_spec {a c : Int} (hc : 0 < c) (q : Int) :
    pyFloorDiv a c = q ↔ c * q ≤ a ∧ a < c * q + c := by
  rw [pyFloorDiv_eq_ediv hc, Int.ediv_eq_iff_of_pos hc, Int.mul_comm]

theorem pyCeilDiv_spec {a c : Int} (hc : 0 < c) (q : Int) :
    pyCeilDiv a c = q ↔ c * q - c < a ∧ a ≤ c * q := by
  have := pyFloorDiv_spec (a := -a) hc (-q)
  rw [Int.mul_neg] at this
  unfold pyCeilDiv
  unfold pyFloorDiv at this
  omega

theorem pyMod_spec {a c : Int} (hc : 0 < c) :
    0 ≤ pyMod a c ∧ pyMod a c < c ∧ a = c * pyFloorDiv a c + pyMod a c := by
  rw [pyMod_eq_emod hc, pyFloorDiv_eq_ediv hc]
  exact ⟨Int.emod_nonneg a (Int.ne_of_gt hc), Int.emod_lt_of_pos a hc, (Int.mul_ediv_add_emod a c).symm⟩

theorem pyMod_def (a c : Int) : pyMod a c = a - c * pyFloorDiv a c := Int.fmod_def a c

theorem pyFloorDiv_cancel {g v c : Int} (hg : 0 < g) (hc : 0 < c) :
    pyFloorDiv (g * v) (g * c) = pyFloorDiv v c := by
  rw [pyFloorDiv_eq_ediv hc, pyFloorDiv_eq_ediv (Int.mul_pos hg hc), Int.mul_ediv_mul_of_pos _ _ hg]

theorem pyCeilDiv_cancel {g v c : Int} (hg : 0 < g) (hc : 0 < c) :
    pyCeilDiv (g * v) (g * c) = pyCeilDiv v c := by
  unfold pyCeilDiv
  have := pyFloorDiv_cancel (v := -v) hg hc
  unfold pyFloorDiv at this
  rw [← Int.mul_neg, this]

theorem pyMod_eq_zero_of_dvd {a c : Int} (hc : 0 < c) (h : c ∣ a) : pyMod a c = 0 := by
  rw [pyMod_eq_emod hc]; exact Int.emod_eq_zero_of_dvd h

theorem dvd_of_pyMod_eq_zero {a c : Int} (hc : 0 < c) (h : pyMod a c = 0) : c ∣ a := by
  rw [pyMod_eq_emod hc] at h; exact Int.dvd_of_emod_eq_zero h

theorem mul_pyFloorDiv_of_dvd {l g : Int} (hg : 0 < g) (h : g ∣ l) : g * pyFloorDiv l g = l := by
  rw [pyFloorDiv_eq_ediv hg]; exact Int.mul_ediv_cancel' h

theorem gcdList_dvd {xs : List Int} {x : Int} (h : x ∈ xs) : ((gcdList xs : Nat) : Int) ∣ x := by
  induction xs with
  | nil => cases h
  | cons y ys ih =>
    simp only [gcdList]
    cases h with
    | head => exact Int.ofNat_dvd_left.2 (Nat.gcd_dvd_left _ _)
    | tail _ h' =>
      exact Int.dvd_trans (Int.natCast_dvd_natCast.2 (Nat.gcd_dvd_right _ _)) (ih h')

theorem rowGcd_dvd_co {row : Row} {c x : Int} (h : x ∈ row.co) : ((rowGcd row c : Nat) : Int) ∣ x :=
  Int.dvd_trans (Int.natCast_dvd_natCast.2 (Nat.gcd_dvd_left _ _)) (gcdList_dvd h)

theorem rowGcd_dvd_k (row : Row) (c : Int) : ((rowGcd row c : Nat) : Int) ∣ row.k :=
  Int.ofNat_dvd_left.2 (Nat.dvd_trans (Nat.gcd_dvd_right _ _) (Nat.gcd_dvd_left _ _))

theorem rowGcd_dvd_c (row : Row) (c : Int) : ((rowGcd row c : Nat) : Int) ∣ c :=
  Int.ofNat_dvd_left.2 (Nat.dvd_trans (Nat.gcd_dvd_right _ _) (Nat.gcd_dvd_right _ _))

theorem rowGcd_pos (row : Row) {c : Int} (hc : 0 < c) : 0 < ((rowGcd row c : Nat) : Int) := by
  have : 0 < c.natAbs := by omega
  have := Nat.gcd_pos_of_pos_right row.k.natAbs this
  have := Nat.gcd_pos_of_pos_right (gcdList row.co) this
  unfold rowGcd; omega

/-- `Σ aᵢ * bᵢ` over the common prefix -/
def dot : List Int → List Int → Int
  | a :: as, b :: bs => a * b + dot as bs
  | _, _ => 0

@[simp] theorem dot_nil_left (vs : List Int) : dot [] vs = 0 := rfl
@[simp] theorem dot_nil_right (as : List Int) : dot as [] = 0 := by cases as <;> rfl
@[simp] theorem dot_cons (a b : Int) (as bs : List Int) : dot (a :: as) (b :: bs) = a * b + dot as bs := rfl

theorem dot_replicate_zero (n : Nat) (vs : List Int) : dot (List.replicate n 0) vs = 0 := by
  induction n generalizing vs with
  | zero => rfl
  | succ n ih =>
    cases vs with
    | nil => rfl
    | cons v vs => rw [List.replicate_succ, dot_cons, ih, Int.zero_mul, Int.add_zero]

theorem dot_append {as us : List Int} (bs vs : List Int) (h : as.length = us.length) :
    dot (as ++ bs) (us ++ vs) = dot as us + dot bs vs := by
  induction as generalizing us with
  | nil =>
    obtain rfl := List.length_eq_zero_iff.1 h.symm
    exact (Int.zero_add _).symm
  | cons a as ih =>
    cases us with
    | nil => cases h
    | cons u us =>
      rw [List.cons_append, List.cons_append, dot_cons, dot_cons, ih (Nat.succ.inj h), Int.add_assoc]

theorem dot_zipWith_add {as bs : List Int} (vs : List Int) (h : as.length = bs.length) :
    dot (List.zipWith (· + ·) as bs) vs = dot as vs + dot bs vs := by
  induction as generalizing bs vs with
  | nil =>
    obtain rfl := List.length_eq_zero_iff.1 h.symm
    rfl
  | cons a as ih =>
    cases bs with
    | nil => cases h
    | cons b bs =>
      cases vs with
      | nil => rfl
      | cons v vs =>
        rw [List.zipWith_cons_cons, dot_cons, dot_cons, dot_cons, ih vs (Nat.succ.inj h), Int.add_mul]
        omega

theorem dot_map_mul (as vs : List Int) (k : Int) :
    dot (as.map (fun l => l * k)) vs = dot as vs * k := by
  induction as generalizing vs with
  | nil => exact (Int.zero_mul k).symm
  | cons a as ih =>
    cases vs with
    | nil => exact (Int.zero_mul k).symm
    | cons v vs => rw [List.map_cons, dot_cons, dot_cons, ih, Int.add_mul, Int.mul_right_comm]

theorem dot_map_zero (as vs : List Int) : dot (as.map (fun _ => (0 : Int))) vs = 0 := by
  rw [List.map_congr_left (g := fun l => l * 0) fun l _ => (Int.mul_zero l).symm, dot_map_mul, Int.mul_zero]

theorem length_unitCo (n p : Nat) : (unitCo n p).length = n := by
  induction n generalizing p with
  | zero => rfl
  | succ n ih =>
    cases p with
    | zero => rw [unitCo, List.length_cons, List.length_replicate]
    | succ p => rw [unitCo, List.length_cons, ih]

theorem dot_unitCo (n p : Nat) (vs : List Int) (h : vs.length = n) :
    dot (unitCo n p) vs = vs.getD p 0 := by
  induction n generalizing p vs with
  | zero =>
    obtain rfl := List.length_eq_zero_iff.1 h
    rfl
  | succ n ih =>
    cases vs with
    | nil => cases h
    | cons v vs =>
      cases p with
      | zero => rw [unitCo, dot_cons, dot_replicate_zero, Int.one_mul, Int.add_zero]; rfl
      | succ p => rw [unitCo, dot_cons, ih p vs (Nat.succ.inj h), Int.zero_mul, Int.zero_add]; rfl

theorem map_div_mul {as : List Int} {g : Int} (hg : 0 < g) (h : ∀ l ∈ as, g ∣ l) :
    (as.map (fun l => pyFloorDiv l g)).map (fun l => l * g) = as := by
  rw [List.map_map]
  refine (List.map_congr_left fun l hl => ?_).trans (List.map_id as)
  exact (Int.mul_comm _ g).trans (mul_pyFloorDiv_of_dvd hg (h l hl))

theorem dot_map_div {as : List Int} (vs : List Int) {g : Int} (hg : 0 < g) (h : ∀ l ∈ as, g ∣ l) :
    g * dot (as.map (fun l => pyFloorDiv l g)) vs = dot as vs := by
  rw [Int.mul_comm, ← dot_map_mul, map_div_mul hg h]

theorem dot_dvd {as : List Int} (vs : List Int) {c : Int} (hc : 0 < c) (h : ∀ l ∈ as, c ∣ l) : c ∣ dot as vs :=
  ⟨_, (dot_map_div vs hc h).symm⟩

theorem dot_modify {as : List Int} (vs : List Int) (i : Nat) (c : Int) (h : as.length = vs.length)
    (hi : i < as.length) :
    dot (as.modify i (fun x => x - c)) vs = dot as vs - c * vs.getD i 0 := by
  induction as generalizing vs i with
  | nil => cases hi
  | cons a as ih =>
    cases vs with
    | nil => cases h
    | cons v vs =>
      cases i with
      | zero =>
        rw [List.modify_zero_cons, dot_cons, dot_cons, Int.sub_mul, List.getD_cons_zero]
        omega
      | succ i =>
        rw [List.modify_succ_cons, dot_cons, dot_cons, ih vs i (Nat.succ.inj h) (Nat.lt_of_succ_lt_succ hi),
          List.getD_cons_succ]
        omega

end Xdsl.Affine
