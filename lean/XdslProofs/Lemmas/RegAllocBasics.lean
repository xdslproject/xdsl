import XdslProofs.Lemmas.RegMachine
import XdslProofs.Lemmas.AL
import XdslProofs.Lemmas.List
/-!
C19: liveness at the points of a block, and what a successful validation says there — the values live
at one point sit in pairwise different registers (`PW`), at every point (`checkOps_append`,
`pw_of_check`).
-/
namespace Xdsl.RegAlloc
open Xdsl.RegMachine

def valsOf (os : List Op) : List ValId := os.flatMap fun o => o.reads ++ o.defs
def defsOf (os : List Op) : List ValId := os.flatMap Op.defs

/-- values live before the block `os` when `L` is live after it -/
def liveBefore : List Op → List ValId → List ValId
  | [], L => L
  | o :: os, L => liveIn o (liveBefore os L)

/-- two different values of `L` never share a register (except in the zero register) -/
def PW (z : Bool) (a : ValId → Reg) (L : List ValId) : Prop :=
  ∀ v ∈ L, ∀ w ∈ L, v ≠ w → a v = a w → (z = true ∧ a v = 0)

theorem PW.ne {z : Bool} {a : ValId → Reg} {L : List ValId} (h : PW z a L) {v w : ValId} (hv : v ∈ L)
    (hw : w ∈ L) (hne : v ≠ w) (hnz : ¬ (z = true ∧ a w = 0)) : a v ≠ a w :=
  fun heq => hnz ⟨(h v hv w hw hne heq).1, heq ▸ (h v hv w hw hne heq).2⟩

theorem pw_sub {z : Bool} {a : ValId → Reg} {L L2 : List ValId} (h : PW z a L) (hs : ∀ v ∈ L2, v ∈ L) :
    PW z a L2 := fun v hv w hw => h v (hs v hv) w (hs w hw)

/-- the values known to be zero after the operations `os`, given `Z` before them (`b`: parallel moves are
followed: the validator's pass is `zfold true`, `zeroConsts` is `zfold false []`) -/
def zfold (b : Bool) (Z : List ValId) (os : List Op) : List ValId :=
  os.foldl (fun Z o => Z ++ newZero b Z o) Z

theorem zeroConsts_eq (os : List Op) : zeroConsts os = zfold false [] os := rfl

theorem zfold_mem {b : Bool} (os : List Op) :
    ∀ (Z : List ValId) (v : ValId), v ∈ zfold b Z os → v ∈ Z ∨ v ∈ defsOf os := by
  induction os with
  | nil => intro Z v h; exact Or.inl h
  | cons o os ih =>
    intro Z v h
    simp only [zfold, List.foldl_cons] at h
    rcases ih _ v h with h | h
    · rcases List.mem_append.1 h with h | h
      · exact Or.inl h
      · right
        simp only [defsOf, List.flatMap_cons, List.mem_append]
        exact Or.inl (newZero_subset_defs h)
    · right
      simp only [defsOf, List.flatMap_cons, List.mem_append] at h ⊢
      exact Or.inr h

theorem checkOps_eq_liveBefore {z : Bool} {a : ValId → Reg} (os : List Op) :
    ∀ (Z L Lin : List ValId), checkOps z a Z os L = some Lin → Lin = liveBefore os L := by
  induction os with
  | nil => intro Z L Lin h; cases h; rfl
  | cons o os ih =>
    intro Z L Lin h
    obtain ⟨L', hL', _, rfl⟩ := checkOps_cons.1 h
    rw [ih _ _ _ hL']; rfl

theorem mem_liveBefore_suffix (front os : List Op) (L : List ValId) :
    ∀ v ∈ liveBefore os L, v ∈ liveBefore (front ++ os) L ∨ v ∈ defsOf front := by
  induction front with
  | nil => intro v hv; exact Or.inl hv
  | cons o front ih =>
    intro v hv
    rcases ih v hv with h | h
    · by_cases hd : v ∈ o.defs
      · right; simp [defsOf, hd]
      · left
        simp only [List.cons_append, liveBefore]
        exact mem_liveIn_of_live h hd
    · right
      simp only [defsOf, List.flatMap_cons, List.mem_append] at h ⊢
      exact Or.inr h

theorem checkOps_append {z : Bool} {a : ValId → Reg} (front os : List Op) (L : List ValId) :
    ∀ (Z Lin : List ValId), checkOps z a Z (front ++ os) L = some Lin ↔
      checkOps z a (zfold true Z front) os L = some (liveBefore os L)
      ∧ checkOps z a Z front (liveBefore os L) = some Lin := by
  induction front with
  | nil =>
    intro Z Lin
    exact ⟨fun h => ⟨checkOps_eq_liveBefore os _ _ _ h ▸ h, checkOps_eq_liveBefore os _ _ _ h ▸ rfl⟩,
      fun ⟨h1, h2⟩ => by cases h2; exact h1⟩
  | cons o front ih =>
    intro Z Lin
    simp only [List.cons_append, checkOps_cons, ih]
    exact ⟨fun ⟨L', ⟨h1, h2⟩, h3⟩ => ⟨h1, L', h2, h3⟩, fun ⟨h1, L', h2, h3⟩ => ⟨L', ⟨h1, h2⟩, h3⟩⟩

theorem pw_step {z : Bool} {a : ValId → Reg} {Z Z' : List ValId} {o : Op} {L : List ValId}
    (hok : opOk z a Z Z' o L = true) (hpw : PW z a (liveIn o L)) : PW z a L := by
  obtain ⟨_, _, hclash, _, _⟩ := opOk_iff.1 hok
  intro v hv w hw hne heq
  by_cases hvd : v ∈ o.defs
  · have := hclash v hvd w (List.mem_append_right _ hw) (fun e => hne e.symm) heq.symm
    exact this
  · by_cases hwd : w ∈ o.defs
    · have := hclash w hwd v (List.mem_append_right _ hv) hne heq
      exact ⟨this.1, heq ▸ this.2⟩
    · exact hpw v (mem_liveIn_of_live hv hvd) w (mem_liveIn_of_live hw hwd) hne heq

theorem pw_of_check {z : Bool} {a : ValId → Reg} (os : List Op) :
    ∀ (Z L Lin : List ValId), checkOps z a Z os L = some Lin → PW z a Lin → PW z a L := by
  induction os with
  | nil => intro Z L Lin h hpw; cases h; exact hpw
  | cons o os ih =>
    intro Z L Lin h hpw
    obtain ⟨L', hL', hok, rfl⟩ := checkOps_cons.1 h
    exact ih _ _ _ hL' (pw_step hok hpw)

theorem pw_cons {z : Bool} {a : ValId → Reg} {v : ValId} {M : List ValId} (h : PW z a M)
    (hv : ∀ w ∈ M, w ≠ v → a w = a v → (z = true ∧ a v = 0)) : PW z a (v :: M) := by
  intro x hx y hy hne heq
  rcases List.mem_cons.1 hx with hxv | hxM <;> rcases List.mem_cons.1 hy with hyv | hyM
  · exact absurd (hxv.trans hyv.symm) hne
  · subst hxv; exact hv y hyM (Ne.symm hne) heq.symm
  · subst hyv; exact heq ▸ hv x hxM hne heq
  · exact h x hxM y hyM hne heq

theorem pw_defs_append {z : Bool} {a : ValId → Reg} {Z Z' : List ValId} {o : Op} {L : List ValId}
    (hok : opOk z a Z Z' o L = true) (hpw : PW z a L) : PW z a (o.defs ++ L) := by
  obtain ⟨_, _, hclash, _, _⟩ := opOk_iff.1 hok
  intro x hx y hy hne heq
  rcases List.mem_append.1 hx with hxd | hxL
  · exact hclash x hxd y hy (Ne.symm hne) heq.symm
  · rcases List.mem_append.1 hy with hyd | hyL
    · exact heq ▸ hclash y hyd x hx hne heq
    · exact hpw x hxL y hyL hne heq

theorem pw_of_nodup_map {z : Bool} {a : ValId → Reg} {args L : List ValId}
    (hsub : ∀ v ∈ L, v ∈ args) (hnd : (args.map a).Nodup) : PW z a L := by
  intro v hv w hw hne heq
  exact absurd (inj_of_nodup_map _ args hnd v (hsub v hv) w (hsub w hw) heq) hne

theorem interferes_false_iff {z : Bool} {a : ValId → Reg} {p : Prog} :
    interferes z a p = false ↔
      checkOps z a [] p.ops p.rets = some (liveBefore p.ops p.rets)
      ∧ (∀ v ∈ liveBefore p.ops p.rets, v ∈ p.args) ∧ (p.args.map a).Nodup
      ∧ (z = true → ∀ x ∈ p.args, a x ≠ 0) := by
  unfold interferes validate
  cases h : checkOps z a [] p.ops p.rets with
  | none => simp
  | some L0 =>
    cases checkOps_eq_liveBefore _ _ _ _ h
    cases z <;> simp [and_assoc]

end Xdsl.RegAlloc
