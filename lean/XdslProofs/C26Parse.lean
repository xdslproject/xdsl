import XdslProofs.Lemmas.AffineParse
/-!
# C26 — "printing and re-parsing them … preserve the value" (property theorems)

`toStr` models `AffineExpr.__str__` (fully parenthesised infix text), `lex` the MLIR lexer on the
characters that text uses, `parseExpr` the precedence-climbing `AffineParser._parse_affine_expr`,
which builds its result with the smart constructors.  Re-parsing the printed text therefore yields
the tree *rebuilt* bottom-up with the smart constructors (`rebuild e`, the same as
`e.replace_dims_and_symbols((), ())`), not `e` itself; the value is that of `e` at every assignment.
-/
namespace Xdsl.Affine

/-- the lexer reads the printed text back as the token sequence of the expression -/
theorem lex_print (e : Expr) : lex (toStr e) = .ok (toToks e) := by
  have h := steps_le_length e
  obtain ⟨f, hf⟩ : ∃ f, (toStr e).length + 1 = (f + 1) + steps e :=
    ⟨(toStr e).length - steps e, by rw [String.length_toList] at h; omega⟩
  have := lexAux_toStr e Boundary.nil [] (f + 1)
  rw [List.append_nil, List.append_nil] at this
  rw [lex, hf, this]
  exact congrArg Except.ok (List.reverse_reverse _)

theorem parse_print_tokens {nd ns : Nat} (e : Expr) (h : PosLt nd ns e) :
    parseExpr nd ns (parseFuel (toToks e)) (toToks e) = (rebuild e).map (fun x => (x, [])) := by
  have := parsePrimary_toToks e h [] (4 * (toToks e).length + 7) (by omega)
  rw [List.append_nil] at this
  show parseExpr nd ns (4 * (toToks e).length + 7 + 1) (toToks e) = _
  rw [parseExpr_succ, this]
  cases rebuild e with
  | error x => rfl
  | ok e' => exact parseBinopRhs_stop nd ns (4 * (toToks e).length + 6) e' (ts := []) (prec := 0) (show tokPrec none < 0 by decide)

/-- `parse (print e) = rebuild e`, on characters: for every expression whose dimensions and symbols
are names of the space `(d0..)[s0..]`, lexing and parsing `str(e)` consumes the whole text and
returns the tree rebuilt with the smart constructors. -/
theorem parse_print {nd ns : Nat} (e : Expr) (h : PosLt nd ns e) :
    parseStr nd ns (toStr e) = (rebuild e).map (fun x => (x, [])) := by
  simp only [parseStr, lex_print, bind, Except.bind]
  exact parse_print_tokens e h

/-- rebuilding preserves the value at every assignment -/
theorem rebuild_eval {e e' : Expr} (h : rebuild e = .ok e') (ρd ρs : Nat → Int) :
    eval ρd ρs e' = eval ρd ρs e := by
  have := replace_eval h ρd ρs
  rwa [substEnv_nil, substEnv_nil] at this

/-- "printing and re-parsing … preserve the value": whenever re-parsing the printed text returns an
expression, nothing of the text is left over and the expression has the value of the original at
every assignment of dimensions and symbols. -/
theorem parse_print_eval {nd ns : Nat} {e e' : Expr} {rest : List Tok} (h : PosLt nd ns e)
    (hp : parseStr nd ns (toStr e) = .ok (e', rest)) (ρd ρs : Nat → Int) :
    rest = [] ∧ eval ρd ρs e' = eval ρd ρs e := by
  rw [parse_print e h] at hp
  cases hr : rebuild e with
  | error x => rw [hr] at hp; cases hp
  | ok e'' =>
    rw [hr] at hp
    cases hp
    exact ⟨rfl, rebuild_eval hr ρd ρs⟩

/-- Expressions the printer output of which re-parses without an exception: every multiplication has
a constant operand and every division-like node a non-zero constant divisor (all expressions the
constructors of the statement build are of this form). -/
inductive Reparsable : Expr → Prop
  | const (v : Int) : Reparsable (.const v)
  | dim (p : Nat) : Reparsable (.dim p)
  | sym (p : Nat) : Reparsable (.sym p)
  | add {l r : Expr} : Reparsable l → Reparsable r → Reparsable (.bin .add l r)
  | mulR {l : Expr} (c : Int) : Reparsable l → Reparsable (.bin .mul l (.const c))
  | mulL {r : Expr} (c : Int) : Reparsable r → Reparsable (.bin .mul (.const c) r)
  | div {k : Kind} {l : Expr} {c : Int} :
      k.isDivLike = true → Reparsable l → c ≠ 0 → Reparsable (.bin k l (.const c))

theorem rebuild_ok {e : Expr} (h : Reparsable e) : ∃ e', rebuild e = .ok e' := by
  unfold rebuild
  induction h with
  | const v => exact ⟨_, rfl⟩
  | dim p => exact ⟨_, rfl⟩
  | sym p => exact ⟨_, rfl⟩
  | add _ _ ihl ihr =>
    obtain ⟨l', hl⟩ := ihl
    obtain ⟨r', hr⟩ := ihr
    exact ⟨_, bind_eq_ok.2 ⟨l', hl, bind_eq_ok.2 ⟨r', hr, rfl⟩⟩⟩
  | mulR c _ ih =>
    obtain ⟨l', hl⟩ := ih
    obtain ⟨m, hm⟩ := (mkMul_const_ok l' c).1
    exact ⟨m, bind_eq_ok.2 ⟨l', hl, hm⟩⟩
  | mulL c _ ih =>
    obtain ⟨r', hr⟩ := ih
    obtain ⟨m, hm⟩ := (mkMul_const_ok r' c).2
    exact ⟨m, bind_eq_ok.2 ⟨_, rfl, bind_eq_ok.2 ⟨r', hr, hm⟩⟩⟩
  | @div k l c hk _ _ ih =>
    obtain ⟨l', hl⟩ := ih
    obtain ⟨m, hm⟩ := mkDiv_const_ok k l' c
    exact ⟨m, bind_eq_ok.2 ⟨l', hl, (mkBin_of_isDivLike hk l' _).trans hm⟩⟩

/-- … so for those, printing and re-parsing returns an expression of the same value. -/
theorem parse_print_total {nd ns : Nat} {e : Expr} (h : PosLt nd ns e) (hr : Reparsable e) :
    ∃ e', parseStr nd ns (toStr e) = .ok (e', []) ∧ ∀ ρd ρs, eval ρd ρs e' = eval ρd ρs e := by
  obtain ⟨e', he'⟩ := rebuild_ok hr
  exact ⟨e', by rw [parse_print e h, he']; rfl, rebuild_eval he'⟩

/-! non-vacuity: the raw tree `1 + d0` prints as `(1 + d0)` and re-parses to `d0 + 1` -/
example : toStr (.bin .add (.const 1) (.dim 0)) = "(1 + d0)" := by decide +kernel
example : rebuild (.bin .add (.const 1) (.dim 0)) = .ok (.bin .add (.dim 0) (.const 1)) := by rfl
example : toToks (.bin .mod (.dim 0) (.const (-3)))
    = [.lp, .ident "d0", .ident "mod", .minus, .int 3, .rp] := by decide +kernel

end Xdsl.Affine
