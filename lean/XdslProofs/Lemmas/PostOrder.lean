import XdslModel.PostOrder
import XdslProofs.Lemmas.Graph
/-!
Lemmas for C24 (post-order): invariant of the explicit-stack loop of `PostOrderIterator`, its
termination measure, and what the invariant gives once the stack is empty.
-/
namespace Xdsl.PostOrder
open Xdsl.Graph

/-- the blocks on the stack, top first -/
def nodes (st : List (Nat × Bool)) : List Nat := st.map Prod.fst

@[simp] theorem nodes_nil : nodes [] = [] := rfl

@[simp] theorem nodes_cons (e : Nat × Bool) (st : List (Nat × Bool)) :
    nodes (e :: st) = e.1 :: nodes st := rfl

@[simp] theorem nodes_append (a b : List (Nat × Bool)) : nodes (a ++ b) = nodes a ++ nodes b := by
  simp [nodes]

@[simp] theorem nodes_fresh (new : List Nat) : nodes (new.map fun x => (x, false)) = new := by
  simp [nodes, Function.comp_def]

/-- what the push loop does, said about the new `seen` list `new ++ seen` (in this form the step
"`x` is pushed" is a re-bracketing): it stays duplicate-free and gains exactly the members of `xs` -/
theorem pushSuccs_seen (xs : List Nat) : ∀ s : St, ∃ new : List Nat,
    pushSuccs xs s = { stack := (new.map fun x => (x, false)) ++ s.stack, seen := new ++ s.seen }
    ∧ (s.seen.Nodup → (new ++ s.seen).Nodup) ∧ ∀ y, y ∈ new ++ s.seen ↔ y ∈ xs ∨ y ∈ s.seen := by
  induction xs with
  | nil => exact fun s => ⟨[], rfl, id, fun y => by simp⟩
  | cons x xs ih =>
    intro s
    unfold pushSuccs
    by_cases hx : s.seen.contains x = true
    · rw [if_pos hx]
      obtain ⟨new, h1, h2, h3⟩ := ih s
      refine ⟨new, h1, h2, fun y => (h3 y).trans ?_⟩
      rw [List.mem_cons, or_assoc]
      exact ⟨Or.inr, fun h => h.elim (fun e => Or.inr (e ▸ List.contains_iff_mem.mp hx)) id⟩
    · rw [if_neg hx]
      obtain ⟨new, h1, h2, h3⟩ := ih { stack := (x, false) :: s.stack, seen := x :: s.seen }
      refine ⟨new ++ [x], ?_, fun hs => ?_, fun y => ?_⟩
      · rw [h1, List.map_append, List.append_assoc, List.append_assoc]; rfl
      · rw [List.append_assoc]
        exact h2 (List.nodup_cons.2 ⟨fun h => hx (List.contains_iff_mem.mpr h), hs⟩)
      · rw [List.append_assoc]
        exact (h3 y).trans (by rw [List.mem_cons, List.mem_cons, or_left_comm, or_assoc])

/-- pops a stack entry still stands for: a fresh one is popped, pushed back as visited and popped again -/
def cost (e : Nat × Bool) : Nat := if e.2 then 1 else 2

@[simp] theorem cost_true (b : Nat) : cost (b, true) = 1 := rfl
@[simp] theorem cost_false (b : Nat) : cost (b, false) = 2 := rfl

theorem sum_cost_fresh (new : List Nat) :
    ((new.map fun x => (x, false)).map cost).sum = 2 * new.length := by
  induction new with
  | nil => rfl
  | cons a l ih => simp only [List.map_cons, List.sum_cons, List.length_cons, ih, cost_false]; omega

/-- number of pops still to come is at most `measure n s` (`n` blocks): a block not yet seen may still
be pushed as a fresh entry -/
def measure (n : Nat) (s : St) : Nat := 2 * (n - s.seen.length) + (s.stack.map cost).sum

theorem measure_init (n r : Nat) (hn : 0 < n) : measure n (init r) < 2 * n + 1 := by
  simp only [measure, init, List.length_singleton, List.map_cons, List.map_nil, List.sum_cons,
    List.sum_nil, cost_false]
  omega

/-- loop invariant; `out` holds the blocks yielded so far, most recent first -/
structure Inv (g : Graph) (r : Nat) (s : St) (out : List Nat) : Prop where
  nodup : (nodes s.stack ++ out).Nodup
  seen_iff : ∀ x, x ∈ s.seen ↔ x ∈ nodes s.stack ∨ x ∈ out
  seen_nodup : s.seen.Nodup
  reach : ∀ x ∈ s.seen, Reach g r x
  /-- a block whose successors have been pushed has all of them in `seen` -/
  closed : ∀ x, (x ∈ out ∨ (x, true) ∈ s.stack) → ∀ y, Edge g x y → y ∈ s.seen
  /-- the start block stays at the bottom of the stack and is the last block yielded -/
  root : (∃ st flag, s.stack = st ++ [(r, flag)]) ∨ (s.stack = [] ∧ ∃ o, out = r :: o)
  /-- `out.reverse ++ nodes s.stack` lists the blocks met so far in the order in which they are or will
  be yielded (entries pushed later go in front of the stack part): every block other than the start
  block stands before a predecessor whose successors have been pushed — the one that pushed it -/
  later : ∀ x, x ∈ out.reverse ++ nodes s.stack → x ≠ r →
    ∃ u, Edge g u x ∧ [x, u].Sublist (out.reverse ++ nodes s.stack) ∧ (u ∈ out ∨ (u, true) ∈ s.stack)

theorem inv_init (g : Graph) (r : Nat) : Inv g r (init r) [] where
  nodup := by simp [init]
  seen_iff := by simp [init]
  seen_nodup := by simp [init]
  reach := by intro x hx; simp [init] at hx; rw [hx]; exact Reach.refl g r
  closed := by intro x hx; simp [init] at hx
  root := Or.inl ⟨[], false, rfl⟩
  later := by intro x hx hne; simp [init] at hx; exact absurd hx hne

theorem seen_length_le {g : Graph} (hwf : WF g) {r : Nat} (hr : r < g.length) {s : St}
    {out : List Nat} (hi : Inv g r s out) : s.seen.length ≤ g.length := by
  -- pigeonhole: the seen blocks are distinct numbers below `g.length`
  have := hi.seen_nodup.length_le_of_subset (l₂ := List.range g.length)
    fun x hx => List.mem_range.2 (Reach.lt hwf hr (hi.reach x hx))
  rwa [List.length_range] at this

theorem inv_pop_true {g : Graph} {r b : Nat} {rest : List (Nat × Bool)} {seen out : List Nat}
    (hi : Inv g r { stack := (b, true) :: rest, seen := seen } out) :
    Inv g r { stack := rest, seen := seen } (b :: out) where
  nodup := List.perm_middle.nodup_iff.mpr hi.nodup
  seen_iff x := (hi.seen_iff x).trans <| by
    simp only [nodes_cons, List.mem_cons]; rw [or_assoc, or_left_comm]
  seen_nodup := hi.seen_nodup
  reach := hi.reach
  closed x hx := hi.closed x <| by
    rcases hx with hx | hx
    · rcases List.mem_cons.mp hx with rfl | hx
      · exact Or.inr List.mem_cons_self
      · exact Or.inl hx
    · exact Or.inr (List.mem_cons_of_mem _ hx)
  root := by
    rcases hi.root with ⟨st, flag, h⟩ | ⟨h, _⟩
    · cases st with
      | nil =>
        cases h
        exact Or.inr ⟨rfl, out, rfl⟩
      | cons e st => exact Or.inl ⟨st, flag, (List.cons.inj h).2⟩
    · cases h
  later x hx hne := by
    have e : (b :: out).reverse ++ nodes rest = out.reverse ++ nodes ((b, true) :: rest) := by
      rw [List.reverse_cons, List.append_assoc]; rfl
    rw [e] at hx ⊢
    obtain ⟨u, h1, h2, h3⟩ := hi.later x hx hne
    refine ⟨u, h1, h2, ?_⟩
    rcases h3 with h3 | h3
    · exact Or.inl (List.mem_cons_of_mem _ h3)
    · rcases List.mem_cons.mp h3 with h3 | h3
      · cases h3; exact Or.inl List.mem_cons_self
      · exact Or.inr h3

/-- the state after the pop of a fresh entry, in the form in which `pushSuccs_seen` gives it (`new`, `hnd`, `hmem`) -/
theorem inv_pop_false {g : Graph} {r b : Nat} {rest : List (Nat × Bool)} {seen out new : List Nat}
    (hi : Inv g r { stack := (b, false) :: rest, seen := seen } out)
    (hnd : (new ++ seen).Nodup) (hmem : ∀ y, y ∈ new ++ seen ↔ y ∈ (succ g b).reverse ∨ y ∈ seen) :
    Inv g r { stack := (new.map fun x => (x, false)) ++ (b, true) :: rest, seen := new ++ seen } out := by
  obtain ⟨hn, _, hdis⟩ := List.nodup_append.1 hnd
  have hedge : ∀ x ∈ new, Edge g b x := fun x hx =>
    ((hmem x).1 (List.mem_append_left _ hx)).elim List.mem_reverse.1 fun h => absurd rfl (hdis x hx x h)
  refine ⟨?_, fun x => ?_, hnd, fun x hx => ?_, fun x hx y e => ?_, ?_, fun x hx hne => ?_⟩
  · have h0 : ((b :: nodes rest) ++ out).Nodup := hi.nodup
    simp only [nodes_append, nodes_fresh, nodes_cons, List.append_assoc]
    exact List.nodup_append.2 ⟨hn, h0, fun a ha c hc =>
      hdis a ha c ((hi.seen_iff c).2 (List.mem_append.1 hc))⟩
  · simp only [nodes_append, nodes_fresh, List.mem_append, hi.seen_iff x, nodes_cons, or_assoc]
  · exact ((hmem x).1 hx).elim
      (fun h => (hi.reach b ((hi.seen_iff b).mpr (Or.inl List.mem_cons_self))).step (List.mem_reverse.1 h))
      (hi.reach x)
  · have old : (x ∈ out ∨ (x, true) ∈ (b, false) :: rest) → y ∈ new ++ seen := fun h =>
      List.mem_append_right _ (hi.closed x h y e)
    rcases hx with hx | hx
    · exact old (Or.inl hx)
    · rcases List.mem_append.mp hx with hx | hx
      · obtain ⟨_, _, h⟩ := List.mem_map.1 hx; cases h
      · rcases List.mem_cons.mp hx with hx | hx
        · cases hx
          exact (hmem y).2 (Or.inl (List.mem_reverse.mpr e))
        · exact old (Or.inr (List.mem_cons_of_mem _ hx))
  · rcases hi.root with ⟨st, flag, h⟩ | ⟨h, _⟩
    · cases st with
      | nil =>
        cases h
        exact Or.inl ⟨new.map fun x => (x, false), true, rfl⟩
      | cons e st =>
        refine Or.inl ⟨(new.map fun x => (x, false)) ++ (b, true) :: st, flag, ?_⟩
        rw [(List.cons.inj h).2, List.append_assoc]; rfl
    · cases h
  · simp only [nodes_append, nodes_fresh, nodes_cons] at hx ⊢
    have hsub : (out.reverse ++ nodes ((b, false) :: rest)).Sublist
        (out.reverse ++ (new ++ b :: nodes rest)) :=
      List.Sublist.append_left (List.sublist_append_right _ _) _
    by_cases hxn : x ∈ new
    · refine ⟨b, hedge x hxn, ?_, Or.inr ?_⟩
      · exact ((List.singleton_sublist.mpr hxn).append ((List.nil_sublist _).cons_cons b)).trans
          (List.sublist_append_right _ _)
      · exact List.mem_append_right _ List.mem_cons_self
    · have hx' : x ∈ out.reverse ++ nodes ((b, false) :: rest) := by
        rcases List.mem_append.1 hx with h | h
        · exact List.mem_append_left _ h
        · exact List.mem_append_right _ ((List.mem_append.1 h).resolve_left hxn)
      obtain ⟨u, h1, h2, h3⟩ := hi.later x hx' hne
      refine ⟨u, h1, h2.trans hsub, h3.imp id fun h3 => ?_⟩
      rcases List.mem_cons.mp h3 with h3 | h3
      · cases h3
      · exact List.mem_append_right _ (List.mem_cons_of_mem _ h3)

/-- what the invariant says once the stack is empty -/
structure Final (g : Graph) (r : Nat) (out : List Nat) : Prop where
  nodup : out.Nodup
  mem_iff : ∀ x, x ∈ out ↔ Reach g r x
  last : ∃ o, out = r :: o
  later : ∀ x, x ∈ out → x ≠ r → ∃ u, Edge g u x ∧ [x, u].Sublist out.reverse

theorem final_of_inv {g : Graph} {r : Nat} {seen out : List Nat}
    (hi : Inv g r { stack := [], seen := seen } out) : Final g r out := by
  have hseen : ∀ x, x ∈ seen ↔ x ∈ out := by
    intro x; have := hi.seen_iff x; simpa using this
  have hlast : ∃ o, out = r :: o := by
    rcases hi.root with ⟨st, flag, h⟩ | ⟨_, h⟩
    · simp at h
    · exact h
  refine ⟨by simpa using hi.nodup, ?_, hlast, ?_⟩
  · intro x
    constructor
    · intro hx; exact hi.reach x ((hseen x).mpr hx)
    · rintro ⟨l, hl⟩
      induction hl with
      | root => obtain ⟨o, rfl⟩ := hlast; simp
      | snoc _ e ih => exact (hseen _).mp (hi.closed _ (Or.inl ih) _ e)
  · intro x hx hne
    obtain ⟨u, h1, h2, _⟩ := hi.later x (by simpa using hx) hne
    exact ⟨u, h1, by simpa using h2⟩

theorem run_spec {g : Graph} (hwf : WF g) {r : Nat} (hr : r < g.length) :
    ∀ (fuel : Nat) (s : St) (out : List Nat), Inv g r s out → measure g.length s < fuel →
    ∃ out', run g fuel s out = (out'.reverse, true) ∧ Final g r out' := by
  intro fuel
  induction fuel with
  | zero => intro s out _ h; omega
  | succ fuel ih =>
    intro s out hi hm
    obtain ⟨stack, seen⟩ := s
    match stack with
    | [] => exact ⟨out, rfl, final_of_inv hi⟩
    | (b, true) :: rest =>
      refine ih _ (b :: out) (inv_pop_true hi) ?_
      simp only [measure, List.map_cons, List.sum_cons, cost_true] at hm ⊢
      omega
    | (b, false) :: rest =>
      obtain ⟨new, hs, h3, h4⟩ :=
        pushSuccs_seen (succ g b).reverse { stack := (b, true) :: rest, seen := seen }
      have hi' := inv_pop_false hi (h3 hi.seen_nodup) h4
      -- `measure` subtracts in `Nat`: it only goes down because the grown `seen` still fits in `g.length`
      have hlen := seen_length_le hwf hr hi'
      show ∃ out', run g fuel (pushSuccs (succ g b).reverse _) out = _ ∧ _
      rw [hs]
      apply ih _ _ hi'
      simp only [measure, List.map_cons, List.sum_cons, cost_true, cost_false, List.map_append,
        List.sum_append, sum_cost_fresh, List.length_append] at hm hlen ⊢
      omega

end Xdsl.PostOrder
