import XdslProofs.Lemmas.X86Sym
/-!
Frame discipline: a program of the shape `label* push r₁ … push rₙ body pop rₙ … pop r₁ ret`
restores `rsp`, the callee-saved registers and all memory outside the `n` pushed slots.
The body, like everything the lowering rules emit before `ret`, is register code (`RegCode D`): each
instruction is a label or writes one register of `D` and nothing else; `RegCode.exec_eq` is the frame
rule for it.
-/
namespace Xdsl.X86

theorem exec_append (l₁ l₂ : List Instr) (σ : St) : exec (l₁ ++ l₂) σ = exec l₂ (exec l₁ σ) := by
  simp [exec, List.foldl_append]

@[simp] theorem exec_nil (σ : St) : exec [] σ = σ := rfl
@[simp] theorem exec_cons (i : Instr) (l : List Instr) (σ : St) : exec (i :: l) σ = exec l (step i σ) := rfl

theorem beforeRet_append_ret (Z t : List Instr) (h : ∀ i ∈ Z, i ≠ Instr.ret) :
    beforeRet (Z ++ Instr.ret :: t) = some Z := by
  induction Z with
  | nil => rfl
  | cons i r ih =>
    rw [List.cons_append, beforeRet.eq_3 _ _ (h i List.mem_cons_self),
      ih fun j hj => h j (List.mem_cons_of_mem i hj)]
    rfl

theorem run_beforeRet (a : List Instr) (σ : St) :
    run a σ = (beforeRet a).map fun pre => retStep (exec pre σ) := by
  fun_induction run a σ
  next => rfl
  next => rfl
  next hi ih => rw [ih, beforeRet.eq_3 _ _ hi, Option.map_map]; rfl

theorem run_append_ret (l t : List Instr) (h : ∀ i ∈ l, i ≠ Instr.ret) (σ : St) :
    run (l ++ Instr.ret :: t) σ = some (retStep (exec l σ)) := by
  rw [run_beforeRet, beforeRet_append_ret l t h]; rfl

theorem run_framed (rs : List Nat) (body t : List Instr) (hb : ∀ i ∈ body, i ≠ Instr.ret) (σ : St) :
    run (rs.map Instr.push ++ body ++ rs.reverse.map Instr.pop ++ Instr.ret :: t) σ
      = some (retStep (exec (rs.map Instr.push ++ body ++ rs.reverse.map Instr.pop) σ)) :=
  run_append_ret _ _ (fun i hi => by
    simp only [List.mem_append, List.mem_map] at hi
    rcases hi with (⟨r, _, rfl⟩ | hi) | ⟨r, _, rfl⟩
    · nofun
    · exact hb i hi
    · nofun) σ

theorem run_dropLabels (a : List Instr) (σ : St) : run a σ = run (a.dropWhile isLabel) σ := by
  induction a with
  | nil => rfl
  | cons i r ih =>
    cases i <;> simp [List.dropWhile, isLabel]
    simpa [run, step] using ih

theorem run_takePushes (a : List Instr) (σ : St) :
    run a σ = run (takePushes a).2 (exec ((takePushes a).1.map Instr.push) σ) := by
  induction a generalizing σ with
  | nil => rfl
  | cons i r ih => cases i <;> first | rfl | exact ih _

/-- the run of a program, in the terms in which `frameOk` reads it: labels, pushes, the code before
the first `ret` -/
theorem run_parse (a : List Instr) (σ : St) :
    run a σ = (beforeRet (takePushes (a.dropWhile isLabel)).2).map fun pre =>
      retStep (exec ((takePushes (a.dropWhile isLabel)).1.map Instr.push ++ pre) σ) := by
  rw [run_dropLabels, run_takePushes, run_beforeRet]
  simp only [exec_append]

theorem step_destOf {i : Instr} {d : Nat} (h : destOf i = some d) (σ : St) :
    ∃ v, step i σ = setReg σ d v := by
  cases i with
  | mov | movi | load | alu => cases h; exact ⟨_, rfl⟩
  | store | push | pop | ret | label => cases h

def RegCode (D : Nat → Prop) (c : List Instr) : Prop :=
  ∀ i ∈ c, i = .label ∨ ∃ d, destOf i = some d ∧ D d

namespace RegCode
variable {D D' : Nat → Prop} {c c₁ c₂ : List Instr}

theorem nil : RegCode D [] := fun _ h => nomatch h

theorem cons {i : Instr} {d : Nat} (hi : destOf i = some d) (hd : D d) (h : RegCode D c) :
    RegCode D (i :: c) := by
  intro j hj
  rcases List.mem_cons.mp hj with rfl | hj
  · exact .inr ⟨d, hi, hd⟩
  · exact h j hj

theorem append (h₁ : RegCode D c₁) (h₂ : RegCode D c₂) : RegCode D (c₁ ++ c₂) :=
  fun i hi => (List.mem_append.mp hi).elim (h₁ i) (h₂ i)

theorem mono (h : RegCode D c) (hD : ∀ d, D d → D' d) : RegCode D' c :=
  fun i hi => (h i hi).imp_right fun ⟨d, e, hd⟩ => ⟨d, e, hD d hd⟩

theorem label (h : RegCode D c) : RegCode D (.label :: c) := by
  intro j hj
  rcases List.mem_cons.mp hj with rfl | hj
  · exact .inl rfl
  · exact h j hj

theorem exec_eq (h : RegCode D c) (σ : St) :
    (exec c σ).mem = σ.mem ∧ ∀ r, ¬ D r → (exec c σ).reg r = σ.reg r := by
  induction c generalizing σ with
  | nil => exact ⟨rfl, fun _ _ => rfl⟩
  | cons i c ih =>
    obtain ⟨hm, hr⟩ := ih (fun j hj => h j (List.mem_cons_of_mem i hj)) (step i σ)
    rw [exec_cons]
    rcases h i List.mem_cons_self with rfl | ⟨d, hd, hD⟩
    · exact ⟨hm, hr⟩
    · obtain ⟨v, hv⟩ := step_destOf hd σ
      rw [hv] at hm hr ⊢
      exact ⟨hm, fun r hr' => (hr r hr').trans (if_neg fun (e : r = d) => hr' (e ▸ hD))⟩

/-- register code holds nothing that `run`, `beforeRet`, `takePushes` stop at -/
theorem shape (h : RegCode D c) : ∀ i ∈ c, i ≠ .ret ∧ pushReg? i = none := by
  intro i hi
  rcases h i hi with rfl | ⟨d, hd, _⟩
  · exact ⟨nofun, rfl⟩
  · cases i with
    | mov | movi | load | alu => exact ⟨Instr.noConfusion, rfl⟩
    | store | push | pop | ret | label => cases hd

theorem ne_ret (h : RegCode D c) : ∀ i ∈ c, i ≠ .ret := fun i hi => (h.shape i hi).1

end RegCode

theorem bodyInstrOk_regCode {saved : List Nat} {body : List Instr}
    (h : ∀ i ∈ body, bodyInstrOk saved i = true) : RegCode (fun d => writeOk saved d = true) body := by
  intro i hi
  have := h i hi
  cases i with
  | mov | movi | load | alu => exact .inr ⟨_, rfl, this⟩
  | label => exact .inl rfl
  | store | push | pop | ret => cases this

/-- Pushes `rs`, register code that leaves `rsp` alone, pops in reverse: the stack discipline is kept
whatever the base, and so is every register that the body does not write or that is pushed. -/
theorem exec_framed {D : Nat → Prop} {body : List Instr} (hb : RegCode D body) (hD : ¬ D RSP)
    (rs : List Nat) (h4 : RSP ∉ rs) (hlen : rs.length ≤ depthCap) (σ : St) :
    (∀ a μ N n, Stk a μ N n σ → n + rs.length ≤ N →
      Stk a μ N n (exec (rs.map Instr.push ++ body ++ rs.reverse.map Instr.pop) σ)) ∧
    ∀ r, r ≠ RSP → (D r → r ∈ rs) →
      (exec (rs.map Instr.push ++ body ++ rs.reverse.map Instr.pop) σ).reg r = σ.reg r := by
  induction rs generalizing σ with
  | nil =>
    obtain ⟨hm, hr⟩ := hb.exec_eq σ
    simp only [List.map_nil, List.reverse_nil, List.nil_append, List.append_nil]
    exact ⟨fun a μ N n h _ => h.of_eq (hr _ hD) hm, fun r _ h => hr r fun hd => nomatch h hd⟩
  | cons r0 rs ih =>
    have hr0 : r0 ≠ RSP := fun h => h4 (by simp [h])
    have hshape : (r0 :: rs).map Instr.push ++ body ++ (r0 :: rs).reverse.map Instr.pop
        = Instr.push r0 :: ((rs.map Instr.push ++ body ++ rs.reverse.map Instr.pop) ++ [Instr.pop r0]) := by
      simp
    have hlen' : rs.length ≤ depthCap := Nat.le_of_succ_le hlen
    obtain ⟨ihS, ihR⟩ := ih (fun h => h4 (by simp [h])) hlen' (step (.push r0) σ)
    rw [hshape, exec_cons, exec_append, exec_cons, exec_nil]
    generalize exec (rs.map Instr.push ++ body ++ rs.reverse.map Instr.pop) (step (.push r0) σ) = σ2
      at ihS ihR
    refine ⟨fun a μ N n h hn => ?_, fun r hr hDr => ?_⟩
    · rw [List.length_cons] at hn
      exact (ihS a μ N (n + 1) (h.push (by omega) r0) (by omega)).pop hr0
    · rw [step_pop, setReg_reg]
      split
      · next e =>
        -- the inner part keeps the discipline based at its own entry `rsp`: the qword there survives
        have S := ihS _ _ rs.length 0 (Stk.entry _ hlen') (Nat.le_of_eq (Nat.zero_add _))
        have hdc : depthCap = 4096 := rfl
        rw [S.rsp, below_zero, S.out _ fun i h1 h2 => below_ne _ i h1 (by omega), e]
        simp [step]
      · next e =>
        rw [retStep, setReg_reg, if_neg hr, ihR r hr fun hd => (List.mem_cons.mp (hDr hd)).resolve_left e]
        simp [step, hr]

end Xdsl.X86
