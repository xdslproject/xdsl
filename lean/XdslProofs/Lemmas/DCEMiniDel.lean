import XdslModel.DCEMini
import XdslProofs.Lemmas.DCEComplete
import XdslProofs.Lemmas.Bool
/-!
What `delA` erases (C13 on `Sem`): facts about the model of the pass on `AT` that do not mention the semantics.

* `toT_delA`, `toT_dceOnceA`, `toT_dceA`: `delA` is `DCE.del` on the `T`-part, so what `dceOnceA` / `dceA` leave is
  what the model of `region_dce` / of the pass leaves.
* `dropCells_closed` / `dropCells_dead` + `no_live_use`: the core of dead-code elimination — the live set is
  closed under the two liveness rules (`liveSet_closed`, i.e. the fixpoint of `live_iff_least`) at every
  operation erased from a kept block, so it is `would_be_trivially_dead` and has no live user, hence by
  `linkedB` no kept operation reads one of its results (`dropRes_eq`: `dropRes` lists the results of `dropCells`).
-/
namespace Xdsl.DCEM
open Xdsl.DCE Xdsl.MiniIR Xdsl.Sem

variable {live : List Nat}

@[simp] theorem toT_nil : toT .nil = .nil := rfl
@[simp] theorem toT_op (h : Hdr) (m : MHdr) (rs next : AT) : toT (.op h m rs next) = .op h (toT rs) (toT next) := rfl
@[simp] theorem toT_block (i : Nat) (a : List (Nat × Ty)) (ops next : AT) :
    toT (.block i a ops next) = .block (toT ops) (toT next) := rfl
@[simp] theorem toT_region (bs next : AT) : toT (.region bs next) = .region (toT bs) (toT next) := rfl

theorem nodupB_iff (l : List Nat) : nodupB l = true ↔ l.Nodup := by
  induction l with
  | nil => simp [nodupB]
  | cons x xs ih => simp [nodupB, ih]

theorem anyLiveA_toT (a : AT) : anyLiveA live a = anyLive live (toT a) := by
  induction a with
  | nil => rfl
  | op h m rs next _ ihn => simp [anyLiveA, anyLive, ihn]
  | block _ _ _ _ _ _ => rfl
  | region _ _ _ _ => rfl

theorem keepMaskA_toT (a : AT) : ∀ f, keepMaskA live a f = keepMask live (toT a) f := by
  induction a with
  | nil => intro f; rfl
  | op _ _ _ _ _ _ => intro f; rfl
  | region _ _ _ _ => intro f; rfl
  | block i args ops next _ ihn => intro f; simp [keepMaskA, keepMask, anyLiveA_toT, ihn]

theorem toT_delA (a : AT) : ∀ f mask, toT (delA live a f mask) = del live (toT a) f mask := by
  induction a with
  | nil => intro f mask; rfl
  | op h m rs next ihr ihn =>
    intro f mask
    simp only [delA, toT_op, del]
    split
    · simp [ihr, ihn]
    · exact ihn false mask
  | block i args ops next iho ihn =>
    intro f mask
    simp only [delA, toT_block, del, anyLiveA_toT]
    split
    · exact ihn false mask
    · simp [iho, ihn]
  | region bs next ihb ihn =>
    intro f mask
    simp [delA, del, ihb, ihn, keepMaskA_toT]

theorem toT_dceOnceA (a : AT) : toT (dceOnceA a).1 = (dceOnce (toT a)).1 ∧ (dceOnceA a).2 = (dceOnce (toT a)).2 := by
  unfold dceOnceA dceOnce
  simp only [toT_delA]
  split <;> simp [toT_delA]

theorem toT_dceLoopA : ∀ (fuel : Nat) (a : AT) (k : Nat),
    toT (dceLoopA fuel a k).1 = (dceLoop fuel (toT a) k).1 ∧ (dceLoopA fuel a k).2 = (dceLoop fuel (toT a) k).2 := by
  intro fuel
  induction fuel with
  | zero => intro a k; exact ⟨rfl, rfl⟩
  | succ fuel ih =>
    intro a k
    simp only [dceLoopA, dceLoop, (toT_dceOnceA a).2]
    split
    · rw [← (toT_dceOnceA a).1]; exact ih _ _
    · exact ⟨(toT_dceOnceA a).1, rfl⟩

theorem toT_dceA (a : AT) : toT (dceA a).1 = (dce (toT a)).1 ∧ (dceA a).2 = (dce (toT a)).2 :=
  toT_dceLoopA _ a 0

theorem dceOnceA_fix {a : AT} (h : (dceOnceA a).2 = false) : (dceOnceA a).1 = a := by
  unfold dceOnceA at h ⊢
  simp only at h ⊢
  split
  · rfl
  · rename_i hsz; simp [hsz] at h

theorem dropCells_sub (a : AT) : ∀ f, ∀ c ∈ dropCells live a f, c ∈ cellsA a ∧ live.contains c.1.id = false := by
  induction a with
  | nil => intro f c hc; cases hc
  | op h m rs next ihr ihn =>
    intro f c hc
    simp only [dropCells, List.mem_append] at hc
    simp only [cellsA, List.mem_cons, List.mem_append]
    rcases hc with hc | hc
    · cases hl : live.contains h.id with
      | true =>
        simp only [hl, if_true] at hc
        exact ⟨Or.inr (Or.inl (ihr true c hc).1), (ihr true c hc).2⟩
      | false =>
        simp only [hl, Bool.false_eq_true, if_false, List.mem_singleton] at hc
        subst hc
        exact ⟨Or.inl rfl, hl⟩
    · exact ⟨Or.inr (Or.inr (ihn false c hc).1), (ihn false c hc).2⟩
  | block i args ops next iho ihn =>
    intro f c hc
    simp only [dropCells, List.mem_append] at hc
    simp only [cellsA, List.mem_append]
    rcases hc with hc | hc
    · split at hc
      · cases hc
      · exact ⟨Or.inl (iho false c hc).1, (iho false c hc).2⟩
    · exact ⟨Or.inr (ihn false c hc).1, (ihn false c hc).2⟩
  | region bs next ihb ihn =>
    intro f c hc
    simp only [dropCells, List.mem_append] at hc
    simp only [cellsA, List.mem_append]
    rcases hc with hc | hc
    · exact ⟨Or.inl (ihb true c hc).1, (ihb true c hc).2⟩
    · exact ⟨Or.inr (ihn true c hc).1, (ihn true c hc).2⟩

theorem dropRes_eq (a : AT) : ∀ f, dropRes live a f = (dropCells live a f).flatMap fun c => c.2.1.results.map (·.1) := by
  induction a with
  | nil => intro f; rfl
  | op h m rs next ihr ihn =>
    intro f
    simp only [dropRes, dropCells, List.flatMap_append, ihr, ihn]
    split <;> simp
  | block i args ops next iho ihn =>
    intro f
    simp only [dropRes, dropCells, List.flatMap_append, iho, ihn]
    split <;> simp
  | region bs next ihb ihn =>
    intro f
    simp only [dropRes, dropCells, List.flatMap_append, ihb, ihn]

/-- what is known of the live set at a list of cells of sort `s` that `delA` visits: closedness, for a
block list on the blocks that are kept -/
def ClosedAt (t : T) (live : List Nat) (a : AT) (s : Srt) (f : Bool) : Prop :=
  match s with
  | .blocks => ∀ k, (keepMaskA live a f).getD k false = true → Closed t live (toT a) (some k)
  | _ => Closed t live (toT a) none

section
variable {t : T} {h : Hdr} {m : MHdr} {i : Nat} {args : List (Nat × Ty)} {rs ops bs next : AT} {f : Bool}

theorem ClosedAt.op_next (hy : ClosedAt t live (.op h m rs next) .ops f) : ClosedAt t live next .ops false :=
  hy.1

theorem ClosedAt.op_rule (hy : ClosedAt t live (.op h m rs next) .ops f) :
    (wbd h (toT rs) = false ∨ hasLiveUser t live h.id = true) → h.id ∈ live :=
  hy.2.1

theorem ClosedAt.op_regions (hy : ClosedAt t live (.op h m rs next) .ops f) (hl : live.contains h.id = true) :
    ClosedAt t live rs .regions true :=
  hy.2.2 (by simpa using hl)

theorem ClosedAt.block_ops (hy : ClosedAt t live (.block i args ops next) .blocks f)
    (hk : (f || anyLiveA live ops) = true) : Closed t live (toT ops) none :=
  hy 0 hk

theorem ClosedAt.block_next (hy : ClosedAt t live (.block i args ops next) .blocks f) :
    ClosedAt t live next .blocks false :=
  fun k hk => hy (k + 1) hk

/-- the first conjunct of `keptReachB` at a region: the blocks `delA` keeps are among `reach` -/
theorem kept_reach_iff {mask : List Bool} {reach : List Nat} :
    ((List.range mask.length).all fun k => !mask.getD k false || reach.contains k) = true
      ↔ ∀ k, mask.getD k false = true → k ∈ reach := by
  simp only [List.all_eq_true, List.mem_range, not_or_imp, List.contains_eq_mem, decide_eq_true_eq]
  refine ⟨fun h k hk => h k (Nat.lt_of_not_le fun hle => ?_) hk, fun h k _ => h k⟩
  rw [List.getD_eq_getElem?_getD, List.getElem?_eq_none hle] at hk; cases hk

theorem ClosedAt.region_yielded (hy : ClosedAt t live (.region bs next) .regions f) :
    ∀ k ∈ reachSet (toT bs), Closed t live (toT bs) (some k) :=
  hy.1

theorem ClosedAt.region_blocks (hy : ClosedAt t live (.region bs next) .regions f)
    (hr : ∀ k, (keepMaskA live bs true).getD k false = true → k ∈ reachSet (toT bs)) : ClosedAt t live bs .blocks true :=
  fun k hk => hy.region_yielded k (hr k hk)

theorem ClosedAt.region_next (hy : ClosedAt t live (.region bs next) .regions f) : ClosedAt t live next .regions true :=
  hy.2

end

theorem dropCells_closed {t : T} (a : AT) (s : Srt) (f : Bool) : ClosedAt t live a s f → keptReachB live a s f = true →
    ∀ c ∈ dropCells live a f,
      (wbd c.1 (toT c.2.2) = false ∨ hasLiveUser t live c.1.id = true) → c.1.id ∈ live := by
  fun_induction keptReachB live a s f with
  | case1 => intro _ _ c hc; cases hc
  | case2 h m rs next f ihr ihn =>
    intro hy hk c hc
    simp only [Bool.and_eq_true] at hk
    simp only [dropCells, List.mem_append] at hc
    rcases hc with hc | hc
    · cases hl : live.contains h.id with
      | true =>
        simp only [hl, if_true, Bool.not_true, Bool.false_or] at hc hk
        exact ihr (hy.op_regions hl) hk.1 c hc
      | false =>
        simp only [hl, Bool.false_eq_true, if_false, List.mem_singleton] at hc
        subst hc
        exact hy.op_rule
    · exact ihn hy.op_next hk.2 c hc
  | case3 i args ops next f iho ihn =>
    intro hy hk c hc
    simp only [Bool.and_eq_true, ← Bool.not_or] at hk
    simp only [dropCells, List.mem_append, ← Bool.not_or] at hc
    rcases hc with hc | hc
    · cases hd : (f || anyLiveA live ops) with
      | false => simp [hd] at hc
      | true =>
        simp only [hd, Bool.not_true, Bool.false_eq_true, if_false, Bool.false_or] at hc hk
        exact iho (hy.block_ops hd) hk.1 c hc
    · exact ihn hy.block_next hk.2 c hc
  | case4 bs next f ihb ihn =>
    intro hy hk c hc
    simp only [Bool.and_eq_true] at hk
    simp only [dropCells, List.mem_append] at hc
    rcases hc with hc | hc
    · exact ihb (hy.region_blocks (kept_reach_iff.mp hk.1.1)) hk.1.2 c hc
    · exact ihn hy.region_next hk.2 c hc
  | case5 => intro _ hk; cases hk

theorem dropCells_dead {t : T} (a : AT) {s : Srt} {f : Bool} (hy : ClosedAt t live a s f)
    (hk : keptReachB live a s f = true) :
    ∀ c ∈ dropCells live a f, wbd c.1 (toT c.2.2) = true ∧ hasLiveUser t live c.1.id = false := by
  intro c hc
  have hrule := dropCells_closed a s f hy hk c hc
  have hdead := (dropCells_sub a f c hc).2
  simp only [List.contains_eq_mem, decide_eq_false_iff_not] at hdead
  constructor
  · cases hw : wbd c.1 (toT c.2.2) with
    | true => rfl
    | false => exact absurd (hrule (Or.inl hw)) hdead
  · cases hu : hasLiveUser t live c.1.id with
    | false => rfl
    | true => exact absurd (hrule (Or.inr hu)) hdead

theorem allHdrs_toT (a : AT) : allHdrs (toT a) = (cellsA a).map (·.1) := by
  induction a with
  | nil => rfl
  | op h m rs next ihr ihn => simp [allHdrs, cellsA, ihr, ihn]
  | block i args ops next iho ihn => simp [allHdrs, cellsA, iho, ihn]
  | region bs next ihb ihn => simp [allHdrs, cellsA, ihb, ihn]

/-- **no live operation reads a result of an erased operation** (of those erased one by one): by
`linkedB` the reader's operand list names the erased operation, which has no live user -/
theorem no_live_use (a : AT) {f : Bool} (hl : linkedB a = true)
    (hno : ∀ c ∈ dropCells live a f, hasLiveUser (toT a) live c.1.id = false) :
    ∀ u ∈ cellsA a, live.contains u.1.id = true → ∀ v ∈ uses u.2.1, v ∉ dropRes live a f := by
  intro u hu hul v hv hvr
  rw [dropRes_eq, List.mem_flatMap] at hvr
  obtain ⟨c, hc, hres⟩ := hvr
  obtain ⟨r, hr, rfl⟩ := List.mem_map.mp hres
  simp only [linkedB, List.all_eq_true, not_or_imp, List.contains_eq_mem, decide_eq_true_eq] at hl
  have hop : c.1.id ∈ u.1.operands := hl u hu c (dropCells_sub a f c hc).1 r hr hv
  have hlive : hasLiveUser (toT a) live c.1.id = true :=
    hasLiveUser_iff.mpr ⟨u.1, by rw [allHdrs_toT]; exact List.mem_map.mpr ⟨u, hu, rfl⟩, hop, by simpa using hul⟩
  rw [hno c hc] at hlive
  cases hlive

end Xdsl.DCEM
