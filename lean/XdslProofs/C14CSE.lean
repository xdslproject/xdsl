import XdslModel.CSE
/-!
# C14 (C) — common-subexpression elimination preserves the values of a block

Model: `XdslModel/CSE.lean` (one walk, table of known operations, `replace_all_uses_with` +
erasure).  For straight-line SSA code of side-effect-free operations with an arbitrary (possibly
partial) semantics `sem`: if the source block runs to an environment `e1`, the block after CSE runs
too, and every value of `e1` is found in the new environment under the replacement map.
-/
namespace Xdsl.C14
open Xdsl Xdsl.CSE

variable {K V : Type} [DecidableEq K]

/-- SSA discipline for the rest of a block: results are defined once and not defined before -/
def SSA (e : Env V) (prog : List (Instr K)) : Prop :=
  (prog.map (·.dst)).Nodup ∧ ∀ i ∈ prog, e i.dst = none

/-- invariant between the source run (`eS`) and the run of the rewritten block (`eT`) -/
structure Inv (sem : K → List V → Option V) (known : Known K) (repl : Repl) (eS eT : Env V) : Prop where
  agree : ∀ v, eS v = eT (repl.app v)
  known_ok : ∀ key args d, (((key, args), d) : (K × List Nat) × Nat) ∈ known →
    ∃ vs x, getArgs eT args = some vs ∧ sem key vs = some x ∧ eT d = some x
  /-- Only values that the source run has defined are replaced.  On the source side, because that is where `SSA`
  speaks: from `eS dst = none` this field says that `dst` is not replaced, `agree` then that the target run has
  not defined it either, and the two together that no other value is replaced by it (`Inv.fresh`, `Inv.app_ne`). -/
  fixes : ∀ v, eS v = none → repl.app v = v

theorem find_mem (k : Known K) (key : K) (args : List Nat) (d : Nat) (h : k.find key args = some d) :
    ((key, args), d) ∈ k := by
  fun_induction Known.find k key args with
  | case1 => cases h
  | case2 k' a' d' rest hc => cases h; obtain ⟨rfl, rfl⟩ := hc; exact List.mem_cons_self
  | case3 k' a' d' rest hc ih => exact List.mem_cons_of_mem _ (ih h)

theorem app_cons (r : Repl) (a b v : Nat) : Repl.app ((a, b) :: r) v = if a = v then b else r.app v := by
  simp only [Repl.app, AL.get]; split <;> simp

theorem getArgs_map (eS eT : Env V) (repl : Repl) (h : ∀ v, eS v = eT (repl.app v)) (args : List Nat) :
    getArgs eS args = getArgs eT (args.map repl.app) := by
  induction args with
  | nil => rfl
  | cons a as ih => simp only [getArgs, List.map, h a, ih]

theorem getArgs_set_of_defined (e : Env V) (k : Nat) (x : V) (hk : e k = none) (args : List Nat) (vs : List V)
    (h : getArgs e args = some vs) : getArgs (e.set k x) args = some vs := by
  fun_induction getArgs e args generalizing vs with
  | case1 => exact h
  | case2 a as y ys has ha ih =>
    have hne : a ≠ k := by rintro rfl; rw [hk] at ha; cases ha
    simp only [getArgs, Env.set, hne, if_false, ha, ih ys has]
    exact h
  | case3 => cases h

theorem set_other (e : Env V) (k : Nat) (x : V) (v : Nat) (h : v ≠ k) : (e.set k x) v = e v := by
  simp [Env.set, h]

theorem set_self (e : Env V) (k : Nat) (x : V) : (e.set k x) k = some x := by
  simp [Env.set]

section step
variable {sem : K → List V → Option V} {known : Known K} {repl : Repl} {eS eT : Env V} {i : Instr K}
  {vs : List V} {x : V}

section
omit [DecidableEq K]

theorem Inv.fresh (inv : Inv sem known repl eS eT) (hdS : eS i.dst = none) : eT i.dst = none := by
  rw [← inv.fixes _ hdS, ← inv.agree, hdS]

theorem Inv.app_ne (inv : Inv sem known repl eS eT) (hdS : eS i.dst = none) (u : Nat) (hu : u ≠ i.dst) :
    repl.app u ≠ i.dst := fun hh =>
  hu ((inv.fixes u ((inv.agree u).trans (hh ▸ inv.fresh hdS))).symm.trans hh)

theorem Inv.args (inv : Inv sem known repl eS eT) (hargs : getArgs eS i.args = some vs) :
    getArgs eT (i.args.map repl.app) = some vs :=
  (getArgs_map eS eT repl inv.agree _).symm.trans hargs

/-- the operation is new: it stays, with its operands replaced, and is entered into the table -/
theorem Inv.miss (inv : Inv sem known repl eS eT) (hdS : eS i.dst = none)
    (hargs : getArgs eS i.args = some vs) (hsem : sem i.key vs = some x) :
    Inv sem (((i.key, i.args.map repl.app), i.dst) :: known) repl (eS.set i.dst x) (eT.set i.dst x) := by
  have hdT := inv.fresh hdS
  have hargsT := inv.args hargs
  refine ⟨fun v => ?_, fun key args d hmem => ?_, fun v hv => ?_⟩
  · by_cases hvd : v = i.dst
    · subst hvd; rw [inv.fixes _ hdS, set_self, set_self]
    · rw [set_other _ _ _ _ hvd, set_other _ _ _ _ (inv.app_ne hdS v hvd)]; exact inv.agree v
  · rcases List.mem_cons.mp hmem with hh | hh
    · cases hh
      exact ⟨vs, x, getArgs_set_of_defined eT i.dst x hdT _ _ hargsT, hsem, set_self _ _ _⟩
    · obtain ⟨vs', x', hv', hs', hd'⟩ := inv.known_ok key args d hh
      refine ⟨vs', x', getArgs_set_of_defined eT i.dst x hdT _ _ hv', hs', ?_⟩
      have : d ≠ i.dst := by intro hh2; subst hh2; rw [hdT] at hd'; cases hd'
      rw [set_other _ _ _ _ this]; exact hd'
  · by_cases hvd : v = i.dst
    · subst hvd; rw [set_self] at hv; cases hv
    · rw [set_other _ _ _ _ hvd] at hv; exact inv.fixes v hv

end

/-- the operation repeats a known one: it is erased and its uses are redirected to the earlier result `d` -/
theorem Inv.hit (inv : Inv sem known repl eS eT)
    (hargs : getArgs eS i.args = some vs) (hsem : sem i.key vs = some x)
    {d : Nat} (hfind : known.find i.key (i.args.map repl.app) = some d) :
    Inv sem known ((i.dst, d) :: repl) (eS.set i.dst x) eT := by
  obtain ⟨vs', x', hv', hs', hd'⟩ := inv.known_ok _ _ _ (find_mem _ _ _ _ hfind)
  obtain rfl : vs' = vs := Option.some.inj (hv'.symm.trans (inv.args hargs))
  obtain rfl : x' = x := Option.some.inj (hs'.symm.trans hsem)
  refine ⟨fun v => ?_, inv.known_ok, fun v hv => ?_⟩ <;> rw [app_cons]
  · split
    · rename_i hv; subst hv; rw [set_self, hd']
    · rename_i hv; rw [set_other _ _ _ _ (fun hh => hv hh.symm)]; exact inv.agree v
  · by_cases hvd : v = i.dst
    · subst hvd; rw [set_self] at hv; cases hv
    · rw [set_other _ _ _ _ hvd] at hv; rw [if_neg (fun hh => hvd hh.symm)]; exact inv.fixes v hv

end step

theorem cseGo_preserves (sem : K → List V → Option V) (rest : List (Instr K)) :
    ∀ (known : Known K) (repl : Repl) (eS eT : Env V), Inv sem known repl eS eT → SSA eS rest →
    ∀ e1, run sem eS rest = some e1 →
    ∃ e2, run sem eT (cseGo known repl rest).1 = some e2 ∧ ∀ v, e1 v = e2 ((cseGo known repl rest).2.app v) := by
  induction rest with
  | nil =>
    intro known repl eS eT inv _ e1 h
    cases h
    exact ⟨eT, rfl, inv.agree⟩
  | cons i rest ih =>
    intro known repl eS eT inv ssa e1 h
    obtain ⟨hnodup, hfresh⟩ := ssa
    have hdS : eS i.dst = none := hfresh i List.mem_cons_self
    rw [run] at h
    split at h
    · rename_i vs hargs
      split at h
      · rename_i x hsem
        have ssa' : SSA (eS.set i.dst x) rest := by
          rw [List.map, List.nodup_cons] at hnodup
          refine ⟨hnodup.2, fun j hj => ?_⟩
          have hne : j.dst ≠ i.dst := fun hh => hnodup.1 (hh ▸ List.mem_map_of_mem hj)
          rw [set_other _ _ _ _ hne]
          exact hfresh j (List.mem_cons_of_mem _ hj)
        rw [cseGo]
        cases hfind : known.find i.key (i.args.map repl.app) with
        | some d => exact ih _ _ _ _ (inv.hit hargs hsem hfind) ssa' e1 h
        | none =>
          obtain ⟨e2, hr, hag⟩ := ih _ _ _ _ (inv.miss hdS hargs hsem) ssa' e1 h
          refine ⟨e2, ?_, hag⟩
          show run sem eT (_ :: _) = some e2
          simp only [run, inv.args hargs, hsem]; exact hr
      · cases h
    · cases h

/-- **`cse_preserves`**: on straight-line SSA code of pure operations (arbitrary partial semantics,
so that undefined behaviour of an operation makes the source run undefined), if the block runs from
`e0` to `e1` then the block after CSE runs from `e0` to some `e2`, and each value `v` of the source
is the value of `repl v` in the target — uses outside the block are redirected by the same `repl`. -/
theorem cse_preserves (sem : K → List V → Option V) (prog : List (Instr K)) (e0 : Env V)
    (ssa : SSA e0 prog) (e1 : Env V) (h : run sem e0 prog = some e1) :
    ∃ e2, run sem e0 (cse prog).1 = some e2 ∧ ∀ v, e1 v = e2 ((cse prog).2.app v) :=
  cseGo_preserves sem prog [] [] e0 e0 ⟨fun _ => rfl, nofun, fun _ _ => rfl⟩ ssa e1 h

/-- values that are not results of the block (block arguments, values from outside) are untouched -/
theorem cse_repl_outside (prog : List (Instr K)) (v : Nat) (h : ∀ i ∈ prog, i.dst ≠ v) :
    ∀ known repl, (cseGo known repl prog).2.app v = repl.app v := by
  intro known repl
  fun_induction cseGo known repl prog with
  | case1 => rfl
  | case2 known repl i rest _ d _ ih =>
    rw [ih fun j hj => h j (List.mem_cons_of_mem _ hj), app_cons, if_neg (h i List.mem_cons_self)]
  | case3 known repl i rest _ _ out r heq ih =>
    have := ih fun j hj => h j (List.mem_cons_of_mem _ hj)
    rwa [heq] at this

/-! ## the table of known operations is a hash table: collisions of the hash are harmless as long
as `OperationInfo.__eq__` compares every component -/

/-- Python's `dict` lookup with `OperationInfo.__hash__`/`__eq__` finds exactly what the
collision-free table finds — for EVERY hash function `h` (in particular for CPython's, where
`hash(-1) = hash(-2)` and `hash(v) = hash(v + 2^61 - 1)`) — provided the component comparison
`eqv` of `__eq__` holds only of equal keys. -/
theorem findH_eq_find (h : K → List Nat → Int) (eqv : K → K → Bool)
    (heq : ∀ a b, eqv a b = true ↔ a = b) (k : Known K) (key : K) (args : List Nat) :
    k.findH h eqv key args = k.find key args := by
  fun_induction Known.find k key args with
  | case1 => rfl
  | case2 k' a' d rest hc =>
    obtain ⟨rfl, rfl⟩ := hc
    simp [Known.findH, infoEq, (heq k' k').mpr rfl]
  | case3 k' a' d rest hc ih =>
    rw [Known.findH, if_neg, ih]
    intro hh
    simp only [infoEq, Bool.and_eq_true, beq_iff_eq] at hh
    exact hc ⟨(heq _ _).mp hh.2.1.2, hh.2.2⟩

theorem cseGoH_eq_cseGo (h : K → List Nat → Int) (eqv : K → K → Bool)
    (heq : ∀ a b, eqv a b = true ↔ a = b) (prog : List (Instr K)) (known : Known K) (repl : Repl) :
    cseGoH h eqv known repl prog = cseGo known repl prog := by
  fun_induction cseGo known repl prog <;> simp +zetaDelta only [cseGoH, findH_eq_find h eqv heq, *]

/-- **`cse_hashed_preserves`**: `cse_preserves` for the pass as it runs, i.e. with the known
operations kept in a Python dict keyed by `OperationInfo`: whatever the hash function (collisions
included), if `__eq__` identifies only operations with equal name / attributes / properties / result
types, CSE preserves every value of the block. -/
theorem cse_hashed_preserves (h : K → List Nat → Int) (eqv : K → K → Bool)
    (heq : ∀ a b, eqv a b = true ↔ a = b)
    (sem : K → List V → Option V) (prog : List (Instr K)) (e0 : Env V)
    (ssa : SSA e0 prog) (e1 : Env V) (hrun : run sem e0 prog = some e1) :
    ∃ e2, run sem e0 (cseH h eqv prog).1 = some e2 ∧ ∀ v, e1 v = e2 ((cseH h eqv prog).2.app v) := by
  have : cseH h eqv prog = cse prog := cseGoH_eq_cseGo h eqv heq prog [] []
  rw [this]
  exact cse_preserves sem prog e0 ssa e1 hrun

/-- the component comparison of the real `OperationInfo.__eq__` (name, attribute dictionary,
property dictionary, result types — each compared in full) holds only of equal keys -/
theorem OpKey.eqv_iff (a b : OpKey) : a.eqv b = true ↔ a = b := by
  obtain ⟨n1, a1, p1, r1⟩ := a
  obtain ⟨n2, a2, p2, r2⟩ := b
  simp [OpKey.eqv, and_assoc]

/-- **`cse_opinfo_preserves`**: instance for the structured `OperationInfo` with the real shape of
`__hash__` (sum of the item hashes, tuple hash `mix`) for arbitrary string / item / tuple hashes. -/
theorem cse_opinfo_preserves (hs : String → Int) (ha : String × String → Int) (mix : List Int → Int)
    (sem : OpKey → List V → Option V) (prog : List (Instr OpKey)) (e0 : Env V)
    (ssa : SSA e0 prog) (e1 : Env V) (hrun : run sem e0 prog = some e1) :
    ∃ e2, run sem e0 (cseH (OpKey.hash hs ha mix) OpKey.eqv prog).1 = some e2
      ∧ ∀ v, e1 v = e2 ((cseH (OpKey.hash hs ha mix) OpKey.eqv prog).2.app v) :=
  cse_hashed_preserves _ _ OpKey.eqv_iff sem prog e0 ssa e1 hrun

/-- `arith.constant <v> : i32` -/
def constKey (v : String) : OpKey := ⟨"arith.constant", [], [("value", v)], ["i32"]⟩

/-- **`cse_keys_only_counterexample`**: the hypothesis "`__eq__` compares the VALUES" cannot be
dropped.  If `__eq__` compares only the names of the attributes/properties and leaves the values to
the hash, then for every hash on which two different values collide (CPython: `hash(-1) = hash(-2)`)
CSE merges `arith.constant -1` and `arith.constant -2`: the block runs, but the second value is no
longer what the source computed. -/
theorem cse_keys_only_counterexample (hs : String → Int) (ha : String × String → Int) (mix : List Int → Int)
    (hcol : ha ("value", "-1") = ha ("value", "-2")) :
    let prog : List (Instr OpKey) := [⟨0, constKey "-1", []⟩, ⟨1, constKey "-2", []⟩]
    let sem : OpKey → List String → Option String := fun k _ => k.props.head?.map (·.2)
    let out := cseH (OpKey.hash hs ha mix) OpKey.eqvKeysOnly prog
    SSA (fun _ => none : Env String) prog
    ∧ (∃ e1, run sem (fun _ => none) prog = some e1 ∧ e1 1 = some "-2")
    ∧ out.1 = [⟨0, constKey "-1", []⟩]
    ∧ (∃ e2, run sem (fun _ => none) out.1 = some e2 ∧ e2 (out.2.app 1) = some "-1") := by
  have hfind : Known.findH (OpKey.hash hs ha mix) OpKey.eqvKeysOnly [((constKey "-1", []), 0)] (constKey "-2") []
      = some 0 := by
    simp [Known.findH, infoEq, OpKey.hash, constKey, hcol, OpKey.eqvKeysOnly]
  have hout : cseH (OpKey.hash hs ha mix) OpKey.eqvKeysOnly
      [⟨0, constKey "-1", []⟩, ⟨1, constKey "-2", []⟩] = ([⟨0, constKey "-1", []⟩], [(1, 0)]) := by
    have hnil : ∀ k a, Known.findH (OpKey.hash hs ha mix) OpKey.eqvKeysOnly [] k a = none := fun _ _ => rfl
    simp only [cseH, cseGoH, List.map_nil, hnil, hfind]
  refine ⟨⟨by decide, by intro i _; rfl⟩, ?_, ?_, ?_⟩
  · refine ⟨_, rfl, ?_⟩
    decide
  · rw [hout]
  · rw [hout]
    refine ⟨_, rfl, ?_⟩
    decide

/-- Every run of the walk has to start from an EMPTY table (`cse = cseGo [] []`: a fresh `KnownOps` per `CSEDriver`).
Started with a table that still holds an entry of an earlier run on another program (its `constant 7`, value 100
there), the walk erases the block's own constant and leaves a use of value 100, which nothing in this block defines:
the source block runs, the block after CSE from the empty table runs, the block after the walk with the stale table
does not. -/
theorem cse_stale_table_counterexample :
    let sem : String → List Int → Option Int := fun k vs =>
      match k, vs with
      | "c:7", [] => some 7
      | "muli", [a, b] => some (a * b)
      | _, _ => none
    let prog : List (Instr String) := [⟨1, "c:7", []⟩, ⟨2, "muli", [0, 1]⟩]
    let e0 : Env Int := fun v => if v = 0 then some 3 else none
    let stale : Known String := [(("c:7", []), 100)]
    (run sem e0 prog).isSome = true ∧
    (run sem e0 (cse prog).1).isSome = true ∧
    (cseGo stale [] prog).1 = [⟨2, "muli", [0, 100]⟩] ∧
    (run sem e0 (cseGo stale [] prog).1).isSome = false := by
  decide

/-! ## non-vacuity -/
example : (cse [⟨2, "addi", [0, 1]⟩, ⟨3, "addi", [0, 1]⟩, ⟨4, "muli", [3, 2]⟩]).1
    = [⟨2, "addi", [0, 1]⟩, ⟨4, "muli", [2, 2]⟩] := by decide

/-- a constant hash (everything collides) changes nothing when `__eq__` is complete -/
example : (cseH (fun _ _ => 0) (fun (a b : String) => a == b)
      [⟨2, "c:-1", []⟩, ⟨3, "c:-2", []⟩, ⟨4, "c:-1", []⟩, ⟨5, "addi", [3, 4]⟩]).1
    = [⟨2, "c:-1", []⟩, ⟨3, "c:-2", []⟩, ⟨5, "addi", [3, 2]⟩] := by decide

end Xdsl.C14
