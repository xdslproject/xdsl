import XdslProofs.Lemmas.X86Frame
/-!
C21 — "A func/arith program that the x86 backend pipeline compiles assembles, and when called natively
returns the result the source program computes for every input while restoring all callee-saved
registers and the stack pointer."

What is proved here is the ∀-inputs half for every program the validator accepts: the check runs
`validate`/`frameOk` (compiled from `XdslModel.X86`) on the assembly text of every program the real
pipeline emits, so each of them is covered by `abi_sound`.  "Assembles" and the step from the machine
model to the CPU are not provable; they are checked by assembling and executing every output.
-/
namespace Xdsl.X86

/-- **returns the result the source program computes for every input** — if the validator accepts,
then from *every* machine state at function entry the code reaches `ret`, and the low `w` bits of
`rax` are the MLIR value of the source function applied to the SysV arguments found in that state
(`rdi, rsi, rdx, rcx, r8, r9`, then `[rsp+8]`, `[rsp+16]`, …), each taken at width `w`. -/
theorem validate_sound (s : Src) (a : List Instr) (h : validate s a = true) (σ0 : St) :
    ∃ σ', run a σ0 = some σ' ∧
      evalSrc s (fun i => trunc s.sz (argOf σ0 i)) = some (trunc s.sz (σ'.reg RAX)) := by
  revert h
  fun_cases validate s a <;> intro h
  next hn p q hq hp =>
    obtain ⟨σ', hrun, hrax⟩ :=
      symRun_sound (nstack := s.nargs - 6) (by omega) a (Inv_init s.sz s.nargs σ0) hp
    refine ⟨σ', hrun, ?_⟩
    have hpq : pclean p = pclean q := by simpa using h
    rw [show (fun i => trunc s.sz (argOf σ0 i)) = envOf s.sz σ0 from rfl,
      srcPoly_sound s (envOf s.sz σ0) q hq, hrax, ← evalPoly_pclean _ p, hpq, evalPoly_pclean]
  all_goals cases h

/-- number of registers pushed by the prologue -/
def pushCount (a : List Instr) : Nat := (takePushes (a.dropWhile isLabel)).1.length

/-- **while restoring all callee-saved registers and the stack pointer** — a push/pop-balanced
prologue/epilogue shape (`frameOk`) implies: from every entry state the code reaches `ret`; after it
`rsp` is the entry `rsp` plus the popped return address, `rbx, rbp, r12–r15` hold their entry values,
and memory is unchanged outside the `pushCount a` qwords just below the entry `rsp`. -/
theorem frame_sound (a : List Instr) (h : frameOk a = true) (σ0 : St) :
    ∃ σ', run a σ0 = some σ' ∧ σ'.reg RSP = σ0.reg RSP + 8 ∧
      (∀ r ∈ calleeSaved, σ'.reg r = σ0.reg r) ∧
      (∀ x, (∀ i, 1 ≤ i → i ≤ pushCount a → x ≠ σ0.reg RSP - BitVec.ofNat 64 (8 * i)) →
        σ'.mem x = σ0.mem x) := by
  have hrun := run_parse a σ0
  have hcount : pushCount a = (takePushes (a.dropWhile isLabel)).1.length := rfl
  revert h
  fun_cases frameOk a <;> intro h
  · cases h
  next a' rs rest htp pre hpre n =>
    simp only [Bool.and_eq_true, decide_eq_true_eq, Bool.not_eq_true', beq_iff_eq,
      List.all_eq_true, List.contains_eq_mem, decide_eq_false_iff_not] at h
    obtain ⟨⟨⟨⟨-, hcap⟩, h4⟩, hpops⟩, hbody⟩ := h
    rw [htp] at hrun hcount
    rw [hcount]
    -- what precedes `ret` is the body followed by the pops
    rw [hpre, ← List.take_append_drop (pre.length - n) pre, hpops, Option.map_some,
      ← List.append_assoc] at hrun
    generalize pre.take (pre.length - n) = body at hbody hrun
    obtain ⟨FS, FR⟩ := exec_framed (bodyInstrOk_regCode hbody) (by simp [writeOk]) rs h4 hcap σ0
    -- the frame keeps the discipline based at the entry `rsp`, with room for the pushed qwords only
    have S := FS _ _ rs.length 0 (Stk.entry σ0 hcap) (Nat.le_of_eq (Nat.zero_add _))
    generalize exec (rs.map Instr.push ++ body ++ rs.reverse.map Instr.pop) σ0 = σe at S FR hrun
    refine ⟨retStep σe, hrun, ?_, fun r hr => ?_, S.out⟩
    · simp [retStep, S.rsp]
    · have hr4 : r ≠ RSP := by intro hh; subst hh; simp [calleeSaved, RSP] at hr
      exact (if_neg hr4).trans (FR r hr4 fun hd => by simp [writeOk, hr] at hd; exact hd.2)

/-- **the whole sentence for one compiled function** (the ∀-inputs part): both checks together give,
from every entry state, the source result in `rax` and the SysV frame obligations. -/
theorem abi_sound (s : Src) (a : List Instr) (hv : validate s a = true) (hf : frameOk a = true)
    (σ0 : St) :
    ∃ σ', run a σ0 = some σ' ∧
      evalSrc s (fun i => trunc s.sz (argOf σ0 i)) = some (trunc s.sz (σ'.reg RAX)) ∧
      σ'.reg RSP = σ0.reg RSP + 8 ∧ (∀ r ∈ calleeSaved, σ'.reg r = σ0.reg r) := by
  obtain ⟨σ₁, h₁, hres⟩ := validate_sound s a hv σ0
  obtain ⟨σ₂, h₂, hsp, hcs, _⟩ := frame_sound a hf σ0
  have : σ₁ = σ₂ := by rw [h₁] at h₂; exact Option.some.inj h₂
  subst this
  exact ⟨σ₁, h₁, hres, hsp, hcs⟩

/-! ### non-vacuity: the checks accept what the (repaired) pipeline emits -/

/-- `f(a0..a6) = a0*a6 + a6` (i64, seventh argument on the stack) -/
def exSrc : Src := { sz := .q, nargs := 7, ops := [.mul 0 6, .add 7 6], ret := 8 }

/-- output of the repaired pipeline: the load of the stack argument is rebased over `push rbx` -/
def exAsmFixed : List Instr :=
  [.label, .push 3, .mov .q 3 7, .load .q 1 16, .mov .q 2 1, .alu .imul .q 2 3, .alu .add .q 1 2,
   .mov .q 0 1, .pop 3, .ret]

/-- output of the pinned tree: `[rsp+8]` after `push rbx` is the return address, not the argument -/
def exAsmPinned : List Instr :=
  [.label, .push 3, .mov .q 3 7, .load .q 1 8, .mov .q 2 1, .alu .imul .q 2 3, .alu .add .q 1 2,
   .mov .q 0 1, .pop 3, .ret]

example : validate exSrc exAsmFixed = true := by decide +kernel
example : frameOk exAsmFixed = true := by decide +kernel
example : validate exSrc exAsmPinned = false := by decide +kernel

/-- The validator is right to refuse the pinned output: on the entry state with `a0 = 1`, `a6 = 5`
the machine returns `2 * (return-address slot)` instead of `10`. -/
theorem stack_arg_after_push_counterexample :
    ∃ σ0 σ', run exAsmPinned σ0 = some σ' ∧
      evalSrc exSrc (fun i => trunc exSrc.sz (argOf σ0 i)) ≠ some (trunc exSrc.sz (σ'.reg RAX)) := by
  refine ⟨enter [1, 0, 0, 0, 0, 0, 5] [], _, rfl, ?_⟩
  decide +kernel

/-- 32-bit function whose body writes `ebx` without a prologue (pinned tree): `frameOk` refuses it and
the machine indeed loses the caller's `rbx`. -/
def exAsm32Pinned : List Instr :=
  [.label, .mov .d 3 7, .mov .d 1 2, .alu .add .d 1 3, .mov .d 0 1, .ret]

def exAsm32Fixed : List Instr :=
  [.label, .push 3, .mov .d 3 7, .mov .d 1 2, .alu .add .d 1 3, .mov .d 0 1, .pop 3, .ret]

def exSrc32 : Src := { sz := .d, nargs := 3, ops := [.add 0 2], ret := 3 }

example : validate exSrc32 exAsm32Pinned = true := by decide +kernel
example : frameOk exAsm32Pinned = false := by decide +kernel
example : validate exSrc32 exAsm32Fixed = true ∧ frameOk exAsm32Fixed = true := by decide +kernel

theorem callee_saved_32bit_name_counterexample :
    ∃ σ0 σ', run exAsm32Pinned σ0 = some σ' ∧ σ'.reg 3 ≠ σ0.reg 3 := by
  refine ⟨enter [1, 2, 3] [77], _, rfl, ?_⟩
  decide +kernel

end Xdsl.X86
