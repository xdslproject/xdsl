import XdslModel.PDL
/-!
The model of `PatternRewriteWalker` (`driveWith`, XdslModel/PDL.lean), for XdslProofs/C27Drive.lean: one visit is one
`rewriteAt` of the specification whatever the side state, so a finished walk is a chain of them (`Reach`); and a walk
that ends without a change has seen every operation of the final payload fail to match (`Pending`).
-/
namespace Xdsl.PDL
open Xdsl

theorem stepsW_fst (rootId : OpId) (b : Binding) (rw : List Action) (st : RState) (sd : Side) :
    (stepsW rootId b st sd rw).map (·.1) = steps rootId b st rw := by
  fun_induction stepsW rootId b st sd rw with
  | case1 => rfl
  | case2 st sd a r h => simp [steps, h]
  | case3 st sd a r st' h ih => simpa [steps, h] using ih

/-- one visit with any matcher `m`: no match and nothing at all changes, or the rewrite section ran from the
matcher's binding (a failing rewrite section is an aborted walk: no successor state) -/
theorem visitW_cases {m : IR → OpId → Option Binding} {rw : List Action} {ir ir' : IR} {sd sd' : Side} {o : OpId}
    {ch : Bool} (h : visitW m rw ir sd o = some (ir', sd', ch)) :
    (m ir o = none ∧ ir' = ir ∧ sd' = sd ∧ ch = false) ∨
    (∃ b, m ir o = some b ∧ applyRw rw ir b o = some ir' ∧ ch = !rw.isEmpty) := by
  unfold visitW at h
  split at h
  · rename_i hm
    cases h; exact Or.inl ⟨hm, rfl, rfl, rfl⟩
  · rename_i b hm
    split at h
    · cases h
    · rename_i st sd1 hw
      cases h
      have hf := stepsW_fst o b rw { ir := ir, created := [] } sd
      rw [hw] at hf
      exact Or.inr ⟨b, hm, by rw [applyRw, ← hf]; rfl, rfl⟩

theorem visitW_spec {p : Pattern} {rw : List Action} {ir ir' : IR} {sd sd' : Side} {o : OpId} {ch : Bool}
    (h : visitW (matchRoot p) rw ir sd o = some (ir', sd', ch)) :
    (matchRoot p ir o = none ∧ ir' = ir ∧ sd' = sd ∧ ch = false) ∨
    (rewriteAt p rw ir o = .done ir' ∧ ch = !rw.isEmpty) :=
  (visitW_cases h).imp_right fun ⟨b, hm, ha, hch⟩ => ⟨by simp only [rewriteAt, hm, ha], hch⟩

/-- `ir'` is reached from `ir` by applications of the pattern at operations of the payload, nothing else -/
inductive Reach (p : Pattern) (rw : List Action) : IR → IR → Prop where
  | refl (ir : IR) : Reach p rw ir ir
  | step {ir ir₁ ir' : IR} (o : OpId) (h : rewriteAt p rw ir o = .done ir₁) (t : Reach p rw ir₁ ir') : Reach p rw ir ir'

theorem driveLoop_reach (p : Pattern) (rw : List Action) (rev : Bool) (fuel : Nat) (s : DState) (ir' : IR)
    (h : driveLoop (matchRoot p) rw rev fuel s = .done ir') : Reach p rw s.ir ir' := by
  fun_induction driveLoop (matchRoot p) rw rev fuel s with
  | case1 | case4 => cases h
  | case2 fuel s _ _ ih => exact ih h
  | case3 => cases h; exact Reach.refl _
  | case5 fuel s o rest _ ir1 sd1 ch hvis ih =>
    rcases visitW_spec hvis with ⟨_, e, _, _⟩ | ⟨hd, _⟩
    · exact e ▸ ih h
    · exact Reach.step o hd (ih h)

theorem mem_wlPush {o x : OpId} {wl : List OpId} : x ∈ wlPush o wl ↔ x = o ∨ x ∈ wl := by
  unfold wlPush
  split
  · rename_i h; exact ⟨Or.inr, fun h' => h'.elim (· ▸ h) id⟩
  · exact List.mem_cons

theorem mem_foldl_wlPush {x : OpId} (l : List OpId) (wl : List OpId) :
    x ∈ l.foldl (fun wl o => wlPush o wl) wl ↔ x ∈ l ∨ x ∈ wl := by
  induction l generalizing wl with
  | nil => simp
  | cons a r ih => simp only [List.foldl_cons, ih, mem_wlPush, List.mem_cons, or_assoc, or_left_comm]

theorem mem_populate {rev : Bool} {ir : IR} {x : Op} (hx : x ∈ ir.ops) : x.id ∈ populate rev ir [] := by
  unfold populate
  simp only
  rw [mem_foldl_wlPush]
  left
  split
  · exact List.mem_map.2 ⟨x, hx, rfl⟩
  · exact List.mem_reverse.2 (List.mem_map.2 ⟨x, hx, rfl⟩)

/-- invariant of a walk that has not changed anything so far: every operation is still to be visited or was found
not to match the CURRENT payload -/
def Pending (m : IR → OpId → Option Binding) (s : DState) : Prop :=
  s.changed = false → ∀ x ∈ s.ir.ops, x.id ∈ s.sd.wl ∨ m s.ir x.id = none

theorem driveLoop_normal (m : IR → OpId → Option Binding) (rw : List Action) (hrw : rw ≠ []) (rev : Bool)
    (fuel : Nat) (s : DState) (ir' : IR) (hinv : Pending m s) (h : driveLoop m rw rev fuel s = .done ir') :
    ∀ x ∈ ir'.ops, m ir' x.id = none := by
  fun_induction driveLoop m rw rev fuel s with
  | case1 | case4 => cases h
  | case2 fuel s _ _ ih => exact ih (fun _ x hx => Or.inl (mem_populate hx)) h
  | case3 fuel s hwl hch =>
    cases h
    intro x hx
    have := hinv (by simpa using hch) x hx
    rw [hwl] at this
    simpa using this
  | case5 fuel s o rest hwl ir1 sd1 ch hvis ih =>
    refine ih (fun hch x hx => ?_) h
    simp only [Bool.or_eq_false_iff] at hch
    rcases visitW_cases hvis with ⟨hm, rfl, rfl, _⟩ | ⟨_, _, _, e⟩
    · -- no match at `o`: it leaves the worklist with the verdict `none`; the others are as before
      rcases hinv hch.1 x hx with h1 | h1
      · rw [hwl] at h1
        rcases List.mem_cons.mp h1 with e | h2
        · exact Or.inr (e ▸ hm)
        · exact Or.inl h2
      · exact Or.inr h1
    · -- a match sets the flag, since the rewrite section is not empty
      rw [e] at hch
      cases rw with
      | nil => exact absurd rfl hrw
      | cons a r => simp at hch

end Xdsl.PDL
