import XdslProofs.Lemmas.RegMachine
import XdslProofs.Lemmas.RegAllocMain
/-!
# C19 — register allocation never gives one register to two live values

"After RISC-V or x86 register allocation succeeds, at every program point no two simultaneously live
values hold the same physical register (values that the allocator places in the hard-wired zero
register are the constant zero), pre-assigned and reserved registers are respected, and executing
the allocated code with register semantics computes the same results as before allocation."

The validator `RegAlloc.validate` (`interferes = !validate`) is what the check runs on every real
allocation of a straight-line block; the theorems below say what its verdict means.  The meaning of
the opcodes is a parameter (`f : Sem`): the statements hold for every instruction semantics.
-/
namespace Xdsl.RegAlloc
open Xdsl.RegMachine

/-- "no two simultaneously live values hold the same physical register … executing the allocated
code with register semantics computes the same results as before allocation":
if the validator finds no interference then, for every instruction semantics, all inputs and every
initial content of the other registers, the register machine returns the SSA results. -/
theorem validator_sound (z : Bool) (alloc : ValId → Reg) (p : Prog)
    (h : interferes z alloc p = false) :
    ∀ (f : Sem) (inputs : List Word) (rf0 : Reg → Word), inputs.length = p.args.length →
      execRegs z alloc f p inputs rf0 = execSSA f p inputs := by
  intro f inputs rf0 hlen
  obtain ⟨hchk, hsub, hnd, hz⟩ := interferes_false_iff.1 h
  have hag0 := init_agree (z := z) (alloc := alloc) p.args inputs rf0 hlen hnd hz
  have := sim_ops (f := f) p.ops [] p.rets _ _ _ hchk (fun v hv => hag0 v (hsub v hv))
    (fun _ hv => nomatch hv)
  exact List.map_congr_left this

/-- the same for an allocation given as a finite table that keeps the pre-assigned registers:
arguments are read from, and results delivered in, the registers the input prescribed. -/
theorem validator_sound_pre (z : Bool) (pre asg : AL ValId Reg) (p : Prog)
    (hpre : respectsPre pre asg = true) (h : interferes z (allocOf asg) p = false) :
    (∀ v r, (v, r) ∈ pre → AL.get asg v = some r)
    ∧ ∀ (f : Sem) (inputs : List Word) (rf0 : Reg → Word), inputs.length = p.args.length →
      execRegs z (allocOf asg) f p inputs rf0 = execSSA f p inputs := by
  refine ⟨fun v r hm => ?_, validator_sound z _ p h⟩
  simpa using List.all_eq_true.1 hpre (v, r) hm

/-- "values that the allocator places in the hard-wired zero register are the constant zero":
under a successful validation every returned value that sits in register 0 is 0 in the SSA
execution (and likewise every value at the point where it is live, see `step_sim`). -/
theorem zero_reg_sound (alloc : ValId → Reg) (p : Prog) (h : interferes true alloc p = false)
    (f : Sem) (inputs : List Word) (hlen : inputs.length = p.args.length) :
    ∀ v ∈ p.rets, alloc v = 0 → runSSA f (initEnv p.args inputs) p.ops v = 0 := by
  intro v hv h0
  have := validator_sound true alloc p h f inputs (fun _ => 1) hlen
  unfold execRegs execSSA at this
  have hv' := List.map_inj_left.1 this v hv
  rw [← hv', h0]
  exact readReg_zero _

/-- "at every program point no two simultaneously live values hold the same physical register":
a successful validation implies it literally — for every suffix `os` of the block (i.e. at every
program point), two different values that are live there have different registers, unless both sit
in the hard-wired zero register. -/
theorem no_shared_register (z : Bool) (alloc : ValId → Reg) (p : Prog)
    (h : interferes z alloc p = false) (pre os : List Op) (hsplit : p.ops = pre ++ os) :
    ∀ v ∈ liveBefore os p.rets, ∀ w ∈ liveBefore os p.rets, v ≠ w → alloc v = alloc w →
      (z = true ∧ alloc v = 0) := by
  obtain ⟨hchk, hsub, hnd, _⟩ := interferes_false_iff.1 h
  have hpw := pw_of_nodup_map (z := z) hsub hnd
  rw [hsplit] at hchk hpw
  exact pw_of_check pre _ _ _ ((checkOps_append pre os p.rets _ _).1 hchk).2 hpw

/-- `alloc_no_interference` for straight-line blocks — the model of `BlockNaiveAllocator` with the
LIFO `RegisterStack`, in/out pairs (`allocate_values_same_reg`), pre-assigned registers excluded from
the pool, the RISC-V zero-register rule and infinite registers.

Assumptions on the input: SSA (`hssa`), arguments are pre-assigned (`hargs`), every operation has at
most one in/out pair (`hios`; true of all riscv / x86 instructions modelled) and none where the
zero-register rule applies (`hzios`: the rule concerns the RISC-V integer registers, and no `riscv`
instruction has an in/out operand; the accumulating `riscv_snitch` instructions `vfmac.s` / `vfsum.s`
have one, on float registers, `z = false`), the input can be allocated at all, i.e.
SOME valid allocation `a0` extending the pre-assignment exists (`hext0`, `hfeas` — this is the
documented precondition "the use of a register value as inout must be its last use" plus consistency
of the pre-assignment; x86-regalloc-legalize establishes it), pool registers and pre-assigned
registers are real registers (`< infBase`) and the pool does not contain `zero`.

Conclusion: whenever the allocator succeeds its result passes the validator (hence, by
`validator_sound` / `no_shared_register`, no two live values share a register and the register
machine computes the same results), keeps every pre-assigned register and gives a register to every
value.

`_partial`: the property also quantifies over nested loops (`riscv_scf.for`); this model has none.
The loop part of the allocator (`ForRofOperation.allocate_registers`, register reservation) is
`XdslModel/RegAllocLoop.lean`, with `alloc_loops_no_interference_partial` in `XdslProofs.C19Loop`; the
check has found genuine defects there (see known_findings.json). -/
theorem alloc_no_interference_partial (c : Cfg) (pool : List Reg) (pre : AL ValId Reg) (p : Prog)
    (asg : AL ValId Reg) (a0 : ValId → Reg)
    (hios : ∀ o ∈ p.ops, o.ios.length ≤ 1)
    (hzios : c.z = true → ∀ o ∈ p.ops, o.ios = [])
    (hssa : (p.args ++ defsOf p.ops).Nodup)
    (hargs : ∀ a ∈ p.args, (AL.get pre a).isSome = true)
    (hext0 : ∀ v r, AL.get pre v = some r → a0 v = r)
    (hfeas : interferes c.z a0 p = false)
    (hpool : ∀ r : Nat, r ∈ pool → r < c.infBase ∧ (c.z = true → r ≠ 0))
    (hpreLt : ∀ (v : ValId) (r : Nat), AL.get pre v = some r → r < c.infBase)
    (hbase : c.z = true → 0 < c.infBase)
    (h : allocate c pool pre p = .ok asg) :
    interferes c.z (allocOf asg) p = false
    ∧ (∀ v r, AL.get pre v = some r → AL.get asg v = some r)
    ∧ assigned asg p = true := by
  obtain ⟨s0, s1, hs0, hs1, rfl⟩ := allocate_ok h
  obtain ⟨hinv, hchk⟩ := allocate_inv (front := []) hios hzios hssa hext0 hfeas hpool hpreLt hbase rfl
    hs0 hs1
  obtain ⟨_, hsub, hnd0, hz0⟩ := interferes_false_iff.1 hfeas
  -- the arguments are pre-assigned, so they sit where the witness has them
  have hargEq : ∀ a ∈ p.args, allocOf s1.asg a = a0 a := fun a ha => by
    obtain ⟨r, hr⟩ := Option.isSome_iff_exists.1 (hargs a ha)
    rw [allocOf_of_get (hinv.ext a r hr), hext0 a r hr]
  refine ⟨interferes_false_iff.2 ⟨hchk s1 (Extends.refl _), hsub, ?_, fun hz a ha => ?_⟩, hinv.ext, ?_⟩
  · rw [List.map_congr_left hargEq]; exact hnd0
  · rw [hargEq a ha]; exact hz0 hz a ha
  · refine List.all_eq_true.2 fun v hv => ?_
    rcases List.mem_append.1 hv with hv | hv
    · rcases List.mem_append.1 hv with hv | hv
      · exact (hinv.ext v _ (get_of_isSome (hargs v hv))) ▸ rfl
      · exact hinv.allocd v (List.mem_append_left _ hv)
    · exact hinv.allocd v (List.mem_append_right _ hv)

/-- `stack_inv`: at every point of the backward walk of the model allocator (after the terminator
and the operations `os` of a split `p.ops = front ++ os` have been processed) the LIFO stack of
available registers has no duplicates, contains no register of a value that is live at this point
("available ∩ live-assigned = ∅"), holds only pool registers that are not pre-assigned in the function
or infinite registers created so far, and no two live values share a register.
(The assumptions of `alloc_no_interference_partial` without `hargs`; both follow from `allocate_inv`.) -/
theorem stack_inv (c : Cfg) (pool : List Reg) (pre : AL ValId Reg) (p : Prog) (a0 : ValId → Reg)
    (hios : ∀ o ∈ p.ops, o.ios.length ≤ 1)
    (hzios : c.z = true → ∀ o ∈ p.ops, o.ios = [])
    (hssa : (p.args ++ defsOf p.ops).Nodup)
    (hext0 : ∀ v r, AL.get pre v = some r → a0 v = r)
    (hfeas : interferes c.z a0 p = false)
    (hpool : ∀ r : Nat, r ∈ pool → r < c.infBase ∧ (c.z = true → r ≠ 0))
    (hpreLt : ∀ (v : ValId) (r : Nat), AL.get pre v = some r → r < c.infBase)
    (hbase : c.z = true → 0 < c.infBase)
    (front os : List Op) (hsplit : p.ops = front ++ os) (s0 s : St)
    (hs0 : foldE (allocValue c (zeroConsts p.ops)) (initSt pool pre p) p.rets = .ok s0)
    (hs : foldE (allocOp c (zeroConsts p.ops)) s0 os.reverse = .ok s) :
    s.avail.Nodup
    ∧ (∀ v ∈ liveBefore os p.rets, allocOf s.asg v ∉ s.avail)
    ∧ (∀ r : Nat, r ∈ s.avail →
        (r ∈ pool ∧ r ∉ usedPre pre p) ∨ (c.infBase ≤ r ∧ r < c.infBase + s.nextInf))
    ∧ (∀ v ∈ liveBefore os p.rets, ∀ w ∈ liveBefore os p.rets, v ≠ w →
        allocOf s.asg v = allocOf s.asg w → (c.z = true ∧ allocOf s.asg v = 0)) := by
  obtain ⟨hinv, _⟩ := allocate_inv hios hzios hssa hext0 hfeas hpool hpreLt hbase hsplit hs0 hs
  refine ⟨hinv.nodup, hinv.notAvail, fun r hr => ?_, hinv.pw⟩
  exact (hinv.availOk r hr).imp_left fun h =>
    ⟨(List.mem_filter.1 h).1, by simpa using (List.mem_filter.1 h).2⟩

/-! Non-vacuity: a block with four simultaneously live values and a constant zero, a valid and an
invalid allocation. -/

def exProg : Prog :=
  { args := [0, 1],
    ops := [ { zk := 1, code := 3, imm := 0, ins := [], outs := [2], ios := [] },      -- %2 = li 0
             { zk := 0, code := 4, imm := 0, ins := [0, 1], outs := [3], ios := [] },  -- %3 = add %0 %1
             { zk := 0, code := 5, imm := 0, ins := [3, 2], outs := [4], ios := [] },  -- %4 = sub %3 %2
             { zk := 0, code := 4, imm := 0, ins := [4, 0], outs := [5], ios := [] } ],-- %5 = add %4 %0
    rets := [5, 1] }

def exAlloc : ValId → Reg := fun v => [10, 11, 0, 5, 5, 10].getD v 99

example : interferes true exAlloc exProg = false := by decide
-- %3 placed in a0 (register 10) although %0 is still live there
example : interferes true (fun v => [10, 11, 0, 10, 5, 10].getD v 99) exProg = true := by decide
-- a non-constant value in the zero register
example : interferes true (fun v => [10, 11, 0, 0, 5, 10].getD v 99) exProg = true := by decide

example (f : Sem) (x y : Word) (rf0 : Reg → Word) :
    execRegs true exAlloc f exProg [x, y] rf0 = execSSA f exProg [x, y] :=
  validator_sound true exAlloc exProg (by decide) f [x, y] rf0 rfl

/-! Non-vacuity of the allocator theorems: the model allocator on `exProg` with the pool
`t2, t1, t0` (registers 7, 6, 5), arguments pre-assigned to `a0`, `a1`. -/

def exCfg : Cfg := { z := true, allowInf := false, infBase := 1000 }
def exPre : AL ValId Reg := [(0, 10), (1, 11)]
def exResult : AL ValId Reg := [(2, 0), (3, 5), (4, 5), (5, 5), (0, 10), (1, 11)]

example : allocate exCfg [7, 6, 5] exPre exProg = .ok exResult := by rfl

example : interferes true (allocOf exResult) exProg = false ∧ assigned exResult exProg = true :=
  let h := alloc_no_interference_partial exCfg [7, 6, 5] exPre exProg exResult exAlloc
    (by decide) (by decide) (by decide) (by decide) (AL.forall_of_get exPre (by decide)) (by decide)
    (by decide) (AL.forall_of_get exPre (by decide)) (by decide) (by rfl)
  ⟨h.1, h.2.2⟩

/-! Non-vacuity with an in/out pair (x86 style, no zero register): `%1 = mov %0`,
`%2 = add %1, %0` (read-modify-write of the register of `%1`), `%3 = mov %2 -> rax`. -/

def xProg : Prog :=
  { args := [0],
    ops := [ { zk := 0, code := 9, imm := 0, ins := [0], outs := [1], ios := [] },
             { zk := 0, code := 10, imm := 5, ins := [0], outs := [], ios := [(1, 2)] },
             { zk := 0, code := 9, imm := 0, ins := [2], outs := [3], ios := [] } ],
    rets := [3] }
def xCfg : Cfg := { z := false, allowInf := false, infBase := 3000 }
def xPre : AL ValId Reg := [(0, 207), (3, 200)]
def xResult : AL ValId Reg := [(1, 202), (2, 202), (0, 207), (3, 200)]

example : allocate xCfg [201, 202] xPre xProg = .ok xResult := by rfl

example : interferes false (allocOf xResult) xProg = false :=
  (alloc_no_interference_partial xCfg [201, 202] xPre xProg xResult (allocOf xResult)
    (by decide) (by decide) (by decide) (by decide) (AL.forall_of_get xPre (by decide)) (by decide)
    (by decide) (AL.forall_of_get xPre (by decide)) (by decide) (by rfl)).1

-- the in/out tie is part of the validator: separate registers for `%1` and `%2` are rejected
example : interferes false (allocOf [(1, 202), (2, 201), (0, 207), (3, 200)]) xProg = true := by decide
-- `%1` must not share with the still-live `%0`
example : interferes false (allocOf [(1, 207), (2, 207), (0, 207), (3, 200)]) xProg = true := by decide

end Xdsl.RegAlloc
