import Mathlib.Logic.Relation
import XdslProofs.Lemmas.List
/-!
Lemma for C20: in a finite set closed under taking a parent, in which no element is the parent of two,
every element lies on a cycle (pigeonhole along a chain of parents).
-/
namespace Xdsl.ParallelMov

/-- Taking parents permutes `U`: follow a choice of parents from `d`; among `|U| + 1` iterates two
coincide, and a parent step can be cancelled on both sides (`hinj`). -/
theorem cycle_of_parents {α : Type} {R : α → α → Prop} {U : List α}
    (hcl : ∀ u ∈ U, ∃ p ∈ U, R p u)
    (hinj : ∀ p, ∀ u ∈ U, ∀ u' ∈ U, R p u → R p u' → u = u') {d : α} (hd : d ∈ U) :
    Relation.TransGen R d d := by
  classical
  let f : α → α := fun u => if h : u ∈ U then Classical.choose (hcl u h) else u
  have hf : ∀ u ∈ U, f u ∈ U ∧ R (f u) u := fun u h => by
    simp only [f, dif_pos h]; exact Classical.choose_spec (hcl u h)
  have hmem : ∀ k, Nat.repeat f k d ∈ U := fun k => by
    induction k with
    | zero => exact hd
    | succ k ih => exact (hf _ ih).1
  have hpath : ∀ k, Relation.TransGen R (Nat.repeat f (k + 1) d) d := fun k => by
    induction k with
    | zero => exact Relation.TransGen.single (hf _ hd).2
    | succ k ih => exact Relation.TransGen.head (hf _ (hmem (k + 1))).2 ih
  have cancel : ∀ i k, Nat.repeat f i d = Nat.repeat f (i + k) d → d = Nat.repeat f k d := by
    intro i k
    induction i with
    | zero => intro h; rwa [Nat.zero_add] at h
    | succ i ih =>
      intro h
      rw [Nat.succ_add] at h
      have h' : f (Nat.repeat f i d) = f (Nat.repeat f (i + k) d) := h
      exact ih (hinj _ _ (hmem i) _ (hmem (i + k)) (hf _ (hmem i)).2 (h' ▸ (hf _ (hmem (i + k))).2))
  obtain ⟨i, j, hij, _, e⟩ := exists_lt_eq_of_length_lt (n := U.length + 1) (fun k => Nat.repeat f k d)
    (fun k _ => hmem k) (Nat.lt_succ_self _)
  obtain ⟨k, rfl⟩ : ∃ k, j = i + (k + 1) := ⟨j - i - 1, by omega⟩
  have := hpath k
  rwa [← cancel i (k + 1) e] at this

end Xdsl.ParallelMov
