import XdslProofs.Lemmas.Excluded
import XdslProofs.Lemmas.RegAllocMain
/-!
# C19 — "… pre-assigned and reserved registers are respected …": registers that operations reserve

An operation may declare registers "that should not be used when this operation is present"
(`RegisterAllocatableOperation.iter_excluded_registers`; in xDSL: `riscv_snitch.read` / `write`
reserve the stream registers ft0, ft1, ft2).  `allocate_func` collects them over the whole function
with `all_excluded_registers(func.body)` and removes them from the register stack.

* `mem_allExcluded_iff`: the collected set contains a register **iff some operation at some nesting
  depth** (the function body, a loop body, a loop body inside a loop body, …) declares it.
* `excluded_respected_partial` / `excluded_never_assigned`: the model of the block-naive allocator
  started on the stack without the collected registers never hands one of them out — a value that
  was not pre-assigned ends up in such a register only when in/out ties with pre-assigned values
  force it, and never in a function without in/out pairs (no `riscv` instruction has one).
-/
namespace Xdsl.RegAlloc
open Xdsl.RegMachine

/-- "the registers that should not be used when this operation is present", for every operation
present in the function: a register is in `all_excluded_registers(func.body)` **iff** an operation
of the body, or an operation nested in one at any depth, declares it. -/
theorem mem_allExcluded_iff (ops : List XOp) (r : Reg) :
    r ∈ allExcluded ops ↔ ∃ o ∈ ops, ∃ x, Within o x ∧ r ∈ x.excl := by
  unfold allExcluded
  rw [mem_foldr_insertReg, List.mem_flatMap]
  constructor
  · rintro ⟨x, hx, hr⟩
    obtain ⟨o, ho, hw⟩ := (mem_walkOps_iff ops x).1 hx
    exact ⟨o, ho, x, hw, hr⟩
  · rintro ⟨o, ho, x, hw, hr⟩
    exact ⟨x, (mem_walkOps_iff ops x).2 ⟨o, ho, hw⟩, hr⟩

/-- in particular a declaration inside a loop body inside a loop body counts -/
theorem allExcluded_nested2 (e1 e2 e3 : List Reg) (k1 k2 k3 : List XOp) (pre post : List XOp) (r : Reg)
    (h1 : XOp.mk e2 k2 ∈ k1) (h2 : XOp.mk e3 k3 ∈ k2) (hr : r ∈ e3) :
    r ∈ allExcluded (pre ++ XOp.mk e1 k1 :: post) :=
  (mem_allExcluded_iff _ r).2
    ⟨.mk e1 k1, by simp, .mk e3 k3, Within.kid h1 (Within.kid h2 (Within.self _)), hr⟩

/-- the result is a set (strictly increasing list) -/
theorem allExcluded_sorted (ops : List XOp) : (allExcluded ops).Pairwise (· < ·) := by
  unfold allExcluded
  generalize (walkOps ops).flatMap XOp.excl = l
  induction l with
  | nil => simp
  | cons y ys ih => exact insertReg_sorted y _ ih

/-- looking only at the operations directly in the body's blocks collects a subset … -/
theorem shallowExcluded_subset (ops : List XOp) : ∀ r ∈ shallowExcluded ops, r ∈ allExcluded ops := by
  intro r hr
  unfold shallowExcluded at hr
  rw [mem_foldr_insertReg, List.mem_flatMap] at hr
  obtain ⟨o, ho, hr⟩ := hr
  exact (mem_allExcluded_iff ops r).2 ⟨o, ho, o, Within.self o, hr⟩

/-- … which is too small as soon as the declaring operation sits in a loop body: the stream read of
`for { read ft0 }` reserves ft0, ft1, ft2 (registers 100, 101, 102 of the protocol). -/
theorem shallowExcluded_misses_nested :
    shallowExcluded [.mk [] [.mk [100, 101, 102] []]] = []
    ∧ allExcluded [.mk [] [.mk [100, 101, 102] []]] = [100, 101, 102] := by
  decide

/-- what the `validate` command of the check accepts: a value sits in a register that an operation
of the function reserves only if the input pre-assigns that very register to some value.  (`exclOk`
does not ask that this value be the value itself or one tied to it; two values in one register are
then subject to `validator_sound`.) -/
theorem exclOk_sound (excl : List Reg) (pre asg : AL ValId Reg) (h : exclOk excl pre asg = true) :
    ∀ v r, (v, r) ∈ asg → r ∈ excl → ∃ w, (w, r) ∈ pre := by
  intro v r hm hex
  unfold exclOk at h
  simp only [List.all_eq_true, not_or_imp, List.contains_eq_mem, decide_eq_true_eq, List.any_eq_true,
    beq_iff_eq] at h
  obtain ⟨⟨w, r'⟩, hw, hr⟩ := h (v, r) hm hex
  simp only at hr
  subst hr
  exact ⟨w, hw⟩

/-- `exclude_register` of the declared registers after `RegisterStack.get(pool)` = building the
stack from the pool without them -/
theorem initStX_eq (pool excl : List Reg) (pre : AL ValId Reg) (p : Prog) :
    initStX pool excl pre p = initSt (pool.filter fun r => !excl.contains r) pre p := by
  unfold initStX initSt
  simp only
  congr 1
  · exact stack_filter_comm _ _ pool
  · rw [List.filter_filter, List.filter_filter]
    apply List.filter_congr
    intro x _
    exact Bool.and_comm _ _

theorem allocateX_eq (c : Cfg) (pool excl : List Reg) (pre : AL ValId Reg) (p : Prog) :
    allocateX c pool excl pre p = allocate c (pool.filter fun r => !excl.contains r) pre p := by
  unfold allocateX allocate
  rw [initStX_eq]

/-- no declared registers: the allocator of `XdslProofs.C19` -/
theorem allocateX_nil (c : Cfg) (pool : List Reg) (pre : AL ValId Reg) (p : Prog) :
    allocateX c pool [] pre p = allocate c pool pre p := by
  rw [allocateX_eq]
  have : (pool.filter fun r => !([] : List Reg).contains r) = pool := by
    induction pool with
    | nil => rfl
    | cons x xs ih => simp
  rw [this]

/-- Where the register of a value comes from (the assumptions of `alloc_no_interference_partial` without `hargs`):
after a successful run of the model allocator every value that was not pre-assigned sits in a
register of the pool that is not pre-assigned in the function, in an infinite register, in `zero`
(constant 0 on RISC-V), or in the register that the in/out ties with pre-assigned values force. -/
theorem alloc_origin_partial (c : Cfg) (pool : List Reg) (pre : AL ValId Reg) (p : Prog)
    (asg : AL ValId Reg) (a0 : ValId → Reg)
    (hios : ∀ o ∈ p.ops, o.ios.length ≤ 1)
    (hzios : c.z = true → ∀ o ∈ p.ops, o.ios = [])
    (hssa : (p.args ++ defsOf p.ops).Nodup)
    (hext0 : ∀ v r, AL.get pre v = some r → a0 v = r)
    (hfeas : interferes c.z a0 p = false)
    (hpool : ∀ r : Nat, r ∈ pool → r < c.infBase ∧ (c.z = true → r ≠ 0))
    (hpreLt : ∀ (v : ValId) (r : Nat), AL.get pre v = some r → r < c.infBase)
    (hbase : c.z = true → 0 < c.infBase)
    (h : allocate c pool pre p = .ok asg) :
    ∀ (v : ValId) (r : Nat), AL.get asg v = some r → AL.get pre v = none →
      (r ∈ pool ∧ r ∉ usedPre pre p) ∨ c.infBase ≤ r ∨ (c.z = true ∧ r = 0 ∧ v ∈ zeroConsts p.ops)
      ∨ (∀ a : ValId → Reg, (∀ v r, AL.get pre v = some r → a v = r) →
          (∀ o ∈ p.ops, ∀ q ∈ o.ios, a q.1 = a q.2) → a v = r) := by
  obtain ⟨s0, s1, hs0, hs1, rfl⟩ := allocate_ok h
  obtain ⟨hinv, _⟩ := allocate_inv (front := []) hios hzios hssa hext0 hfeas hpool hpreLt hbase rfl
    hs0 hs1
  intro v r hv hp
  exact (hinv.origin v r hv hp).imp_left fun h =>
    ⟨(List.mem_filter.1 h).1, by simpa using (List.mem_filter.1 h).2⟩

/-- "reserved registers are respected" for the model of `allocate_func` (straight-line blocks, hence
`_partial`; the collection over nested regions is `mem_allExcluded_iff`): when allocation succeeds,
a value that the input did not pre-assign sits in a register `r` declared as excluded by some
operation only if the in/out ties with pre-assigned values force it there (every allocation that
keeps the pre-assignment and the ties puts it in `r`) — `pop` never hands `r` out.
`r < c.infBase`: a real register; on RISC-V `zero` is not allocatable in the first place and holds
constant zeros regardless. -/
theorem excluded_respected_partial (c : Cfg) (pool excl : List Reg) (pre : AL ValId Reg) (p : Prog)
    (asg : AL ValId Reg) (a0 : ValId → Reg)
    (hios : ∀ o ∈ p.ops, o.ios.length ≤ 1)
    (hzios : c.z = true → ∀ o ∈ p.ops, o.ios = [])
    (hssa : (p.args ++ defsOf p.ops).Nodup)
    (hext0 : ∀ v r, AL.get pre v = some r → a0 v = r)
    (hfeas : interferes c.z a0 p = false)
    (hpool : ∀ r : Nat, r ∈ pool → r < c.infBase ∧ (c.z = true → r ≠ 0))
    (hpreLt : ∀ (v : ValId) (r : Nat), AL.get pre v = some r → r < c.infBase)
    (hbase : c.z = true → 0 < c.infBase)
    (h : allocateX c pool excl pre p = .ok asg) :
    ∀ (v : ValId) (r : Nat), AL.get asg v = some r → AL.get pre v = none → r ∈ excl →
      r < c.infBase → (c.z = true → r ≠ 0) →
      ∀ a : ValId → Reg, (∀ v r, AL.get pre v = some r → a v = r) →
        (∀ o ∈ p.ops, ∀ q ∈ o.ios, a q.1 = a q.2) → a v = r := by
  rw [allocateX_eq] at h
  intro v r hv hp hex hlt hnz
  have := alloc_origin_partial c _ pre p asg a0 hios hzios hssa hext0 hfeas
    (fun r hr => hpool r (List.mem_filter.1 hr).1) hpreLt hbase h v r hv hp
  rcases this with h1 | h1 | h1 | h1
  · have := (List.mem_filter.1 h1.1).2
    simp [hex] at this
  · omega
  · exact absurd h1.2.1 (hnz h1.1)
  · exact h1

/-- without in/out pairs (every `riscv` instruction; of `riscv_snitch`, whose stream registers are
float registers, all but the accumulating `vfmac.s` / `vfsum.s`, for which
`excluded_respected_partial` is the statement) nothing can force a value into a declared register: no
value that was not pre-assigned gets one. -/
theorem excluded_never_assigned (c : Cfg) (pool excl : List Reg) (pre : AL ValId Reg) (p : Prog)
    (asg : AL ValId Reg) (a0 : ValId → Reg)
    (hnoio : ∀ o ∈ p.ops, o.ios = [])
    (hssa : (p.args ++ defsOf p.ops).Nodup)
    (hext0 : ∀ v r, AL.get pre v = some r → a0 v = r)
    (hfeas : interferes c.z a0 p = false)
    (hpool : ∀ r : Nat, r ∈ pool → r < c.infBase ∧ (c.z = true → r ≠ 0))
    (hpreLt : ∀ (v : ValId) (r : Nat), AL.get pre v = some r → r < c.infBase)
    (hbase : c.z = true → 0 < c.infBase)
    (h : allocateX c pool excl pre p = .ok asg) :
    ∀ (v : ValId) (r : Nat), AL.get asg v = some r → AL.get pre v = none → r < c.infBase →
      (c.z = true → r ≠ 0) → r ∉ excl := by
  intro v r hv hp hlt hnz hex
  have key := excluded_respected_partial c pool excl pre p asg a0
    (fun o ho => by rw [hnoio o ho]; simp) (fun _ => hnoio) hssa hext0 hfeas hpool hpreLt hbase h
    v r hv hp hex hlt hnz
  -- an allocation that keeps the pre-assignment and puts everything else into `r + 1`
  have := key (fun w => (AL.get pre w).getD (r + 1))
    (fun w r' hw => by simp [hw])
    (fun o ho q hq => by rw [hnoio o ho] at hq; simp at hq)
  simp [hp] at this

/-! Non-vacuity: `exProg` of `XdslProofs.C19` with the pool `t2, t1, t0` where an operation of the
function reserves `t0` (register 5): `t0` is not handed out, the values move to `t1`. -/

example : allocateX { z := true, allowInf := false, infBase := 1000 } [7, 6, 5] [5] [(0, 10), (1, 11)]
    { args := [0, 1],
      ops := [ { zk := 1, code := 3, imm := 0, ins := [], outs := [2], ios := [] },
               { zk := 0, code := 4, imm := 0, ins := [0, 1], outs := [3], ios := [] },
               { zk := 0, code := 5, imm := 0, ins := [3, 2], outs := [4], ios := [] },
               { zk := 0, code := 4, imm := 0, ins := [4, 0], outs := [5], ios := [] } ],
      rets := [5, 1] }
    = .ok [(2, 0), (3, 6), (4, 6), (5, 6), (0, 10), (1, 11)] := by rfl

example : allExcluded [.mk [] [], .mk [] [.mk [] [.mk [102, 100] []], .mk [100, 5] []]] = [5, 100, 102] := by
  decide

end Xdsl.RegAlloc
