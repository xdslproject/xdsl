import XdslModel.ArithFloatLogic
/-!
Laws assumed of the IEEE primitives (`FloatLaws`), the IEEE-754-2019 §9.6 specification of
`minimum` / `maximum` as predicates on (operands, result), and what the laws say about the four
relations and about the order `below`; the laws assumed of the packing primitives of
`_round_to_float_type` (`RoundLaws`); a toy instance of each set of laws, so that neither is empty.
Core Lean only.
-/
namespace Xdsl.ArithFloatLogic
variable {F : Type}

/-- What is assumed about the float primitives: facts of IEEE-754 comparison (§5.11: four mutually
exclusive relations, NaN unordered, `-0 = +0`) and of the data (one datum per signed zero). -/
structure FloatLaws (O : FloatOps F) : Prop where
  nan_isNaN : O.isNaN O.nan = true
  pzero_spec : O.isNaN O.pzero = false ∧ O.isZero O.pzero = true ∧ O.signBit O.pzero = false
  nzero_spec : O.isNaN O.nzero = false ∧ O.isZero O.nzero = true ∧ O.signBit O.nzero = true
  /-- there are exactly two zeros, told apart by the sign bit -/
  zero_unique : ∀ x, O.isZero x = true → x = if O.signBit x then O.nzero else O.pzero
  /-- zeros compare equal regardless of sign -/
  zero_eq : ∀ x y, O.isZero x = true → O.isZero y = true → O.eq x y = true
  /-- every comparison with a NaN operand is false (unordered) -/
  nan_lt : ∀ x y, (O.isNaN x || O.isNaN y) = true → O.lt x y = false
  nan_eq : ∀ x y, (O.isNaN x || O.isNaN y) = true → O.eq x y = false
  /-- non-NaN values are totally ordered: one of `<`, `=`, `>` holds … -/
  tri : ∀ x y, (O.isNaN x || O.isNaN y) = false → (O.lt x y || O.eq x y || O.lt y x) = true
  /-- … and only one -/
  lt_asymm : ∀ x y, O.lt x y = true → O.lt y x = false
  eq_not_lt : ∀ x y, O.eq x y = true → O.lt x y = false ∧ O.lt y x = false
  le_def : ∀ x y, O.le x y = (O.lt x y || O.eq x y)

/-- the order minimum/maximum use: `<`, refined by `-0` below `+0` -/
def below (O : FloatOps F) (x y : F) : Bool :=
  O.lt x y || (O.isZero x && O.isZero y && O.signBit x && !O.signBit y)

/-- IEEE-754-2019 §9.6 `minimum(a, b) = r`: "x if x < y, y if y < x, and a quiet NaN if either
operand is a NaN; −0 compares less than +0; otherwise it is either x or y". -/
structure IsMinimum (O : FloatOps F) (a b r : F) : Prop where
  nan : (O.isNaN a || O.isNaN b) = true → O.isNaN r = true
  left : (O.isNaN a || O.isNaN b) = false → below O a b = true → r = a
  right : (O.isNaN a || O.isNaN b) = false → below O b a = true → r = b
  tie : (O.isNaN a || O.isNaN b) = false → below O a b = false → below O b a = false → r = a ∨ r = b

/-- IEEE-754-2019 §9.6 `maximum(a, b) = r`. -/
structure IsMaximum (O : FloatOps F) (a b r : F) : Prop where
  nan : (O.isNaN a || O.isNaN b) = true → O.isNaN r = true
  left : (O.isNaN a || O.isNaN b) = false → below O b a = true → r = a
  right : (O.isNaN a || O.isNaN b) = false → below O a b = true → r = b
  tie : (O.isNaN a || O.isNaN b) = false → below O a b = false → below O b a = false → r = a ∨ r = b

theorem below_of_not_zeros {O : FloatOps F} {a b : F} (h : (O.isZero a && O.isZero b) = false) :
    below O a b = O.lt a b := by
  rw [below, h, Bool.false_and, Bool.false_and, Bool.or_false]

namespace FloatLaws
variable {O : FloatOps F} (L : FloatLaws O)
include L

/-- IEEE-754 §5.11: exactly one of the four relations unordered, `<`, `=`, `>` holds between two data. -/
theorem relation (x y : F) :
    ((O.isNaN x || O.isNaN y) = true ∧ O.lt x y = false ∧ O.eq x y = false ∧ O.lt y x = false)
    ∨ ((O.isNaN x || O.isNaN y) = false ∧ O.lt x y = true ∧ O.eq x y = false ∧ O.lt y x = false)
    ∨ ((O.isNaN x || O.isNaN y) = false ∧ O.lt x y = false ∧ O.eq x y = true ∧ O.lt y x = false)
    ∨ ((O.isNaN x || O.isNaN y) = false ∧ O.lt x y = false ∧ O.eq x y = false ∧ O.lt y x = true) := by
  cases hn : (O.isNaN x || O.isNaN y)
  case true =>
    exact .inl ⟨rfl, L.nan_lt x y hn, L.nan_eq x y hn, L.nan_lt y x (by rwa [Bool.or_comm])⟩
  case false =>
    have t := L.tri x y hn
    cases he : O.eq x y
    case true =>
      obtain ⟨h1, h2⟩ := L.eq_not_lt x y he
      exact .inr (.inr (.inl ⟨rfl, h1, rfl, h2⟩))
    case false =>
      cases hl : O.lt x y
      case true => exact .inr (.inl ⟨rfl, rfl, rfl, L.lt_asymm x y hl⟩)
      case false =>
        rw [hl, he] at t
        exact .inr (.inr (.inr ⟨rfl, rfl, rfl, t⟩))

theorem eq_comm (x y : F) : O.eq x y = O.eq y x := by
  suffices h : ∀ x y, O.eq x y = true → O.eq y x = true from
    Bool.eq_iff_iff.mpr ⟨h x y, h y x⟩
  intro x y he
  obtain ⟨h1, h2⟩ := L.eq_not_lt x y he
  cases hn : (O.isNaN y || O.isNaN x)
  · have t := L.tri y x hn
    rwa [h1, h2, Bool.false_or, Bool.or_false] at t
  · rw [L.nan_eq x y (by rwa [Bool.or_comm])] at he
    contradiction

theorem below_zeros {a b : F} (ha : O.isZero a = true) (hb : O.isZero b = true) :
    below O a b = (O.signBit a && !O.signBit b) := by
  rw [below, (L.eq_not_lt a b (L.zero_eq a b ha hb)).1, ha, hb]
  rfl

theorem below_asymm {a b : F} (h : below O a b = true) : below O b a = false := by
  cases hz : (O.isZero a && O.isZero b)
  · rw [below_of_not_zeros hz] at h
    rw [below_of_not_zeros (by rwa [Bool.and_comm]), L.lt_asymm a b h]
  · obtain ⟨ha, hb⟩ := Bool.and_eq_true_iff.mp hz
    rw [L.below_zeros ha hb, Bool.and_eq_true_iff] at h
    rw [L.below_zeros hb ha, h.1, Bool.not_true, Bool.and_false]

end FloatLaws

/-- NaN, −1, −0, +0, +1 -/
inductive Toy | nan | m1 | nz | pz | p1
deriving DecidableEq, Repr

def Toy.rank : Toy → Int
  | .nan => 0 | .m1 => -1 | .nz => 0 | .pz => 0 | .p1 => 1

def toyOps : FloatOps Toy where
  isNaN := fun x => x == .nan
  eq := fun x y => x != .nan && y != .nan && x.rank == y.rank
  lt := fun x y => x != .nan && y != .nan && decide (x.rank < y.rank)
  le := fun x y => x != .nan && y != .nan && decide (x.rank ≤ y.rank)
  isZero := fun x => x == .nz || x == .pz
  signBit := fun x => x == .nz || x == .m1
  nan := .nan
  pzero := .pz
  nzero := .nz

theorem toyLaws : FloatLaws toyOps where
  nan_isNaN := by decide
  pzero_spec := by decide
  nzero_spec := by decide
  zero_unique := by intro x; cases x <;> decide
  zero_eq := by intro x y; cases x <;> cases y <;> decide
  nan_lt := by intro x y; cases x <;> cases y <;> decide
  nan_eq := by intro x y; cases x <;> cases y <;> decide
  tri := by intro x y; cases x <;> cases y <;> decide
  lt_asymm := by intro x y; cases x <;> cases y <;> decide
  eq_not_lt := by intro x y; cases x <;> cases y <;> decide
  le_def := by intro x y; cases x <;> cases y <;> decide

variable {Ty : Type}

/-- What is assumed of the primitives of `_round_to_float_type`, relative to a rounding function
`rne ty x` = "the binary64 value `x` rounded to the nearest value of `ty`, ties to even, beyond the
largest finite value to the infinity of the same sign" (IEEE-754 roundTiesToEven, §4.3.1):
re-packing computes it unless it raises, it raises only where the rounded value is that infinity, and
a type that is not narrower than binary64 holds every Python float. -/
structure RoundLaws (R : RoundOps F Ty) (rne : Ty → F → F) : Prop where
  repack_some : ∀ ty x r, R.narrow ty = true → R.repack ty x = some r → r = rne ty x
  repack_none : ∀ ty x, R.narrow ty = true → R.repack ty x = none → rne ty x = R.copysignInf x
  wide : ∀ ty x, R.narrow ty = false → rne ty x = x

/-- a toy instance (non-vacuity): integers as "floats", the narrow type holds −2..2, larger
magnitudes overflow to ±100 ("infinity") -/
def toyRound : RoundOps Int Bool where
  add := fun a b => a + b
  sub := fun a b => a - b
  mul := fun a b => a * b
  narrow := fun t => t
  repack := fun t x => if t && (x < -2 || 2 < x) then none else some x
  copysignInf := fun x => if x < 0 then -100 else 100

def toyRne (t : Bool) (x : Int) : Int := if t && (x < -2 || 2 < x) then (if x < 0 then -100 else 100) else x

theorem toyRoundLaws : RoundLaws toyRound toyRne where
  -- `toyRound.repack` and `toyRne` branch on the same condition
  repack_some := by
    intro ty x r _ h
    simp only [toyRound, toyRne] at h ⊢
    split at h
    · cases h
    · cases h; rw [if_neg ‹_›]
  repack_none := by
    intro ty x _ h
    simp only [toyRound, toyRne] at h ⊢
    split at h
    · rw [if_pos ‹_›]
    · cases h
  wide := by
    intro ty x h
    simp only [toyRound] at h
    simp only [toyRne, h, Bool.false_and, Bool.false_eq_true, if_false]

end Xdsl.ArithFloatLogic
