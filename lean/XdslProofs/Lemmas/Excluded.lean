import XdslModel.Excluded
/-!
For `XdslProofs.C19Excluded`: the walk over nested operations reaches exactly what lies within them
(`mem_walkOps_iff`), the sorted-set insertion keeps membership and order, and filtering the freshly built register
stack commutes with building it (`stack_filter_push`, `stack_filter_comm`).
-/
namespace Xdsl.RegAlloc
open Xdsl.RegMachine

theorem walkOp_sub_walkOps {k : XOp} : ∀ {ks : List XOp}, k ∈ ks → ∀ x ∈ walkOp k, x ∈ walkOps ks := by
  intro ks
  induction ks with
  | nil => intro h; simp at h
  | cons o os ih =>
    intro h x hx
    rw [walkOps]
    rcases List.mem_cons.1 h with rfl | h
    · exact List.mem_append_left _ hx
    · exact List.mem_append_right _ (ih h x hx)

theorem mem_walkOp_self (o : XOp) : o ∈ walkOp o := by
  cases o with
  | mk e kids => rw [walkOp]; exact List.mem_cons_self ..

theorem mem_walkOp_of_within {o x : XOp} (h : Within o x) : x ∈ walkOp o := by
  induction h with
  | self o => exact mem_walkOp_self o
  | @kid o k x hk _ ih =>
    cases o with
    | mk e kids =>
      rw [walkOp]
      exact List.mem_cons_of_mem _ (walkOp_sub_walkOps hk x ih)

mutual
  theorem within_of_mem_walkOp : ∀ (o x : XOp), x ∈ walkOp o → Within o x
    | .mk e kids, x, h => by
      rw [walkOp] at h
      rcases List.mem_cons.1 h with rfl | h
      · exact Within.self _
      · obtain ⟨k, hk, hw⟩ := within_of_mem_walkOps kids x h
        exact Within.kid hk hw
  theorem within_of_mem_walkOps : ∀ (os : List XOp) (x : XOp), x ∈ walkOps os → ∃ o ∈ os, Within o x
    | [], x, h => by rw [walkOps] at h; simp at h
    | o :: os, x, h => by
      rw [walkOps] at h
      rcases List.mem_append.1 h with h | h
      · exact ⟨o, List.mem_cons_self .., within_of_mem_walkOp o x h⟩
      · obtain ⟨o', ho', hw⟩ := within_of_mem_walkOps os x h
        exact ⟨o', List.mem_cons_of_mem _ ho', hw⟩
end

/-- `region.walk()` visits exactly the operations of the region and everything nested in them -/
theorem mem_walkOps_iff (ops : List XOp) (x : XOp) :
    x ∈ walkOps ops ↔ ∃ o ∈ ops, Within o x :=
  ⟨within_of_mem_walkOps ops x,
   fun ⟨_, ho, hw⟩ => walkOp_sub_walkOps ho x (mem_walkOp_of_within hw)⟩

theorem mem_insertReg (r x : Reg) (l : List Reg) : x ∈ insertReg r l ↔ x = r ∨ x ∈ l := by
  induction l with
  | nil => simp [insertReg]
  | cons y ys ih =>
    rw [insertReg]
    split
    · simp
    · split
      · rename_i h; subst h; simp
      · simp only [List.mem_cons, ih]
        exact or_left_comm

theorem mem_foldr_insertReg (l : List Reg) (x : Reg) : x ∈ l.foldr insertReg [] ↔ x ∈ l := by
  induction l with
  | nil => simp
  | cons y ys ih => simp only [List.foldr_cons, mem_insertReg, ih, List.mem_cons]

theorem insertReg_sorted (r : Reg) (l : List Reg) (h : l.Pairwise (· < ·)) :
    (insertReg r l).Pairwise (· < ·) := by
  induction l with
  | nil => simp [insertReg]
  | cons y ys ih =>
    rw [insertReg]
    have hy := List.pairwise_cons.1 h
    by_cases hlt : r < y
    · rw [if_pos hlt]
      refine List.pairwise_cons.2 ⟨?_, h⟩
      intro z hz
      rcases List.mem_cons.1 hz with hz | hz
      · rw [hz]; exact hlt
      · exact Nat.lt_trans hlt (hy.1 z hz)
    · rw [if_neg hlt]
      by_cases heq : r = y
      · rw [if_pos heq]; exact h
      · rw [if_neg heq]
        refine List.pairwise_cons.2 ⟨?_, ih hy.2⟩
        intro z hz
        rcases (mem_insertReg r z ys).1 hz with hz | hz
        · rw [hz]
          exact Nat.lt_of_le_of_ne (Nat.le_of_not_lt hlt) (fun e => heq e.symm)
        · exact hy.1 z hz

theorem stack_filter_push (q : Reg → Bool) (pool : List Reg) :
    ∀ st : List Reg,
      (pool.foldl (fun st r => r :: st.filter (· != r)) st).filter q
        = (pool.filter q).foldl (fun st r => r :: st.filter (· != r)) (st.filter q) := by
  induction pool with
  | nil => intro st; rfl
  | cons x xs ih =>
    intro st
    simp only [List.foldl_cons]
    rw [ih]
    by_cases hq : q x = true
    · simp only [List.filter_cons, hq, if_true, List.foldl_cons, List.filter_filter, Bool.and_comm]
    · have hq' : q x = false := by simpa using hq
      simp only [List.filter_cons, hq', List.filter_filter]
      congr 1
      apply List.filter_congr
      intro y _
      by_cases hy : y = x
      · subst hy; simp [hq']
      · simp [hy]

theorem stack_filter_comm (q1 q2 : Reg → Bool) (pool : List Reg) :
    ((pool.foldl (fun st r => r :: st.filter (· != r)) []).filter q1).filter q2
      = ((pool.filter q2).foldl (fun st r => r :: st.filter (· != r)) []).filter q1 := by
  have e1 := stack_filter_push q1 pool []
  have e2 := stack_filter_push q2 (pool.filter q1) []
  have e3 := stack_filter_push q1 (pool.filter q2) []
  simp only [List.filter_nil] at e1 e2 e3
  rw [e1, e2, e3, List.filter_filter, List.filter_filter]
  congr 1
  apply List.filter_congr
  intro x _
  exact Bool.and_comm _ _

end Xdsl.RegAlloc
