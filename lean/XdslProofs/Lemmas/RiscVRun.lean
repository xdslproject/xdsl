import XdslProofs.Lemmas.RiscV
/-!
# The program-counter machine runs straight-line code as `exec`

The rule theorems (`XdslProofs/C22.lean`) and `frame_sound` speak about `exec`; the emitted
functions are run by `run` (labels, branches, `ret`).  `run_straight` connects them: on any segment of
encodable non-control instructions, `run` advances exactly like `exec`. -/
namespace Xdsl.RiscV

def Instr.straight : Instr → Bool
  | .br _ _ _ _ | .j _ | .jal _ | .ret => false
  | _ => true

theorem step_straight (prog : Array Instr) (pc : Nat) (s : St) (i : Instr)
    (h : prog[pc]? = some i) (hs : i.straight = true) (he : i.encodable = true) :
    step prog pc s = (exec1 i s).map (fun s' => (some (pc + 1), s')) := by
  unfold step
  rw [h]
  simp only [he, Bool.not_true, Bool.false_eq_true, if_false]
  cases i <;> simp [Instr.straight] at hs <;> rfl

theorem run_segment (prog : Array Instr) (is : List Instr) : ∀ (pc : Nat) (s s' : St) (fuel n : Nat),
    (∀ j i, is[j]? = some i → prog[pc + j]? = some i ∧ i.straight = true ∧ i.encodable = true) →
    exec is s = some s' →
    run prog (fuel + is.length) n pc s = run prog fuel (n + is.length) (pc + is.length) s' := by
  induction is with
  | nil => intro pc s s' fuel n _ he; cases he; rfl
  | cons i is ih =>
    intro pc s s' fuel n hp he
    obtain ⟨s1, h1, he⟩ := Option.bind_eq_some_iff.mp he
    obtain ⟨hi, hs, hen⟩ := hp 0 i rfl
    rw [List.length_cons, ← Nat.add_assoc, run, step_straight prog pc s i hi hs hen, h1]
    show run prog (fuel + is.length) (n + 1) (pc + 1) s1 = _
    rw [ih (pc + 1) s1 s' fuel (n + 1) (fun j x hj => by rw [Nat.add_right_comm, Nat.add_assoc]; exact hp (j + 1) x hj) he]
    congr 1 <;> omega

theorem run_straight (is : List Instr) : ∀ (pre post : List Instr) (s s' : St) (fuel n : Nat),
    (∀ i ∈ is, i.straight = true ∧ i.encodable = true) → exec is s = some s' →
    run (pre ++ is ++ post).toArray (fuel + is.length) n pre.length s =
      run (pre ++ is ++ post).toArray fuel (n + is.length) (pre.length + is.length) s' :=
  fun pre post s s' fuel n hst he =>
  run_segment _ is pre.length s s' fuel n (fun j i hj => ⟨by
    have hlt := (List.getElem?_eq_some_iff.mp hj).1
    rw [List.getElem?_toArray, List.append_assoc, List.getElem?_append_right (Nat.le_add_right _ _),
      Nat.add_sub_cancel_left, List.getElem?_append_left hlt, hj], hst i (List.mem_of_getElem? hj)⟩) he

/-- a function without control flow, `body; ret`, called with `ra = HALT`: the machine halts in the
state `exec body` computes (provided the body leaves `ra` alone) -/
theorem run_function (body : List Instr) (s s' : St)
    (hst : ∀ i ∈ body, i.straight = true ∧ i.encodable = true) (he : exec body s = some s')
    (hra : s'.get RA = BitVec.ofNat 32 HALT) (fuel : Nat) :
    ∃ n, run (body ++ [Instr.ret]).toArray (fuel + 1 + body.length) 0 0 s = Outcome.halted s' n := by
  have h := run_straight body [] [Instr.ret] s s' (fuel + 1) 0 hst he
  simp only [List.nil_append, List.length_nil, Nat.zero_add] at h
  rw [h]
  refine ⟨body.length + 1, ?_⟩
  unfold run
  simp [step, Instr.encodable, hra, HALT]

end Xdsl.RiscV
