import XdslModel.LowerAffine
import XdslProofs.Lemmas.LowerAffine
/-!
C16 — affine lowering at the level of the emitted operations (`lower_affine.py`:
`LowerAffineApply.match_and_rewrite`, `affine_expr_ops`, `insert_affine_map_ops`): which SSA operand
each dimension / symbol of the map is bound to, and what the emitted `arith` operations compute.
(`lower_affine_sound_partial` in `C16Lowering.lean` is the value-level statement for one kind of variable.)
-/
namespace Xdsl.C16.LowerAffineOps
open Xdsl.LowerAffine

/-- "every valid program they accept": `LowerAffineApply` raises (`IndexError`) exactly when the
expression mentions a dimension ≥ `num_dims` or a symbol ≥ `num_symbols` — with the `num_dims + num_symbols`
operands the verifier of `affine.apply` demands, a map whose positions are in range is always lowered
(`ApplyOp.verify_` checks the operand count, not the positions). -/
theorem lower_affine_apply_accepts_iff (nd ns : Nat) (e : Expr) :
    (applyLower nd (operandVals (nd + ns)) e).isSome = true ↔ e.wf nd ns = true := by
  have hd : ((operandVals (nd + ns)).take nd).length = nd := by simp [operandVals]
  have hs : ((operandVals (nd + ns)).drop nd).length = ns := by simp [operandVals]
  have := exprOps_isSome_iff ((operandVals (nd + ns)).take nd) ((operandVals (nd + ns)).drop nd) e 0
  rwa [hd, hs] at this

/-- "returns the same results … for every input", operand binding of `affine.apply`: for operand
values `args` (`num_dims + num_symbols` of them) the emitted operations run without getting stuck,
and the SSA value that replaces the result of `affine.apply` holds the expression read with the
emitted `arith` operations where **dimension `p` is operand `p` and symbol `q` is operand
`num_dims + q`**. -/
theorem lower_affine_apply_binding (nd ns : Nat) (args : List Int) (e : Expr)
    (hlen : args.length = nd + ns) (hwf : e.wf nd ns = true) :
    ∃ ins v tmps, applyLower nd (operandVals (nd + ns)) e = some (ins, v)
      ∧ runInstrs args ins [] = some tmps ∧ tmps.length = ins.length
      ∧ v.get args tmps = some (e.evalLowered (fun p => args.getD p 0) (fun q => args.getD (nd + q) 0)) := by
  obtain ⟨⟨ins, v⟩, h⟩ := Option.isSome_iff_exists.1 ((lower_affine_apply_accepts_iff nd ns e).2 hwf)
  obtain ⟨t, run, val⟩ := exprOps_run (binds_take args nd (nd + ns) hlen) (binds_drop args nd (nd + ns) hlen) e [] h
  obtain ⟨new, rfl, len⟩ := runInstrs_eq_some run
  exact ⟨ins, v, _, h, run, len, val⟩

/-- "affine lowering … returns the same results": at every point where the affine expression is
defined (positive divisors) and every `mod` has a non-negative left operand, the value that replaces
the result of `affine.apply map (dims)[syms]` is the value of the map at dims = the first `num_dims`
operands, symbols = the remaining operands.
PARTIAL: without the hypothesis on `mod` the statement is false of the code (`mod` is emitted as a
bare `arith.remsi`; known finding, `C16.lower_affine_mod_counterexample`); index wrap-around at 64 bits
is not modelled. -/
theorem lower_affine_apply_sound_partial (nd ns : Nat) (args : List Int) (e : Expr)
    (hlen : args.length = nd + ns) (hwf : e.wf nd ns = true)
    (hsafe : e.safe (fun p => args.getD p 0) (fun q => args.getD (nd + q) 0) = true) :
    ∃ ins v tmps, applyLower nd (operandVals (nd + ns)) e = some (ins, v)
      ∧ runInstrs args ins [] = some tmps
      ∧ v.get args tmps = some (e.eval (fun p => args.getD p 0) (fun q => args.getD (nd + q) 0)) := by
  obtain ⟨ins, v, tmps, h1, h2, _, h4⟩ := lower_affine_apply_binding nd ns args e hlen hwf
  exact ⟨ins, v, tmps, h1, h2, by rw [h4, evalLowered_eq_eval _ _ e hsafe]⟩

/-- `affine.load` / `affine.store` (`insert_affine_map_ops`): the `i`-th index handed to
`memref.load/store` is the `i`-th result expression of the map with dimension `p` = index operand
`p` (maps with symbols are refused: `wf n 0`).
PARTIAL: as above for `mod`. -/
theorem lower_affine_map_sound_partial (n : Nat) (args : List Int) (es : List Expr)
    (hlen : args.length = n) (ins : List Instr) (vs : List Val)
    (h : mapOps (operandVals n) 0 es = some (ins, vs))
    (hsafe : ∀ e ∈ es, e.safe (fun p => args.getD p 0) (fun _ => 0) = true) :
    ∃ tmps, runInstrs args ins [] = some tmps
      ∧ vs.map (fun v => v.get args tmps) = es.map (fun e => some (e.eval (fun p => args.getD p 0) (fun _ => 0))) := by
  have hb : Binds args (operandVals n) (dimEnv args) := by
    have := binds_take args n n hlen
    rwa [List.take_of_length_le (by simp [operandVals])] at this
  obtain ⟨t, run, val⟩ := mapOps_run (fun _ => 0) hb es [] h
  refine ⟨t, run, val.trans (List.map_congr_left fun e he => ?_)⟩
  exact congrArg some (evalLowered_eq_eval _ _ e (hsafe e he))

/-- the binding matters (non-vacuity of `lower_affine_apply_binding`): splitting the operands of
`affine_map<(d0, d1)[s0] -> (d0 * 8 + d1 + s0 * 64)>` at `num_symbols` instead of `num_dims` binds
`s0` to the operand of `d1`; at (1, 2)[3] the map's value is 202, the mis-bound code computes 138. -/
theorem lower_affine_apply_missplit_counterexample :
    let e : Expr := .bin .add (.bin .add (.bin .mul (.dim 0) (.const 8)) (.dim 1)) (.bin .mul (.sym 0) (.const 64))
    let ops := operandVals 3
    e.eval (dimEnv [1, 2, 3]) (symEnv 2 [1, 2, 3]) = 202
    ∧ (match applyLower 2 ops e with
        | some (ins, v) => (runInstrs [1, 2, 3] ins []).bind (v.get [1, 2, 3]) | none => none) = some 202
    ∧ (match exprOps (ops.take 2) (ops.drop 1) 0 e with
        | some (ins, v) => (runInstrs [1, 2, 3] ins []).bind (v.get [1, 2, 3]) | none => none) = some 138 := by
  decide +kernel

example : (applyLower 0 (operandVals 1) (.sym 0)).isSome = true := by decide +kernel
example : (applyLower 1 (operandVals 1) (.sym 0)) = none := by decide +kernel
example : (Expr.bin .add (.bin .mod (.dim 0) (.const 4)) (.bin .ceildiv (.sym 1) (.const 3))).safe
    (fun p => [7, 1, -5].getD p 0) (fun q => [7, 1, -5].getD (1 + q) 0) = true := by decide +kernel

end Xdsl.C16.LowerAffineOps
