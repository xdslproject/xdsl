import XdslProofs.C20
import XdslProofs.Lemmas.ParallelMovStage2
import XdslProofs.Lemmas.ParallelMovCycle
/-!
# C20 — parallel-move lowering performs a simultaneous assignment (algorithm part)

`lower` (XdslModel/ParallelMov.lean) is the model of `ParallelMovPattern.match_and_rewrite`
(xdsl/transforms/riscv_lower_parallel_mov.py with the repairs of the `fix: riscv-lower-parallel-mov …`
commits of /repo).

The hypothesis `WF` (what `ParallelMovOp.verify_` enforces and what "designated free" means) and `Edge`
are defined in `Lemmas/ParallelMovGraph.lean`, `Realises` in `C20.lean`.

The proofs follow the staging of DESIGN §5: first loop, leaf-driven tree stage, then what is left is a
union of cycles, each broken through a designated free register or by xor swaps.  Every loop of the
model has one theorem `…_spec : precondition → Ends (loop …) E Q`: it returns a state satisfying `Q` or
fails with an error satisfying `E` (`Lemmas/ParallelMovStage1`, `Lemmas/ParallelMovStage2`); `lower_spec`
below chains them, and the theorems of this file read off its two halves.  Nothing here is `_partial`.
-/
namespace Xdsl.ParallelMov

open Env

/-- The whole lowering on a well-formed parallel move, for one register file: it realises the
simultaneous assignment, or fails on unallocated registers, on an unsupported width, or with a float
register on a cycle of the move graph and no float register designated free (`CycleErr`). -/
theorem lower_spec (moves : List Move) (free : List Reg) (w : WF ⟨moves, free⟩) {n : Nat}
    (ρ₀ : RegFile n) :
    Ends (lower moves free)
      (fun x => (x = .unallocated ∧ ¬ ∀ m ∈ moves, m.src.allocated = true ∧ m.dst.allocated = true)
        ∨ CycleErr ⟨moves, free⟩ x)
      fun out =>
        (∀ m ∈ moves, m.dst ≠ Reg.zero → rd (exec out.ops ρ₀) m.dst = rd ρ₀ m.src)
        ∧ (∀ r, (∀ m ∈ moves, m.dst ≠ r) → r ∉ free → rd (exec out.ops ρ₀) r = rd ρ₀ r) := by
  unfold lower
  by_cases hall : (!(moves.all fun m => m.src.allocated && m.dst.allocated)) = true
  · rw [if_pos hall]
    refine Ends.error (Or.inl ⟨rfl, fun ha => ?_⟩)
    rw [Bool.not_eq_true', List.all_eq_false] at hall
    obtain ⟨m, hm, hma⟩ := hall
    simp [ha m hm] at hma
  · rw [if_neg hall]
    dsimp only
    have h0 : Ends (stage0 ⟨moves, free⟩ (enum moves) { results := moves.map fun _ => none } [])
        _ _ := stage0_inv (e := ⟨moves, free⟩) ρ₀
    generalize stage0 ⟨moves, free⟩ (enum moves) { results := moves.map fun _ => none } [] = r0
      at h0 ⊢
    cases r0 with
    | error x => exact Ends.error (Or.inr (Or.inl h0))
    | ok r0 =>
      obtain ⟨st0, c0⟩ := r0
      obtain ⟨inv0, hc0⟩ := h0
      dsimp only
      have h1 : Ends (stage1 ⟨moves, free⟩ (moves.map (·.dst)) st0 c0) _ _ :=
        stage1_spec w _ st0 c0 [] (dsts_pairwise w) inv0 (Work.init w hc0)
          fun x _ _ => List.not_mem_nil
      generalize stage1 ⟨moves, free⟩ (moves.map (·.dst)) st0 c0 = r1 at h1 ⊢
      cases r1 with
      | error x => exact Ends.error (Or.inr (Or.inl h1))
      | ok r1 =>
        obtain ⟨st1, c1⟩ := r1
        obtain ⟨P1, inv1, wk1⟩ := h1
        dsimp only
        -- what the tree stage leaves is a union of cycles (`Work.onlyCycles`)
        have h2 := stage2_spec w (enum moves) st1 P1
          (fun p hp => by obtain ⟨i, m⟩ := p; exact mem_enum.mp hp) inv1 (wk1.onlyCycles w)
        generalize stage2 ⟨moves, free⟩ (enum moves) st1 = r2 at h2 ⊢
        cases r2 with
        | error x => exact Ends.error (Or.inr h2)
        | ok st2 =>
          obtain ⟨P2, inv2, _, hall⟩ := h2
          refine Ends.ok ⟨?_, ?_⟩
          · intro m hm hz
            obtain ⟨i, hi⟩ := List.mem_iff_getElem?.mp hm
            -- the only edge into `m.dst` comes from `m.src`: non-`zero` destinations are distinct
            have hedge : ∀ s, Edge ⟨moves, free⟩ s m.dst → s = m.src := by
              rintro s ⟨m', hm', hms', hmd', _⟩
              rw [← hms', w.dst_unique hm' hm hmd' (by rw [hmd']; exact hz)]
            rcases hall (i, m) (mem_enum.mpr hi) with hs | hs | hs
            · -- self-move: the register is not the target of an edge, hence untouched
              have hnP : m.dst ∉ P2 := fun hp =>
                (inv2.sub _ hp).elim fun s hE => hE.ne ((hedge s hE).trans hs)
              exact (inv2.keep _ hnP fun hf => ((w.freeOk _ hf).2 m hm).2 rfl).trans (by rw [hs])
            · exact absurd hs hz
            · obtain ⟨s, hE⟩ := inv2.sub _ hs
              exact hedge s hE ▸ inv2.done _ hs s hE
          · intro r hnd hnf
            refine inv2.keep r (fun hp => ?_) hnf
            obtain ⟨s', m', hm', _, hmd', _⟩ := inv2.sub _ hp
            exact hnd m' hm' hmd'

/-- **C20, main theorem.**  "executing the emitted sequence of moves leaves every destination
holding the value its source held before, and changes no register other than the destinations and
the designated free registers" — for every well-formed move list (any combination of chains,
fan-outs, cycles, self-moves, moves from/into `zero`, both register kinds), every list of designated
free registers and every register file. -/
theorem pmov_correct (moves : List Move) (free : List Reg) (out : Out)
    (w : WF ⟨moves, free⟩) (h : lower moves free = .ok out) : Realises moves free out.ops :=
  fun _ ρ₀ => (lower_spec moves free w ρ₀).of_ok h

/-- The inputs the pass is specified for: a verified `riscv.parallel_mov` (non-`zero` destinations
distinct, source and destination of the same register kind) on allocated registers with supported
widths, and designated free registers that are not `zero` and not used by the move. -/
structure WFInput (moves : List Move) (free : List Reg) : Prop where
  wf : WF ⟨moves, free⟩
  kinds : ∀ m ∈ moves, m.src.kind = m.dst.kind
  widths : ∀ m ∈ moves, m.w = 32 ∨ m.w = 64
  alloc : ∀ m ∈ moves, m.src.allocated = true ∧ m.dst.allocated = true

/-- **C20, failure clause.**  "when no correct sequence can be produced the pass reports failure":
that a success is a correct sequence is `pmov_correct`; this theorem says what a failure is.  On
well-formed input the lowering never gets stuck (no `assert`, no `KeyError`, no runaway loop); the
only failure is `Float cyclic move without free register`, and it is reported only when no float
register is designated free and the float moves contain a cycle (a register that reaches itself
along moves that are neither self-moves nor moves into `zero`). -/
theorem pmov_fail_only (moves : List Move) (free : List Reg) (hin : WFInput moves free)
    (x : Err) (hx : lower moves free = .error x) :
    x = .floatCycle ∧ (∀ f ∈ free, f.kind ≠ .flt) ∧
      ∃ r, r.kind = .flt ∧ Relation.TransGen (Edge ⟨moves, free⟩) r r := by
  rcases (lower_spec moves free hin.wf fun _ => (0 : BitVec 0)).of_error hx with
    ⟨_, hna⟩ | ⟨_, hnw⟩ | ⟨rfl, hfree, hcyc⟩
  · exact absurd hin.alloc hna
  · exact absurd hin.widths hnw
  · refine ⟨rfl, fun f hf hk => ?_, hcyc⟩
    have : f ∈ Env.freeOf ⟨moves, free⟩ .flt := List.mem_filter.mpr ⟨hf, by simp [hk]⟩
    rw [hfree] at this
    simp at this

/-- Consequently the lowering succeeds (and, by `pmov_correct`, is right) whenever some float
register is designated free or the float moves are acyclic — in particular for every parallel move
between integer registers. -/
theorem pmov_succeeds (moves : List Move) (free : List Reg) (hin : WFInput moves free)
    (h : (∃ f ∈ free, f.kind = .flt) ∨
      ¬ ∃ r, r.kind = .flt ∧ Relation.TransGen (Edge ⟨moves, free⟩) r r) :
    ∃ out, lower moves free = .ok out ∧ Realises moves free out.ops := by
  cases hl : lower moves free with
  | ok out => exact ⟨out, rfl, pmov_correct moves free out hin.wf hl⟩
  | error x =>
    obtain ⟨_, hnf, hcyc⟩ := pmov_fail_only moves free hin x hl
    rcases h with ⟨f, hf, hk⟩ | h
    · exact absurd hk (hnf f hf)
    · exact absurd hcyc h

def errOf (r : Except Err Out) : Option Err := match r with | .error e => some e | .ok _ => none

private def a (k : Nat) : Reg := ⟨.int, some k⟩
private def f (k : Nat) : Reg := ⟨.flt, some k⟩

/-- a 3-cycle of integer registers without a free register: two xor swaps, in the right direction
(the pinned tree rotated it the wrong way round) -/
example : (lower [⟨a 2, a 1, 32⟩, ⟨a 3, a 2, 32⟩, ⟨a 1, a 3, 32⟩] []).toOption.map (·.ops)
    = some [.xor (a 3) (a 3) (a 2), .xor (a 2) (a 3) (a 2), .xor (a 3) (a 3) (a 2),
            .xor (a 1) (a 1) (a 3), .xor (a 3) (a 1) (a 3), .xor (a 1) (a 1) (a 3)]
    ∧ checkSeq [⟨a 2, a 1, 32⟩, ⟨a 3, a 2, 32⟩, ⟨a 1, a 3, 32⟩] []
        [.xor (a 3) (a 3) (a 2), .xor (a 2) (a 3) (a 2), .xor (a 3) (a 3) (a 2),
         .xor (a 1) (a 1) (a 3), .xor (a 3) (a 1) (a 3), .xor (a 1) (a 1) (a 3)] = true := by decide

/-- a cycle next to a chain: the chain's root `a 4` is only read, so it is not used as scratch -/
example : (lower [⟨a 2, a 1, 32⟩, ⟨a 1, a 2, 32⟩, ⟨a 4, a 3, 32⟩] []).toOption.map (·.ops)
    = some [.mv (a 3) (a 4), .xor (a 1) (a 1) (a 2), .xor (a 2) (a 1) (a 2), .xor (a 1) (a 1) (a 2)] := by
  decide

/-- a float cycle with a designated free register goes through it -/
example : (lower [⟨f 2, f 1, 64⟩, ⟨f 1, f 2, 64⟩] [f 4]).toOption.map (·.ops)
    = some [.fmv 64 (f 4) (f 2), .fmv 64 (f 2) (f 1), .fmv 64 (f 1) (f 4)] := by decide

/-- the failure case is reachable -/
example : errOf (lower [⟨f 2, f 1, 32⟩, ⟨f 1, f 2, 32⟩] []) = some .floatCycle := by decide

/-- moves into `zero` (twice) and from `zero` -/
example : (lower [⟨a 1, Reg.zero, 32⟩, ⟨a 2, Reg.zero, 32⟩, ⟨Reg.zero, a 1, 32⟩] []).toOption.map (·.ops)
    = some [.mv Reg.zero (a 1), .mv Reg.zero (a 2), .mv (a 1) Reg.zero] := by decide

/-- The converse of the failure clause does **not** hold (and the property does not ask for it):
a float cycle with a tail and no free register is reported as a failure although three `fmv`s
realise it (`f3 ← f1; f1 ← f2; f2 ← f3`).  Recorded so that nobody reads `pmov_fail_only` as
"failure iff no sequence exists". -/
theorem pmov_fail_not_necessary_counterexample :
    errOf (lower [⟨f 1, f 2, 32⟩, ⟨f 2, f 1, 32⟩, ⟨f 1, f 3, 32⟩] []) = some .floatCycle
    ∧ checkSeq [⟨f 1, f 2, 32⟩, ⟨f 2, f 1, 32⟩, ⟨f 1, f 3, 32⟩] []
        [.fmv 32 (f 3) (f 1), .fmv 32 (f 1) (f 2), .fmv 32 (f 2) (f 3)] = true := by decide

end Xdsl.ParallelMov
