import XdslProofs.C19Stack
import XdslProofs.Lemmas.RegAllocLoopBasics
/-!
C19 (loops): the register stack inside the allocator for blocks with loops.
* `Replays`: the log of stack calls is faithful — running the logged calls on the `RegisterStack`
  model (`srun` of `XdslModel/RegAlloc.lean`, the one `XdslProofs.C19Stack` is about) from the old stack
  gives the new stack and the logged results;
* reservation counts are restored by every block, and no logged `pop` returned a register that was
  reserved when the block was entered (`allocT_restored`).
-/
namespace Xdsl.RegAllocLoop
open Xdsl.RegMachine Xdsl.RegAlloc

theorem srun_append (c : Cfg) : ∀ (a b : List SOp) (s : RStack),
    srun c s (a ++ b) = ((srun c (srun c s a).1 b).1, (srun c s a).2 ++ (srun c (srun c s a).1 b).2) := by
  intro a
  induction a with
  | nil => intro b s; simp [srun]
  | cons o a ih =>
    intro b s
    simp only [List.cons_append, srun]
    rw [ih]

/-- the stack calls logged between two states, replayed on the `RegisterStack` model -/
def Replays (c : Cfg) (s s' : LSt) : Prop :=
  ∃ l : List (SOp × SOut), s'.log = l ++ s.log ∧
    srun c s.stack (l.reverse.map Prod.fst) = (s'.stack, l.reverse.map Prod.snd)

theorem Replays.refl (c : Cfg) (s : LSt) : Replays c s s := ⟨[], rfl, rfl⟩

theorem Replays.trans {c : Cfg} {a b d : LSt} (h1 : Replays c a b) (h2 : Replays c b d) : Replays c a d := by
  obtain ⟨l1, e1, r1⟩ := h1
  obtain ⟨l2, e2, r2⟩ := h2
  refine ⟨l2 ++ l1, by rw [e2, e1, List.append_assoc], ?_⟩
  rw [List.reverse_append, List.map_append, srun_append, r1]
  simp only
  rw [r2, List.map_append]

theorem replays_of_eq {c : Cfg} {s s' : LSt} (hst : s'.stack = s.stack) (hlog : s'.log = s.log) :
    Replays c s s' := ⟨[], hlog, by simp [srun, hst]⟩

theorem replays_one {c : Cfg} {s s' : LSt} {o : SOp} {out : SOut} (hlog : s'.log = (o, out) :: s.log)
    (h : sstep c s.stack o = (s'.stack, out)) : Replays c s s' :=
  ⟨[(o, out)], hlog, by simp [srun, h]⟩

theorem setReg_stack (s : LSt) (v : ValId) (r : Reg) : (setReg s v r).stack = s.stack := rfl

theorem pushR_replays (c : Cfg) (s : LSt) (r : Reg) : Replays c s (pushR c s r) := by
  refine replays_one (o := .push r) (out := .unit) ?_ ?_
  · unfold pushR; split <;> rfl
  · show (spush c s.stack r, SOut.unit) = ((pushR c s r).stack, SOut.unit)
    congr 1
    unfold pushR spush
    by_cases hres : s.isReserved r = true
    · have : s.stack.isReserved r = true := hres
      rw [if_pos hres, if_pos this]; rfl
    · have : ¬ s.stack.isReserved r = true := hres
      rw [if_neg hres, if_neg this]
      unfold push LSt.stack
      simp only
      split <;> rfl

theorem popR_replays {c : Cfg} {s s' : LSt} {r : Reg} (h : popR c s = .ok (r, s')) : Replays c s s' := by
  obtain ⟨hp, hres, hnr, hlog⟩ := popR_ok h
  refine replays_one (o := .pop) (out := .reg r) hlog ?_
  show spop c s.stack = (s'.stack, .reg r)
  have hnr' : s.stack.isReserved r = false := hnr
  obtain ⟨_, htbl, hc⟩ := pop_cases hp
  have hst : s'.stack = { s.stack with avail := s'.st.avail, nextInf := s'.st.nextInf } := by
    simp only [LSt.stack, htbl, hres]
  rcases hc with ⟨hav, hni⟩ | ⟨hav, hav', hr, hni⟩
  · unfold spop
    have : s.stack.avail = r :: s'.st.avail := hav
    rw [this]
    simp only [hnr']
    rw [hst, hni]
    rfl
  · have hinf : c.allowInf = true := by
      unfold pop at hp
      rw [hav] at hp
      simp only at hp
      by_cases hi : c.allowInf = true
      · exact hi
      · rw [if_neg hi] at hp; exact absurd hp (by simp)
    unfold spop
    have : s.stack.avail = [] := hav
    rw [this]
    simp only [hinf, if_true]
    have e : s.stack.nextInf = s.st.nextInf := rfl
    rw [e, ← hr, hnr', hst, hav', hni]
    simp [LSt.stack, hav]

theorem reserveR_replays (c : Cfg) (s : LSt) (r : Reg) : Replays c s (reserveR s r) :=
  replays_one (o := .reserve r) (out := .unit) rfl rfl

theorem unreserveR_stack {s s' : LSt} {r : Reg} (h : unreserveR s r = .ok s') :
    sunreserve s.stack r = (s'.stack, .unit) := by
  obtain ⟨hst, _, n, hn, hres⟩ := unreserveR_ok h
  have e : s'.stack = { s.stack with reserved := s'.reserved } := by simp only [LSt.stack, hst]
  unfold sunreserve
  rw [show AL.get s.stack.reserved r = some n from hn, e, hres]
  simp only
  split <;> rfl

theorem unreserveR_replays {c : Cfg} {s s' : LSt} {r : Reg} (h : unreserveR s r = .ok s') : Replays c s s' :=
  replays_one (o := .unreserve r) (out := .unit) (unreserveR_ok h).2.1 (unreserveR_stack h)

theorem replays_rel (c : Cfg) : StackRel c (Replays c) where
  refl := Replays.refl c
  trans _ _ _ := Replays.trans
  pop _ _ _ := popR_replays
  push := pushR_replays c
  set _ _ _ _ := replays_of_eq rfl rfl

/-- **The log is faithful**: the stack calls that `allocate_block` logs, replayed on the
`RegisterStack` model, lead from the old stack to the new one with the logged results. -/
theorem allocT_replays (x : Ctx) : ∀ (t : LT) (s s' : LSt), allocT x s t = .ok s' → Replays x.c s s' :=
  fun t _ _ h => (replays_rel x.c).allocT (reserveR_replays x.c) (fun _ _ _ => unreserveR_replays) t h

def LSt.cnt (s : LSt) (r : Reg) : Nat := (AL.get s.reserved r).getD 0

/-- `SInv.pos` of `XdslProofs.C19Stack` for the reservation table of an allocator state -/
def RPos (s : LSt) : Prop := ∀ r n, AL.get s.reserved r = some n → 0 < n

/-! The counts are those of the `RegisterStack` inside the state (`s.cnt r = s.stack.count r`, `RPos s` =
`SInv.pos` of `s.stack`, both by `rfl`): the facts of `XdslProofs.C19Stack` apply. -/

theorem isReserved_iff_cnt {s : LSt} (hp : RPos s) (r : Reg) : s.isReserved r = true ↔ 0 < s.cnt r :=
  Stack.isReserved_iff_count_pos_of (s := s.stack) hp r

theorem reserveR_cnt (s : LSt) (r x : Reg) : (reserveR s r).cnt x = s.cnt x + if x = r then 1 else 0 := by
  have h : (reserveR s r).cnt x = if x = r then s.cnt r + 1 else s.cnt x := Stack.count_reserve s.stack r x
  rw [h]; split
  · rename_i e; rw [e]
  · rfl

theorem reserveR_pos {s : LSt} (hp : RPos s) (r : Reg) : RPos (reserveR s r) :=
  Stack.pos_sreserve (s := s.stack) hp r

theorem unreserveR_cnt {s s' : LSt} {r : Reg} (hp : RPos s) (h : unreserveR s r = .ok s') :
    RPos s' ∧ 0 < s.cnt r ∧ ∀ x, s'.cnt x = s.cnt x - if x = r then 1 else 0 := by
  have hst := unreserveR_stack h
  have hpos := Stack.pos_sunreserve (s := s.stack) hp r
  have hc := Stack.count_unreserve s.stack r
  rw [hst] at hpos
  cases hr : s.stack.isReserved r with
  | false =>
    -- an absent key raises `ValueError`
    have := hc r
    rw [hr, hst] at this
    simp at this
  | true =>
    refine ⟨hpos, (Stack.isReserved_iff_count_pos_of (s := s.stack) hp r).1 hr, fun x => ?_⟩
    have := (hc x)
    rw [hr, hst] at this
    have e : s'.cnt x = if x = r then s.cnt r - 1 else s.cnt x := (this.2 : _)
    rw [e]; split
    · rename_i e'; rw [e']
    · rfl

theorem reserveFold_cnt : ∀ (rs : List Reg) (s : LSt) (x : Reg),
    (rs.foldl reserveR s).cnt x = s.cnt x + rs.count x := by
  intro rs
  induction rs with
  | nil => intro s x; simp
  | cons r rs ih =>
    intro s x
    simp only [List.foldl_cons, ih, reserveR_cnt, List.count_cons]
    by_cases h : x = r
    · subst h; simp; omega
    · have : ¬ (r == x) = true := by simpa using fun e => h e.symm
      simp [h, this]

theorem reserveFold_isReserved (rs : List Reg) (s : LSt) (r : Reg) (hr : r ∈ rs) :
    (rs.foldl reserveR s).isReserved r = true := by
  have hc := reserveFold_cnt rs s r
  have : 0 < rs.count r := List.count_pos_iff.2 hr
  unfold LSt.isReserved
  unfold LSt.cnt at hc
  cases hg : AL.get (rs.foldl reserveR s).reserved r with
  | none => rw [hg] at hc; simp at hc; omega
  | some n => rfl

theorem reserveFold_pos : ∀ (rs : List Reg) (s : LSt), RPos s → RPos (rs.foldl reserveR s) := by
  intro rs
  induction rs with
  | nil => intro s h; exact h
  | cons r rs ih => intro s h; simp only [List.foldl_cons]; exact ih _ (reserveR_pos h r)

theorem unreserveFold_cnt (rs : List Reg) (s s' : LSt) (hp : RPos s) (h : foldL unreserveR s rs = .ok s') :
    RPos s' ∧ ∀ x, s'.cnt x = s.cnt x - rs.count x := by
  have := Sat.foldlM_done (fun d t => RPos t ∧ ∀ x, t.cnt x = s.cnt x - d.count x) ⟨hp, fun x => by simp⟩
    (fun d r _ t _ ⟨hpt, hct⟩ t' hr => by
      obtain ⟨hp1, _, hc1⟩ := unreserveR_cnt hpt hr
      refine ⟨hp1, fun x => ?_⟩
      rw [hc1, hct, List.count_cons]
      by_cases hx : x = r
      · subst hx; simp; omega
      · have : ¬ (r == x) = true := by simpa using fun e => hx e.symm
        simp [hx, this]) s' (foldL_eq_foldlM .. ▸ h)
  simpa using this

/-- what every step other than the two reservation calls keeps (`kept_rel`): the reservation table, and no
logged `pop` returned a reserved register; that nothing was un-reserved is what `Stack.reserved_window` asks of
a run (`reserved_window_body`) -/
def Kept (s s' : LSt) : Prop :=
  s'.reserved = s.reserved ∧
    ∃ l : List (SOp × SOut), s'.log = l ++ s.log
      ∧ (∀ r, s.isReserved r = true → (SOp.pop, SOut.reg r) ∉ l)
      ∧ ∀ e ∈ l, ∀ r, e.1 ≠ SOp.unreserve r

theorem kept_of_eq {s s' : LSt} (hres : s'.reserved = s.reserved) (hlog : s'.log = s.log) : Kept s s' :=
  ⟨hres, [], hlog, fun _ _ h => by simp at h, fun _ h => by simp at h⟩

theorem Kept.refl (s : LSt) : Kept s s := kept_of_eq rfl rfl

theorem Kept.trans {a b d : LSt} (h1 : Kept a b) (h2 : Kept b d) : Kept a d := by
  obtain ⟨r1, l1, e1, n1, u1⟩ := h1
  obtain ⟨r2, l2, e2, n2, u2⟩ := h2
  refine ⟨r2.trans r1, l2 ++ l1, by rw [e2, e1, List.append_assoc], ?_, ?_⟩
  · intro r hr hm
    rcases List.mem_append.1 hm with hm | hm
    · exact n2 r (by unfold LSt.isReserved at hr ⊢; rw [r1]; exact hr) hm
    · exact n1 r hr hm
  · intro e he
    rcases List.mem_append.1 he with he | he
    · exact u2 e he
    · exact u1 e he

theorem pushR_kept (c : Cfg) (s : LSt) (r : Reg) : Kept s (pushR c s r) := by
  refine ⟨?_, [(.push r, .unit)], ?_, fun _ _ h => by simp at h, ?_⟩
  · unfold pushR; split <;> rfl
  · unfold pushR; split <;> rfl
  · intro e he; simp only [List.mem_singleton] at he; subst he; simp

theorem popR_kept {c : Cfg} {s s' : LSt} {r : Reg} (h : popR c s = .ok (r, s')) : Kept s s' := by
  obtain ⟨_, hres, hnr, hlog⟩ := popR_ok h
  refine ⟨hres, [(.pop, .reg r)], hlog, ?_, ?_⟩
  · intro r' hr' hm
    simp only [List.mem_singleton, Prod.mk.injEq, SOut.reg.injEq, true_and] at hm
    subst hm
    rw [hnr] at hr'; exact absurd hr' (by simp)
  · intro e he; simp only [List.mem_singleton] at he; subst he; simp

theorem kept_rel (c : Cfg) : StackRel c Kept where
  refl := Kept.refl
  trans _ _ _ := Kept.trans
  pop _ _ _ := popR_kept
  push := pushR_kept c
  set _ _ _ _ := kept_of_eq rfl rfl

/-- what a whole block does to the reservations: counts are restored, and no `pop` logged while the
block was allocated returned a register that was reserved when the block was entered -/
structure Restored (s s' : LSt) : Prop where
  pos : RPos s'
  cnt : ∀ r, s'.cnt r = s.cnt r
  nopop : ∃ l : List (SOp × SOut), s'.log = l ++ s.log ∧
    ∀ r, 0 < s.cnt r → (SOp.pop, SOut.reg r) ∉ l

theorem Restored.of_kept {s s' : LSt} (hp : RPos s) (h : Kept s s') : Restored s s' := by
  obtain ⟨hres, l, hl, hn, _⟩ := h
  refine ⟨fun r n hr => hp r n (by rw [← hres]; exact hr), fun r => by simp [LSt.cnt, hres], l, hl, ?_⟩
  intro r hr
  exact hn r ((isReserved_iff_cnt hp r).2 hr)

theorem Restored.trans {a b d : LSt} (h1 : Restored a b) (h2 : Restored b d) : Restored a d := by
  obtain ⟨l1, e1, n1⟩ := h1.nopop
  obtain ⟨l2, e2, n2⟩ := h2.nopop
  refine ⟨h2.pos, fun r => (h2.cnt r).trans (h1.cnt r), l2 ++ l1, by rw [e2, e1, List.append_assoc], ?_⟩
  intro r hr hm
  rcases List.mem_append.1 hm with hm | hm
  · exact n2 r (by rw [h1.cnt r]; exact hr) hm
  · exact n1 r hr hm

def NoPop (s s' : LSt) : Prop := ∃ l : List (SOp × SOut), s'.log = l ++ s.log ∧ ∀ e ∈ l, e.1 ≠ SOp.pop

theorem NoPop.refl (s : LSt) : NoPop s s := ⟨[], rfl, fun _ h => by cases h⟩

theorem NoPop.trans {a b d : LSt} (h1 : NoPop a b) (h2 : NoPop b d) : NoPop a d := by
  obtain ⟨l1, e1, n1⟩ := h1
  obtain ⟨l2, e2, n2⟩ := h2
  exact ⟨l2 ++ l1, by rw [e2, e1, List.append_assoc], fun e he => (List.mem_append.1 he).elim (n2 e) (n1 e)⟩

theorem NoPop.one {s s' : LSt} {o : SOp} {out : SOut} (h : s'.log = (o, out) :: s.log) (ho : o ≠ SOp.pop) :
    NoPop s s' := ⟨[(o, out)], h, fun e he => by rw [List.mem_singleton.1 he]; exact ho⟩

theorem reserveFold_log (rs : List Reg) (s : LSt) : NoPop s (rs.foldl reserveR s) :=
  foldl_rel NoPop.refl NoPop.trans (fun r _ _ => NoPop.one (o := .reserve r) rfl (by simp)) s

theorem unreserveFold_log (rs : List Reg) (s s' : LSt) (h : foldL unreserveR s rs = .ok s') : NoPop s s' :=
  Sat.foldlM_rel NoPop.refl NoPop.trans
    (fun r _ _ _ h => NoPop.one (o := .unreserve r) (unreserveR_ok h).2.1 (by simp)) s s'
    (foldL_eq_foldlM .. ▸ h)

theorem Restored.bracket {s4 s5 s6 : LSt} {rs : List Reg}
    (r5 : Restored (rs.foldl reserveR s4) s5) (h6 : foldL unreserveR s5 rs = .ok s6) : Restored s4 s6 := by
  obtain ⟨hp6, hc6⟩ := unreserveFold_cnt _ _ _ r5.pos h6
  refine ⟨hp6, fun r => by rw [hc6, r5.cnt, reserveFold_cnt]; omega, ?_⟩
  obtain ⟨la, ha, hna⟩ := reserveFold_log rs s4
  obtain ⟨lb, hb, hnb⟩ := r5.nopop
  obtain ⟨lc, hc, hnc⟩ := unreserveFold_log _ _ _ h6
  refine ⟨lc ++ (lb ++ la), by rw [hc, hb, ha]; simp, ?_⟩
  intro r hr hm
  rcases List.mem_append.1 hm with hm | hm
  · exact hnc _ hm rfl
  · rcases List.mem_append.1 hm with hm | hm
    · exact hnb r (by rw [reserveFold_cnt]; omega) hm
    · exact hna _ hm rfl

/-- **Reserved registers are never handed out** (general form, any nesting depth): while a block is
allocated no `pop` returns a register that is reserved when the block is entered, and when the block
is done every reservation count is what it was. -/
theorem allocT_restored (x : Ctx) : ∀ (t : LT) (s s' : LSt), RPos s → allocT x s t = .ok s' →
    Restored s s' := by
  have K := kept_rel x.c
  intro t
  induction t with
  | nil =>
    intro s s' hp h
    simp only [allocT, Except.ok.injEq] at h; subst h
    exact Restored.of_kept hp (Kept.refl _)
  | op o next ih =>
    intro s s' hp h
    obtain ⟨s1, h1, h2⟩ := allocT_op_ok h
    have r1 := ih _ _ hp h1
    exact r1.trans (Restored.of_kept r1.pos (K.allocOpR h2))
  | loop hd body next ihb ihn =>
    intro s s' hp h
    obtain ⟨s1, s2, s3, s4, s5, s6, h1, h2, h3, h4, h5, h6, h7⟩ := allocT_loop_ok h
    have r1 := ihn _ _ hp h1
    have r4 := Restored.of_kept r1.pos (K.trans _ _ _ (K.foldL (fun _ _ _ => K.allocValueR) h2)
      (K.trans _ _ _ (K.foldL (fun _ _ _ => K.sameRegN) h3) (K.foldL (fun _ _ _ => K.allocValueR) h4)))
    have r6 := Restored.bracket (ihb _ _ (reserveFold_pos _ s4 r4.pos) h5) h6
    have r7 := Restored.of_kept r6.pos (K.trans _ _ _ (K.freeFold ..) (K.foldL (fun _ _ _ => K.allocValueR) h7))
    exact r1.trans (r4.trans (r6.trans r7))

end Xdsl.RegAllocLoop
