import XdslProofs.Lemmas.AffineCtor
import XdslProofs.Lemmas.Except
/-!
The substitution lemma for `replace` (`replace_eval`, through `substEnv`; `compose_eval` and `map_compose_eval` in
`C26.lean` are instances of it) and the tie between the total `eval` and the exception-raising `evalPy` (C26).
-/
namespace Xdsl.Affine

/-- the assignment seen by a dimension/symbol after `replace_dims_and_symbols`: position `p` is
replaced by the value of `news[p]` when the list is long enough, otherwise it is kept -/
def substEnv (ρd ρs : Nat → Int) (news : List Expr) (ρ : Nat → Int) : Nat → Int :=
  fun p => match news[p]? with
    | some x => eval ρd ρs x
    | none => ρ p

theorem substEnv_nil (ρd ρs ρ : Nat → Int) : substEnv ρd ρs [] ρ = ρ := by
  funext p; simp [substEnv]

theorem substEnv_map_range (ρd ρs ρ : Nat → Int) (n : Nat) (f : Nat → Expr) :
    substEnv ρd ρs ((List.range n).map f) ρ = fun p => if p < n then eval ρd ρs (f p) else ρ p := by
  funext p
  rw [substEnv, List.getElem?_map]
  by_cases h : p < n
  · rw [List.getElem?_range h, if_pos h]; rfl
  · rw [List.getElem?_eq_none (by simpa using h), if_neg h]; rfl

theorem eval_getD_dim (ρd ρs : Nat → Int) (news : List Expr) (p : Nat) :
    eval ρd ρs (news.getD p (.dim p)) = substEnv ρd ρs news ρd p := by
  rw [substEnv, List.getD_eq_getElem?_getD]
  cases news[p]? <;> rfl

theorem eval_getD_sym (ρd ρs : Nat → Int) (news : List Expr) (p : Nat) :
    eval ρd ρs (news.getD p (.sym p)) = substEnv ρd ρs news ρs p := by
  rw [substEnv, List.getD_eq_getElem?_getD]
  cases news[p]? <;> rfl

/-- "replacing dimensions and symbols": whenever it returns, the new expression evaluated at an
assignment equals the old expression evaluated at the assignment in which every replaced
dimension/symbol takes the value of its replacement (positions beyond the lists are kept). -/
theorem replace_eval {nd ns : List Expr} {e e' : Expr} (h : replace nd ns e = .ok e')
    (ρd ρs : Nat → Int) :
    eval ρd ρs e' = eval (substEnv ρd ρs nd ρd) (substEnv ρd ρs ns ρs) e := by
  induction e generalizing e' with
  | const v => cases h; rfl
  | dim p => cases h; exact eval_getD_dim ρd ρs nd p
  | sym p => cases h; exact eval_getD_sym ρd ρs ns p
  | bin k l r ihl ihr =>
    rw [replace] at h
    obtain ⟨l', hl, h⟩ := bind_eq_ok.1 h
    obtain ⟨r', hr, h⟩ := bind_eq_ok.1 h
    rw [mkBin_eval h, ihl hl, ihr hr]
    rfl

theorem mapM'_ok {α β : Type} {f : α → R β} {xs : List α} {ys : List β} (h : mapM' f xs = .ok ys) :
    ys.length = xs.length ∧ ∀ (i : Nat) (y : β), ys[i]? = some y → ∃ x, xs[i]? = some x ∧ f x = .ok y := by
  induction xs generalizing ys with
  | nil => cases h; exact ⟨rfl, fun i y hi => nomatch hi⟩
  | cons x xs ih =>
    rw [mapM'] at h
    obtain ⟨y, hx, h⟩ := bind_eq_ok.1 h
    obtain ⟨ys', hxs, h⟩ := bind_eq_ok.1 h
    cases h
    obtain ⟨hlen, hall⟩ := ih hxs
    refine ⟨congrArg (· + 1) hlen, fun i y' hi => ?_⟩
    cases i with
    | zero => cases hi; exact ⟨x, rfl, hx⟩
    | succ i => exact hall i y' hi

/-- `AffineExpr.eval(dims, symbols)` on sequences: when it returns (no `IndexError`, no
`ZeroDivisionError`) the value is `eval` under the assignment given by the sequences. -/
theorem evalPy_sound {ds ss : List Int} {e : Expr} {v : Int} (h : evalPy ds ss e = .ok v) :
    v = eval (fun p => ds.getD p 0) (fun p => ss.getD p 0) e := by
  induction e generalizing v with
  | const c => cases h; rfl
  | dim p =>
    rw [evalPy] at h
    split at h
    · rename_i x hp
      cases h
      exact (congrArg (·.getD 0) hp).symm.trans (List.getD_eq_getElem?_getD ..).symm
    · cases h
  | sym p =>
    rw [evalPy] at h
    split at h
    · rename_i x hp
      cases h
      exact (congrArg (·.getD 0) hp).symm.trans (List.getD_eq_getElem?_getD ..).symm
    · cases h
  | bin k l r ihl ihr =>
    rw [evalPy] at h
    obtain ⟨a, hl, h⟩ := bind_eq_ok.1 h
    obtain ⟨b, hr, h⟩ := bind_eq_ok.1 h
    split at h
    · cases h
    · cases h
      rw [eval, ← ihl hl, ← ihr hr]

end Xdsl.Affine
