import XdslProofs.C10VerifyOp
import XdslProofs.Lemmas.OpDefStorage
import XdslProofs.Lemmas.List
/-!
# C10 — default values and the storage of the segment-size arrays

Two parts of `xdsl/irdl/operations.py` that `OpDef.verify`, the generated constructor and the
generated accessors have to agree on:

* **default values.**  `prop_def(..., default_value=v)` makes the *constructor*
  (`IRDLOperation.__post_init__`) write `v` when the entry is not given.  The definition stays
  non-optional: "passes verification exactly when … every … property and attribute satisfies its
  constraint" — an operation from which the entry was removed after construction has no value for a
  declared, non-optional property and must be rejected, with or without a default; and on an
  operation that verifies the dictionary accessors never raise.
* **storage of segment sizes.**  Every `AttrSized…Segments` option carries its own `as_property`
  flag.  "Operations built through the generated constructor from arguments that satisfy the
  definition always verify, and the generated accessors return exactly the declared segments" —
  for every combination of options, storage kinds and option orders.
-/
namespace Xdsl.OpDef

/-- **verification does not depend on declared defaults**: replacing the `default_value`s of the
definitions by anything else leaves the property/attribute loop of `OpDef.verify` unchanged. -/
theorem verifyDict_ignores_default (f : AttrDef → Option Nat) :
    ∀ (defs : List AttrDef) (m : AL Nat Nat) (ctx : Ctx),
      verifyDict (defs.map fun d => { d with default := f d }) m ctx = verifyDict defs m ctx
  | [], _, _ => rfl
  | d :: ds, m, ctx => by
    rw [List.map_cons, verifyDict_cons, verifyDict_cons]
    exact congrArg _ (funext (verifyDict_ignores_default f ds m))

/-- **`OpDef.verify` as a whole does not depend on declared defaults.** -/
theorem verifyOp_ignores_default (f g : AttrDef → Option Nat) (d : Def) (o : Inst) :
    verifyOp { d with props := d.props.map fun p => { p with default := f p }
                      attrs := d.attrs.map fun p => { p with default := g p } } o
      = verifyOp d o := by
  unfold verifyOp
  simp only [verifyDict_ignores_default, List.any_map]
  rfl

/-- **a verified operation has every non-optional property and attribute**, whether or not the
definition declares a default for it ("every property and attribute satisfies its constraint"). -/
theorem verifyOp_required_present (d : Def) (o : Inst) (h : verifyOp d o = .ok ()) :
    RequiredPresent d.props o.props ∧ RequiredPresent d.attrs o.attrs := by
  obtain ⟨c1, -, c2, -, c3, -, -, c4, h5, -, c5, h7⟩ := (verifyOp_ok_iff d o).1 h
  exact ⟨((verifyDict_iff d.props o.props c3 c4).1 h5).1, ((verifyDict_iff d.attrs o.attrs c4 c5).1 h7).1⟩

/-- **two-step history**: whatever the operation looked like (in particular: freshly constructed,
defaults filled in), once the entry of a non-optional property is deleted it no longer verifies —
default or not. -/
theorem deleted_required_prop_rejected (d : Def) (o : Inst) (pd : AttrDef) (hm : pd ∈ d.props)
    (hr : pd.optional = false) :
    verifyOp d { o with props := AL.del o.props pd.name } ≠ .ok () := by
  intro h
  have := (verifyOp_required_present d _ h).1 pd hm hr
  simp [AL.get_del] at this

/-- **two-step history, attributes**: once the entry of a non-optional attribute is deleted the
operation no longer verifies — default or not. -/
theorem deleted_required_attr_rejected (d : Def) (o : Inst) (ad : AttrDef) (hm : ad ∈ d.attrs)
    (hr : ad.optional = false) :
    verifyOp d { o with attrs := AL.del o.attrs ad.name } ≠ .ok () := by
  intro h
  have := (verifyOp_required_present d _ h).2 ad hm hr
  simp [AL.get_del] at this

/-- **the dictionary accessors never raise on an operation that verifies**, and return the stored
value — for an absent optional entry the declared default (or `None`). -/
theorem verified_dict_accessors (d : Def) (o : Inst) (h : verifyOp d o = .ok ()) :
    (∀ pd ∈ d.props, dictAccessor pd o.props = .ok ((AL.get o.props pd.name).or pd.default)) ∧
    (∀ ad ∈ d.attrs, dictAccessor ad o.attrs = .ok ((AL.get o.attrs ad.name).or ad.default)) := by
  obtain ⟨hp, ha⟩ := verifyOp_required_present d o h
  exact ⟨fun pd hm => dictAccessor_of_present pd o.props (hp pd hm),
    fun ad hm => dictAccessor_of_present ad o.attrs (ha ad hm)⟩

/-- `__post_init__` never touches an entry that is present -/
theorem fillDefaults_keeps (defs : List AttrDef) (m : AL Nat Nat) (k : Nat)
    (h : (AL.get m k).isSome = true) : AL.get (fillDefaults defs m) k = AL.get m k := by
  rw [get_fillDefaults, Option.or_of_isSome h]

/-- **after construction every non-optional definition with a default is present** -/
theorem fillDefaults_present (defs : List AttrDef) (m : AL Nat Nat) (d : AttrDef) (hm : d ∈ defs)
    (hr : d.optional = false) (v : Nat) (hd : d.default = some v) :
    (AL.get (fillDefaults defs m) d.name).isSome = true := by
  rw [get_fillDefaults, Option.isSome_or, firstDefault_isSome hm hr hd, Bool.or_true]

/-- `__post_init__` writes only defaults: an entry that was absent and is present afterwards holds
the default of a non-optional definition of that name -/
theorem fillDefaults_only_defaults (defs : List AttrDef) (m : AL Nat Nat) (k a : Nat)
    (h0 : AL.get m k = none) (h : AL.get (fillDefaults defs m) k = some a) :
    ∃ d ∈ defs, d.name = k ∧ d.optional = false ∧ d.default = some a := by
  rw [get_fillDefaults, h0, Option.none_or] at h
  exact firstDefault_eq_some h

/-- `__post_init__` is idempotent -/
theorem fillDefaults_idem (defs : List AttrDef) (m : AL Nat Nat) :
    fillDefaults defs (fillDefaults defs m) = fillDefaults defs m :=
  -- no step writes into a dictionary in which every definition with a default is present
  foldl_inv (· = fillDefaults defs m) (fun d hm m' e => by
    subst e
    rcases fillStep_eq (fillDefaults defs m) d with e | ⟨v, hg, ho, hd, -⟩
    · exact e
    · have := fillDefaults_present defs m d hm ho v hd
      rw [hg] at this; cases this) _ rfl

/-- non-vacuity: `flag = prop_def(T, default_value=1)`, `plain = prop_def(T)`.  Constructed from
`{plain: 1}` it verifies with `flag` filled in; after `del op.properties["flag"]` it is rejected
and the accessor would raise `KeyError`. -/
def exDefaults : Def :=
  { props := [{ name := 0, optional := false, constr := .plain (.oneOf [1, 2]), default := some 1 },
              { name := 1, optional := false, constr := .plain (.oneOf [1, 2]) }] }

example :
    let o := construct exDefaults { props := [(1, 1)] }
    AL.get o.props 0 = some 1 ∧ tag (verifyOp exDefaults o) = 0 ∧
    tag (verifyOp exDefaults { o with props := AL.del o.props 0 }) = 1 ∧
    dictAccessor { name := 0, optional := false, constr := .plain .any, default := some 1 }
      (AL.del o.props 0) = .error .key := by
  decide

/-- **what the constructor stores is what verification and the accessors read**: after the option
loop of `irdl_op_init`, the size array of every attribute-sized construct whose option is listed
is found in the dictionary that this option's own `as_property` flag names — for every order of
the options and every mix of storage kinds. -/
theorem readSize_storeSizes (d : Def) (sizes : Construct → SizeAttr) (order : List Construct)
    (raw : RawSizes) (c : Construct) (hc : (d.get c).opt = .attrSized) (hm : c ∈ order) :
    readSize (d.get c) c (storeSizes d sizes order raw) = sizes c :=
  -- the option of `c` puts its array in place, every other option leaves it there
  foldl_hit (P := fun raw => readSize (d.get c) c raw = sizes c)
    (fun c' _ raw h => by
      by_cases e : c' = c
      · exact e ▸ readSize_storeStep_self d sizes raw c' (e ▸ hc)
      · rw [readSize_storeStep_other d sizes raw c c' e, h])
    hm (fun raw => readSize_storeStep_self d sizes raw c hc) raw

/-- **the constructor never writes a property the definition does not declare**: the
undefined-property loop of `OpDef.verify` accepts the size entries of a built operation. -/
theorem storeSizes_declared (d : Def) (sizes : Construct → SizeAttr) (order : List Construct) :
    undefinedSizeProp d (storeSizes d sizes order {}) = false :=
  foldl_inv (fun raw => undefinedSizeProp d raw = false)
    (fun c _ raw h => undefinedSizeProp_storeStep d sizes raw c h) {} rfl

/-- the size attribute a per-construct build returns is what `view` reads back after the option
loop: the stored array under `AttrSized…Segments`, and nothing otherwise -/
theorem readSize_of_build {α : Type} {norm : Bool} (d : Def) (order : List Construct)
    (hord : ∀ c, (d.get c).opt = .attrSized → c ∈ order) (c : Construct) {args : List (BArg α)}
    {ys : List α} {attr : SizeAttr}
    (hb : build norm (d.get c).kinds (d.get c).opt args = some (ys, attr))
    (s : Construct → SizeAttr) (hs : s c = attr) :
    readSize (d.get c) c (storeSizes d s order {}) = attr := by
  by_cases hc : (d.get c).opt = .attrSized
  · rw [readSize_storeSizes d s order {} c hc (hord c hc), hs]
  · obtain ⟨_, -, -, rfl, -⟩ := build_eq_some hb
    simp [readSize, hc]

/-- **the whole-operation constructor is the four per-construct builds**, and each size array it
stores is read back by `view` (what `OpDef.verify` and the accessors see), whatever the storage
kinds and the order of the options. -/
theorem buildOp_spec (d : Def) (order : List Construct) (a : BuildArgs) (p q : AL Nat Nat)
    (o : Inst) (raw : RawSizes) (hord : ∀ c, (d.get c).opt = .attrSized → c ∈ order)
    (h : buildOp d order a p q = some (o, raw)) :
    ∃ xs : List Unit,
      build true d.operands.kinds d.operands.opt a.operands = some (o.operands, o.operandAttr) ∧
      build false d.results.kinds d.results.opt a.results = some (o.results, o.resultAttr) ∧
      build true d.regions.kinds d.regions.opt a.regions = some (o.regions, o.regionAttr) ∧
      build false d.successors.kinds d.successors.opt a.successors = some (xs, o.succAttr) ∧
      xs.length = o.successors ∧
      undefinedSizeProp d raw = false ∧ view d raw o = o ∧
      o.props = fillDefaults d.props p ∧ o.attrs = fillDefaults d.attrs q := by
  unfold buildOp at h
  split at h
  · rename_i xo ao xr ar xg ag xs as h1 h2 h3 h4
    cases h
    refine ⟨xs, ?_, ?_, ?_, ?_, rfl, storeSizes_declared d _ order, rfl, rfl, rfl⟩
    · rw [h1]
      exact congrArg (fun x => some (xo, x)) (readSize_of_build d order hord .operand h1 _ rfl).symm
    · rw [h2]
      exact congrArg (fun x => some (xr, x)) (readSize_of_build d order hord .result h2 _ rfl).symm
    · rw [h3]
      exact congrArg (fun x => some (xg, x)) (readSize_of_build d order hord .region h3 _ rfl).symm
    · rw [h4]
      exact congrArg (fun x => some (xs, x)) (readSize_of_build d order hord .successor h4 _ rfl).symm
  · cases h

/-- **operations built through the generated constructor verify** (segment part, all four
constructs at once, any option order, any mix of `as_property` flags), and carry no undeclared
property. -/
theorem buildOp_verifies_sizes (d : Def) (order : List Construct) (a : BuildArgs) (p q : AL Nat Nat)
    (o : Inst) (raw : RawSizes) (wf : WfOp d) (hord : ∀ c, (d.get c).opt = .attrSized → c ∈ order)
    (h : buildOp d order a p q = some (o, raw)) :
    let v := view d raw o
    verifySizes d.operands.kinds d.operands.opt v.operands.length v.operandAttr = true ∧
    verifySizes d.results.kinds d.results.opt v.results.length v.resultAttr = true ∧
    verifySizes d.regions.kinds d.regions.opt v.regions.length v.regionAttr = true ∧
    verifySizes d.successors.kinds d.successors.opt v.successors v.succAttr = true ∧
    undefinedSizeProp d raw = false := by
  obtain ⟨xs, h1, h2, h3, h4, hl, hu, hv, -, -⟩ := buildOp_spec d order a p q o raw hord h
  obtain ⟨wO, wR, wG, wS⟩ := wf
  intro v
  rw [show v = o from hv]
  exact ⟨build_verifies _ _ _ _ _ _ wO h1, build_verifies _ _ _ _ _ _ wR h2,
    build_verifies _ _ _ _ _ _ wG h3, hl ▸ build_verifies _ _ _ _ _ _ wS h4, hu⟩

/-- **the accessors of a built operation return exactly the constructor's arguments**, read
through the container each option declares. -/
theorem buildOp_accessors (d : Def) (order : List Construct) (a : BuildArgs) (p q : AL Nat Nat)
    (o : Inst) (raw : RawSizes) (wf : WfOp d) (hord : ∀ c, (d.get c).opt = .attrSized → c ∈ order)
    (h : buildOp d order a p q = some (o, raw)) :
    let v := view d raw o
    (∀ i, i < d.operands.kinds.length →
      accessor d.operands.kinds d.operands.opt v.operandAttr v.operands i
        = .ok ((a.operands.map BArg.toList).getD i [])) ∧
    (∀ i, i < d.results.kinds.length →
      accessor d.results.kinds d.results.opt v.resultAttr v.results i
        = .ok ((a.results.map BArg.toList).getD i [])) ∧
    (∀ i, i < d.regions.kinds.length →
      accessor d.regions.kinds d.regions.opt v.regionAttr v.regions i
        = .ok ((a.regions.map BArg.toList).getD i [])) ∧
    (∃ xs : List Unit, xs.length = v.successors ∧ ∀ i, i < d.successors.kinds.length →
      accessor d.successors.kinds d.successors.opt v.succAttr xs i
        = .ok ((a.successors.map BArg.toList).getD i [])) := by
  obtain ⟨xs, h1, h2, h3, h4, hl, -, hv, -, -⟩ := buildOp_spec d order a p q o raw hord h
  obtain ⟨wO, wR, wG, wS⟩ := wf
  intro v
  rw [show v = o from hv]
  exact ⟨build_accessors _ _ _ _ _ _ wO h1, build_accessors _ _ _ _ _ _ wR h2,
    build_accessors _ _ _ _ _ _ wG h3, xs, hl, build_accessors _ _ _ _ _ _ wS h4⟩

/-- a size entry stored as a property that the definition does not declare makes the operation
fail verification; stored as an undeclared *attribute* it is simply not looked at -/
theorem verifyOpRaw_ok_iff (d : Def) (raw : RawSizes) (o : Inst) :
    verifyOpRaw d raw o = .ok () ↔
      verifyOp d (view d raw o) = .ok () ∧ undefinedSizeProp d raw = false := by
  unfold verifyOpRaw
  cases verifyOp d (view d raw o) with
  | error e => simp
  | ok u => cases undefinedSizeProp d raw <;> simp

/-- non-vacuity, the mixed-storage shape: operand sizes as a property, result sizes as an
attribute, options listed results-first.  The built operation verifies; had the result sizes gone
into the properties (the dictionary of the *first* option), it would be rejected. -/
def exMixed : Def :=
  { operands := { opt := .attrSized, asProp := true,
                  segs := [{ kind := .variadic }, { kind := .optional }] },
    results := { opt := .attrSized, asProp := false,
                 segs := [{ kind := .variadic }, { kind := .optional }] } }

example :
    (buildOp exMixed [.result, .operand]
        { operands := [.seq [1, 2], .none], results := [.seq [3], .one 4] } [] []).map
      (fun (o, raw) =>
        (tag (verifyOpRaw exMixed raw o), AL.get raw.props .operand, AL.get raw.attrs .result,
         tag (verifyOpRaw exMixed
           { props := (Construct.result, SizeAttr.dense true [1, 1]) :: raw.props, attrs := [] } o)))
      = some (0, some (.dense true [2, 0]), some (.dense true [1, 1]), 1) := by
  decide

end Xdsl.OpDef
