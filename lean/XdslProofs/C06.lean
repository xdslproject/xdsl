import XdslProofs.Lemmas.Literals
/-!
# C06 — builtin attributes and types round-trip bit-exactly through text

Property theorems over `XdslModel/Literals.lean` (the literal layer of printer, lexer and parser,
with the C06 fixes applied).  Text is `List Char`, payloads are `List UInt8`.
-/
namespace Xdsl.Literals

/-- "strings with arbitrary Unicode, bytes … print to text that parses back": the lexer's regex and
`StringLiteral.bytes_contents` decode exactly the bytes `print_bytes_literal` escaped, for every
byte string, stop at the closing quote, and report whether an escape was present. -/
theorem unescape_escape (bs : List UInt8) (rest : List Char) :
    scanBody (escape bs ++ '"' :: rest) = some ⟨bs, bs.any needsEsc, rest⟩ := by
  induction bs with
  | nil => simp only [escape, List.nil_append]; rw [scanBody.eq_def]; simp
  | cons b bs ih =>
    simp only [escape, List.append_assoc]
    rw [scanBody_escapeByte, ih]
    simp [Scan.push]

/-- The printed literal lexes to one token holding the original payload; it is a `BYTES_LIT` exactly
when the payload is not valid UTF-8 (fixed lexer). -/
theorem lexclass_escape (bs : List UInt8) (rest : List Char) :
    lexStringLiteral (printBytesLiteral bs ++ rest) =
      some (if isUtf8 bs then .stringLit else .bytesLit, bs, rest) := by
  have h := unescape_escape bs rest
  simp only [printBytesLiteral, List.cons_append, List.append_assoc, List.nil_append, lexStringLiteral, h]
  cases hesc : bs.any needsEsc with
  | false => simp [isUtf8_of_no_esc bs hesc]
  | true => cases hu : isUtf8 bs <;> simp

/-- What a printed string or bytes literal is read back as, for every payload: the `StringAttr` of
the decoded text when the payload is valid UTF-8, the `BytesAttr` otherwise (both attributes share
the literal syntax) — so a `BytesAttr` round-trips exactly when its payload is not valid UTF-8. -/
theorem parseStrAttr_printBytesLiteral (bs : List UInt8) :
    parseStrAttr (printBytesLiteral bs) = some ((utf8Decode? bs).elim (.bytes bs) .str) := by
  have h := lexclass_escape bs []
  rw [List.append_nil] at h
  unfold parseStrAttr
  rw [h, isUtf8]
  cases hd : utf8Decode? bs <;> simp [hd]

/-- Every Unicode string (any scalar values: control characters, quotes, backslashes, non-BMP)
prints to a literal that is lexed as `STRING_LIT` and parsed to the same `StringAttr`. -/
theorem string_literal_roundtrip (s : List Char) :
    parseStrAttr (printStringLiteral s) = some (.str s) := by
  rw [printStringLiteral, parseStrAttr_printBytesLiteral, utf8Decode_utf8]; rfl

/-- PARTIAL (known finding): a `BytesAttr` round-trips when its payload is not valid UTF-8.
Full statement `∀ bs, parseStrAttr (printBytesLiteral bs) = some (.bytes bs)` is false of the code,
see `bytes_literal_counterexample`: both attributes share the literal syntax. -/
theorem bytes_literal_roundtrip_partial (bs : List UInt8) (h : isUtf8 bs = false) :
    parseStrAttr (printBytesLiteral bs) = some (.bytes bs) := by
  rw [parseStrAttr_printBytesLiteral, Option.isNone_iff_eq_none.1 (Option.isSome_eq_false_iff.1 h)]; rfl

/-- A `BytesAttr` whose payload is the UTF-8 encoding of some string is re-read as that
`StringAttr` (e.g. `BytesAttr(b"")`, `BytesAttr(b"abc")`). -/
theorem bytes_literal_counterexample (s : List Char) :
    parseStrAttr (printBytesLiteral (utf8 s)) = some (.str s) ∧
    (StrAttr.str s ≠ StrAttr.bytes (utf8 s)) :=
  ⟨string_literal_roundtrip s, by simp⟩

/-- The lexer of the unfixed tree classified `"\C3\A9"` (what `StringAttr("é")` prints) as
`BYTES_LIT`: the defect repaired by `fix: lexer classifies a string literal as STRING_LIT when its
bytes decode as UTF-8`. -/
theorem old_lexer_counterexample :
    lexStringLiteralOld (printStringLiteral ['é']) = some (.bytesLit, [0xC3, 0xA9], []) := by
  decide +kernel

/-- non-vacuity: a string with a quote, a backslash, a newline, NUL and a non-BMP character -/
example : printStringLiteral ['"', '\\', '\n', '\x00', '😀'] = "\"\\22\\\\\\0A\\00\\F0\\9F\\98\\80\"".toList := by
  decide +kernel

/-- "integers of any width and signedness": whatever `IntegerAttr(v, ty)` stores (the normalised
value `v'`), `print_builtin` emits `true`/`false` for `i1` and `v' : ty` otherwise, and that text is
lexed and parsed back to the same type and the same stored value — for every width (0, 1, … , > 64),
signless/signed/unsigned and `index`, incl. the boundary values of each range. -/
theorem int_roundtrip (ty : IntTy) (v v' : Int) (h : intAttrCtor ty v = some v') :
    parseIntAttr (printIntAttr ty v') = some (ty, v') :=
  parseIntAttr_printIntAttr ty v' (intAttrCtor_idem h)

/-- non-vacuity / boundary instances: `255 : i8` is stored as `-1`; `i1` true is stored as `-1`;
the `ui64` maximum; `128 : si8` is refused. -/
example : intAttrCtor (.int .signless 8) 255 = some (-1) ∧
    printIntAttr (.int .signless 8) (-1) = "-1 : i8".toList ∧
    intAttrCtor (.int .signless 1) 1 = some (-1) ∧ printIntAttr (.int .signless 1) (-1) = "true".toList ∧
    printIntAttr (.int .unsigned 64) 18446744073709551615 = "18446744073709551615 : ui64".toList ∧
    intAttrCtor (.int .signed 8) 128 = none := by decide +kernel

/-- "every element of dense attributes, preserved bit for bit": unpacking the `struct` encoding of a
value in the range of its format gives the value back (little-endian two's complement, 1/2/4/8
bytes, signed and unsigned formats). -/
theorem pack_unpack (signed : Bool) (n : Nat) (v : Int) (hn : 0 < n)
    (h : (packInt? signed n v).isSome = true) : unpackLE signed (packLE n v) = v :=
  unpackLE_packLE signed n v hn h

/-- and packing what was unpacked gives the payload bytes back (`n` bytes in, `n` bytes out) -/
theorem unpack_pack_bytes (bs : List UInt8) : packNat bs.length (unpackLEU bs) = bs :=
  packNat_unpackLEU bs

/-- The hexadecimal form used for NaN, infinities and dense payloads: the digits of the big-endian
bytes denote the little-endian integer, which `int.to_bytes(size, "little")` turns back into the
same bytes. -/
theorem hex_bits_roundtrip (bs : List UInt8) :
    toBytesLE? bs.length (ofDigits 16 (hexOfBytesL bs.reverse)) = some bs := by
  rw [ofDigits_hexOfBytesL_reverse, toBytesLE?_unpackLEU]

example : packLE 2 (-2) = [0xFE, 0xFF] ∧ unpackLE true [0xFE, 0xFF] = -2 ∧
    unpackLE false [0xFE, 0xFF] = 65534 ∧ packInt? true 1 128 = none := by decide +kernel

/-- One integer element of a dense attribute or dense array (`i1`…`i64`, `si`/`ui`, `index`): the
bytes `from_list` packed unpack to the normalised value, which prints (`true`/`false` for `i1`) to
a text that is parsed, normalised and packed to the same bytes. -/
theorem dense_elem_roundtrip (ty : IntTy) (v : Int) (chunk : List UInt8)
    (h : denseElemBytes? ty v = some chunk) :
    ∃ n, ty.size? = some n ∧ chunk.length = n ∧
      (parseDenseIntElem ty (printInt (unpackLE ty.signedFmt chunk) ty.isI1)).bind
        (denseElemBytes? ty) = some chunk := by
  rw [denseElemBytes?_eq] at h
  obtain ⟨v', hv', h⟩ := Option.bind_eq_some_iff.1 h
  obtain ⟨n, hn, hp⟩ := Option.bind_eq_some_iff.1 h
  obtain rfl := packInt?_some hp
  refine ⟨n, hn, packLE_length n v', ?_⟩
  -- the chunk unpacks to the stored value `v'`, whose text is normalised to `v'` and packed again
  rw [unpackLE_packLE _ n v' (size?_pos ty n hn) (Option.isSome_of_eq_some hp),
    funext (denseElemBytes?_eq ty), ← Option.bind_assoc,
    parseDenseIntElem_printInt ty v' (intAttrCtor_idem hv')]
  simp only [Option.bind_some, hn, hp]

/-- "dense element … attributes (splat, empty, multi-element, i1, index, hex/large)": for every
payload `from_list` builds from accepted values `vs` of an integer element type with a `struct`
format, the printed body — `<>` when empty, one element when all bit patterns are equal (fixed
`is_splat`), a `"0x…"` string above 100 elements, the element list otherwise — parses back to
exactly the payload bytes.  (Nesting of the list by shape is token skeleton, C04; float elements are
`float_tree_roundtrip` per element.) -/
theorem dense_roundtrip (ty : IntTy) (n : Nat) (hn : ty.size? = some n) (vs : List Int)
    (cs : List (List UInt8)) (h : mapM? (denseElemBytes? ty) vs = some cs) :
    parseDenseInt ty vs.length (printDenseInt ty cs.flatten) = some cs.flatten := by
  rw [mapM?_eq_some_iff] at h
  have hchunk : ∀ c ∈ cs, c.length = n ∧
      (parseDenseIntElem ty (printInt (unpackLE ty.signedFmt c) ty.isI1)).bind
        (denseElemBytes? ty) = some c := by
    intro c hc
    obtain ⟨v, _, hv⟩ := List.mem_map.1 (h ▸ List.mem_map_of_mem hc)
    obtain ⟨n', hn', hl, he⟩ := dense_elem_roundtrip ty v c hv
    exact ⟨(Option.some.inj (hn.symm.trans hn')) ▸ hl, he⟩
  rw [← List.length_map (as := vs), h, List.length_map]
  exact dense_chunks_roundtrip ty n hn cs (fun c hc => (hchunk c hc).1) fun c hc => (hchunk c hc).2

/-- non-vacuity: an `i1` splat, a mixed `i16` list, the value 255 stored in `i8` as `-1` -/
example : printDenseInt (.int .signless 1) [0xFF, 0xFF] = .splat "true".toList ∧
    parseDenseInt (.int .signless 1) 2 (.splat "true".toList) = some [0xFF, 0xFF] ∧
    printDenseInt (.int .signless 16) [1, 0, 0xFF, 0xFF] = .flat ["1".toList, "-1".toList] ∧
    denseElemBytes? (.int .signless 8) 255 = some [0xFF] ∧
    printDenseInt .index [] = .empty := by decide +kernel

/-- "floats of each supported precision including NaN, infinities and negative zero … preserved bit
for bit": for every oracle satisfying the stated laws of CPython/`struct` (`Lawful O`), every float
type and every value `x` that a `FloatAttr` of that type can hold (`round ty x = x`, i.e. already
constrained to the type's precision, NaN payloads included), each branch of `Printer.print_float`
— hex bit pattern for NaN/±inf, `%.5e` when exact, `%.9g`/`%.17g` when they contain a `.`,
upper-case hex bits otherwise, `repr` for the other widths — yields a text that the lexer reads as
ONE number token (a `FLOAT_LIT`, or a hexadecimal `INTEGER_LIT` taken as a bit pattern) and that
parses back to the bit-identical value (`O.F` = bit patterns; equality is bit identity). -/
theorem float_tree_roundtrip (O : FloatOracle) (hO : Lawful O) (ty : FTy) (x : O.F)
    (hx : O.round ty x = x) : parseFloatLit O ty (printFloat O ty x) = some x := by
  have hplen := hO.pack_length ty x
  have hpne : O.pack ty x ≠ [] := by
    intro h; have := hO.size_pos ty; rw [h] at hplen; simp at hplen; omega
  -- either hexadecimal form of the packed bytes is read back as `x`
  have hhex : ∀ hs, Hex hs (unpackLEU (O.pack ty x)) →
      parseFloatLit O ty ('0' :: 'x' :: hs) = some x :=
    fun hs h => by
      rw [parseFloatLit_hex O ty hs _ h hplen]
      -- `unpack ∘ pack` is `round`, and `x` is a fixed point of it
      show some (O.round ty (O.round ty x)) = some x
      rw [hx, hx]
  unfold printFloat printFloatObs observe
  simp only []
  by_cases hni : (O.isNan x || O.isInf x) = true
  · -- NaN / infinities: lower-case hex of the big-endian bytes
    simp only [hni, if_true]
    exact hhex _ (hex_hexOfBytesL _ hpne)
  · have hfin : O.finite x := by
      simp only [Bool.or_eq_true, not_or, Bool.not_eq_true] at hni
      exact hni
    simp only [hni, Bool.false_eq_true, if_false]
    by_cases h5 : O.pyEq (O.round ty (O.parse (ins0 (O.fmt5e x)))) x = true
    · simp only [h5, if_true]
      rw [parseFloatLit_text O hO ty _ (hO.fmt5e_shape x hfin), hO.fmt5e_exact ty x hfin h5]
    · simp only [h5, Bool.false_eq_true, if_false]
      simp only [Bool.not_eq_true] at h5
      -- `%.9g` / `%.17g`: the text if it has a `.`, else the upper-case hex bit pattern
      have hg : ∀ s : List Char, (s.contains '.' = true → floatLitText s) →
          O.round ty (O.parse s) = x →
          parseFloatLit O ty (if s.contains '.' = true then s
            else '0' :: 'x' :: toHexU (unpackLEU (O.pack ty x))) = some x := by
        intro s hshape hrt
        split
        · next hdot => rw [parseFloatLit_text O hO _ _ (hshape hdot), hrt]
        · exact hhex _ (hex_toHexU _)
      have hrepr : parseFloatLit O ty (O.repr x) = some x := by
        rw [parseFloatLit_text O hO _ _ (hO.repr_shape _ x hfin hx h5), hO.repr_roundtrip _ x hfin hx]
      cases ty with
      | f32 => exact hg _ (hO.fmt9g_shape x hfin) (hO.fmt9g_roundtrip x hfin hx)
      | f64 => exact hg _ (hO.fmt17g_shape x hfin) (hO.fmt17g_roundtrip x hfin hx)
      | f16 => exact hrepr
      | bf16 => exact hrepr
      | other => exact hrepr

/-- "floats … including NaN, infinities and negative zero … preserved bit for bit", for the helper
attribute `builtin.FloatData` (a bare Python float, FIXED code): for every oracle satisfying the
stated laws of CPython/`struct` and EVERY value `x` (no hypothesis: NaNs of any payload and sign,
both infinities, both zeros, subnormals), the text `FloatData.print_parameter` writes between the
angle brackets — the upper-case hexadecimal binary64 bit pattern for a non-finite value, else
`repr(x)` with `.0` spliced in front of the exponent when it has no `.` — is read by the lexer as
ONE number token and `FloatData.parse_parameter` returns the bit-identical value.  (Before the fix
`inf`/`-inf`/`nan` were printed as bare words, which `parse_number` rejects.) -/
theorem floatdata_roundtrip (O : FloatOracle) (hO : Lawful O) (hD : LawfulData O) (x : O.F) :
    parseFloatData O (printFloatData O x) = some x := by
  unfold printFloatData printFloatDataObs
  simp only []
  by_cases hni : (O.isNan x || O.isInf x) = true
  · simp only [hni, if_true]
    rw [parseFloatData_hex O _ (O.pack .f64 x) (hex_toHexU _)
      (by rw [hO.pack_length, hD.size_f64]), hD.bits_roundtrip]
  · have hfin : O.finite x := by
      simp only [Bool.or_eq_true, not_or, Bool.not_eq_true] at hni
      exact hni
    simp only [hni, Bool.false_eq_true, if_false]
    rw [parseFloatData_text O hO _ (hD.fd_shape x hfin), hD.fd_exact x hfin]

/-- `float()` of the two-point oracle `toyOracle` below (`false` = 1.0, `true` = -1.0), which satisfies
every law (non-vacuity of `Lawful`, `LawfulData`): the parity of the leading `-` signs -/
def toyParse : List Char → Bool
  | '-' :: t => !(toyParse t)
  | _ => false

def toyOracle : FloatOracle where
  F := Bool
  isNan := fun _ => false
  isInf := fun _ => false
  pyEq := fun a b => a == b
  neg := fun a => !a
  ofInt := fun v => decide (v < 0)
  fmt5e := fun b => if b then "-1.00000e+00".toList else "1.00000e+00".toList
  fmt9g := fun b => if b then "-1".toList else "1".toList
  fmt17g := fun b => if b then "-1".toList else "1".toList
  repr := fun b => if b then "-1.0".toList else "1.0".toList
  parse := toyParse
  pack := fun _ b => [0, 0, 0, 0, 0, 0, 0, if b then 0x80 else 0]
  unpack := fun _ bs => decide (bs.getLast? = some 0x80)
  size := fun _ => 8

theorem toyOracle_lawful : Lawful toyOracle where
  size_pos := fun _ => (by decide : 0 < 8)
  pack_length := fun _ _ => rfl
  parse_neg := fun _ => rfl
  fmt5e_shape := fun x _ => by cases (x : Bool) <;> (show isFloatLit _ = true; decide +kernel)
  fmt5e_exact := fun _ x _ _ => by cases (x : Bool) <;> rfl
  fmt9g_shape := fun x _ h => by cases (x : Bool) <;> exact absurd h (by decide)
  fmt9g_roundtrip := fun x _ _ => by cases (x : Bool) <;> rfl
  fmt17g_shape := fun x _ h => by cases (x : Bool) <;> exact absurd h (by decide)
  fmt17g_roundtrip := fun x _ _ => by cases (x : Bool) <;> rfl
  repr_shape := fun _ x _ _ _ => by cases (x : Bool) <;> (show isFloatLit _ = true; decide +kernel)
  repr_roundtrip := fun _ x _ _ => by cases (x : Bool) <;> rfl

example : printFloat toyOracle .f32 true = "-1.000000e+00".toList ∧
    parseFloatLit toyOracle .f32 (printFloat toyOracle .f32 true) = some true :=
  ⟨by decide +kernel, float_tree_roundtrip toyOracle toyOracle_lawful .f32 true rfl⟩

theorem toyOracle_lawfulData : LawfulData toyOracle where
  size_f64 := rfl
  bits_roundtrip := fun x => by cases (x : Bool) <;> rfl
  fd_shape := fun x _ => by cases (x : Bool) <;> (show isFloatLit _ = true; decide +kernel)
  fd_exact := fun x _ => by cases (x : Bool) <;> rfl

example : printFloatData toyOracle true = "-1.0".toList ∧
    parseFloatData toyOracle (printFloatData toyOracle true) = some true :=
  ⟨by decide +kernel, floatdata_roundtrip toyOracle toyOracle_lawful toyOracle_lawfulData true⟩

/-- `FloatData` on concrete observations: `inf`, a NaN with payload and sign, `1e+20`, `-0.0`; the
printed bit pattern is one hexadecimal `INTEGER_LIT` that fits 8 bytes, `1.0e+20` is one `FLOAT_LIT`
(the unfixed `1e+20` lexes as the integer `1` followed by `e+20`; the unfixed `inf` is no number) -/
example : printFloatDataObs ⟨true, [0, 0, 0, 0, 0, 0, 0xF0, 0x7F], "inf".toList⟩ = "0x7FF0000000000000".toList ∧
    printFloatDataObs ⟨true, [1, 0, 0, 0, 0, 0, 0xF8, 0xFF], "nan".toList⟩ = "0xFFF8000000000001".toList ∧
    lexNumber "0xFFF8000000000001".toList = some (.int 0xFFF8000000000001 true, []) ∧
    toBytesLE? 8 0xFFF8000000000001 = some [1, 0, 0, 0, 0, 0, 0xF8, 0xFF] ∧
    toBytesLE? 8 0x10000000000000000 = none ∧
    printFloatDataObs ⟨false, [], "1e+20".toList⟩ = "1.0e+20".toList ∧
    lexNumber "1.0e+20".toList = some (.float "1.0e+20".toList, []) ∧
    lexNumber "1e+20".toList = some (.int 1 false, "e+20".toList) ∧
    lexNumber "inf".toList = none ∧
    printFloatDataObs ⟨false, [], "-0.0".toList⟩ = "-0.0".toList := by decide +kernel

/-- the hexadecimal branches on concrete observations: NaN of f32 and `123456792.0 : f32` -/
example : printFloatObs ⟨.f32, true, [0x00, 0x00, 0xC0, 0x7F], [], false, [], [], []⟩ = "0x7fc00000".toList ∧
    printFloatObs ⟨.f32, false, [0xA3, 0x79, 0xEB, 0x4C], "1.23457e+08".toList, false,
      "123456792".toList, [], []⟩ = "0x4CEB79A3".toList ∧
    lexNumber "0x4CEB79A3".toList = some (.int 0x4CEB79A3 true, []) ∧
    toBytesLE? 4 0x4CEB79A3 = some [0xA3, 0x79, 0xEB, 0x4C] := by decide +kernel

end Xdsl.Literals
