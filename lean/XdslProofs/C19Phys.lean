import XdslModel.PhysReg
import XdslProofs.C19
/-!
# C19 — physical identity of registers

"no two simultaneously live values hold the same PHYSICAL register": the IR names registers through
typed names of several widths (`rax`/`eax`/`ax`/`al`, `xmm3`/`ymm3`/`zmm3`, `t0`/`x5`); the validator
and the allocator models work on `PhysReg.phys`, the number of the register of the machine.
-/
namespace Xdsl.PhysReg
open Xdsl.RegMachine Xdsl.RegAlloc

/-- views of different width of one register are one physical register (`zmm3` = `ymm3` = `xmm3`,
`rax` = `eax` = `ax` = `al`) -/
theorem phys_width_irrelevant (f : File) (w w' i : Nat) (b : Bool) :
    phys ⟨f, w, i, b⟩ = phys ⟨f, w', i, b⟩ := rfl

/-- where the protocol numbers of the finite (`false`) / infinite (`true`) registers of a file start -/
def rangeFirst (f : File) (b : Bool) : Nat := if b then infBase f else base f

/-- how many of them exist (`wf`) -/
def rangeCount (f : File) (b : Bool) : Nat := if b then 500 else size f

theorem phys_eq (n : Name) : phys n = rangeFirst n.file n.inf + n.idx := by
  unfold phys rangeFirst; split <;> rfl

theorem wf_iff (n : Name) : wf n = true ↔ n.idx < rangeCount n.file n.inf := by
  unfold wf rangeCount; split <;> exact decide_eq_true_iff

/-- the eight ranges of protocol numbers do not overlap (a fixed table) -/
theorem ranges_disjoint (f f' : File) (b b' : Bool) (h : ¬ (f = f' ∧ b = b')) :
    rangeFirst f b + rangeCount f b ≤ rangeFirst f' b'
      ∨ rangeFirst f' b' + rangeCount f' b' ≤ rangeFirst f b := by
  cases f <;> cases f' <;> cases b <;> cases b' <;> first | decide | exact absurd ⟨rfl, rfl⟩ h

/-- the protocol number identifies the register of the machine: two existing names have the same number
iff they agree on file, index and finite / infinite — i.e. iff they are views of one register -/
theorem phys_eq_iff (n m : Name) (hn : wf n = true) (hm : wf m = true) :
    phys n = phys m ↔ (n.file = m.file ∧ n.idx = m.idx ∧ n.inf = m.inf) := by
  rw [wf_iff] at hn hm
  rw [phys_eq, phys_eq]
  constructor
  · intro h
    by_cases hc : n.file = m.file ∧ n.inf = m.inf
    · rw [hc.1, hc.2] at h
      exact ⟨hc.1, Nat.add_left_cancel h, hc.2⟩
    · have := ranges_disjoint _ _ _ _ hc
      omega
  · rintro ⟨hf, hi, hb⟩
    rw [hf, hi, hb]

/-- what `RegisterStack` needs of `register_pool_key` / `index`: the key (pool, index) under which the
stack keeps a name determines the physical register and is determined by it.  (A register type that
gets a pool of its own although it is a view of another type's registers — `zmmN` apart from `ymmN` —
breaks the direction `←`: one register is then available twice.) -/
theorem pool_key_iff_phys (n m : Name) (hn : wf n = true) (hm : wf m = true) :
    (poolKey n = poolKey m ∧ poolIndex n = poolIndex m) ↔ phys n = phys m := by
  rw [phys_eq_iff n m hn hm]
  obtain ⟨nf, nw, ni, nb⟩ := n
  obtain ⟨mf, mw, mi, mb⟩ := m
  cases nb <;> cases mb <;> simp [poolKey, poolIndex] <;> omega

/-- `validator_sound` / `no_shared_register` for an allocation given by NAMES: if the validator accepts
the physical registers of the names then (a) the register machine indexed by physical registers returns
the SSA results for every semantics, and (b) at every program point two different live values are never
views of one register — whatever the widths of their names (`%a : zmm1` and `%b : ymm1` clash) — unless
both sit in the hard-wired zero register. -/
theorem validator_sound_names (z : Bool) (nm : ValId → Name) (p : Prog)
    (h : interferes z (fun v => phys (nm v)) p = false) :
    (∀ (f : Sem) (inputs : List Word) (rf0 : Reg → Word), inputs.length = p.args.length →
      execRegs z (fun v => phys (nm v)) f p inputs rf0 = execSSA f p inputs)
    ∧ ∀ (pre os : List Op), p.ops = pre ++ os →
        ∀ v ∈ liveBefore os p.rets, ∀ w ∈ liveBefore os p.rets, v ≠ w →
          (nm v).file = (nm w).file → (nm v).idx = (nm w).idx → (nm v).inf = (nm w).inf →
          (z = true ∧ phys (nm v) = 0) := by
  refine ⟨validator_sound z _ p h, ?_⟩
  intro pre os hs v hv w hw hne hf hi hb
  refine no_shared_register z _ p h pre os hs v hv w hw hne ?_
  simp [phys, hf, hi, hb]

/-- non-vacuity: `zmm1` and `ymm1` live together are rejected, `zmm1` and `ymm2` accepted -/
example : interferes false (fun v => phys ([⟨.x86V, 512, 1, false⟩, ⟨.x86V, 256, 1, false⟩].getD v ⟨.x86G, 64, 7, false⟩))
    ⟨[], [⟨0, 3, 0, [], [0], []⟩, ⟨0, 3, 0, [], [1], []⟩], [0, 1]⟩ = true := by decide

example : interferes false (fun v => phys ([⟨.x86V, 512, 1, false⟩, ⟨.x86V, 256, 2, false⟩].getD v ⟨.x86G, 64, 7, false⟩))
    ⟨[], [⟨0, 3, 0, [], [0], []⟩, ⟨0, 3, 0, [], [1], []⟩], [0, 1]⟩ = false := by decide

end Xdsl.PhysReg
