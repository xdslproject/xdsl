import XdslProofs.C18
import XdslProofs.Lemmas.ArgSpecTyped
/-!
# C18 — typed level: `ArgSpecConvertible.spec()` then `from_spec` (and through text)

"for every registered pass and every assignment of values of its supported option types […] the
printed pipeline specification parses back into an equal pass".

Two regions are excluded by explicit hypotheses (`FieldOK`), because the text format has a single
spelling for two different values there (known findings, see the `…_counterexample` theorems):
* the empty tuple in a field whose type is a union containing `None` (`key` alone means `None`);
* a 1-tuple `(x,)` in a field whose type also admits the scalar `x` (`key=x` means the scalar).
-/
namespace Xdsl.ArgSpec

section
variable {F : Type}

/-- the hypotheses under which a field value survives `spec()` → `_convert_arg_to_type` -/
structure FieldOK (ty : Ty) (v : FVal F) : Prop where
  typed : isa v ty = true
  /-- `None` only in a union (a field of type `None` alone is not an option type) -/
  none_union : v = .none → isUnion ty = true
  /-- excluded region 1 -/
  not_empty_in_optional : v = .tup [] → ¬ (isUnion ty = true ∧ allowsNone ty = true)
  /-- excluded region 2 -/
  not_one_tuple_of_admitted_scalar : ∀ x, v = .tup [x] → isa (.scalar x) ty = false

/-- A value of a supported option type, turned into the argument list `spec()` emits and converted
back by `_convert_arg_to_type`, is the same value — outside the two excluded regions. -/
theorem field_roundtrip_partial (ty : Ty) (v : FVal F) (h : FieldOK ty v) : convert (argList v) ty = .ok v := by
  cases v with
  | none =>
    have h1 := h.none_union rfl
    have h2 := allowsNone_of_isa_none h.typed
    simp [convert, argList, h1, h2]
  | scalar x =>
    simp [convert, argList, h.typed]
  | tup vs =>
    cases vs with
    | nil =>
      have h2 := h.not_empty_in_optional rfl
      have ht := h.typed
      by_cases hu : isUnion ty = true
      · have hn : allowsNone ty = false := by
          cases hn : allowsNone ty
          · rfl
          · exact absurd ⟨hu, hn⟩ h2
        simp [convert, argList, hu, hn, ht]
      · simp [convert, argList, hu, ht]
    | cons x r =>
      cases r with
      | nil =>
        have h3 := h.not_one_tuple_of_admitted_scalar x rfl
        simp [convert, argList, h3, h.typed]
      | cons y r' =>
        simp [convert, argList, h.typed]

/-- Region 1 (known finding): `restrict: tuple[int, ...] | None` with value `()` comes back as `None`. -/
theorem empty_tuple_optional_counterexample :
    convert (F := Unit) (argList (.tup [])) [Alt.tuple [Base.int], Alt.none] = .ok .none := by
  rfl

/-- Region 2 (known finding): `flags: Literal["fast","none"] | tuple[str, ...]` with value `("fast",)`
comes back as the scalar `"fast"`. -/
theorem one_tuple_counterexample :
    convert (F := Unit) (argList (.tup [.str ['f', 'a', 's', 't']]))
      [Alt.base (Base.lit [['f', 'a', 's', 't'], ['n', 'o', 'n', 'e']]), Alt.tuple [Base.str]] =
    .ok (.scalar (.str ['f', 'a', 's', 't'])) := by
  rfl

/-- with the repair: `()` is accepted for a union with a tuple type and without `None` -/
example :
    convert (F := Unit) (argList (.tup []))
      [Alt.base (Base.lit [['f', 'a', 's', 't'], ['n', 'o', 'n', 'e']]), Alt.tuple [Base.str]] = .ok (.tup []) := by
  rfl

variable [DecidableEq F]

/-- A pass class as the model sees it is well formed: field names pairwise distinct and free of `-`
(they are Python identifiers). -/
structure ClassOK (cls : PassClass F) : Prop where
  names_nodup : (cls.fields.map (·.name)).Nodup
  names_normal : ∀ f ∈ cls.fields, normalizeKey f.name = f.name

/-- `from_spec(spec(p)) = p` for every instance whose field values are `FieldOK`, with or without
`include_default`. -/
theorem pass_roundtrip_partial (incl : Bool) (cls : PassClass F) (vals : List (FVal F)) (hc : ClassOK cls)
    (hlen : vals.length = cls.fields.length)
    (hok : ∀ fv ∈ cls.fields.zip vals, FieldOK fv.1.ty fv.2) :
    fromSpec cls (toSpec incl cls vals) = .ok vals := by
  have hnorm := normalizeParams_id _
    (toSpecParams_keys (P := fun k => normalizeKey k = k) incl vals hc.names_normal)
    ((toSpecParams_keys_sublist incl cls.fields vals).nodup hc.names_nodup)
  simp [fromSpec, toSpec, hnorm, fromSpecFields_toSpecParams incl cls.fields vals hlen hc.names_nodup
    (fun fv h => field_roundtrip_partial fv.1.ty fv.2 (hok fv h))]

/-- The whole chain of the property: `str(p.spec())` → `parse_pipeline` → `from_spec` gives back the
field values of `p`, for every class with identifier names and every `FieldOK` instance. -/
theorem pass_text_roundtrip_partial (O : FloatOracle F) (incl : Bool) (cls : PassClass F)
    (vals : List (FVal F)) (hc : ClassOK cls) (hname : IsName cls.name)
    (hfields : ∀ f ∈ cls.fields, IsName f.name) (hlen : vals.length = cls.fields.length)
    (hok : ∀ fv ∈ cls.fields.zip vals, FieldOK fv.1.ty fv.2) :
    ∃ s, parsePipeline O.ofText (printSpec O.repr (toSpec incl cls vals)) = .ok [s] ∧
      fromSpec cls s = .ok vals :=
  ⟨_, spec_roundtrip O _ ⟨hname, toSpecParams_keys incl vals hfields,
      (toSpecParams_keys_sublist incl cls.fields vals).nodup hc.names_nodup⟩,
    pass_roundtrip_partial incl cls vals hc hlen hok⟩

end

/-! ### Non-vacuity -/

/-- `FieldOK` is inhabited on each kind of value: an `int | None` field holding `None`, an
`int` field holding `7`, a `tuple[int, ...]` field holding `()` and `(1,)`. -/
example : FieldOK (F := Unit) [Alt.base .int, Alt.none] .none :=
  ⟨rfl, (fun _ => rfl), (fun h => by cases h), (fun _ h => by cases h)⟩
example : FieldOK (F := Unit) [Alt.base .int] (.scalar (.int 7)) :=
  ⟨rfl, (fun h => by cases h), (fun h => by cases h), (fun _ h => by cases h)⟩
example : FieldOK (F := Unit) [Alt.tuple [.int]] (.tup []) :=
  ⟨rfl, (fun h => by cases h), (fun _ h => by simp [isUnion] at h), (fun _ h => by cases h)⟩
example : FieldOK (F := Unit) [Alt.tuple [.int]] (.tup [.int 1]) :=
  ⟨rfl, (fun h => by cases h), (fun h => by cases h), (fun x h => by cases h; rfl)⟩

/-- the theorem applied: `p{r=1,2}` for a field `r: tuple[int, ...] | None = None` -/
example :
    fromSpec (F := Unit) ⟨['p'], [⟨['r'], [Alt.tuple [.int], Alt.none], some .none⟩]⟩
      (toSpec false ⟨['p'], [⟨['r'], [Alt.tuple [.int], Alt.none], some .none⟩]⟩ [.tup [.int 1, .int 2]]) =
    .ok [.tup [.int 1, .int 2]] :=
  pass_roundtrip_partial false _ _ ⟨by simp, (by intro f hf; simp at hf; subst hf; rfl)⟩ rfl
    (by intro fv h
        simp at h
        subst h
        exact ⟨rfl, (fun h => by cases h), (fun h => by cases h), (fun _ h => by cases h)⟩)

end Xdsl.ArgSpec
