import XdslModel.Skeleton
import XdslProofs.Lemmas.AL
/-!
Namings of the identities of an IR (`nameT`, `printSk`):

* only the names of the identities that occur matter; a naming that is injective on them extends to
  an injective naming;
* the named tree has the sort of the IR and omits only labels a text can omit (`shape_nameT`,
  `labelsOK_nameT`: the hypotheses of `parseT_pr` in `Lemmas/SkeletonSyntax.lean`);
* printing commutes with an injective renaming of identities when the names follow the renaming;
* a naming read off two parallel lists (values in some order, the names allocated for them).
-/
namespace Xdsl.Skeleton

/-- the identities of values occurring in a tree (definitions and uses) -/
def vals : IR → List Nat
  | .nil => []
  | .op h rs nx => h.results ++ (h.operands ++ (vals rs ++ vals nx))
  | .region bs nx => vals bs ++ vals nx
  | .block _ args ops nx => args.map (·.1) ++ (vals ops ++ vals nx)

/-- the identities of blocks occurring in a tree (blocks and successor references) -/
def blks : IR → List Nat
  | .nil => []
  | .op h rs nx => h.succs ++ (blks rs ++ blks nx)
  | .region bs nx => blks bs ++ blks nx
  | .block b _ ops nx => b :: (blks ops ++ blks nx)

theorem nameT_congr (nv nb nv' nb' : Nat → Str) (t : IR) :
    ∀ e, (∀ x ∈ vals t, nv x = nv' x) → (∀ x ∈ blks t, nb x = nb' x) →
      nameT nv nb e t = nameT nv' nb' e t := by
  induction t with
  | nil => intro e _ _; rfl
  | op h rs nx ihr ihn =>
    intro e hv hb
    simp only [vals, blks, List.mem_append] at hv hb
    simp only [nameT, Hdr.map]
    rw [ihr false (fun x hx => hv x (Or.inr (Or.inr (Or.inl hx)))) (fun x hx => hb x (Or.inr (Or.inl hx))),
      ihn false (fun x hx => hv x (Or.inr (Or.inr (Or.inr hx)))) (fun x hx => hb x (Or.inr (Or.inr hx))),
      List.map_congr_left (l := h.results) (fun x hx => hv x (Or.inl hx)),
      List.map_congr_left (l := h.operands) (fun x hx => hv x (Or.inr (Or.inl hx))),
      List.map_congr_left (l := h.succs) (fun x hx => hb x (Or.inl hx))]
  | region bs nx ihb ihn =>
    intro e hv hb
    simp only [vals, blks, List.mem_append] at hv hb
    simp only [nameT]
    rw [ihb true (fun x hx => hv x (Or.inl hx)) (fun x hx => hb x (Or.inl hx)),
      ihn false (fun x hx => hv x (Or.inr hx)) (fun x hx => hb x (Or.inr hx))]
  | block b args ops nx iho ihn =>
    intro e hv hb
    simp only [vals, blks, List.mem_append, List.mem_cons, List.mem_map] at hv hb
    simp only [nameT, mapArgs]
    rw [iho false (fun x hx => hv x (Or.inr (Or.inl hx))) (fun x hx => hb x (Or.inr (Or.inl hx))),
      ihn false (fun x hx => hv x (Or.inr (Or.inr hx))) (fun x hx => hb x (Or.inr (Or.inr hx))),
      hb b (Or.inl rfl),
      List.map_congr_left (l := args) (f := fun a : Nat × Opq => (nv a.1, a.2))
        (g := fun a => (nv' a.1, a.2)) (fun a ha => by rw [hv a.1 (Or.inl ⟨a, ha, rfl⟩)])]

theorem shape_nameT (defs : Nat → List Nat) (nv nb : Nat → Str) (t : IR) :
    ∀ (m : Mode) (e : Bool), shape defs m (nameT nv nb e t) = shape defs m t := by
  induction t with
  | nil => intro m e; cases m <;> rfl
  | op h rs nx ihr ihn =>
    intro m e
    cases m <;> simp only [nameT, shape]
    rw [ihr, ihn]; rfl
  | region bs nx ihb ihn =>
    intro m e
    cases m <;> simp only [nameT, shape]
    rw [ihb, ihn]
  | block b args ops nx iho ihn =>
    intro m e
    cases m <;> simp only [nameT, shape]
    rw [iho, ihn]

theorem isNil_nameT (nv nb : Nat → Str) (e : Bool) (t : IR) :
    (nameT nv nb e t).isNil = t.isNil := by
  cases t <;> rfl

theorem labelsOK_nameT (nv nb : Nat → Str) (t : IR) :
    ∀ e : Bool, labelsOK e (nameT nv nb e t) = true := by
  induction t with
  | nil => intro e; rfl
  | op h rs nx ihr ihn => intro e; simp only [nameT, labelsOK, ihr, ihn]; rfl
  | region bs nx ihb ihn => intro e; simp only [nameT, labelsOK, ihb, ihn]; rfl
  | block b args ops nx iho ihn =>
    intro e
    simp only [nameT, labelsOK, iho, ihn, Bool.and_true]
    cases hc : (e && !entryLabelled b args ops nx) with
    | false => simp
    | true =>
      simp only [Bool.and_eq_true, Bool.not_eq_true', entryLabelled, Bool.or_eq_false_iff,
        Bool.not_eq_false'] at hc
      obtain ⟨he, ⟨ha, _⟩, hn⟩ := hc
      have : (mapArgs nv args).isEmpty = true := by
        cases args <;> simp_all [mapArgs]
      simp [he, this, isNil_nameT, hn]

def nameBound (nv : Nat → Str) (S : List Nat) : Nat := (S.map fun x => (nv x).length).foldr max 0

theorem le_nameBound (nv : Nat → Str) (S : List Nat) (x : Nat) (h : x ∈ S) :
    (nv x).length ≤ nameBound nv S := by
  induction S with
  | nil => cases h
  | cons a S ih =>
    simp only [nameBound, List.map_cons, List.foldr_cons]
    rcases List.mem_cons.mp h with rfl | h
    · exact Nat.le_max_left _ _
    · exact Nat.le_trans (ih h) (Nat.le_max_right _ _)

/-- `nv` on `S`, names longer than all of those elsewhere -/
def extend (nv : Nat → Str) (S : List Nat) (x : Nat) : Str :=
  if x ∈ S then nv x else List.replicate (nameBound nv S + 1 + x) 'a'

theorem extend_on (nv : Nat → Str) (S : List Nat) (x : Nat) (h : x ∈ S) : extend nv S x = nv x := by
  simp [extend, h]

theorem extend_injective (nv : Nat → Str) (S : List Nat)
    (hinj : ∀ x ∈ S, ∀ y ∈ S, nv x = nv y → x = y) : Function.Injective (extend nv S) := by
  intro x y h
  unfold extend at h
  by_cases hx : x ∈ S <;> by_cases hy : y ∈ S <;> simp only [hx, hy, if_true, if_false] at h
  · exact hinj x hx y hy h
  · have h1 := le_nameBound nv S x hx
    have h2 := congrArg List.length h
    simp only [List.length_replicate] at h2
    omega
  · have h1 := le_nameBound nv S y hy
    have h2 := congrArg List.length h
    simp only [List.length_replicate] at h2
    omega
  · have h2 := congrArg List.length h
    simp only [List.length_replicate] at h2
    omega

theorem succRefs_mapT (f g : Nat → Nat) (t : IR) : succRefs (mapT f g t) = (succRefs t).map g := by
  induction t with
  | nil => rfl
  | op h rs nx ihr ihn => simp [mapT, succRefs, Hdr.map, ihr, ihn]
  | region bs nx ihb ihn => simp [mapT, succRefs, ihb, ihn]
  | block b args ops nx iho ihn => simp [mapT, succRefs, iho, ihn]

theorem isNil_mapT (f g : Nat → Nat) (t : IR) : (mapT f g t).isNil = t.isNil := by
  cases t <;> rfl

theorem contains_map_inj (g : Nat → Nat) (hg : Function.Injective g) (l : List Nat) (b : Nat) :
    (l.map g).contains (g b) = l.contains b := by
  induction l with
  | nil => rfl
  | cons a l ih =>
    simp only [List.map_cons, List.contains_cons, ih]
    by_cases h : b = a
    · simp [h]
    · have h1 : (g b == g a) = false := by simpa using fun e => h (hg e)
      have h2 : (b == a) = false := by simpa using h
      rw [h1, h2]

theorem entryLabelled_mapT (f g : Nat → Nat) (hg : Function.Injective g) (b : Nat)
    (args : List (Nat × Opq)) (ops nx : IR) :
    entryLabelled (g b) (mapArgs f args) (mapT f g ops) (mapT f g nx) =
      entryLabelled b args ops nx := by
  unfold entryLabelled
  rw [succRefs_mapT, succRefs_mapT, ← List.map_append, contains_map_inj g hg, isNil_mapT]
  cases args <;> rfl

theorem nameT_mapT (nv nb : Nat → Str) (f g : Nat → Nat) (hg : Function.Injective g) (t : IR) :
    ∀ e, nameT nv nb e (mapT f g t) = nameT (fun x => nv (f x)) (fun x => nb (g x)) e t := by
  induction t with
  | nil => intro e; rfl
  | op h rs nx ihr ihn =>
    intro e
    simp only [mapT, nameT, ihr, ihn, Hdr.map, List.map_map]
    rfl
  | region bs nx ihb ihn => intro e; simp only [mapT, nameT, ihb, ihn]
  | block b args ops nx iho ihn =>
    intro e
    have hl := entryLabelled_mapT f g hg b args ops nx
    simp only [mapT, nameT, iho, ihn, hl]
    simp only [mapArgs, List.map_map]
    rfl

/-- the naming that gives the `i`-th value of `order` the `i`-th allocated name -/
def namingOf (order : List Nat) (names : List Str) (x : Nat) : Str :=
  (AL.get (order.zip names) x).getD []

theorem get_zip_mem (order : List Nat) (names : List Str) (x : Nat) (n : Str)
    (h : AL.get (order.zip names) x = some n) : n ∈ names :=
  (List.of_mem_zip (AL.mem_of_get_some h)).2

theorem get_zip_some (order : List Nat) (names : List Str) (x : Nat)
    (hl : order.length = names.length) (hx : x ∈ order) : ∃ n, AL.get (order.zip names) x = some n :=
  Option.isSome_iff_exists.mp (AL.isSome_get_iff.mpr (by rwa [List.map_fst_zip (Nat.le_of_eq hl)]))

theorem get_zip_inj (order : List Nat) : ∀ (names : List Str) (x y : Nat) (n : Str),
    names.Nodup → AL.get (order.zip names) x = some n → AL.get (order.zip names) y = some n →
    x = y := by
  induction order with
  | nil => intro names x y n _ h; simp at h
  | cons a order ih =>
    intro names x y n hnd hx hy
    cases names with
    | nil => simp at hx
    | cons m names =>
      simp only [List.zip_cons_cons, AL.get_cons] at hx hy
      have hnd' := List.nodup_cons.mp hnd
      split at hx <;> split at hy
      · rename_i e1 e2; exact e1.symm.trans e2
      · cases hx; exact absurd (get_zip_mem order names y _ hy) hnd'.1
      · cases hy; exact absurd (get_zip_mem order names x _ hx) hnd'.1
      · exact ih names x y n hnd'.2 hx hy

end Xdsl.Skeleton
