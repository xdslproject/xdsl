import XdslModel.OpDef
import XdslProofs.Lemmas.AL
/-!
Sequential constraint checking with one shared context versus one consistent assignment (C10).
-/
namespace Xdsl.OpDef

/-- an assignment of the constraint variables (attribute variables and range variables) -/
structure Assign where
  var : Nat → Option Nat
  rvar : Nat → Option (List Nat)

/-- `c` is satisfied by attribute `a` under the assignment: "consistent constraint variables" -/
def AttrC.Sat (σ : Assign) : AttrC → Nat → Prop
  | .plain b, a => b.accepts a = true
  | .var v b, a => σ.var v = some a ∧ b.accepts a = true

def RangeC.Sat (σ : Assign) : RangeC → List Nat → Prop
  | .single c, as => ∃ a, as = [a] ∧ c.Sat σ a
  | .rangeOf c, as => ∀ a ∈ as, c.Sat σ a
  | .rangeVar v b, as => σ.rvar v = some as ∧ ∀ a ∈ as, b.accepts a = true

/-- the constraint checks of `OpDef.verify` in order, threading the context -/
def verifyPieces : List (RangeC × List Nat) → Ctx → Option Ctx
  | [], ctx => some ctx
  | (c, as) :: r, ctx =>
    match c.verify as ctx with
    | some ctx' => verifyPieces r ctx'
    | none => none

/-- every variable name is declared with one base constraint (a shared `ClassVar`) -/
def AttrC.WF (decl : Nat → BaseC) : AttrC → Prop
  | .plain _ => True
  | .var v b => b = decl v

def RangeC.WF (decl rdecl : Nat → BaseC) : RangeC → Prop
  | .single c => c.WF decl
  | .rangeOf c => c.WF decl
  | .rangeVar v b => b = rdecl v

def Assign.le (σ τ : Assign) : Prop :=
  (∀ v a, σ.var v = some a → τ.var v = some a) ∧ (∀ v as, σ.rvar v = some as → τ.rvar v = some as)

def Ctx.assign (ctx : Ctx) : Assign := ⟨AL.get ctx.vars, AL.get ctx.rvars⟩

/-- a variable that is bound is only compared with the value seen, its base constraint is not asked
again (`AttrC.verify`, `RangeC.verify`); that the value seen then satisfies the base constraint too
follows from this invariant and `WF` -/
def Ctx.Inv (decl rdecl : Nat → BaseC) (ctx : Ctx) : Prop :=
  (∀ v a, AL.get ctx.vars v = some a → (decl v).accepts a = true) ∧
  (∀ v as, AL.get ctx.rvars v = some as → ∀ a ∈ as, (rdecl v).accepts a = true)

theorem Assign.le_refl (σ : Assign) : σ.le σ := ⟨fun _ _ h => h, fun _ _ h => h⟩

theorem Assign.le_trans {σ τ υ : Assign} (h₁ : σ.le τ) (h₂ : τ.le υ) : σ.le υ :=
  ⟨fun v a h => h₂.1 v a (h₁.1 v a h), fun v as h => h₂.2 v as (h₁.2 v as h)⟩

theorem Ctx.inv_empty (decl rdecl : Nat → BaseC) : ({} : Ctx).Inv decl rdecl :=
  ⟨fun _ _ h => (nomatch h), fun _ _ h => (nomatch h)⟩

theorem Ctx.empty_le (σ : Assign) : ({} : Ctx).assign.le σ :=
  ⟨fun _ _ h => (nomatch h), fun _ _ h => (nomatch h)⟩

theorem AttrC.Sat.mono {σ τ : Assign} (h : σ.le τ) {c : AttrC} {a : Nat} (hs : c.Sat σ a) :
    c.Sat τ a := by
  cases c with
  | plain b => exact hs
  | var v b => exact ⟨h.1 v a hs.1, hs.2⟩

theorem RangeC.Sat.mono {σ τ : Assign} (h : σ.le τ) {c : RangeC} {as : List Nat}
    (hs : c.Sat σ as) : c.Sat τ as := by
  cases c with
  | single c => obtain ⟨a, e, s⟩ := hs; exact ⟨a, e, s.mono h⟩
  | rangeOf c => exact fun a ha => (hs a ha).mono h
  | rangeVar v b => exact ⟨h.2 v as hs.1, hs.2⟩

/-! ### checks

A step `f : Ctx → Option Ctx` *checks* a statement `S` about assignments when, started in a context
whose bindings respect the declarations, it can only succeed into an extension that satisfies `S`, and
does succeed — staying below `σ` — in any context below an assignment `σ` that satisfies `S`.  Checks
compose, so every verifier of the model is a check of its declarative reading, built from the checks
of its parts. -/

structure Checks (decl rdecl : Nat → BaseC) (f : Ctx → Option Ctx) (S : Assign → Prop) : Prop where
  sound : ∀ {ctx ctx'}, ctx.Inv decl rdecl → f ctx = some ctx' →
    ctx'.Inv decl rdecl ∧ ctx.assign.le ctx'.assign ∧ S ctx'.assign
  complete : ∀ {σ ctx}, ctx.assign.le σ → S σ → ∃ ctx', f ctx = some ctx' ∧ ctx'.assign.le σ

namespace Checks
variable {decl rdecl : Nat → BaseC} {f g : Ctx → Option Ctx} {S T : Assign → Prop}

theorem congr (h : Checks decl rdecl f S) (hf : ∀ ctx, g ctx = f ctx) (hS : ∀ σ, T σ ↔ S σ) :
    Checks decl rdecl g T where
  sound inv e := by
    obtain ⟨i, l, s⟩ := h.sound inv (hf _ ▸ e)
    exact ⟨i, l, (hS _).2 s⟩
  complete l s := by
    obtain ⟨c, e, l'⟩ := h.complete l ((hS _).1 s)
    exact ⟨c, (hf _).trans e, l'⟩

theorem skip : Checks decl rdecl some fun _ => True where
  sound inv e := by cases e; exact ⟨inv, Assign.le_refl _, trivial⟩
  complete l _ := ⟨_, rfl, l⟩

theorem guard (b : Bool) : Checks decl rdecl (fun ctx => if b then some ctx else none) fun _ => b = true where
  sound inv e := by
    cases b
    · cases e
    · cases e; exact ⟨inv, Assign.le_refl _, rfl⟩
  complete l s := ⟨_, by rw [if_pos s], l⟩

/-- one check after the other checks both statements; the first must survive the extension made by the second -/
theorem bind (hf : Checks decl rdecl f S) (hg : Checks decl rdecl g T)
    (mono : ∀ {σ τ : Assign}, σ.le τ → S σ → S τ) :
    Checks decl rdecl (fun ctx => (f ctx).bind g) fun σ => S σ ∧ T σ where
  sound inv e := by
    obtain ⟨c, e₁, e₂⟩ := Option.bind_eq_some_iff.1 e
    obtain ⟨i₁, l₁, s₁⟩ := hf.sound inv e₁
    obtain ⟨i₂, l₂, s₂⟩ := hg.sound i₁ e₂
    exact ⟨i₂, Assign.le_trans l₁ l₂, mono l₂ s₁, s₂⟩
  complete l s := by
    obtain ⟨c₁, e₁, l₁⟩ := hf.complete l s.1
    obtain ⟨c₂, e₂, l₂⟩ := hg.complete l₁ s.2
    exact ⟨c₂, by rw [e₁]; exact e₂, l₂⟩

/-- a loop that threads the context through one check per element -/
theorem list {β : Type} {step : β → Ctx → Option Ctx} {P : β → Assign → Prop}
    {loop : List β → Ctx → Option Ctx} (hnil : ∀ ctx, loop [] ctx = some ctx)
    (hcons : ∀ b l ctx, loop (b :: l) ctx = (step b ctx).bind (loop l))
    (mono : ∀ b {σ τ : Assign}, σ.le τ → P b σ → P b τ) :
    ∀ l : List β, (∀ b ∈ l, Checks decl rdecl (step b) (P b)) →
      Checks decl rdecl (loop l) fun σ => ∀ b ∈ l, P b σ
  | [], _ => skip.congr hnil fun _ => by simp
  | b :: l, h =>
    ((h b (List.mem_cons_self ..)).bind (list hnil hcons mono l fun b hb => h b (List.mem_cons_of_mem _ hb))
      (mono b)).congr (hcons b l) fun _ => List.forall_mem_cons

end Checks

/-! ### binding a constraint variable

`VarConstraint.verify` and `RangeVarConstraint.verify` do the same thing to their half of the context:
a variable that is bound must hold the value seen, an unbound one is bound to it if the base
constraint accepts it. -/

def bindVar {β : Type} [DecidableEq β] (m : AL Nat β) (v : Nat) (x : β) (ok : Bool) : Option (AL Nat β) :=
  match AL.get m v with
  | some x' => if x = x' then some m else none
  | none => if ok then some (AL.set m v x) else none

theorem AttrC.verify_var (v : Nat) (b : BaseC) (a : Nat) (ctx : Ctx) :
    (AttrC.var v b).verify a ctx =
      (bindVar ctx.vars v a (b.accepts a)).map fun m => { ctx with vars := m } := by
  simp only [AttrC.verify, bindVar]
  cases AL.get ctx.vars v <;> dsimp only <;> split <;> rfl

theorem RangeC.verify_rangeVar (v : Nat) (b : BaseC) (as : List Nat) (ctx : Ctx) :
    (RangeC.rangeVar v b).verify as ctx =
      (bindVar ctx.rvars v as (as.all b.accepts)).map fun m => { ctx with rvars := m } := by
  simp only [RangeC.verify, bindVar]
  cases AL.get ctx.rvars v <;> dsimp only <;> split <;> rfl

section
variable {β : Type} [DecidableEq β] {m m' : AL Nat β} {v : Nat} {x : β} {ok : Bool}

/-- a successful step keeps every binding, leaves `v` bound to `x`, and keeps any property `P` of
the bindings that `x` has when it is newly accepted -/
theorem bindVar_sound (h : bindVar m v x ok = some m') (P : Nat → β → Prop)
    (hP : ∀ w y, AL.get m w = some y → P w y) (hx : ok = true → P v x) :
    (∀ w y, AL.get m' w = some y → P w y) ∧ (∀ w y, AL.get m w = some y → AL.get m' w = some y) ∧
      AL.get m' v = some x ∧ P v x := by
  unfold bindVar at h
  split at h
  · rename_i x' hget
    split at h
    · rename_i e
      cases h; subst e
      exact ⟨hP, fun _ _ h => h, hget, hP v x hget⟩
    · cases h
  · rename_i hget
    split at h
    · rename_i hok
      cases h
      refine ⟨fun w y hw => ?_, fun w y hw => ?_, by simp [AL.get_set], hx hok⟩
      · rw [AL.get_set] at hw
        split at hw
        · rename_i e; cases hw; exact e ▸ hx hok
        · exact hP w y hw
      · rw [AL.get_set, if_neg]
        · exact hw
        · rintro rfl; rw [hget] at hw; cases hw
    · cases h

theorem bindVar_complete {σ : Nat → Option β} (hle : ∀ w y, AL.get m w = some y → σ w = some y)
    (hσ : σ v = some x) (hok : ok = true) :
    ∃ m', bindVar m v x ok = some m' ∧ ∀ w y, AL.get m' w = some y → σ w = some y := by
  unfold bindVar
  cases hget : AL.get m v with
  | some x' =>
    have := (hle v x' hget).symm.trans hσ
    cases this
    exact ⟨m, by simp, hle⟩
  | none =>
    refine ⟨AL.set m v x, by simp [hok], fun w y hw => ?_⟩
    rw [AL.get_set] at hw
    split at hw
    · rename_i e; cases hw; exact e ▸ hσ
    · exact hle w y hw

end

theorem AttrC.checks {decl : Nat → BaseC} (rdecl : Nat → BaseC) {c : AttrC} (wf : c.WF decl) (a : Nat) :
    Checks decl rdecl (c.verify a) (c.Sat · a) := by
  cases c with
  | plain b => exact (Checks.guard (b.accepts a)).congr (fun _ => rfl) fun _ => Iff.rfl
  | var v b =>
    cases wf
    constructor
    · intro ctx ctx' inv h
      rw [AttrC.verify_var, Option.map_eq_some_iff] at h
      obtain ⟨m', h, rfl⟩ := h
      obtain ⟨i, l, g, s⟩ := bindVar_sound h (fun w y => (decl w).accepts y = true) inv.1 id
      exact ⟨⟨i, inv.2⟩, ⟨l, fun _ _ h => h⟩, g, s⟩
    · intro σ ctx hle hs
      obtain ⟨m', h, l⟩ := bindVar_complete (ok := (decl v).accepts a) hle.1 hs.1 hs.2
      exact ⟨{ ctx with vars := m' }, by rw [AttrC.verify_var, h]; rfl, l, hle.2⟩

theorem verifyEach_checks {decl : Nat → BaseC} (rdecl : Nat → BaseC) {c : AttrC} (wf : c.WF decl)
    (as : List Nat) : Checks decl rdecl (verifyEach c as) fun σ => ∀ a ∈ as, c.Sat σ a :=
  Checks.list (fun _ => rfl)
    (fun a as ctx => by simp only [verifyEach]; cases c.verify a ctx <;> rfl)
    (fun _ _ _ l s => s.mono l) as fun a _ => AttrC.checks rdecl wf a

theorem RangeC.checks {decl rdecl : Nat → BaseC} {c : RangeC} (wf : c.WF decl rdecl) (as : List Nat) :
    Checks decl rdecl (c.verify as) (c.Sat · as) := by
  cases c with
  | single c =>
    constructor
    · intro ctx ctx' inv h
      match as, h with
      | [a], h =>
        obtain ⟨i, l, s⟩ := (AttrC.checks rdecl wf a).sound inv h
        exact ⟨i, l, a, rfl, s⟩
    · rintro σ ctx hle ⟨a, rfl, s⟩
      exact (AttrC.checks rdecl wf a).complete hle s
  | rangeOf c => exact verifyEach_checks rdecl wf as
  | rangeVar v b =>
    cases wf
    constructor
    · intro ctx ctx' inv h
      rw [RangeC.verify_rangeVar, Option.map_eq_some_iff] at h
      obtain ⟨m', h, rfl⟩ := h
      obtain ⟨i, l, g, s⟩ := bindVar_sound h (fun w ys => ∀ a ∈ ys, (rdecl w).accepts a = true) inv.2
        (fun h => by simpa [List.all_eq_true] using h)
      exact ⟨⟨inv.1, i⟩, ⟨fun _ _ h => h, l⟩, g, s⟩
    · intro σ ctx hle hs
      obtain ⟨m', h, l⟩ := bindVar_complete (ok := as.all (rdecl v).accepts) hle.2 hs.1
        (by simpa [List.all_eq_true] using hs.2)
      exact ⟨{ ctx with rvars := m' }, by rw [RangeC.verify_rangeVar, h]; rfl, hle.1, l⟩

theorem verifyPieces_checks {decl rdecl : Nat → BaseC} (ps : List (RangeC × List Nat))
    (wf : ∀ p ∈ ps, p.1.WF decl rdecl) :
    Checks decl rdecl (verifyPieces ps) fun σ => ∀ p ∈ ps, p.1.Sat σ p.2 :=
  Checks.list (step := fun p => p.1.verify p.2) (fun _ => rfl)
    (fun p ps ctx => by simp only [verifyPieces]; cases p.1.verify p.2 ctx <;> rfl)
    (fun _ _ _ l s => s.mono l) ps fun p hp => RangeC.checks (wf p hp) p.2

theorem verifyPieces_append : ∀ (a b : List (RangeC × List Nat)) (ctx : Ctx),
    verifyPieces (a ++ b) ctx = (verifyPieces a ctx).bind (verifyPieces b)
  | [], b, ctx => rfl
  | (c, as) :: r, b, ctx => by
    simp only [List.cons_append, verifyPieces]
    cases c.verify as ctx with
    | none => rfl
    | some ctx' => exact verifyPieces_append r b ctx'

theorem verifyPieces_append_some (a b : List (RangeC × List Nat)) (ctx ctx'' : Ctx) :
    verifyPieces (a ++ b) ctx = some ctx'' ↔
      ∃ ctx', verifyPieces a ctx = some ctx' ∧ verifyPieces b ctx' = some ctx'' := by
  rw [verifyPieces_append, Option.bind_eq_some_iff]

end Xdsl.OpDef
