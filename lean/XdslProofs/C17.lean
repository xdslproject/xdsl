import XdslProofs.Lemmas.IRWF
import XdslProofs.C17SSA
/-!
# C17 — every registered pass that succeeds leaves valid, printable IR  (PARTIAL BY DESIGN)

"For every registered pass with any accepted options and every valid input module, the pass either
reports failure or leaves a module that passes verification and whose printed form parses back; it
never leaves erased values in use, dangling successors or broken parent links."

No pass is modelled and the ∀-pass/∀-module quantifier is *explored* by `harness/props/c17.py`.
What is proved here is the ORACLE for the structural half of the statement: the decision procedure
`IRWF.checkB` (run by the driver model `ir_wf` on a pointer-level snapshot of the module a real pass
left behind) answers `ok` only for stores that satisfy

* the C01 invariant `Inv` (`XdslProofs/Lemmas/IRStore.lean`) — "broken parent links": every
  operation / block / region exactly once in its container, forward and backward, pointing back to
  it; use lists = operand / successor positions; index fields (`invB_sound`), and
* `Rooted s root` — "erased values in use" and "dangling successors", stated below directly
  (`rootedB_iff`: the check is *equivalent* to the predicate).

PARTIAL.  Not proved: anything about the passes themselves; `module.verify()` and the print/parse
round trip are executed on the real implementation, not modelled (DESIGN's `wf_printable` is not
proved).  Attachedness is the fuel-bounded `is_ancestor` walk of the C01 model; under the invariant it
is exactly "the parent chain reaches the module" (`attached_iff_chain`: the fuel always suffices, by a
pigeonhole argument over the recorded objects).

The other Lean contribution to C17, the validity of the *generated* input modules (SSA dominance), is in
`C17SSA.lean`; it is imported here for `fail_ne_ok` only.
-/
namespace Xdsl.C17
open Xdsl Xdsl.DLL Xdsl.IR Xdsl.IRWF

theorem invB_sound {s : IRStore} (h : invB s = true) : Inv s := ⟨absOf s, (invB_iff_invA s).1 h⟩

/-- `invB` decides the store invariant of C01 — the same `Inv` that C01 proves preserved by the IR mutators.
Sound (`invB_sound`), and complete: the checker raises no false alarm, since the lists that witness `Inv s` can
only be the store's own traversals `absOf s` (`InvA.abs_eq`). -/
theorem invB_iff (s : IRStore) : invB s = true ↔ Inv s :=
  ⟨invB_sound, fun ⟨_, ha⟩ => (invB_iff_invA s).2 (ha.abs_eq ▸ ha)⟩

/-- what an accepted family of lists says about one container (any of the four families) -/
theorem wf_links {l : L} (w : WF l l.toList) (c : Nat) :
    (l.toList c).Nodup ∧ l.toListBack c = (l.toList c).reverse ∧
    ∀ n, n ∈ l.toList c ↔ (l.nd n).parent = some c :=
  ⟨w.nodup_toList c, w.toListBack_eq_reverse c, w.mem_iff_parent c⟩

/-- "… broken parent links" (operations): in an accepted snapshot an operation is in the list of a
block exactly when its `parent` field names that block, it is there once, and the backward traversal
(`_last_op/_prev_op`) is the reverse of the forward one (`_first_op/_next_op`). -/
theorem ops_parent_links {s : IRStore} (h : invB s = true) (b : Nat) :
    (s.opsOf b).Nodup ∧ s.opL.toListBack b = (s.opsOf b).reverse ∧
    ∀ o, o ∈ s.opsOf b ↔ s.opParent o = some b :=
  wf_links ((invB_iff_invA s).1 h).opL b

/-- "… broken parent links" (blocks): `Region._first_block/_last_block`, `Block._next_block/_prev_block` against
`Block.parent`. -/
theorem blocks_parent_links {s : IRStore} (h : invB s = true) (r : Nat) :
    (s.blocksOf r).Nodup ∧ s.blockL.toListBack r = (s.blocksOf r).reverse ∧
    ∀ b, b ∈ s.blocksOf r ↔ s.blockParent b = some r :=
  wf_links ((invB_iff_invA s).1 h).blockL r

/-- "… broken parent links" (regions): they are held in the tuple `Operation.regions`, not in an intrusive list, so
there is no backward traversal; the tuple against `Region.parent`. -/
theorem regions_parent_links {s : IRStore} (h : invB s = true) {o : Nat} {d : OpData}
    (hd : AL.get s.ops o = some d) :
    d.regions.Nodup ∧ ∀ r, r ∈ d.regions ↔ s.regionParent r = some o :=
  op!_of_get hd ▸ ((invB_iff_invA s).1 h).regions! o

/-- `x` hangs below the module `root`: xDSL's own `root.is_ancestor(x)` walk -/
def Attached (s : IRStore) (root : Nat) (x : Ref) : Prop := attachedB s root x = true

/-- every parent chain shorter than the fuel `3 * s.size` of the walk is recognised (`size` = number of objects
of the snapshot + 1; an acyclic chain cannot be longer: one step per object) -/
theorem chain_attached {s : IRStore} {root : Nat} {x : Ref} {n : Nat} (hn : n < 3 * s.size)
    (h : up s n x = some (.op root)) : Attached s root x :=
  (isAncestorFrom_iff s (.op root) _ _).2 ⟨n, hn, h⟩

/-- **Attachedness is declarative.**  In a snapshot that satisfies the invariant, the bounded walk
recognises exactly the objects from which finitely many `parent` steps lead to the module (a chain
that reaches the module can always be shortened to at most one step per recorded object). -/
theorem attached_iff_chain {s : IRStore} (h : Inv s) (root : Nat) (x : Ref) :
    Attached s root x ↔ ∃ n, up s n x = some (.op root) :=
  isAncestor_iff_chain h (.op root) x

/-- "no erased value": the value is a result of an attached operation or an argument of an attached
block, and its owner still lists it at the position its `index` field says -/
def LiveVal (s : IRStore) (root v : Nat) : Prop :=
  ∃ x, AL.get s.vals v = some x ∧
    ((x.kind = .result ∧ Attached s root (.op x.owner) ∧
        ∃ d, AL.get s.ops x.owner = some d ∧ d.results[x.index]? = some v) ∨
     (x.kind = .arg ∧ Attached s root (.block x.owner) ∧
        ∃ d, AL.get s.blocks x.owner = some d ∧ d.args[x.index]? = some v))

/-- the clauses of C17 that are not already part of C01's invariant -/
structure Rooted (s : IRStore) (root : Nat) : Prop where
  /-- the module is a recorded operation without parent -/
  root_op : (AL.get s.ops root).isSome ∧ s.opParent root = none
  /-- "never leaves erased values in use" -/
  operands_live : ∀ o d, AL.get s.ops o = some d → Attached s root (.op o) → ∀ v ∈ d.operands, LiveVal s root v
  /-- "never leaves … dangling successors": a successor is a block of the region that holds the
  operation's block -/
  succs_local : ∀ o d, AL.get s.ops o = some d → Attached s root (.op o) → ∀ b ∈ d.successors,
    ∃ ob r, s.opParent o = some ob ∧ s.blockParent ob = some r ∧ s.blockParent b = some r

theorem liveValB_iff (s : IRStore) (root v : Nat) : liveValB s root v = true ↔ LiveVal s root v := by
  unfold liveValB LiveVal Attached
  cases hv : AL.get s.vals v with
  | none => exact ⟨(fun h => nomatch h), fun ⟨_, h, _⟩ => nomatch h⟩
  | some x =>
    obtain ⟨k, ow, ix⟩ := x
    simp only [Option.some.injEq, exists_eq_left']
    cases k with
    | result =>
      cases hd : AL.get s.ops ow with
      | none =>
        simp only [Bool.and_false, Bool.false_eq_true, reduceCtorEq, false_and, exists_const, and_false,
          or_self]
      | some d =>
        simp only [Bool.and_eq_true, decide_eq_true_eq, Option.some.injEq, exists_eq_left', true_and,
          reduceCtorEq, false_and, or_false]
    | arg =>
      cases hd : AL.get s.blocks ow with
      | none =>
        simp only [Bool.and_false, Bool.false_eq_true, reduceCtorEq, false_and, exists_const, and_false,
          or_self]
      | some d =>
        simp only [Bool.and_eq_true, decide_eq_true_eq, Option.some.injEq, exists_eq_left', true_and,
          reduceCtorEq, false_and, false_or]
    | erased => simp only [Bool.false_eq_true, reduceCtorEq, false_and, or_self]

theorem succLocalB_iff (s : IRStore) (o b : Nat) : succLocalB s o b = true ↔
    ∃ ob r, s.opParent o = some ob ∧ s.blockParent ob = some r ∧ s.blockParent b = some r := by
  unfold succLocalB
  cases h1 : s.opParent o with
  | none => exact ⟨(fun h => nomatch h), fun ⟨_, _, h, _⟩ => nomatch h⟩
  | some ob =>
    cases h2 : s.blockParent ob with
    | none =>
      simp only [h2, Bool.false_eq_true, Option.some.injEq, exists_and_left, exists_eq_left',
        reduceCtorEq, false_and, exists_const]
    | some r => simp only [h2, decide_eq_true_eq, Option.some.injEq, exists_and_left, exists_eq_left']

/-- the two rooted clauses have one shape: every member of a list `f d` of every attached operation
passes a test -/
theorem attachedAll_iff (s : IRStore) (root : Nat) (f : OpData → List Nat) (Q : Nat → Nat → Bool) :
    (s.ops.all fun p =>
      match AL.get s.ops p.1 with
      | none => true
      | some d => !attachedB s root (.op p.1) || (f d).all (Q p.1)) = true ↔
    ∀ o d, AL.get s.ops o = some d → Attached s root (.op o) → ∀ x ∈ f d, Q o x = true :=
  all_get_iff fun p d hd => by
    simp only [hd, Attached, not_or_imp, List.all_eq_true]

theorem rootedB_iff (s : IRStore) (root : Nat) : rootedB s root = true ↔ Rooted s root := by
  simp only [rootedB, rootedTable, List.all_cons, List.all_nil, Bool.and_eq_true, Bool.and_true]
  have h2 := attachedAll_iff s root (·.operands) fun _ => liveValB s root
  have h3 := attachedAll_iff s root (·.successors) (succLocalB s)
  simp only [liveValB_iff, succLocalB_iff] at h2 h3
  constructor
  · rintro ⟨h1, ho, hs⟩
    exact ⟨by simpa [rootB] using h1, h2.mp ho, h3.mp hs⟩
  · intro h
    exact ⟨by simpa [rootB] using h.root_op, h2.mpr h.operands_live, h3.mpr h.succs_local⟩

/-- "never leaves erased values in use", read off: no operand of an attached operation is an
`ErasedSSAValue` (kind `erased`), and its owner hangs below the module -/
theorem no_erased_value_in_use {s : IRStore} {root : Nat} (h : Rooted s root) {o : Nat} {d : OpData}
    (hd : AL.get s.ops o = some d) (ha : Attached s root (.op o)) {v : Nat} (hv : v ∈ d.operands) :
    (s.val! v).kind ≠ .erased ∧
    (((s.val! v).kind = .result ∧ Attached s root (.op (s.val! v).owner)) ∨
     ((s.val! v).kind = .arg ∧ Attached s root (.block (s.val! v).owner))) := by
  obtain ⟨x, hx, h'⟩ := h.operands_live o d hd ha v hv
  have e : s.val! v = x := by simp [IRStore.val!, hx]
  rw [e]
  rcases h' with ⟨hk, ha', _⟩ | ⟨hk, ha', _⟩
  · exact ⟨by rw [hk]; decide, Or.inl ⟨hk, ha'⟩⟩
  · exact ⟨by rw [hk]; decide, Or.inr ⟨hk, ha'⟩⟩

/-- **The whole check decides the structural half of the property's sentence exactly.** -/
theorem checkB_iff (s : IRStore) (root : Nat) : checkB s root = true ↔ Inv s ∧ Rooted s root := by
  simp only [checkB, Bool.and_eq_true, invB_iff, rootedB_iff]

theorem checkB_sound {s : IRStore} {root : Nat} (h : checkB s root = true) : Inv s ∧ Rooted s root :=
  (checkB_iff s root).1 h

theorem verdict_ok_iff (s : IRStore) (root : Nat) :
    failing (invTable s ++ rootedTable s root) = [] ↔ checkB s root = true := by
  rw [failing_nil_iff, List.all_append, checkB, invB, rootedB]

theorem verdict_ok {s : IRStore} {root : Nat} (h : checkB s root = true) : verdict s root = "ok" := by
  unfold verdict
  rw [(verdict_ok_iff s root).mpr h]

/-- the answer line of the driver model `ir_wf` is `ok` exactly when the check holds, i.e. (by
`checkB_iff`) exactly when the snapshot satisfies `Inv` and `Rooted` -/
theorem verdict_eq_ok_iff (s : IRStore) (root : Nat) : verdict s root = "ok" ↔ Inv s ∧ Rooted s root := by
  rw [← checkB_iff]
  constructor
  · intro h
    unfold verdict at h
    split at h
    · rename_i hnil; exact (verdict_ok_iff s root).mp hnil
    · exact absurd h (fail_ne_ok _)
  · exact verdict_ok

/-! ## non-vacuity: a two-block function inside a module, and what each kind of damage is called

`module { func { ^b1(%a): %r = op(%a) ; br ^b2   ^b2: ret(%r) } }` -/

/-- ops: 0 module, 1 func, 2 `op`, 3 `br`, 4 `ret`; blocks: 0 (module body), 1, 2; regions: 0, 1;
values: 0 = `%a` (arg of block 1), 1 = `%r` (result of op 2); uses: 0 (`op` uses `%a`), 1 (`ret`
uses `%r`), 2 (`br` → block 2) -/
def good : IRStore where
  ops := [(0, { regions := [0] }), (1, { regions := [1] }),
          (2, { operands := [0], operandUses := [0], results := [1] }),
          (3, { successors := [2], successorUses := [2] }),
          (4, { operands := [1], operandUses := [1] })]
  blocks := [(0, {}), (1, { args := [0] }), (2, {})]
  regions := [(0, { parent := some 0 }), (1, { parent := some 1 })]
  vals := [(0, { kind := .arg, owner := 1, index := 0 }), (1, { kind := .result, owner := 2, index := 0 })]
  uses := [(0, (2, 0)), (1, (4, 0)), (2, (3, 0))]
  nextUse := 3
  opL := { node := [(0, {}), (1, { parent := some 0 }), (2, { next := some 3, parent := some 1 }),
                    (3, { prev := some 2, parent := some 1 }), (4, { parent := some 2 })],
           ends := [(0, { first := some 1, last := some 1 }), (1, { first := some 2, last := some 3 }),
                    (2, { first := some 4, last := some 4 })] }
  blockL := { node := [(0, { parent := some 0 }), (1, { next := some 2, parent := some 1 }),
                       (2, { prev := some 1, parent := some 1 })],
              ends := [(0, { first := some 0, last := some 0 }), (1, { first := some 1, last := some 2 })] }
  vuseL := { node := [(0, { parent := some 0 }), (1, { parent := some 1 })],
             ends := [(0, { first := some 0, last := some 0 }), (1, { first := some 1, last := some 1 })] }
  buseL := { node := [(2, { parent := some 2 })],
             ends := [(0, {}), (1, {}), (2, { first := some 2, last := some 2 })] }

example : verdict good 0 = "ok" := by decide +kernel
example : Inv good ∧ Rooted good 0 := checkB_sound (by decide +kernel)

/-- `%r` replaced by an `ErasedSSAValue` in `ret` (what `Operation.erase(safe_erase=False)` leaves) -/
example : verdict { good with vals := [(0, { kind := .arg, owner := 1, index := 0 }), (1, { kind := .erased, owner := 7 })],
                              ops := [(0, { regions := [0] }), (1, { regions := [1] }),
                                      (2, { operands := [0], operandUses := [0] }),
                                      (3, { successors := [2], successorUses := [2] }),
                                      (4, { operands := [1], operandUses := [1] })] } 0
    = "fail erased-value-in-use" := by decide +kernel

/-- `op` detached from its block (never re-inserted) while `ret` still uses its result -/
example : verdict { good with
    opL := { node := [(0, {}), (1, { parent := some 0 }), (2, {}), (3, { parent := some 1 }), (4, { parent := some 2 })],
             ends := [(0, { first := some 1, last := some 1 }), (1, { first := some 3, last := some 3 }),
                      (2, { first := some 4, last := some 4 })] } } 0
    = "fail erased-value-in-use" := by decide +kernel

/-- block 2 moved out of the function's region (detached): `br` has a dangling successor -/
example : verdict { good with
    blockL := { node := [(0, { parent := some 0 }), (1, { parent := some 1 }), (2, {})],
                ends := [(0, { first := some 0, last := some 0 }), (1, { first := some 1, last := some 1 })] } } 0
    = "fail dangling-successor" := by decide +kernel

/-- `br`'s `parent` field cleared although block 1 still lists it: broken parent link -/
example : verdict { good with
    opL := { good.opL with node := [(0, {}), (1, { parent := some 0 }), (2, { next := some 3, parent := some 1 }),
                    (3, { prev := some 2 }), (4, { parent := some 2 })] } } 0
    = "fail op-list" := by decide +kernel

/-- the use of `%r` by `ret` missing from `%r`'s use list -/
example : verdict { good with
    vuseL := { node := [(0, { parent := some 0 }), (1, {})],
               ends := [(0, { first := some 0, last := some 0 }), (1, {})] } } 0
    = "fail use-list" := by decide +kernel

end Xdsl.C17
