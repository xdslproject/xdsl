import XdslProofs.Lemmas.DisjointSet
import XdslProofs.Lemmas.ALInverts
/-!
Helper lemmas for the generic `DisjointSet` wrapper of `xdsl/utils/disjoint_set.py` (C12):
the wrapper invariant `GWF` ("`_index_by_value` is the inverse of `_values`, `_base` has one node per
value"; kept by `add` and set up by the dict comprehension of `__init__`), the translation of value
operations to index operations, transport of the equivalence closure along the value ↔ index bijection,
and `Through`: the index-level abstract state read through `_values` is the value-level one, step by step.
-/
namespace Xdsl.DisjointSet

/-- Invariant of `DisjointSet` under its contract: the values are pairwise distinct, `_base` has
exactly one node per value, and `_index_by_value` maps `v` to `i` exactly when `_values[i] == v`. -/
structure GWF (g : GDS) : Prop where
  nodup : g.values.Nodup
  size : g.base.size = g.values.length
  index : ∀ v i, g.index.get v = some i ↔ g.values[i]? = some v

theorem GWF.inverts {g : GDS} (h : GWF g) : AL.Inverts g.index (g.values.map some) :=
  AL.Inverts.map_some.mpr h.index

theorem GWF.get_of_mem {g : GDS} (h : GWF g) {v : Nat} (hv : v ∈ g.values) :
    g.index.get v = some (g.values.idxOf v) := by
  rw [h.index]
  exact List.getElem?_idxOf hv

theorem GWF.get_of_not_mem {g : GDS} (h : GWF g) {v : Nat} (hv : v ∉ g.values) :
    g.index.get v = none :=
  h.inverts.get_none fun _ e => hv (List.mem_of_getElem? (AL.getElem?_map_some.mp e))

theorem GWF.idx_lt {g : GDS} (h : GWF g) {v : Nat} (hv : v ∈ g.values) :
    g.values.idxOf v < g.base.size := by
  rw [h.size]; exact List.idxOf_lt_length_iff.mpr hv

theorem nodup_append_new {vals : List Nat} (h : vals.Nodup) {v : Nat} (hv : v ∉ vals) :
    (vals ++ [v]).Nodup :=
  List.nodup_append.mpr ⟨h, List.nodup_singleton v, fun a ha b hb => by
    rw [List.mem_singleton.mp hb]; rintro rfl; exact hv ha⟩

theorem gwf_add {g : GDS} (h : GWF g) {v : Nat} (hv : v ∉ g.values) :
    GWF { base := addState g.base, values := g.values ++ [v], index := g.index.set v g.base.size } := by
  refine ⟨nodup_append_new h.nodup hv,
    by rw [add_size, h.size, List.length_append]; rfl, AL.Inverts.map_some.mp ?_⟩
  have := h.inverts.push (h.get_of_not_mem hv)
  rwa [List.length_map, ← h.size, ← List.map_singleton, ← List.map_append] at this

/-- the dict comprehension of `__init__` is a run of such appends: over distinct values it maps each to
its position -/
theorem enumIndex_inverts : ∀ (vs pre : List Nat) (m : AL Nat Nat), AL.Inverts m (pre.map some) →
    (pre ++ vs).Nodup → AL.Inverts (enumIndex vs pre.length m) ((pre ++ vs).map some)
  | [], pre, m, h, _ => by rw [List.append_nil]; exact h
  | v :: vs, pre, m, h, hnd => by
    have hv : m.get v = none := h.get_none fun i e =>
      (List.nodup_append.mp hnd).2.2 v (List.mem_of_getElem? (AL.getElem?_map_some.mp e)) v
        List.mem_cons_self rfl
    have := enumIndex_inverts vs (pre ++ [v]) (m.set v pre.length)
      (by have := h.push hv
          rwa [List.length_map, ← List.map_singleton, ← List.map_append] at this)
      (by rwa [List.append_assoc])
    rwa [List.length_append, List.append_assoc] at this

theorem ginit_wf (vs : List Nat) (h : vs.Nodup) : GWF (ginit vs) :=
  ⟨h, init_size _, AL.Inverts.map_some.mp (enumIndex_inverts vs [] [] AL.Inverts.nil h)⟩

theorem rel_map (f : Nat → Nat) {us : List (Nat × Nat)} {a b : Nat} (h : Rel us a b) :
    Rel (us.map (Prod.map f f)) (f a) (f b) := by
  induction h with
  | rel x y hxy =>
    exact Relation.EqvGen.rel _ _ (List.mem_map.mpr ⟨(x, y), hxy, rfl⟩)
  | refl x => exact Relation.EqvGen.refl _
  | symm x y _ ih => exact Relation.EqvGen.symm _ _ ih
  | trans x y z _ _ ih1 ih2 => exact Relation.EqvGen.trans _ _ _ ih1 ih2

theorem rel_unmap (f g : Nat → Nat) {us : List (Nat × Nat)}
    (hinv : ∀ q ∈ us, g (f q.1) = q.1 ∧ g (f q.2) = q.2) {x y : Nat}
    (h : Rel (us.map (Prod.map f f)) x y) : Rel us (g x) (g y) := by
  have := rel_map g h
  have e : (us.map (Prod.map f f)).map (Prod.map g g) = us := by
    rw [List.map_map]
    conv => rhs; rw [← List.map_id us]
    apply List.map_congr_left
    intro q hq
    obtain ⟨h1, h2⟩ := hinv q hq
    obtain ⟨a, b⟩ := q
    simp only [Function.comp, Prod.map, id] at *
    rw [h1, h2]
  rwa [e] at this

/-- the index operation a value operation stands for (`none`: a value is absent → `KeyError`) -/
def toOp (vals : List Nat) : GOp → Option Op
  | .add _ => some .add
  | .find v => if v ∈ vals then some (.find (vals.idxOf v)) else none
  | .union a b =>
    if a ∈ vals ∧ b ∈ vals then some (.union (vals.idxOf a) (vals.idxOf b)) else none
  | .unionLeft a b =>
    if a ∈ vals ∧ b ∈ vals then some (.unionLeft (vals.idxOf a) (vals.idxOf b)) else none
  | .connected a b =>
    if a ∈ vals ∧ b ∈ vals then some (.connected (vals.idxOf a) (vals.idxOf b)) else none

def isFind : GOp → Bool
  | .find _ => true
  | _ => false

def valsStep (vals : List Nat) : GOp → List Nat
  | .add v => vals ++ [v]
  | _ => vals

/-- the documented contract of `add`: "add a *new* value" -/
def Fresh (vals : List Nat) : GOp → Prop
  | .add v => v ∉ vals
  | _ => True

def Contract (vals : List Nat) : List GOp → Prop
  | [] => True
  | o :: os => Fresh vals o ∧ Contract (valsStep vals o) os

/-- the index history a value history stands for (calls that raise `KeyError` on the dict lookup
never reach `_base`) -/
def transOps (vals : List Nat) : List GOp → List Op
  | [] => []
  | o :: os => (toOp vals o).toList ++ transOps (valsStep vals o) os

/-- abstract state on values: the values and the pairs of values successfully unioned -/
structure GSpec where
  values : List Nat
  vus : List (Nat × Nat) := []

def GSpec.step (γ : GSpec) : GOp → GSpec
  | .add v => { γ with values := γ.values ++ [v] }
  | .find _ => γ
  | .union a b => if a ∈ γ.values ∧ b ∈ γ.values then { γ with vus := (a, b) :: γ.vus } else γ
  | .unionLeft a b => if a ∈ γ.values ∧ b ∈ γ.values then { γ with vus := (a, b) :: γ.vus } else γ
  | .connected _ _ => γ

def GSpec.run (γ : GSpec) : List GOp → GSpec
  | [] => γ
  | o :: os => GSpec.run (γ.step o) os

/-- what the abstract state allows as result of a wrapper call: `KeyError` exactly for absent
values, otherwise the answers of the partition generated by `vus` -/
def GOutOK (γ : GSpec) : GOp → GOut → Prop
  | .add _, o => o = .unit
  | .find x, o =>
    if x ∈ γ.values then ∃ r, o = .val r ∧ r ∈ γ.values ∧ Rel γ.vus x r else o = .keyError
  | .union a b, o =>
    if a ∈ γ.values ∧ b ∈ γ.values then ∃ c, o = .bool c ∧ (c = true ↔ ¬ Rel γ.vus a b)
    else o = .keyError
  | .unionLeft a b, o =>
    if a ∈ γ.values ∧ b ∈ γ.values then ∃ c, o = .bool c ∧ (c = true ↔ ¬ Rel γ.vus a b)
    else o = .keyError
  | .connected a b, o =>
    if a ∈ γ.values ∧ b ∈ γ.values then ∃ c, o = .bool c ∧ (c = true ↔ Rel γ.vus a b)
    else o = .keyError

def GOutsOK (γ : GSpec) : List GOp → List GOut → Prop
  | [], [] => True
  | o :: os, out :: outs => GOutOK γ o out ∧ GOutsOK (γ.step o) os outs
  | _, _ => False

/-- `_values[i]` as a total function -/
def valF (vals : List Nat) (i : Nat) : Nat := vals.getD i 0

/-- the wrapper state represents the abstract value state: the wrapper invariant holds and `_base`
represents (`Repr`) an index-level abstract state whose unioned pairs, read through `_values`, are
the unioned value pairs -/
structure GRepr (g : GDS) (γ : GSpec) : Prop where
  wf : GWF g
  values : g.values = γ.values
  base : ∃ σ : Spec, Repr g.base σ ∧ (∀ q ∈ σ.us, q.1 < σ.n ∧ q.2 < σ.n) ∧
    γ.vus = σ.us.map (Prod.map (valF g.values) (valF g.values))

theorem valF_idxOf {vals : List Nat} {v : Nat} (hv : v ∈ vals) : valF vals (vals.idxOf v) = v := by
  simp [valF, List.getD_eq_getElem?_getD, List.getElem?_idxOf hv]

theorem valF_mem {vals : List Nat} {i : Nat} (hi : i < vals.length) : valF vals i ∈ vals := by
  simp [valF, List.getD_eq_getElem?_getD, List.getElem?_eq_getElem hi]

theorem valF_append {vals : List Nat} (v : Nat) {i : Nat} (hi : i < vals.length) :
    valF (vals ++ [v]) i = valF vals i := by
  simp [valF, List.getD_eq_getElem?_getD, List.getElem?_append_left hi]

theorem idxOf_valF {vals : List Nat} (hnd : vals.Nodup) {i : Nat} (hi : i < vals.length) :
    vals.idxOf (valF vals i) = i := by
  rw [valF, List.getD_eq_getElem?_getD, List.getElem?_eq_getElem hi]
  exact hnd.idxOf_getElem i hi

/-- The value-level abstract state `γ` is the index-level abstract state `σ` read through the (duplicate
free) list `vals`.  A value operation whose arguments are present stands for an index operation (`toOp`):
`Through.some` says that whatever `OutOK` allows for the latter, read through `vals`, is what `GOutOK`
allows for the former, and that the abstract steps correspond; one with an absent argument is a `KeyError`
that unions nothing (`Through.none`). -/
structure Through (vals : List Nat) (σ : Spec) (γ : GSpec) : Prop where
  nodup : vals.Nodup
  values : γ.values = vals
  size : vals.length = σ.n
  range : ∀ q ∈ σ.us, q.1 < σ.n ∧ q.2 < σ.n
  vus : γ.vus = σ.us.map (Prod.map (valF vals) (valF vals))

theorem Through.idx_lt {vals : List Nat} {σ : Spec} {γ : GSpec} (t : Through vals σ γ) {v : Nat}
    (hv : v ∈ vals) : vals.idxOf v < σ.n :=
  t.size ▸ List.idxOf_lt_length_iff.mpr hv

theorem Through.rel {vals : List Nat} {σ : Spec} {γ : GSpec} (t : Through vals σ γ) {a b : Nat}
    (ha : a ∈ vals) (hb : b ∈ vals) :
    Rel σ.us (vals.idxOf a) (vals.idxOf b) ↔ Rel γ.vus a b := by
  rw [t.vus]
  constructor
  · intro r
    have := rel_map (valF vals) r
    rwa [valF_idxOf ha, valF_idxOf hb] at this
  · intro r
    refine rel_unmap (valF vals) (vals.idxOf ·) (fun q hq => ?_) r
    have := t.size ▸ t.range q hq
    exact ⟨idxOf_valF t.nodup this.1, idxOf_valF t.nodup this.2⟩

theorem Through.none {vals : List Nat} {σ : Spec} {γ : GSpec} (t : Through vals σ γ) {o : GOp}
    (e : toOp vals o = none) : GOutOK γ o .keyError ∧ γ.step o = γ := by
  cases o with
  | add v => cases e
  | find x =>
    have hx : x ∉ vals := fun hx => by simp [toOp, hx] at e
    exact ⟨by simp only [GOutOK, t.values, if_neg hx], rfl⟩
  | union a b | unionLeft a b | connected a b =>
    have hab : ¬ (a ∈ vals ∧ b ∈ vals) := fun hab => by simp [toOp, hab] at e
    exact ⟨by simp only [GOutOK, t.values, if_neg hab], by simp only [GSpec.step, t.values, if_neg hab]⟩

theorem Through.some {vals : List Nat} {σ : Spec} {γ : GSpec} (t : Through vals σ γ) {o : GOp}
    {o' : Op} (e : toOp vals o = some o') (hf : Fresh vals o) :
    (∀ out, OutOK σ o' out →
      GOutOK γ o (liftOut vals (isFind o) out) ∧ liftOut vals (isFind o) out ≠ .keyError) ∧
    Through (valsStep vals o) (σ.step o') (γ.step o) := by
  cases o with
  | add v =>
    obtain rfl : Op.add = o' := Option.some.inj e
    refine ⟨fun out ho => by rw [show out = .nat σ.n from ho]; exact ⟨rfl, nofun⟩,
      nodup_append_new t.nodup hf, congrArg (· ++ [v]) t.values,
      by simp [valsStep, Spec.step, t.size], fun q hq => ?_, ?_⟩
    · have := t.range q hq
      exact ⟨Nat.lt_succ_of_lt this.1, Nat.lt_succ_of_lt this.2⟩
    · show γ.vus = _
      rw [t.vus]
      refine List.map_congr_left fun q hq => ?_
      have := t.size ▸ t.range q hq
      simp only [valsStep, Prod.map, valF_append v this.1, valF_append v this.2]
  | find x =>
    by_cases hx : x ∈ vals
    · simp only [toOp, if_pos hx, Option.some.injEq] at e
      subst e
      refine ⟨fun out ho => ?_, t⟩
      simp only [OutOK, if_pos (t.idx_lt hx)] at ho
      obtain ⟨r, rfl, hrn, hrel⟩ := ho
      have hrl : r < vals.length := t.size ▸ hrn
      have e : liftOut vals (isFind (.find x)) (.nat r) = .val (valF vals r) := by
        simp [liftOut, isFind, valF, List.getD_eq_getElem?_getD, List.getElem?_eq_getElem hrl]
      rw [e]
      simp only [GOutOK, t.values, if_pos hx]
      refine ⟨⟨valF vals r, rfl, valF_mem hrl, ?_⟩, nofun⟩
      rw [t.vus]
      have := rel_map (valF vals) hrel
      rwa [valF_idxOf hx] at this
    · simp [toOp, hx] at e
  | union a b | unionLeft a b =>
    by_cases hab : a ∈ vals ∧ b ∈ vals
    · simp only [toOp, if_pos hab, Option.some.injEq] at e
      subst e
      have hab' := And.intro (t.idx_lt hab.1) (t.idx_lt hab.2)
      refine ⟨fun out ho => ?_, t.nodup, ?_, ?_, ?_, ?_⟩
      · simp only [OutOK, if_pos hab'] at ho
        obtain ⟨c, rfl, hc⟩ := ho
        simp only [GOutOK, t.values, if_pos hab]
        exact ⟨⟨c, rfl, by rw [hc, t.rel hab.1 hab.2]⟩, nofun⟩
      · simp only [GSpec.step, t.values, if_pos hab]; rfl
      · simp only [Spec.step, if_pos hab']; exact t.size
      · simp only [Spec.step, if_pos hab']
        exact fun q hq => (List.mem_cons.mp hq).elim (fun e => e ▸ hab') (t.range q)
      · simp only [GSpec.step, t.values, if_pos hab, Spec.step, if_pos hab', List.map_cons, Prod.map,
          valF_idxOf hab.1, valF_idxOf hab.2, t.vus, valsStep]
    · simp [toOp, hab] at e
  | connected a b =>
    by_cases hab : a ∈ vals ∧ b ∈ vals
    · simp only [toOp, if_pos hab, Option.some.injEq] at e
      subst e
      refine ⟨fun out ho => ?_, t⟩
      simp only [OutOK, if_pos (And.intro (t.idx_lt hab.1) (t.idx_lt hab.2))] at ho
      obtain ⟨c, rfl, hc⟩ := ho
      simp only [GOutOK, t.values, if_pos hab]
      exact ⟨⟨c, rfl, by rw [hc, t.rel hab.1 hab.2]⟩, nofun⟩
    · simp [toOp, hab] at e

theorem grepr_iff {g : GDS} {γ : GSpec} :
    GRepr g γ ↔ GWF g ∧ ∃ σ, Repr g.base σ ∧ Through g.values σ γ :=
  ⟨fun ⟨hw, hv, σ, hr, hrange, hvus⟩ =>
      ⟨hw, σ, hr, hw.nodup, hv.symm, hw.size.symm.trans hr.size, hrange, hvus⟩,
    fun ⟨hw, σ, hr, t⟩ => ⟨hw, t.values.symm, σ, hr, t.range, t.vus⟩⟩

end Xdsl.DisjointSet
