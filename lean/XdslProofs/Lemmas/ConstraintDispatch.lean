import XdslProofs.Lemmas.Constraint
/-!
The class-dispatch table of `AnyOf` (C09): `get_bases` is sound for the declarative meaning, and under
the check of `AnyOf.__init__` the alternative that `AnyOf.verify` selects for a class is the only one
that can contain an attribute of that class.
-/
namespace Xdsl.Constraint

theorem mem_interL (x : Nat) (a b : List Nat) : x ∈ interL a b ↔ x ∈ a ∧ x ∈ b := by
  simp only [interL, List.mem_filter, List.contains_iff_mem]

section
variable (U : Univ) (σ : Asg) (a : Attr)

theorem basesUnion_sat (cs : List C) (ih : ∀ c ∈ cs, ∀ b, sat U σ c a → bases U c = some b → a.cls ∈ b) :
    ∀ b, satAny U σ cs a → basesUnion U cs = some b → a.cls ∈ b := by
  induction cs with
  | nil => exact nofun
  | cons c cs rec =>
    intro b h hb
    unfold basesUnion at hb
    split at hb
    · cases hb
    · rename_i bc hc
      split at hb
      · cases hb
      · rename_i bcs hcs
        cases hb
        exact List.mem_append.2 <| h.imp (ih c (List.mem_cons_self ..) bc · hc)
          (rec (fun c' hc' => ih c' (List.mem_cons_of_mem _ hc')) bcs · hcs)

theorem basesInter_sat (cs : List C) (ih : ∀ c ∈ cs, ∀ b, sat U σ c a → bases U c = some b → a.cls ∈ b) :
    ∀ b, satAll U σ cs a → basesInter U cs = some b → a.cls ∈ b := by
  induction cs with
  | nil => exact nofun
  | cons c cs rec =>
    intro b h hb
    have ih' := rec fun c' hc' => ih c' (List.mem_cons_of_mem _ hc')
    have ihc := ih c (List.mem_cons_self ..)
    unfold basesInter at hb
    split at hb
    · exact ih' b h.2 hb
    · rename_i bc hc _; cases hb; exact ihc _ h.1 hc
    · rename_i bc bcs hc hcs; cases hb
      exact (mem_interL _ _ _).2 ⟨ihc bc h.1 hc, ih' bcs h.2 hcs⟩

/-- `get_bases` is sound for the declarative meaning: a runtime-final class has no proper subclass,
so an attribute below it has exactly that class -/
theorem bases_sat (hU : UnivOK U) : ∀ c b, WF U c → sat U σ c a → bases U c = some b → a.cls ∈ b := by
  intro c
  induction c using C.ind with
  | any => exact nofun
  | eq x => intro b _ h hb; cases hb; cases h; exact List.mem_cons_self ..
  | set vs => intro b _ h hb; cases hb; exact List.mem_map.2 ⟨a, h, rfl⟩
  | base d =>
    intro b _ h hb
    unfold bases at hb
    split at hb
    · rename_i hf; cases hb; exact hU _ _ hf h ▸ List.mem_cons_self ..
    · cases hb
  | anyOf cs ih =>
    exact fun b hw h hb =>
      basesUnion_sat U σ a cs (fun c hc b' => ih c hc b' ((WFL_iff U cs).1 hw.2 c hc)) b h hb
  | allOf cs ih =>
    exact fun b hw h hb =>
      basesInter_sat U σ a cs (fun c hc b' => ih c hc b' ((WFL_iff U cs).1 hw c hc)) b h hb
  | param d ps _ =>
    intro b _ h hb
    unfold bases at hb
    split at hb
    · rename_i hf; cases hb; exact hU _ _ hf h.1 ▸ List.mem_cons_self ..
    · cases hb
  | var n c ih => exact fun b hw h hb => ih b hw h.2 hb
  | msg n c ih => exact ih
  | tvar n c ih => exact ih
  | arrayOf k c _ => intro b hw h hb; cases hb; exact hU _ _ hw.1 h.1 ▸ List.mem_cons_self ..

end

theorem hasBase_of_none {U : Univ} {c : C} (h : bases U c = none) (x : Nat) : hasBase U c x = false := by
  simp only [hasBase, h]

theorem hasBase_some {U : Univ} {c : C} {b : List Nat} (h : bases U c = some b) (x : Nat) :
    hasBase U c x = true ↔ x ∈ b := by
  simp only [hasBase, h, List.contains_iff_mem]

theorem lastBased_some (U : Univ) (x : Nat) (cs : List C) : ∀ k, lastBased U cs x = some k →
    ∃ c, cs[k]? = some c ∧ hasBase U c x = true := by
  fun_induction lastBased U cs x with
  | case1 => exact nofun
  | case2 c cs _ k' hl ih => intro k h; cases h; exact ih k' hl
  | case3 c cs _ hl hb ih => intro k h; cases h; exact ⟨c, rfl, hb⟩
  | case4 => exact nofun

theorem lastBased_none (U : Univ) (x : Nat) (cs : List C) : lastBased U cs x = none →
    ∀ c ∈ cs, hasBase U c x = false := by
  fun_induction lastBased U cs x with
  | case1 => exact fun _ => nofun
  | case2 | case3 => exact nofun
  | case4 c cs _ hl hb ih => exact fun _ => List.forall_mem_cons.2 ⟨Bool.eq_false_iff.2 hb, ih hl⟩

/-- What a successful run of the loop of `AnyOf.__init__` over `cs` guarantees, `based` and `abstr`
being the keys and the abstract class collected before.  No key is met twice, so the entry of
`_based_constrs` for a key of `c` is `c`; at most one alternative has no bases, it is a non-final
`BaseAttr`, and `_abstr_constr` is it. -/
theorem checkLoop_spec (U : Univ) : ∀ cs based abstr B A, checkLoop U cs based abstr = some (B, A) →
    (∀ c ∈ cs, ∀ x, hasBase U c x = true →
      x ∉ based ∧ x ∈ B ∧ ∃ k, lastBased U cs x = some k ∧ cs[k]? = some c)
    ∧ (∀ x ∈ based, x ∈ B)
    ∧ (∀ c ∈ cs, bases U c = none →
      abstr = none ∧ (∃ d, c = .base d ∧ A = some d) ∧ ∃ k, firstAbstract U cs = some k ∧ cs[k]? = some c)
    ∧ (∀ d, abstr = some d → A = some d) := by
  intro cs based abstr
  induction cs, based, abstr using checkLoop.induct U with
  | case1 based abstr =>
    intro B A h; cases h
    exact ⟨nofun, fun _ h => h, nofun, fun _ h => h⟩
  | case4 cs based abstr habs d hf hb ih =>
    intro B A h
    simp only [checkLoop, hb, habs, hf] at h
    obtain ⟨keyed, collected, abstract, carried⟩ := ih B A h
    have habs' : abstr = none := Option.not_isSome_iff_eq_none.1 habs
    refine ⟨fun c' hc' x hx => ?_, collected, fun c' hc' hn => ?_, fun d' hd' => nomatch habs'.symm.trans hd'⟩
    · rcases List.mem_cons.1 hc' with e | hc'
      · subst e; rw [hasBase_of_none hb] at hx; cases hx
      · obtain ⟨n1, n2, k, hk, hk'⟩ := keyed c' hc' x hx
        exact ⟨n1, n2, k + 1, by simp only [lastBased, hk], hk'⟩
    · rcases List.mem_cons.1 hc' with e | hc'
      · subst e; exact ⟨habs', ⟨d, rfl, carried d rfl⟩, 0, by simp only [firstAbstract, hb], rfl⟩
      · exact nomatch (abstract c' hc' hn).1
  -- the arms that raise
  | case2 | case3 | case6 => intro B A h; simp only [checkLoop, *] at h; cases h
  | case5 => intro B A h; simp only [checkLoop, *] at h; split at h <;> cases h
  | case7 c cs based abstr b hb hany ih =>
    intro B A h
    simp only [checkLoop, hb, hany] at h
    obtain ⟨keyed, collected, abstract, carried⟩ := ih B A h
    refine ⟨fun c' hc' x hx => ?_, fun x hx => collected x (List.mem_append_left _ hx), fun c' hc' hn => ?_, carried⟩
    · rcases List.mem_cons.1 hc' with e | hc'
      · subst e
        have hxb := (hasBase_some hb x).1 hx
        refine ⟨fun hx' => hany (List.any_eq_true.2 ⟨x, hxb, List.contains_iff_mem.2 hx'⟩),
          collected x (List.mem_append_right _ hxb), 0, ?_, rfl⟩
        -- a later alternative with the key `x` would have met it among the collected keys
        cases hl : lastBased U cs x with
        | some k =>
          obtain ⟨c', h1, h2⟩ := lastBased_some U x cs k hl
          exact absurd (List.mem_append_right _ hxb) (keyed c' (List.mem_of_getElem? h1) x h2).1
        | none => simp only [lastBased, hl, hx, if_true]
      · obtain ⟨n1, n2, k, hk, hk'⟩ := keyed c' hc' x hx
        exact ⟨fun hx' => n1 (List.mem_append_left _ hx'), n2, k + 1, by simp only [lastBased, hk], hk'⟩
    · rcases List.mem_cons.1 hc' with e | hc'
      · subst e; cases hb.symm.trans hn
      · obtain ⟨q1, q2, k, hk, hk'⟩ := abstract c' hc' hn
        exact ⟨q1, q2, k + 1, by simp only [firstAbstract, hb, hk, Option.map_some], hk'⟩

/-- under the constructor's check, `AnyOf.verify` dispatches to the (only) alternative that can
contain an attribute of class `x` -/
theorem select_complete (U : Univ) (cs : List C) (hck : checkAnyOf U cs = true) (c : C) (hc : c ∈ cs)
    (x : Nat) (h1 : ∀ b, bases U c = some b → x ∈ b)
    (h2 : ∀ d, c = .base d → isSub U x d = true) :
    ∃ k, selectIdx U cs x = some k ∧ cs[k]? = some c := by
  unfold checkAnyOf at hck
  cases hl : checkLoop U cs [] none with
  | none => rw [hl] at hck; cases hck
  | some BA =>
    obtain ⟨B, A⟩ := BA
    obtain ⟨keyed, _, abstract, _⟩ := checkLoop_spec U cs [] none B A hl
    unfold selectIdx
    cases hb : bases U c with
    | some b =>
      obtain ⟨_, _, k, hk, hk'⟩ := keyed c hc x ((hasBase_some hb x).2 (h1 b hb))
      exact ⟨k, by rw [hk], hk'⟩
    | none =>
      obtain ⟨_, ⟨d, hd, hA⟩, k, hk, hk'⟩ := abstract c hc hb
      -- `c` is the abstract alternative `BaseAttr(d)`; no key is a subclass of `d` (the last check
      -- of the constructor), so the table has no entry for `x`
      have : lastBased U cs x = none := by
        cases hlb : lastBased U cs x with
        | none => rfl
        | some k' =>
          obtain ⟨c', hc1, hc2⟩ := lastBased_some U x cs k' hlb
          have hxB := (keyed c' (List.mem_of_getElem? hc1) x hc2).2.1
          subst hA
          rw [hl] at hck
          have : (B.any fun b => isSub U b d) = true := List.any_eq_true.2 ⟨x, hxB, h2 d hd⟩
          simp [this] at hck
      exact ⟨k, by rw [this]; exact hk, hk'⟩

theorem verifyNth_eq (U : Univ) (a : Attr) (ctx : Ctx) : ∀ (cs : List C) (k : Nat),
    verifyNth U cs k a ctx = (cs[k]?).bind fun c => verify U c a ctx
  | [], _ => rfl
  | _ :: _, 0 => rfl
  | _ :: cs, k + 1 => verifyNth_eq U a ctx cs k

theorem verify_anyOf (U : Univ) (cs : List C) (a : Attr) (ctx : Ctx) :
    verify U (.anyOf cs) a ctx = (selectIdx U cs a.cls).bind fun k => (cs[k]?).bind fun c => verify U c a ctx := by
  -- `unfold verify` would open the right-hand side as well
  rw [verify]
  cases selectIdx U cs a.cls with
  | none => rfl
  | some k => exact verifyNth_eq U a ctx cs k

theorem verify_anyOf_some (U : Univ) {cs : List C} {a : Attr} {ctx ctx' : Ctx}
    (h : verify U (.anyOf cs) a ctx = some ctx') : ∃ c ∈ cs, verify U c a ctx = some ctx' := by
  rw [verify_anyOf] at h
  obtain ⟨k, _, h⟩ := Option.bind_eq_some_iff.1 h
  obtain ⟨c, hc, h⟩ := Option.bind_eq_some_iff.1 h
  exact ⟨c, List.mem_of_getElem? hc, h⟩

end Xdsl.Constraint
