import XdslProofs.Lemmas.ConstraintVerify
/-! `infer` returns an attribute that `verify` accepts (C09). -/
namespace Xdsl.Constraint

mutual
/-- The region excluded from `infer_verifies_partial`: an `AllOf` whose first inferable conjunct infers an
attribute that another conjunct rejects (known finding: `AllOf.infer` does not consult the other
conjuncts).  `AllOfAgree` says no `AllOf` node met by `infer` is of that kind. -/
def AllOfAgree (U : Univ) (ctx : Ctx) : C → Prop
  | .allOf cs => ∀ a, inferFirst U cs ctx = some a → verifyAll U cs a ctx = some ctx
  | .param _ ps => AllOfAgreeL U ctx ps
  | .var _ c => AllOfAgree U ctx c
  | .msg _ c => AllOfAgree U ctx c
  | _ => True
def AllOfAgreeL (U : Univ) (ctx : Ctx) : List C → Prop
  | [] => True
  | c :: cs => AllOfAgree U ctx c ∧ AllOfAgreeL U ctx cs
end

section
variable (U : Univ)

def InferAt (c : C) : Prop := ∀ ctx a, (∀ n ∈ vars c, (AL.get ctx n).isSome = true) → AllOfAgree U ctx c →
    canInfer U (ctxVars ctx) c = true → infer U c ctx = some a → verify U c a ctx = some ctx

theorem inferAll_verifyZip (ctx : Ctx) (ps : List C) (as : List Attr) (ih : ∀ p ∈ ps, InferAt U p)
    (hb : ∀ n ∈ varsL ps, (AL.get ctx n).isSome = true) (hag : AllOfAgreeL U ctx ps)
    (hc : canInferAll U (ctxVars ctx) ps = true) (h : inferAll U ps ctx = some as) :
    verifyZip U ps as ctx = some ctx := by
  induction ps generalizing as with
  | nil => cases h; rfl
  | cons p ps rec =>
    unfold inferAll at h
    rw [canInferAll, Bool.and_eq_true] at hc
    split at h
    · rename_i a h1
      split at h
      · rename_i as' h2; cases h
        rw [verifyZip_cons, ih p (List.mem_cons_self ..) ctx a (fun n hn => hb n (List.mem_append_left _ hn)) hag.1 hc.1 h1]
        exact rec as' (fun p' hp' => ih p' (List.mem_cons_of_mem _ hp'))
          (fun n hn => hb n (List.mem_append_right _ hn)) hag.2 hc.2 h2
      · cases h
    · cases h

theorem infer_verify : ∀ c, InferAt U c := by
  intro c
  induction c using C.ind with
  | any | set _ | anyOf _ _ | tvar _ _ _ | arrayOf _ _ _ => exact fun _ _ _ _ hc _ => nomatch hc
  | eq b =>
    intro ctx a _ _ _ h
    cases h
    exact if_pos (Attr.beq_self _)
  | base d =>
    intro ctx a _ _ _ h
    unfold infer at h
    split at h
    · cases h; exact if_pos (isSub_refl U d)
    · cases h
  | allOf cs _ => exact fun ctx a _ hag _ h => hag a h
  | param d ps ih =>
    intro ctx a hb hag hc h
    unfold infer at h
    rw [canInfer, Bool.and_eq_true] at hc
    split at h
    · rename_i as h1
      split at h
      · cases h
        exact (if_pos (isSub_refl U d)).trans (inferAll_verifyZip U ctx ps as ih hb hag hc.2 h1)
      · cases h
    · cases h
  | var n c _ =>
    intro ctx a hb _ _ h
    have hn := hb n (List.mem_cons_self ..)
    unfold infer at h
    split at h
    · rename_i v hg; cases h
      exact (verify_var_bound U c a hg).trans (if_pos rfl)
    · rename_i hg; rw [hg] at hn; cases hn
  | msg n c ih => exact ih

theorem inferFirst_spec (ctx : Ctx) (cs : List C) (a : Attr) (h : inferFirst U cs ctx = some a) :
    ∃ c ∈ cs, canInfer U (ctxVars ctx) c = true ∧ infer U c ctx = some a := by
  induction cs with
  | nil => cases h
  | cons c cs ih =>
    unfold inferFirst at h
    split at h
    · rename_i hc; exact ⟨c, List.mem_cons_self .., hc, h⟩
    · exact let ⟨c', hc', h1, h2⟩ := ih h; ⟨c', List.mem_cons_of_mem _ hc', h1, h2⟩

end

end Xdsl.Constraint
