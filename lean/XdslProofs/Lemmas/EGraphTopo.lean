import XdslProofs.Lemmas.EGraphOrd
/-!
The re-ordering pass that ends `eqsat-extract` (`restore_dominance_order`, model `topoSort`).  The
iterative depth-first search of `topoRun` is read as a transition system on the pair (emitted list,
stack): `Step` has the three moves of the `while stack` loop, `topoRun_succ` is the only place where
`topoRun` is unfolded.  About `Step`: the invariant of the search, a potential that every step
decreases (so the fuel handed out by `topoSort` suffices), and — when the dependencies are acyclic —
the fact that every emitted node has all its dependencies emitted before it.  No Mathlib.
-/
namespace Xdsl.EGraph

/-- dependencies of the node defining `v` -/
def depsOf (body : List Node) (v : Nat) : List Nat := deps body ((findDef body v).getD default)

theorem depsOf_of_findDef {body : List Node} {v : Nat} {n : Node} (h : findDef body v = some n) :
    depsOf body v = deps body n := by
  simp only [depsOf, h, Option.getD_some]

/-- The search state with emitted list `o` and stack `s`: the sets `emitted` and `on_stack` of the
Python code hold the members of `o` and the nodes of the frames of `s`. -/
def TopoSt.norm (o : List Nat) (s : List (Nat × List Nat)) : TopoSt :=
  { order := o, emitted := o, onStack := s.map (·.1), stack := s }

/-- One iteration of the `while stack` loop: the frame on top is finished and its node emitted; or its
next dependency has been visited already (emitted or on the stack) and is skipped; or it has not, and a
frame for it is pushed. -/
inductive Step (body : List Node) : List Nat → List (Nat × List Nat) → List Nat → List (Nat × List Nat) → Prop
  | pop {o cur rest} : Step body o ((cur, []) :: rest) (cur :: o) rest
  | skip {o cur d rem rest} : d ∈ cur :: rest.map (·.1) ++ o →
      Step body o ((cur, d :: rem) :: rest) o ((cur, rem) :: rest)
  | push {o cur d rem rest} : d ∉ cur :: rest.map (·.1) ++ o →
      Step body o ((cur, d :: rem) :: rest) o ((d, depsOf body d) :: (cur, rem) :: rest)

/-- `topoRun` on the state `norm o s`: it stops on the empty stack and otherwise makes a `Step`.  (The
nodes on the stack are distinct, so that taking the popped node out of `on_stack` leaves the others.) -/
theorem topoRun_succ (body : List Node) (fuel : Nat) (o : List Nat) (s : List (Nat × List Nat))
    (hnd : (s.map (·.1)).Nodup) :
    (s = [] ∧ topoRun body (fuel + 1) (.norm o s) = .norm o s) ∨
    ∃ o' s', Step body o s o' s' ∧ topoRun body (fuel + 1) (.norm o s) = topoRun body fuel (.norm o' s') := by
  rcases s with _ | ⟨⟨cur, _ | ⟨d, rem⟩⟩, rest⟩
  · exact Or.inl ⟨rfl, rfl⟩
  · refine Or.inr ⟨cur :: o, rest, .pop, ?_⟩
    have hf : (cur :: rest.map (·.1)).filter (· ≠ cur) = rest.map (·.1) := by
      rw [List.filter_cons_of_neg (by simp)]
      exact List.filter_eq_self.2 fun a ha => decide_eq_true fun e => (List.nodup_cons.1 hnd).1 (e ▸ ha)
    simp only [TopoSt.norm, topoRun, List.map_cons, hf]
  · have hv : (o.contains d || (cur :: rest.map (·.1)).contains d) = true ↔ d ∈ cur :: rest.map (·.1) ++ o := by
      simp only [Bool.or_eq_true, List.contains_iff_mem, List.mem_append]
      exact Or.comm
    by_cases h : d ∈ cur :: rest.map (·.1) ++ o
    · refine Or.inr ⟨o, (cur, rem) :: rest, .skip h, ?_⟩
      simp only [TopoSt.norm, topoRun, List.map_cons, if_pos (hv.2 h)]
    · refine Or.inr ⟨o, (d, depsOf body d) :: (cur, rem) :: rest, .push h, ?_⟩
      simp only [TopoSt.norm, topoRun, List.map_cons, if_neg (mt hv.1 h), depsOf]

/-- the frame `f` of a node on the stack: its remaining dependencies are a suffix of the node's
dependencies, and those before them have been visited (`vis` = on the stack or emitted) -/
def Frame (body : List Node) (vis : List Nat) (f : Nat × List Nat) : Prop :=
  ∃ pre, depsOf body f.1 = pre ++ f.2 ∧ ∀ d ∈ pre, d ∈ vis

theorem Frame.start (body : List Node) (vis : List Nat) (v : Nat) : Frame body vis (v, depsOf body v) :=
  ⟨[], rfl, fun _ h => absurd h List.not_mem_nil⟩

theorem Frame.mono {body : List Node} {vis vis' : List Nat} {f : Nat × List Nat} (h : ∀ v ∈ vis, v ∈ vis')
    (hf : Frame body vis f) : Frame body vis' f := by
  obtain ⟨pre, e, hp⟩ := hf
  exact ⟨pre, e, fun d hd => h d (hp d hd)⟩

theorem Frame.next {body : List Node} {vis : List Nat} {cur d : Nat} {rem : List Nat} (hd : d ∈ vis)
    (hf : Frame body vis (cur, d :: rem)) : Frame body vis (cur, rem) := by
  obtain ⟨pre, e, hp⟩ := hf
  exact ⟨pre ++ [d], by rw [e, List.append_assoc]; rfl, fun x hx =>
    (List.mem_append.1 hx).elim (hp x) fun h => List.mem_singleton.1 h ▸ hd⟩

theorem Frame.done {body : List Node} {vis : List Nat} {cur : Nat} (hf : Frame body vis (cur, [])) :
    ∀ d ∈ depsOf body cur, d ∈ vis := by
  obtain ⟨pre, e, hp⟩ := hf
  exact fun d hd => hp d (by rwa [e, List.append_nil] at hd)

theorem Frame.mem_deps {body : List Node} {vis : List Nat} {cur d : Nat} {rem : List Nat}
    (hf : Frame body vis (cur, d :: rem)) : d ∈ depsOf body cur := by
  obtain ⟨pre, e, _⟩ := hf
  exact e ▸ List.mem_append_right pre List.mem_cons_self

structure TInv (body : List Node) (o : List Nat) (s : List (Nat × List Nat)) : Prop where
  nd : (s.map (·.1) ++ o).Nodup
  df : ∀ v ∈ s.map (·.1) ++ o, (findDef body v).isSome = true
  fr : ∀ f ∈ s, Frame body (s.map (·.1) ++ o) f

theorem TInv_init (body : List Node) : TInv body [] [] :=
  ⟨List.nodup_nil, fun _ h => absurd h List.not_mem_nil, fun _ h => absurd h List.not_mem_nil⟩

theorem Step.visited {body : List Node} {o o' : List Nat} {s s' : List (Nat × List Nat)} (h : Step body o s o' s') :
    ∀ v ∈ s.map (·.1) ++ o, v ∈ s'.map (·.1) ++ o' := by
  cases h with
  | pop => exact fun v hv => (List.perm_middle.mem_iff).2 hv
  | skip => exact fun v hv => hv
  | push => exact fun v hv => List.mem_cons_of_mem _ hv

theorem Step.inv {body : List Node} {o o' : List Nat} {s s' : List (Nat × List Nat)} (hi : TInv body o s)
    (h : Step body o s o' s') : TInv body o' s' := by
  have hv := h.visited
  obtain ⟨nd, df, fr⟩ := hi
  cases h with
  | pop =>
    exact ⟨List.perm_middle.nodup_iff.2 nd, fun v h => df v (List.perm_middle.mem_iff.1 h),
      fun f hf => (fr f (List.mem_cons_of_mem _ hf)).mono hv⟩
  | @skip cur d rem rest hd =>
    refine ⟨nd, df, fun f hf => ?_⟩
    rcases List.mem_cons.1 hf with rfl | hf
    · exact (fr _ List.mem_cons_self).next hd
    · exact fr f (List.mem_cons_of_mem _ hf)
  | @push cur d rem rest hd =>
    have hdd : d ∈ depsOf body cur := (fr _ List.mem_cons_self).mem_deps
    refine ⟨List.nodup_cons.2 ⟨hd, nd⟩, fun v h => ?_, fun f hf => ?_⟩
    · rcases List.mem_cons.1 h with rfl | h
      · exact deps_defined hdd
      · exact df v h
    · rcases List.mem_cons.1 hf with rfl | hf
      · exact Frame.start body _ d
      · rcases List.mem_cons.1 hf with rfl | hf
        · exact ((fr _ List.mem_cons_self).mono hv).next List.mem_cons_self
        · exact (fr f (List.mem_cons_of_mem _ hf)).mono hv

/-! ## potential

A frame weighs one more than the dependencies it still has to look at; a node the search has not
visited weighs as much as its future frame.  Pushing moves that weight from the second sum to the
first and skips one dependency; popping and skipping take one off the first sum. -/

def fsum (s : List (Nat × List Nat)) : Nat := (s.map fun f => f.2.length + 1).sum

def wsum (body : List Node) (l : List Node) : Nat := (l.map fun n => (deps body n).length + 1).sum

def topoPhi (body : List Node) (o : List Nat) (s : List (Nat × List Nat)) : Nat :=
  fsum s + wsum body (body.filter fun n => decide (n.res ∉ s.map (·.1) ++ o))

theorem fsum_cons (f : Nat × List Nat) (l : List (Nat × List Nat)) : fsum (f :: l) = f.2.length + 1 + fsum l :=
  List.sum_cons

theorem wsum_cons (body : List Node) (n : Node) (l : List Node) :
    wsum body (n :: l) = (deps body n).length + 1 + wsum body l :=
  List.sum_cons

theorem wsum_append (body : List Node) (l l' : List Node) : wsum body (l ++ l') = wsum body l + wsum body l' := by
  simp only [wsum, List.map_append, List.sum_append_nat]

theorem wsum_filter_mono (body : List Node) {p q : Node → Bool} (hq : ∀ y, q y = true → p y = true) :
    ∀ l : List Node, wsum body (l.filter q) ≤ wsum body (l.filter p) := by
  intro l
  induction l with
  | nil => exact Nat.le_refl _
  | cons y l ih =>
    cases hqy : q y
    · rw [List.filter_cons_of_neg (by simp [hqy])]
      cases hpy : p y
      · rw [List.filter_cons_of_neg (by simp [hpy])]; exact ih
      · rw [List.filter_cons_of_pos hpy, wsum_cons]; omega
    · rw [List.filter_cons_of_pos hqy, List.filter_cons_of_pos (hq y hqy), wsum_cons, wsum_cons]; omega

theorem wsum_filter_remove (body : List Node) {p q : Node → Bool} {x : Node}
    (hq : ∀ y, q y = true → p y = true) (hpx : p x = true) (hqx : q x = false) {l : List Node} (hx : x ∈ l) :
    wsum body (l.filter q) + ((deps body x).length + 1) ≤ wsum body (l.filter p) := by
  obtain ⟨l1, l2, rfl⟩ := List.append_of_mem hx
  have h1 := wsum_filter_mono body hq l1
  have h2 := wsum_filter_mono body hq l2
  rw [List.filter_append, List.filter_append, List.filter_cons_of_neg (by simp [hqx]),
    List.filter_cons_of_pos hpx, wsum_append, wsum_append, wsum_cons]
  omega

theorem wsum_lt_fuel (body : List Node) : wsum body body < topoFuel body := by
  have h : ∀ l : List Node, wsum body l ≤ l.length + (l.map (·.args.length)).sum := by
    intro l
    induction l with
    | nil => exact Nat.le_refl _
    | cons n l ih =>
      have := deps_length_le body n
      rw [wsum_cons, List.length_cons, List.map_cons, List.sum_cons]
      omega
  have := h body
  unfold topoFuel
  omega

theorem Step.phi_lt {body : List Node} {o o' : List Nat} {s s' : List (Nat × List Nat)} (hi : TInv body o s)
    (h : Step body o s o' s') : topoPhi body o' s' < topoPhi body o s := by
  cases h with
  | pop =>
    rename_i cur
    have : ∀ n : Node, decide (n.res ∉ s'.map (·.1) ++ cur :: o) = decide (n.res ∉ cur :: s'.map (·.1) ++ o) :=
      fun n => decide_eq_decide.2 (not_congr List.perm_middle.mem_iff)
    simp only [topoPhi, fsum_cons, this, List.map_cons, List.length_nil]
    omega
  | skip =>
    simp only [topoPhi, fsum_cons, List.map_cons, List.length_cons]
    omega
  | @push cur d rem rest hd =>
    have hdd : d ∈ depsOf body cur := (hi.fr _ List.mem_cons_self).mem_deps
    obtain ⟨dn, hdn⟩ := Option.isSome_iff_exists.1 (deps_defined hdd)
    obtain ⟨hmem, hres⟩ := findDef_mem hdn
    have hW := wsum_filter_remove body (x := dn)
      (p := fun n => decide (n.res ∉ cur :: rest.map (·.1) ++ o))
      (q := fun n => decide (n.res ∉ d :: cur :: rest.map (·.1) ++ o))
      (fun y hy => decide_eq_true fun h => of_decide_eq_true hy (List.mem_cons_of_mem _ h))
      (decide_eq_true (hres ▸ hd)) (decide_eq_false fun h => h (hres ▸ List.mem_cons_self)) hmem
    simp only [topoPhi, fsum_cons, List.map_cons, List.length_cons, depsOf_of_findDef hdn] at hW ⊢
    omega

/-- body of `for op in ops` in `restore_dominance_order` -/
def rootStep (body : List Node) (st : TopoSt) (n : Node) : TopoSt :=
  if st.emitted.contains n.res then st
  else topoRun body (topoFuel body) { st with onStack := n.res :: st.onStack, stack := [(n.res, deps body n)] }

theorem topoSort_eq (body : List Node) :
    topoSort body = if isOrdered body then body
      else ((body.foldl (rootStep body) {}).order.reverse.filterMap (findDef body)) := rfl

theorem TInv.root {body : List Node} (hnd : (body.map (·.res)).Nodup) {o : List Nat} {n : Node} (hn : n ∈ body)
    (hc : n.res ∉ o) (hi : TInv body o []) : TInv body o [(n.res, deps body n)] := by
  refine ⟨List.nodup_cons.2 ⟨hc, hi.nd⟩, fun v hv => ?_, fun f hf => ?_⟩
  · rcases List.mem_cons.1 hv with rfl | hv
    · exact findDef_isSome_of_mem hn
    · exact hi.df v hv
  · rw [List.mem_singleton.1 hf, ← depsOf_of_findDef (findDef_of_mem hnd hn)]
    exact Frame.start body _ n.res

theorem topoPhi_root_lt {body : List Node} (o : List Nat) {n : Node} (hn : n ∈ body) :
    topoPhi body o [(n.res, deps body n)] < topoFuel body := by
  have hW := wsum_filter_remove body (x := n) (p := fun _ => true)
    (q := fun m => decide (m.res ∉ n.res :: o)) (fun _ _ => rfl) rfl
    (decide_eq_false fun h => h List.mem_cons_self) hn
  have hF := wsum_lt_fuel body
  rw [List.filter_eq_self.2 fun _ _ => rfl] at hW
  simp only [topoPhi, fsum, List.map_cons, List.map_nil, List.sum_cons, List.sum_nil, List.cons_append,
    List.nil_append] at hW ⊢
  omega

section loops
/- `J`: any property of (emitted list, stack) that contains the invariant of the search, is kept by
every step and holds when the search starts from a node not emitted yet. -/
variable {body : List Node} {J : List Nat → List (Nat × List Nat) → Prop}
  (hT : ∀ {o s}, J o s → TInv body o s)
  (hJ : ∀ {o s o' s'}, J o s → Step body o s o' s' → J o' s')
  (hJ0 : ∀ {o} {n : Node}, n ∈ body → n.res ∉ o → J o [] → J o [(n.res, deps body n)])
include hT hJ

theorem topoRun_done : ∀ (fuel : Nat) {o : List Nat} {s : List (Nat × List Nat)}, J o s →
    topoPhi body o s < fuel →
    ∃ o', topoRun body fuel (.norm o s) = .norm o' [] ∧ J o' [] ∧ ∀ v ∈ s.map (·.1) ++ o, v ∈ o' := by
  intro fuel
  induction fuel with
  | zero => exact fun _ hf => absurd hf (Nat.not_lt_zero _)
  | succ fuel ih =>
    intro o s hj hf
    rcases topoRun_succ body fuel o s (List.nodup_append.1 (hT hj).nd).1 with ⟨rfl, e⟩ | ⟨o1, s1, hs, e⟩
    · exact ⟨o, e, hj, fun _ h => h⟩
    · have hlt := hs.phi_lt (hT hj)
      obtain ⟨o', e', hj', hv⟩ := ih (hJ hj hs) (by omega)
      exact ⟨o', e.trans e', hj', fun v h => hv v (hs.visited v h)⟩

include hJ0

theorem rootStep_spec {o : List Nat} {n : Node} (hn : n ∈ body) (hj : J o []) :
    ∃ o', rootStep body (.norm o []) n = .norm o' [] ∧ J o' [] ∧ (∀ v ∈ o, v ∈ o') ∧ n.res ∈ o' := by
  by_cases hc : n.res ∈ o
  · exact ⟨o, if_pos (List.contains_iff_mem.2 hc), hj, fun _ h => h, hc⟩
  · obtain ⟨o', e, hj', hv⟩ := topoRun_done hT hJ (topoFuel body) (hJ0 hn hc hj) (topoPhi_root_lt o hn)
    exact ⟨o', (if_neg (mt List.contains_iff_mem.1 hc)).trans e, hj',
      fun v h => hv v (List.mem_cons_of_mem _ h), hv _ List.mem_cons_self⟩

theorem fold_rootStep_spec : ∀ (l : List Node), (∀ n ∈ l, n ∈ body) → ∀ {o : List Nat}, J o [] →
    ∃ o', l.foldl (rootStep body) (.norm o []) = .norm o' [] ∧ J o' [] ∧
      (∀ v ∈ o, v ∈ o') ∧ ∀ n ∈ l, n.res ∈ o' := by
  intro l
  induction l with
  | nil => exact fun _ o hj => ⟨o, rfl, hj, fun _ h => h, fun _ h => absurd h List.not_mem_nil⟩
  | cons n l ih =>
    intro hl o hj
    obtain ⟨o1, e1, hj1, hv1, hn1⟩ := rootStep_spec hT hJ hJ0 (hl n List.mem_cons_self) hj
    obtain ⟨o2, e2, hj2, hv2, hn2⟩ := ih (fun m hm => hl m (List.mem_cons_of_mem _ hm)) hj1
    refine ⟨o2, by rw [List.foldl_cons, e1, e2], hj2, fun v h => hv2 v (hv1 v h), fun m hm => ?_⟩
    rcases List.mem_cons.1 hm with rfl | hm
    · exact hv2 _ hn1
    · exact hn2 m hm

theorem topoSort_final (hinit : J [] []) :
    ∃ o, body.foldl (rootStep body) {} = .norm o [] ∧ J o [] ∧ ∀ n ∈ body, n.res ∈ o := by
  obtain ⟨o, e, hj, _, hall⟩ := fold_rootStep_spec hT hJ hJ0 body (fun _ h => h) hinit
  exact ⟨o, e, hj, hall⟩

end loops

/-- acyclicity stated on operands: `rank` decreases from a node to every operand the block defines -/
def Acyclic (body : List Node) (rank : Nat → Nat) : Prop :=
  ∀ n ∈ body, ∀ a ∈ n.args, (findDef body a).isSome = true → rank a < rank n.res

theorem Acyclic.on_deps {body : List Node} {rank : Nat → Nat} (h : Acyclic body rank) :
    ∀ n ∈ body, ∀ d ∈ deps body n, rank d < rank n.res :=
  fun n hn d hd => h n hn d (deps_sub_args hd) (deps_defined hd)

theorem Acyclic.mem_deps {body : List Node} {rank : Nat → Nat} (h : Acyclic body rank) {n : Node} (hn : n ∈ body)
    {a : Nat} (ha : a ∈ n.args) (hd : (findDef body a).isSome = true) : a ∈ deps body n := by
  have hr := h n hn a ha hd
  simp only [deps, List.mem_filter, Bool.and_eq_true, ne_eq]
  refine ⟨ha, ?_, hd⟩
  have : ¬ a = n.res := by
    intro e
    rw [e] at hr
    omega
  simpa using this

/-- operands that the block does not define (block arguments, values of enclosing regions) -/
def External (body : List Node) (x : Nat) : Prop := findDef body x = none

/-- `order` is the reversed emission order: the head was emitted last -/
def TopoClosed (body : List Node) : List Nat → Prop
  | [] => True
  | e :: l => (∀ d ∈ depsOf body e, d ∈ l) ∧ TopoClosed body l

structure AInv (body : List Node) (rank : Nat → Nat) (o : List Nat) (s : List (Nat × List Nat)) : Prop where
  ch : s.Pairwise (fun a b => rank a.1 < rank b.1)
  cl : TopoClosed body o

theorem rank_depsOf {body : List Node} {rank : Nat → Nat}
    (hacy : ∀ n ∈ body, ∀ d ∈ deps body n, rank d < rank n.res) {v d : Nat}
    (hv : (findDef body v).isSome = true) (hd : d ∈ depsOf body v) : rank d < rank v := by
  obtain ⟨n, hn⟩ := Option.isSome_iff_exists.1 hv
  obtain ⟨hm, hr⟩ := findDef_mem hn
  rw [depsOf_of_findDef hn] at hd
  exact hr ▸ hacy n hm d hd

/-- A popped node has all its dependencies visited; they rank below it, the rest of the stack ranks
above it: so they are emitted.  A pushed dependency ranks below the frame that asks for it. -/
theorem Step.acyclic {body : List Node} {rank : Nat → Nat}
    (hacy : ∀ n ∈ body, ∀ d ∈ deps body n, rank d < rank n.res) {o o' : List Nat} {s s' : List (Nat × List Nat)}
    (hi : TInv body o s) (ha : AInv body rank o s) (h : Step body o s o' s') : AInv body rank o' s' := by
  obtain ⟨ch, cl⟩ := ha
  cases h with
  | pop =>
    rename_i cur
    obtain ⟨hhead, htail⟩ := List.pairwise_cons.1 ch
    refine ⟨htail, fun x hx => ?_, cl⟩
    have hr := rank_depsOf hacy (hi.df cur List.mem_cons_self) hx
    rcases List.mem_append.1 ((hi.fr _ List.mem_cons_self).done x hx) with h | h
    · exfalso
      rcases List.mem_cons.1 h with rfl | h
      · exact Nat.lt_irrefl _ hr
      · obtain ⟨f, hf, rfl⟩ := List.mem_map.1 h
        exact Nat.lt_asymm hr (hhead f hf)
    · exact h
  | skip =>
    obtain ⟨hhead, htail⟩ := List.pairwise_cons.1 ch
    exact ⟨List.pairwise_cons.2 ⟨hhead, htail⟩, cl⟩
  | @push cur d rem rest _ =>
    obtain ⟨hhead, htail⟩ := List.pairwise_cons.1 ch
    have hr := rank_depsOf hacy (hi.df cur List.mem_cons_self) (hi.fr _ List.mem_cons_self).mem_deps
    refine ⟨List.pairwise_cons.2 ⟨fun b hb => ?_, List.pairwise_cons.2 ⟨hhead, htail⟩⟩, cl⟩
    rcases List.mem_cons.1 hb with rfl | hb
    · exact hr
    · exact Nat.lt_trans hr (hhead b hb)

theorem AInv.root {body : List Node} {rank : Nat → Nat} {o : List Nat} {n : Node} (ha : AInv body rank o []) :
    AInv body rank o [(n.res, deps body n)] :=
  ⟨List.pairwise_singleton _ _, ha.cl⟩

theorem TopoClosed_mem {body : List Node} : ∀ {l : List Nat}, TopoClosed body l → ∀ e, e ∈ l →
    ∃ l1 l2, l = l1 ++ e :: l2 ∧ ∀ d ∈ depsOf body e, d ∈ l2 := by
  intro l
  induction l with
  | nil => exact fun _ _ h => absurd h List.not_mem_nil
  | cons x l ih =>
    intro ⟨hx, hl⟩ e h
    rcases List.mem_cons.1 h with rfl | h
    · exact ⟨[], l, rfl, hx⟩
    · obtain ⟨l1, l2, e1, e2⟩ := ih hl e h
      exact ⟨x :: l1, l2, congrArg (x :: ·) e1, e2⟩

theorem filterMap_findDef_res (body : List Node) : ∀ (l : List Nat), (∀ v ∈ l, (findDef body v).isSome = true) →
    (l.filterMap (findDef body)).map (·.res) = l := by
  intro l
  induction l with
  | nil => exact fun _ => rfl
  | cons v l ih =>
    intro h
    obtain ⟨n, hn⟩ := Option.isSome_iff_exists.1 (h v List.mem_cons_self)
    have ih := ih fun w hw => h w (List.mem_cons_of_mem _ hw)
    simp only [List.filterMap_cons, hn, List.map_cons, ih, (findDef_mem hn).2]

theorem ordFrom_of_isOrdered {body : List Node} {rank : Nat → Nat} (hacy : Acyclic body rank)
    (ho : isOrdered body = true) : OrdFrom (External body) body :=
  OrdFrom_iff_splits.2 fun pre n suf e a ha => by
    cases hfa : findDef body a with
    | none => exact Or.inl hfa
    | some na =>
      have hn : n ∈ body := e ▸ List.mem_append_right _ List.mem_cons_self
      exact Or.inr (isOrdered_iff.1 ho pre n suf e a (hacy.mem_deps hn ha (by rw [hfa]; rfl)))

theorem closed_ordFrom {body : List Node} {rank : Nat → Nat} (hacy : Acyclic body rank) :
    ∀ l : List Nat, TopoClosed body l → (∀ v ∈ l, (findDef body v).isSome = true) →
      OrdFrom (External body) (l.reverse.filterMap (findDef body)) := by
  intro l
  induction l with
  | nil => exact fun _ _ => trivial
  | cons e l ih =>
    intro ⟨he, hl⟩ hdef
    have ih := ih hl fun v hv => hdef v (List.mem_cons_of_mem _ hv)
    obtain ⟨ne, hne⟩ := Option.isSome_iff_exists.1 (hdef e List.mem_cons_self)
    obtain ⟨hmem, _⟩ := findDef_mem hne
    simp only [List.reverse_cons, List.filterMap_append, List.filterMap_cons, hne, List.filterMap_nil]
    apply OrdFrom_snoc _ _ ih
    intro a ha
    cases hfa : findDef body a with
    | none => exact Or.inl hfa
    | some na =>
      right
      have hd := hacy.mem_deps hmem ha (by simp [hfa])
      have hal : a ∈ l := he a (depsOf_of_findDef hne ▸ hd)
      rw [filterMap_findDef_res body l.reverse fun v hv => hdef v (List.mem_cons_of_mem _ (List.mem_reverse.1 hv))]
      exact List.mem_reverse.2 hal

end Xdsl.EGraph
