import XdslModel.Loops
import XdslProofs.Lemmas.Loops
/-!
C16 — loop flattening (`scf_for_loop_flatten.py`).  `flatten_round_sound` / `flatten_unused_sound` are
the arithmetic cores, both read off "a nest is one iteration over the concatenated lists of inner induction
values" (`Loops.forLoop_nest`, `Loops.iter_flatMap`); `flatten_fuse_pass_sound` /
`flatten_prod_pass_sound` state that whatever `flattenDecide` (the model of the repaired pass: outer range rounded up to a whole number of outer
steps, inner trip count a clamped ceiling) emits is equivalent to the nest, for constant and
non-constant outer bounds.  The `…_regression` theorems keep the inputs on which the pass was
wrong before the repair.
-/
namespace Xdsl.C16
open Xdsl.Loops

/-- "flattening" (`i = q*N + r` decomposition), induction variables summed: any bound `r` that is `ub`
rounded up to a whole number of outer steps (`Rounded`: `ub ≤ r < ub + S`, `S ∣ r - lb`; `r ≤ lb` for an
empty range) makes the flat loop `[lb, r)` step `s` equivalent to the nest
`for o in [lb,ub) step S { for i in [0,S) step s { body (o+i) } }`, provided `s` divides `S`: the nest visits the
first `tripCount lb ub S * (S / s)` values from `lb` in steps of `s`, and that is the trip count of the flat loop. -/
theorem flatten_round_sound {σ : Type} (lb ub r S s : Int) (hs : 0 < s) (hS : 0 < S) (hd : s ∣ S)
    (hr : Rounded lb ub S r) (body : Int → σ → Option σ) (s0 : σ) :
    forLoop lb ub S (fun o st => forLoop 0 S s (fun i => body (o + i)) st) s0
      = forLoop lb r s body s0 := by
  obtain ⟨m, hm⟩ := exists_nat_mul_of_dvd hs hS hd
  rw [forLoop_nest hS hs hm, forLoop_pos hs, tripCount_rounded_finer_step hs hS hm hr]

/-- the case where nothing has to be rounded: **`S` divides `ub - lb`** (the pass checks `s ∣ S` and rounds `ub`
up so that this holds: `flatten_round_sound`).  `k` and `tripCount lb ub S = k` are not used. -/
theorem flatten_sound {σ : Type} (ub S s : Int) (hs : 0 < s) (hS : 0 < S) (hd : s ∣ S)
    (body : Int → σ → Option σ) :
    ∀ (k : Nat) (lb : Int) (s0 : σ), tripCount lb ub S = k → S ∣ (ub - lb) →
      forLoop lb ub S (fun o st => forLoop 0 S s (fun i => body (o + i)) st) s0
        = forLoop lb ub s body s0 :=
  fun _ lb s0 _ hdiv => flatten_round_sound lb ub ub S s hs hS hd (rounded_self hS hdiv) body s0

/-- **the pass, induction variables summed**: whenever the decision is `fuse st b`, the loop it
builds (`lb` to the value of the new bound `b`, step `st`) is equivalent to the nest — for constant
bounds (`olb`/`oub = some _`, kept / replaced by a rounded constant) and for bounds only known at
run time (`none`: `lb + ceildivsi(ub - lb, S) * S`).  `0 < s` is what `scf.for` demands of the
inner step; `0 < S` is checked by the pass. -/
theorem flatten_fuse_pass_sound {σ : Type} (olb oub : Option Int) (lb ub S il iu s st : Int) (b : NewUb)
    (hl : ∀ v, olb = some v → v = lb) (hu : ∀ v, oub = some v → v = ub) (hs : 0 < s)
    (h : flattenDecide true olb oub S il iu s = .fuse st b) (body : Int → σ → Option σ) (s0 : σ) :
    forLoop lb ub S (fun o x => forLoop il iu s (fun i => body (o + i)) x) s0
      = forLoop lb (b.val lb ub S) st body s0 := by
  revert h
  -- only the last arm of the `used` half returns `fuse`
  fun_cases flattenDecide true olb oub S il iu s <;> intro h <;> cases h
  rename_i hS _ h1 h2 _ hm
  obtain rfl := Classical.not_not.1 h1
  obtain rfl := Classical.not_not.1 h2
  rw [Classical.not_not, Int.fmod_eq_emod_of_nonneg _ (Int.le_of_lt hs)] at hm
  exact flatten_round_sound lb ub _ iu _ hs (by omega) (Int.dvd_of_emod_eq_zero hm)
    (wholeStepsUb_rounded olb oub lb ub iu (by omega) hl hu) body s0

/-- regression (the check's failing input before the repair): 0..5 step 4 around 0..4 step 2 — the
nest visits 0,2,4,6, the formerly emitted loop 0..5 step 2 only 0,2,4; the pass now rounds the
bound to 8. -/
theorem flatten_fuse_regression :
    forLoop 0 5 4 (fun o st => forLoop 0 4 2 (fun i => logBody (o + i)) st) [] = some [0, 2, 4, 6]
    ∧ forLoop 0 5 2 logBody [] = some [0, 2, 4]
    ∧ flattenDecide true (some 0) (some 5) 4 0 4 2 = .fuse 2 (.const 8)
    ∧ forLoop 0 8 2 logBody [] = some [0, 2, 4, 6]
    ∧ flattenDecide true none (some 5) 4 0 4 2 = .fuse 2 .arith
    ∧ NewUb.val 0 5 4 .arith = 8 := by
  decide +kernel

/-- induction variables unused: the nest runs the body `tripCount(outer) * tripCount(inner)` times,
so a single loop with that many trips is equivalent (any bounds/step achieving it). -/
theorem flatten_unused_sound {σ : Type} (lb ub S il iu s nlb nub nS : Int) (hS : 0 < S) (hs : 0 < s)
    (hn : 0 < nS) (f : σ → Option σ) (s0 : σ)
    (h : tripCount nlb nub nS = tripCount lb ub S * tripCount il iu s) :
    forLoop lb ub S (fun _ st => forLoop il iu s (fun _ => f) st) s0 = forLoop nlb nub nS (fun _ => f) s0 := by
  have : (fun (_ : Int) (st : σ) => forLoop il iu s (fun _ => f) st)
      = fun _ => iter (fun _ => f) (ivs il s (tripCount il iu s)) :=
    funext fun _ => funext fun st => forLoop_pos hs _ st
  rw [this, forLoop_pos hS, forLoop_pos hn, iter_flatMap]
  exact iter_const_congr f (by rw [List.length_flatMap, ivs_length, List.map_const', List.sum_replicate_nat, ivs_length, ivs_length, h]) s0

/-- **the pass, induction variables unused**: whenever the decision is `prod f b`, the loop it
builds (`0` to `(value of b) * f`, step `S`) is equivalent to the nest: `f` is the inner trip count
and the rounded outer bound is a whole number of outer steps, so the product loop has exactly
`tripCount(outer) * tripCount(inner)` iterations. -/
theorem flatten_prod_pass_sound {σ : Type} (olb oub : Option Int) (lb ub S il iu s f : Int) (b : NewUb)
    (hl : ∀ v, olb = some v → v = lb) (hu : ∀ v, oub = some v → v = ub) (hs : 0 < s)
    (h : flattenDecide false olb oub S il iu s = .prod f b) (g : σ → Option σ) (s0 : σ) :
    forLoop lb ub S (fun _ x => forLoop il iu s (fun _ => g) x) s0
      = forLoop 0 (b.val lb ub S * f) S (fun _ => g) s0 := by
  revert h
  -- only the arm `olb = some 0`, `s ≠ 0` of the unused half returns `prod`
  fun_cases flattenDecide false olb oub S il iu s <;> intro h <;> cases h
  rename_i hS _ _
  obtain rfl := hl 0 rfl
  have hS : 0 < S := by omega
  apply flatten_unused_sound 0 ub S il iu s 0 _ S hS hs hS g s0
  rw [← tripCount_eq_ceil hs, tripCount_rounded_mul hS (wholeStepsUb_rounded (some 0) oub 0 ub S hS hl hu)]

/-- regression (the check's failing inputs before the repair): 0..3 step 2 around 0..3 step 1 runs
the body 6 times, the formerly emitted 0..9 step 2 five times — now 0..4*3 step 2; 0..2 step 1
around 1..-2 step 3 never runs the body, the former factor `(−2−1)//3 = −1` is now `0`; 0..8 step 3
has three iterations, not `8 // 3 = 2`. -/
theorem flatten_unused_regression :
    tripCount 0 3 2 * tripCount 0 3 1 = 6 ∧ tripCount 0 (3 * Int.fdiv (3 - 0) 1) 2 = 5
    ∧ flattenDecide false (some 0) (some 3) 2 0 3 1 = .prod 3 (.const 4) ∧ tripCount 0 (4 * 3) 2 = 6
    ∧ flattenDecide false (some 0) (some 2) 1 1 (-2) 3 = .prod 0 .keep
    ∧ flattenDecide false (some 0) none 5 0 8 3 = .prod 3 .arith := by
  decide +kernel

end Xdsl.C16
