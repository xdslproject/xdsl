import XdslProofs.Lemmas.Worklist
/-!
# C12 — property theorems (worklist part)

"the rewrite worklist behaves as a last-in-first-out stack without duplicates from which items can
be removed (pop returns the most recently pushed item still present, emptiness is reported
correctly)" — for every operation sequence.
-/
namespace Xdsl.Worklist

theorem inv_empty : Inv {} := AL.Inverts.nil

theorem isEmpty_refines (s : WL) (h : Inv s) :
    (step s .isEmpty).2 = (Spec.step (abs s) .isEmpty).2
    ∧ abs (step s .isEmpty).1 = (Spec.step (abs s) .isEmpty).1
    ∧ Inv (step s .isEmpty).1 := by
  refine ⟨?_, by simp [step, Spec.step, abs, filterMap_dm], fun x i => (h x i).trans (getElem?_dm s.stack i x).symm⟩
  show Out.bool (!(dropMissing s.stack).isEmpty) = .bool (!(abs s).isEmpty)
  rcases dm_last s.stack with h0 | ⟨init, x, hx⟩
  · rw [h0, show abs s = [] by simp [abs, ← filterMap_dm, h0]]; rfl
  · rw [hx, show abs s = x :: (init.filterMap id).reverse by simp [abs, ← filterMap_dm s.stack, hx]]
    simp

theorem push_refines (s : WL) (h : Inv s) (x : Nat) :
    (step s (.push x)).2 = (Spec.step (abs s) (.push x)).2
    ∧ abs (step s (.push x)).1 = (Spec.step (abs s) (.push x)).1
    ∧ Inv (step s (.push x)).1 := by
  simp only [step, Spec.step]
  cases hg : AL.get s.map x with
  | some j =>
    rw [if_pos ((mem_abs_iff_map s h x).mpr (by rw [hg]; rfl))]
    exact ⟨rfl, rfl, h⟩
  | none =>
    have hm : x ∉ abs s := fun hm => by simpa [hg] using (mem_abs_iff_map s h x).mp hm
    rw [if_neg hm]
    exact ⟨rfl, by simp [abs], h.inverts.push hg⟩

/-- `pop` first drops the tombstones on top, as `__bool__` does; what is left is empty or ends in a live
item, and taking that item off is `push` undone -/
theorem pop_refines (s : WL) (h : Inv s) :
    (step s .pop).2 = (Spec.step (abs s) .pop).2
    ∧ abs (step s .pop).1 = (Spec.step (abs s) .pop).1
    ∧ Inv (step s .pop).1 := by
  obtain ⟨-, ha, hi⟩ := isEmpty_refines s h
  simp only [step, Spec.step] at ha hi ⊢
  rw [← ha]
  rcases dm_last s.stack with h0 | ⟨init, x, hx⟩
  · rw [h0] at hi ⊢
    exact ⟨rfl, rfl, hi⟩
  · rw [hx] at hi ⊢
    rw [unsnoc_append, show abs { s with stack := init ++ [some x] } = x :: abs { s with stack := init } by
      simp [abs]]
    exact ⟨rfl, rfl, hi.inverts.pop⟩

theorem remove_refines (s : WL) (h : Inv s) (x : Nat) :
    (step s (.remove x)).2 = (Spec.step (abs s) (.remove x)).2
    ∧ abs (step s (.remove x)).1 = (Spec.step (abs s) (.remove x)).1
    ∧ Inv (step s (.remove x)).1 := by
  simp only [step, Spec.step]
  cases hg : AL.get s.map x with
  | none =>
    have hm : x ∉ abs s := fun hm => by simpa [hg] using (mem_abs_iff_map s h x).mp hm
    refine ⟨rfl, ?_, h⟩
    exact (List.filter_eq_self.mpr fun y hy => by
      have : y ≠ x := fun e => hm (e ▸ hy)
      simpa using this).symm
  | some i =>
    have hi := (h x i).mp hg
    refine ⟨rfl, ?_, h.inverts.del fun j y => ?_⟩
    · show (List.filterMap id (s.stack.set i none)).reverse = _
      rw [filterMap_set_none s.stack i x hi fun j hj => h.inverts.inj hj hi]
      simp [abs, List.filter_reverse]
    · show (s.stack.set i none)[j]? = _ ↔ _
      rw [List.getElem?_set]
      split
      · rename_i hij; subst hij
        rw [hi]
        exact ⟨fun e => (by split at e <;> cases e),
          fun e => absurd (Option.some.inj (Option.some.inj e.1)).symm e.2⟩
      · rename_i hij
        exact ⟨fun e => ⟨e, fun hy => hij (h.inverts.inj hi (hy ▸ e))⟩, And.left⟩

/-- One step of the tombstoned-stack implementation refines one step of the duplicate-free stack
specification: same output, abstraction commutes, invariant preserved. -/
theorem step_refines (s : WL) (h : Inv s) (o : Op) :
    (step s o).2 = (Spec.step (abs s) o).2
    ∧ abs (step s o).1 = (Spec.step (abs s) o).1
    ∧ Inv (step s o).1 := by
  cases o with
  | isEmpty => exact isEmpty_refines s h
  | push x => exact push_refines s h x
  | pop => exact pop_refines s h
  | remove x => exact remove_refines s h x

/-- For every history from a state satisfying `Inv`: the outputs (popped items, `IndexError`s,
emptiness answers) are exactly those of a duplicate-free LIFO stack started on the abstract contents;
`history_refines` is the case of the empty worklist. -/
theorem run_refines (s : WL) (h : Inv s) (os : List Op) :
    (run s os).2 = (Spec.run (abs s) os).2 ∧ abs (run s os).1 = (Spec.run (abs s) os).1
    ∧ Inv (run s os).1 := by
  induction os generalizing s with
  | nil => exact ⟨rfl, rfl, h⟩
  | cons o os ih =>
    obtain ⟨h1, h2, h3⟩ := step_refines s h o
    obtain ⟨i1, i2, i3⟩ := ih (step s o).1 h3
    simp only [run, Spec.run]
    rw [h2] at i1 i2
    exact ⟨by rw [h1, i1], i2, i3⟩

theorem history_refines (os : List Op) : (run {} os).2 = (Spec.run [] os).2 :=
  (run_refines {} inv_empty os).1

/-- The specification really is "LIFO without duplicates": it never holds a duplicate. -/
theorem spec_nodup (l : List Nat) (hl : l.Nodup) (o : Op) : (Spec.step l o).1.Nodup := by
  cases o with
  | isEmpty => exact hl
  | push x => simp only [Spec.step]; split; exact hl; exact List.nodup_cons.mpr ⟨by assumption, hl⟩
  | pop => cases l with
    | nil => exact hl
    | cons a r => exact (List.nodup_cons.mp hl).2
  | remove x => exact hl.filter _

/-- `pop` returns the most recently pushed item still present: after `push x` on a worklist
not containing `x`, `pop` yields `x` and restores the previous abstract contents. -/
theorem pop_after_push (s : WL) (h : Inv s) (x : Nat) (hx : x ∉ abs s) :
    (step (step s (.push x)).1 .pop).2 = .item x
    ∧ abs (step (step s (.push x)).1 .pop).1 = abs s := by
  obtain ⟨_, a1, i1⟩ := step_refines s h (.push x)
  obtain ⟨o2, a2, _⟩ := step_refines _ i1 .pop
  rw [a1] at o2 a2
  simp only [Spec.step, hx, if_false] at o2 a2
  exact ⟨o2, a2⟩

/-- non-vacuity: a reachable state with a tombstone in the middle and one on top satisfies `Inv`. -/
example : (run {} [.push 4, .push 5, .push 6, .push 7, .remove 5, .remove 7]).1.stack
    = [some 4, none, some 6, none] := by decide
example : Inv (run {} [.push 4, .push 5, .push 6, .push 7, .remove 5, .remove 7]).1 :=
  (run_refines {} inv_empty _).2.2
example : (run {} [.push 1, .push 2, .remove 2, .push 3, .pop, .pop, .pop, .isEmpty]).2
    = [.unit, .unit, .unit, .unit, .item 3, .item 1, .indexError, .bool false] := by decide

end Xdsl.Worklist
