import XdslModel.ArgSpec
import XdslProofs.Lemmas.List
/-!
Lexer lemmas for C18.  Every result on `lexAll` has one shape: `lexAll (t ++ rest) = ⟨k, t⟩ :: lexAll rest` for a
text `t` the printer emits, under a condition on the first character of `rest` (`Stops`, `DelimStart`; none after a
string, a brace, `=` or `,`).  `lexAll` is unfolded only in `lexAll_nil` and `lexAll_step`; each matcher is computed
on a block `a ++ rest` through `countWhile_block` and `List.drop_left`.  Also here: what the scalar readers of the
element parser return on printed text (`parseInt_showInt`, `unescape_escape`) and the grammar of float texts
(`FloatRepr`, `Dotted`, `printFloatText_cases`).
-/
namespace Xdsl.ArgSpec

/-- the characters that can follow an identifier or a number in printed text -/
def isDelim (c : Char) : Bool := c == '{' || c == '}' || c == ',' || c == ' ' || c == '='

def Stops (p : Char → Bool) : List Char → Prop
  | [] => True
  | d :: _ => p d = false

def DelimStart : List Char → Prop
  | [] => True
  | d :: _ => isDelim d = true

/-- `[A-Za-z_]` : first character of names and keys covered by the theorems -/
def isNameStart (c : Char) : Bool := isLetter c || c.toNat == 95

variable {c d : Char} {rest : List Char} {p : Char → Bool}

theorem beq_false_of_class {c d : Char} (hc : p c = true) (hd : p d = false) :
    (c == d) = false := by
  rw [beq_eq_false_iff_ne]; rintro rfl; simp [hc] at hd

theorem delim_cases (h : isDelim d = true) :
    d = '{' ∨ d = '}' ∨ d = ',' ∨ d = ' ' ∨ d = '=' := by
  have h' : (((d = '{' ∨ d = '}') ∨ d = ',') ∨ d = ' ') ∨ d = '=' := by simpa [isDelim] using h
  rcases h' with (((h | h) | h) | h) | h <;> simp [h]

theorem delim_not_digit (h : isDelim d = true) : isDigit d = false := by
  rcases delim_cases h with rfl | rfl | rfl | rfl | rfl <;> decide
theorem delim_not_identChar (h : isDelim d = true) : isIdentChar d = false := by
  rcases delim_cases h with rfl | rfl | rfl | rfl | rfl <;> decide
theorem delim_not_identStart1 (h : isDelim d = true) : isIdentStart1 d = false := by
  rcases delim_cases h with rfl | rfl | rfl | rfl | rfl <;> decide

theorem digit_toNat (h : isDigit c = true) : 48 ≤ c.toNat ∧ c.toNat ≤ 57 := by
  simpa [isDigit] using h

theorem digit_identChar {c : Char} (h : isDigit c = true) : isIdentChar c = true := by
  simp [isIdentChar, h]
theorem digit_not_identStart1 {c : Char} (h : isDigit c = true) : isIdentStart1 c = false := by
  have := digit_toNat h
  simp only [isIdentStart1, isLetter, Bool.or_eq_false_iff, Bool.and_eq_false_iff, decide_eq_false_iff_not,
    beq_eq_false_iff_ne, ne_eq]
  omega
theorem identStart1_not_digit (h : isIdentStart1 c = true) : isDigit c = false :=
  Bool.eq_false_iff.2 fun hd => by simp [digit_not_identStart1 hd] at h
theorem digit_not_sign (h : isDigit c = true) : (c == '-' || c == '+') = false := by
  rw [beq_false_of_class h (by decide), beq_false_of_class h (by decide)]; rfl

theorem nameStart_identStart1 (h : isNameStart c = true) : isIdentStart1 c = true := by
  simp only [isNameStart, Bool.or_eq_true] at h
  simp only [isIdentStart1, Bool.or_eq_true]
  exact Or.inl h
theorem nameStart_identChar (h : isNameStart c = true) : isIdentChar c = true := by
  simp only [isNameStart, Bool.or_eq_true] at h
  simp only [isIdentChar, Bool.or_eq_true]
  rcases h with h | h <;> simp [h]
theorem nameStart_not_sign (h : isNameStart c = true) : (c == '-' || c == '+') = false := by
  rw [beq_false_of_class h (by decide), beq_false_of_class h (by decide)]; rfl

/-- identifier characters lie in `[45, 122]`, which meets `isSpace` nowhere -/
theorem identChar_not_space (h : isIdentChar c = true) : isSpace c = false := by
  have hb : 45 ≤ c.toNat ∧ c.toNat ≤ 122 := by
    simp only [isIdentChar, isLetter, isDigit, Bool.or_eq_true, Bool.and_eq_true, decide_eq_true_eq,
      beq_iff_eq] at h
    omega
  simp only [isSpace, Bool.or_eq_false_iff, Bool.and_eq_false_iff, decide_eq_false_iff_not,
    beq_eq_false_iff_ne, ne_eq]
  omega

theorem countWhile_eq (p : Char → Bool) (l : List Char) : countWhile p l = (l.takeWhile p).length := by
  fun_induction countWhile p l <;> simp_all

theorem countWhile_stop {p : Char → Bool} {d : Char} (hd : p d = false) (r : List Char) :
    countWhile p (d :: r) = 0 := by simp [countWhile, hd]

theorem countWhile_nil (p : Char → Bool) : countWhile p [] = 0 := rfl

theorem stops_cons (h : p d = false) (r : List Char) : Stops p (d :: r) := h

theorem Stops.countWhile : ∀ {rest : List Char}, Stops p rest → countWhile p rest = 0
  | [], _ => countWhile_nil p
  | _ :: r, h => countWhile_stop h r

theorem Stops.head : ∀ {rest : List Char}, Stops p rest → ∀ x ∈ rest.head?, p x = false
  | _ :: _, h, _, rfl => h

theorem countWhile_block {a rest : List Char} (ha : ∀ x ∈ a, p x = true)
    (hr : Stops p rest) : countWhile p (a ++ rest) = a.length := by
  rw [countWhile_eq, takeWhile_run ha hr.head]

theorem DelimStart.stops (hp : ∀ d, isDelim d = true → p d = false) :
    ∀ {rest : List Char}, DelimStart rest → Stops p rest
  | [], _ => trivial
  | d :: _, h => hp d h

theorem delimStart_cons (h : isDelim d = true) (r : List Char) : DelimStart (d :: r) := h

theorem lexAll_nil : lexAll [] = [⟨.eof, []⟩] := by
  rw [lexAll]

theorem lexAll_step {t rest : List Char} {k : Kind} (ht : t ≠ [])
    (h : nextToken (t ++ rest) = some (k, t.length)) :
    lexAll (t ++ rest) = ⟨k, t⟩ :: lexAll rest := by
  cases t with
  | nil => exact absurd rfl ht
  | cons c t' =>
    rw [List.cons_append, lexAll]
    rw [List.cons_append] at h
    rw [h]
    simp only [List.length_cons, Nat.add_sub_cancel]
    have h1 : List.take (t'.length + 1) (c :: (t' ++ rest)) = c :: t' := by
      simp [List.take_succ_cons, List.take_left']
    rw [h1, List.drop_left]

theorem matchIdent1_head {r : List Char} (h : isDigit c = false) :
    matchIdent1 (c :: r) = none := by simp [matchIdent1, countWhile, h]

theorem matchNumber_head {r : List Char} (h : isDigit c = false)
    (hs : (c == '-' || c == '+') = false) : matchNumber (c :: r) = none := by
  simp [matchNumber, optSign, hs, countWhile, h]

theorem matchIdent_head {r : List Char} (h : isIdentChar c = false) :
    matchIdent (c :: r) = none := by simp [matchIdent, countWhile, h]

theorem nextToken_delim (h : isDelim d = true) (r : List Char) :
    nextToken (d :: r) = matchPunct (d :: r) := by
  have hs : (d == '-' || d == '+') = false := by
    rw [beq_false_of_class h (by decide), beq_false_of_class h (by decide)]; rfl
  simp [nextToken, matchIdent1_head (delim_not_digit h), matchNumber_head (delim_not_digit h) hs,
    matchIdent_head (delim_not_identChar h), matchString, matchMlir,
    beq_false_of_class h (show isDelim '"' = false by decide),
    beq_false_of_class h (show isDelim '[' = false by decide)]

theorem lex_delim {k : Kind} (hd : isDelim d = true)
    (h : matchPunct (d :: rest) = some (k, 1)) : lexAll (d :: rest) = ⟨k, [d]⟩ :: lexAll rest :=
  lexAll_step (t := [d]) (List.cons_ne_nil _ _) ((nextToken_delim hd rest).trans h)

theorem lex_lbrace (rest : List Char) : lexAll ('{' :: rest) = ⟨.lbrace, ['{']⟩ :: lexAll rest :=
  lex_delim (by decide) rfl
theorem lex_rbrace (rest : List Char) : lexAll ('}' :: rest) = ⟨.rbrace, ['}']⟩ :: lexAll rest :=
  lex_delim (by decide) rfl
theorem lex_equals (rest : List Char) : lexAll ('=' :: rest) = ⟨.equals, ['=']⟩ :: lexAll rest :=
  lex_delim (by decide) rfl
theorem lex_comma (rest : List Char) : lexAll (',' :: rest) = ⟨.comma, [',']⟩ :: lexAll rest :=
  lex_delim (by decide) rfl
/-- a single blank is a whole SPACE token when no whitespace follows it -/
theorem lex_space (h : Stops isSpace rest) :
    lexAll (' ' :: rest) = ⟨.space, [' ']⟩ :: lexAll rest :=
  lex_delim (by decide) (by simp [matchPunct, h.countWhile, show isSpace ' ' = true by decide])

def AllDigits (ds : List Char) : Prop := ∀ x ∈ ds, isDigit x = true

/-- names and keys covered by the round-trip theorems: two shapes that lex as one IDENT —
`[A-Za-z_][A-Za-z0-9_-]*` (rule 3; pass names, Python field names) and
`[0-9]+[A-Za-z_-][A-Za-z0-9_-]*` (rule 1, the `2d-slice` shape).  Not covered: a text that starts with `-` and has
no digit right after it, which rule 3 also takes as one IDENT (`-inf` in `lex_keyword`). -/
def IsName (s : List Char) : Prop :=
  (∃ c r, s = c :: r ∧ isNameStart c = true ∧ ∀ x ∈ r, isIdentChar x = true) ∨
  (∃ ds c r, s = ds ++ c :: r ∧ ds ≠ [] ∧ AllDigits ds ∧ isIdentStart1 c = true ∧
    ∀ x ∈ r, isIdentChar x = true)

theorem nextToken_ident {r rest : List Char} (hd : isDigit c = false)
    (hn : matchNumber (c :: (r ++ rest)) = none) (hc : isIdentChar c = true)
    (hr : ∀ x ∈ r, isIdentChar x = true) (hrest : DelimStart rest) :
    nextToken ((c :: r) ++ rest) = some (.ident, (c :: r).length) := by
  have hcount : countWhile isIdentChar ((c :: r) ++ rest) = (c :: r).length :=
    countWhile_block (by intro x hx; rcases List.mem_cons.1 hx with rfl | hx; exact hc; exact hr x hx)
      (hrest.stops fun _ => delim_not_identChar)
  have hm : matchIdent ((c :: r) ++ rest) = some (c :: r).length := by
    simp only [matchIdent, hcount]; simp
  simp only [nextToken]
  rw [List.cons_append] at hm ⊢
  rw [matchIdent1_head hd, hn, hm]

theorem nextToken_name {t rest : List Char} (ht : IsName t) (hrest : DelimStart rest) :
    nextToken (t ++ rest) = some (.ident, t.length) := by
  rcases ht with ⟨c, r, rfl, hc, hr⟩ | ⟨ds, c, r, rfl, hne, hd, hc, hr⟩
  · have hnd := identStart1_not_digit (nameStart_identStart1 hc)
    exact nextToken_ident hnd (matchNumber_head hnd (nameStart_not_sign hc)) (nameStart_identChar hc) hr hrest
  · have hcount : countWhile isDigit ((ds ++ c :: r) ++ rest) = ds.length := by
      rw [List.append_assoc]
      exact countWhile_block hd (stops_cons (identStart1_not_digit hc) _)
    have hci : countWhile isIdentChar (r ++ rest) = r.length :=
      countWhile_block hr (hrest.stops fun _ => delim_not_identChar)
    have hdrop : ((ds ++ c :: r) ++ rest).drop ds.length = c :: (r ++ rest) := by
      rw [List.append_assoc]; exact List.drop_left
    have hlen : ds.length ≠ 0 := by simpa using hne
    simp only [nextToken, matchIdent1, hcount, hdrop, hc, hci, hlen]
    simp; omega

theorem isName_ne_nil {t : List Char} (ht : IsName t) : t ≠ [] := by
  rcases ht with ⟨c, r, rfl, _⟩ | ⟨ds, c, r, rfl, _⟩ <;> simp

/-- a name never starts with a whitespace character (so a SPACE token before it stops there) -/
theorem isName_head_not_space {t : List Char} (ht : IsName t) : ∃ c r, t = c :: r ∧ isSpace c = false := by
  rcases ht with ⟨c, r, rfl, hc, _⟩ | ⟨ds, c, r, rfl, hne, hd, _⟩
  · exact ⟨c, r, rfl, identChar_not_space (nameStart_identChar hc)⟩
  · obtain ⟨d, ds', rfl⟩ := List.exists_cons_of_ne_nil hne
    exact ⟨d, ds' ++ c :: r, rfl, identChar_not_space (digit_identChar (hd d (by simp)))⟩

theorem lex_name {t rest : List Char} (ht : IsName t) (hrest : DelimStart rest) :
    lexAll (t ++ rest) = ⟨.ident, t⟩ :: lexAll rest :=
  lexAll_step (isName_ne_nil ht) (nextToken_name ht hrest)

/-- rule 2 wants a digit in first place or, after a sign, in second place -/
theorem matchNumber_head2 {c₂ : Char} {r : List Char} (h : isDigit c = false) (h₂ : isDigit c₂ = false) :
    matchNumber (c :: c₂ :: r) = none := by
  cases hs : (c == '-' || c == '+') <;> simp [matchNumber, optSign, hs, countWhile, h, h₂]

/-- the words the element parser knows: identifier characters, and neither of the first two is a digit, so rules 1
and 2 reject them (`-inf` is no name, it starts with `-`; the reason covers it all the same) and rule 3 takes them -/
theorem lex_keyword {t : List Char} (ht : t ∈ [kwTrue, kwFalse, kwInf, kwNegInf, kwNan]) (hrest : DelimStart rest) :
    lexAll (t ++ rest) = ⟨.ident, t⟩ :: lexAll rest := by
  simp only [List.mem_cons, List.not_mem_nil, or_false] at ht
  rcases ht with rfl | rfl | rfl | rfl | rfl <;>
    exact lexAll_step (List.cons_ne_nil _ _)
      (nextToken_ident (by decide) (matchNumber_head2 (by decide) (by decide)) (by decide) (by decide) hrest)

def signText (neg : Bool) : List Char := if neg then ['-'] else []

theorem optSign_signText (neg : Bool) (x : List Char) (hc : isDigit c = true) :
    optSign (signText neg ++ c :: x) = (signText neg).length := by
  cases neg <;> simp [signText, optSign, digit_not_sign hc]

theorem matchIdent1_number (neg : Bool) {ds tail : List Char} (hd : AllDigits ds) (h1 : Stops isDigit tail)
    (h2 : Stops isIdentStart1 tail) : matchIdent1 (signText neg ++ (ds ++ tail)) = none := by
  cases neg
  · simp only [signText, Bool.false_eq_true, ↓reduceIte, List.nil_append, matchIdent1,
      countWhile_block hd h1, List.drop_left]
    cases tail with
    | nil => simp
    | cons d r => simp [show isIdentStart1 d = false from h2]
  · exact matchIdent1_head (by decide)

theorem matchNumber_int (neg : Bool) {ds rest : List Char} (hd : AllDigits ds) (hne : ds ≠ [])
    (hrest : DelimStart rest) :
    matchNumber (signText neg ++ (ds ++ rest)) = some ((signText neg).length + ds.length) := by
  obtain ⟨c, ds', rfl⟩ := List.exists_cons_of_ne_nil hne
  simp only [matchNumber, List.cons_append, optSign_signText neg _ (hd c (by simp)), List.drop_left]
  rw [← List.cons_append, countWhile_block hd (hrest.stops fun _ => delim_not_digit), List.drop_left]
  cases rest with
  | nil => simp
  | cons d r => simp [beq_false_of_class hrest (show isDelim '.' = false by decide)]

theorem matchExp_delim (hrest : DelimStart rest) : matchExp rest = 0 := by
  cases rest with
  | nil => rfl
  | cons d r =>
    simp [matchExp, beq_false_of_class hrest (show isDelim 'e' = false by decide),
      beq_false_of_class hrest (show isDelim 'E' = false by decide)]

/-- explicit sign of a printed exponent -/
def expSign (neg : Bool) : Char := if neg then '-' else '+'

theorem matchExp_exp (eneg : Bool) {ex rest : List Char} (hd : AllDigits ex) (hne : ex ≠ [])
    (hrest : DelimStart rest) : matchExp ('e' :: expSign eneg :: (ex ++ rest)) = 2 + ex.length := by
  have hs : optSign (expSign eneg :: (ex ++ rest)) = 1 := by cases eneg <;> rfl
  have hcount : countWhile isDigit (ex ++ rest) = ex.length :=
    countWhile_block hd (hrest.stops fun _ => delim_not_digit)
  have : ex.length ≠ 0 := by simpa using hne
  simp [matchExp, hs, hcount, this]

theorem matchNumber_frac (neg : Bool) {ip fp tail : List Char} (hi : AllDigits ip) (hine : ip ≠ [])
    (hf : AllDigits fp) (ht : Stops isDigit tail) :
    matchNumber (signText neg ++ (ip ++ '.' :: (fp ++ tail))) =
      some ((signText neg).length + ip.length + 1 + fp.length + matchExp tail) := by
  obtain ⟨c, ip', rfl⟩ := List.exists_cons_of_ne_nil hine
  simp only [matchNumber, List.cons_append, optSign_signText neg _ (hi c (by simp)), List.drop_left]
  rw [← List.cons_append, countWhile_block hi (stops_cons (by decide) _), List.drop_left]
  simp [countWhile_block hf ht]

theorem nextToken_number {s : List Char} {n : Nat} (h1 : matchIdent1 s = none)
    (h2 : matchNumber s = some n) : nextToken s = some (.number, n) := by
  simp [nextToken, h1, h2]

/- `showNat n` is core's `Nat.toDigits 10 n` and `valDigits` core's `Nat.ofDigitChars 10 · 0`; `isDigit` is `Char.isDigit`. -/
theorem digitChar_eq : ∀ n, n < 10 → digitChar n = n.digitChar := by decide

theorem showNat_eq (n : Nat) : showNat n = Nat.toDigits 10 n := by
  induction n using Nat.strongRecOn with
  | _ n ih =>
    rw [showNat, digitsRev, Nat.toDigits_eq_if (by decide)]
    split
    · rw [digitChar_eq n ‹_›]; rfl
    · rw [List.reverse_cons, ← showNat, ih (n / 10) (by omega), digitChar_eq _ (Nat.mod_lt n (by decide))]

theorem isDigit_eq (c : Char) : isDigit c = c.isDigit := by
  simp only [isDigit, Char.isDigit, ge_iff_le, UInt32.le_iff_toNat_le]; rfl

theorem showNat_allDigits (n : Nat) : AllDigits (showNat n) := fun _ hc =>
  (isDigit_eq _).trans (Nat.isDigit_of_mem_toDigits (by decide) (by decide) (showNat_eq n ▸ hc))

theorem showNat_ne_nil (n : Nat) : showNat n ≠ [] := showNat_eq n ▸ Nat.toDigits_ne_nil

theorem valDigits_showNat (n : Nat) : valDigits (showNat n) = n := by
  rw [showNat_eq]; exact Nat.ofDigitChars_eq_foldl.symm.trans Nat.ofDigitChars_ten_toDigits

theorem showInt_eq (i : Int) : showInt i = signText (decide (i < 0)) ++ showNat i.natAbs := by
  unfold showInt signText
  by_cases h : i < 0
  · simp [h]
  · have : i.toNat = i.natAbs := by omega
    simp [h, this]

theorem parseInt_digits {ds : List Char} (hd : AllDigits ds) (hne : ds ≠ []) : parseInt ds = valDigits ds := by
  obtain ⟨c, ds', rfl⟩ := List.exists_cons_of_ne_nil hne
  have hs := digit_not_sign (hd c (by simp))
  simp only [Bool.or_eq_false_iff] at hs
  simp [parseInt, hs.1, hs.2]

theorem parseInt_showInt (i : Int) : parseInt (showInt i) = i := by
  unfold showInt
  split
  · simp only [parseInt, valDigits_showNat]; simp; omega
  · rw [parseInt_digits (showNat_allDigits _) (showNat_ne_nil _), valDigits_showNat]; omega

theorem not_contains_of_class {l : List Char} (hl : ∀ x ∈ l, p x = true)
    (hc : p c = false) : l.contains c = false := by
  simp only [List.contains_eq_mem, decide_eq_false_iff_not]
  intro hm; simp [hl c hm] at hc

/-- `[-+0-9]`: the characters of a printed mantissa or exponent -/
def isNumChar (c : Char) : Bool := c == '-' || c == '+' || isDigit c

theorem numChar_signed (neg : Bool) {ds : List Char} (hd : AllDigits ds) :
    ∀ x ∈ signText neg ++ ds, isNumChar x = true := by
  intro x hx
  rcases List.mem_append.1 hx with hx | hx
  · cases neg <;> simp [signText] at hx; subst hx; rfl
  · simp [isNumChar, hd x hx]

theorem showInt_no_dot (i : Int) : (showInt i).contains '.' = false := by
  rw [showInt_eq]
  exact not_contains_of_class (numChar_signed _ (showNat_allDigits _)) (by decide)

theorem lex_int (i : Int) (hrest : DelimStart rest) :
    lexAll (showInt i ++ rest) = ⟨.number, showInt i⟩ :: lexAll rest := by
  have hd := showNat_allDigits i.natAbs
  rw [showInt_eq]
  refine lexAll_step (by simp [showNat_ne_nil]) ?_
  rw [List.append_assoc, List.length_append]
  exact nextToken_number
    (matchIdent1_number _ hd (hrest.stops fun _ => delim_not_digit) (hrest.stops fun _ => delim_not_identStart1))
    (matchNumber_int _ hd (showNat_ne_nil _) hrest)

/-- the characters `_escape_string` rewrites, each with the letter it puts after the backslash -/
def escapes : List (Char × Char) :=
  [('\\', '\\'), ('"', '"'), ('\n', 'n'), ('\x0c', 'f'), ('\x0b', 'v'), ('\t', 't'), ('\r', 'r')]

theorem escapeChar_special : ∀ p ∈ escapes,
    escapeChar p.1 = ['\\', p.2] ∧ isEscapable p.2 = true ∧ unescapeChar p.2 = p.1 := by decide

theorem escapeChar_plain (h : c ∉ escapes.map Prod.fst) :
    escapeChar c = [c] ∧ (c == '"') = false ∧ (c == '\\') = false ∧ isLineBreak c = false := by
  simp only [escapes, List.map_cons, List.map_nil, List.mem_cons, List.not_mem_nil, or_false, not_or] at h
  obtain ⟨h1, h2, h3, h4, h5, h6, h7⟩ := h
  have ne : ∀ {d : Char}, c ≠ d → (c.toNat == d.toNat) = false :=
    fun hd => beq_eq_false_iff_ne.2 fun e => hd (Char.toNat_inj.1 e)
  have e3 : (c.toNat == 10) = false := ne h3
  have e4 : (c.toNat == 12) = false := ne h4
  have e5 : (c.toNat == 11) = false := ne h5
  have e6 : (c.toNat == 9) = false := ne h6
  have e7 : (c.toNat == 13) = false := ne h7
  simp [escapeChar, isLineBreak, h1, h2, e3, e4, e5, e6, e7]

/-- a character is printed as one of the seven escapes the lexer admits, which decodes to it, or as itself,
and then the lexer takes it as a raw string character -/
theorem escapeChar_cases (c : Char) :
    (∃ e, escapeChar c = ['\\', e] ∧ isEscapable e = true ∧ unescapeChar e = c) ∨
    (escapeChar c = [c] ∧ (c == '"') = false ∧ (c == '\\') = false ∧ isLineBreak c = false) := by
  by_cases h : c ∈ escapes.map Prod.fst
  · obtain ⟨p, hp, rfl⟩ := List.mem_map.1 h
    exact Or.inl ⟨p.2, escapeChar_special p hp⟩
  · exact Or.inr (escapeChar_plain h)

theorem scanBody_escape (s rest : List Char) :
    scanBody '"' (escape s ++ '"' :: rest) = some ((escape s).length + 1) := by
  induction s with
  | nil => rw [scanBody.eq_def]; simp [escape]
  | cons c s ih =>
    rcases escapeChar_cases c with ⟨e, he, hesc, _⟩ | ⟨he, h1, h2, h3⟩
    · simp only [escape, he, List.cons_append, List.nil_append]
      rw [scanBody.eq_def]
      simp [hesc, ih]
    · simp only [escape, he, List.cons_append, List.nil_append]
      rw [scanBody.eq_def]
      simp [h1, h2, h3, ih]

theorem unescape_escape (s : List Char) : unescape (escape s) = s := by
  induction s with
  | nil => rfl
  | cons c s ih =>
    rcases escapeChar_cases c with ⟨e, he, _, hu⟩ | ⟨he, _, h2, _⟩
    · simp only [escape, he, List.cons_append, List.nil_append]
      rw [unescape.eq_def]
      simp [hu, ih]
    · simp only [escape, he, List.cons_append, List.nil_append]
      rw [unescape.eq_def]
      simp [h2, ih]

/-- the text of a printed string value -/
def strText (s : List Char) : List Char := '"' :: escape s ++ ['"']

theorem lex_string (s rest : List Char) :
    lexAll (strText s ++ rest) = ⟨.stringLit, strText s⟩ :: lexAll rest := by
  refine lexAll_step (by simp [strText]) ?_
  have : strText s ++ rest = '"' :: (escape s ++ '"' :: rest) := by simp [strText]
  rw [this]
  simp [nextToken, matchIdent1_head, matchNumber_head, matchIdent_head, matchString,
    show isDigit '"' = false by decide, show isIdentChar '"' = false by decide, scanBody_escape, strText]

theorem strText_body (s : List Char) : ((strText s).drop 1).dropLast = escape s := by
  simp [strText]

/-- The shapes of `repr(x)` for a Python float: `[-]d+.d+`, `[-]d+e±d+`, `[-]d+.d+e±d+`, `inf`, `-inf`,
`nan`. (That CPython's `repr` only produces these is an assumption re-checked by the harness on
every generated float.) -/
inductive FloatRepr : List Char → Prop
  | fixed (neg : Bool) (ip fp : List Char) (hi : AllDigits ip) (hin : ip ≠ []) (hf : AllDigits fp)
      (hfn : fp ≠ []) : FloatRepr (signText neg ++ (ip ++ '.' :: fp))
  | expInt (neg : Bool) (ip : List Char) (eneg : Bool) (ex : List Char) (hi : AllDigits ip) (hin : ip ≠ [])
      (he : AllDigits ex) (hen : ex ≠ []) : FloatRepr (signText neg ++ (ip ++ 'e' :: expSign eneg :: ex))
  | expFrac (neg : Bool) (ip fp : List Char) (eneg : Bool) (ex : List Char) (hi : AllDigits ip)
      (hin : ip ≠ []) (hf : AllDigits fp) (hfn : fp ≠ []) (he : AllDigits ex) (hen : ex ≠ []) :
      FloatRepr (signText neg ++ (ip ++ '.' :: (fp ++ 'e' :: expSign eneg :: ex)))
  | inf : FloatRepr kwInf
  | negInf : FloatRepr kwNegInf
  | nan : FloatRepr kwNan

/-- the printed finite floats: `[-]d+.d*`, then nothing or an exponent `e±d+` -/
inductive Dotted : List Char → Prop
  | plain (neg : Bool) (ip fp : List Char) (hi : AllDigits ip) (hin : ip ≠ []) (hf : AllDigits fp) :
      Dotted (signText neg ++ (ip ++ '.' :: fp))
  | exp (neg : Bool) (ip fp : List Char) (eneg : Bool) (ex : List Char) (hi : AllDigits ip) (hin : ip ≠ [])
      (hf : AllDigits fp) (he : AllDigits ex) (hen : ex ≠ []) :
      Dotted (signText neg ++ (ip ++ '.' :: (fp ++ 'e' :: expSign eneg :: ex)))

theorem Dotted.contains_dot {t : List Char} (h : Dotted t) : t.contains '.' = true := by
  cases h <;> simp

theorem lex_dotted {t rest : List Char} (ht : Dotted t) (hrest : DelimStart rest) :
    lexAll (t ++ rest) = ⟨.number, t⟩ :: lexAll rest := by
  have hstop : Stops isDigit rest := hrest.stops fun _ => delim_not_digit
  cases ht with
  | plain neg ip fp hi hin hf =>
    refine lexAll_step (by simp) ?_
    have hn := matchNumber_frac neg hi hin hf hstop
    rw [matchExp_delim hrest] at hn
    simp only [List.append_assoc, List.cons_append, List.length_append, List.length_cons]
    exact nextToken_number (matchIdent1_number neg hi (stops_cons (by decide) _) (stops_cons (by decide) _))
      (hn.trans (congrArg some (by omega)))
  | exp neg ip fp eneg ex hi hin hf he hen =>
    refine lexAll_step (by simp) ?_
    have hn := matchNumber_frac neg (tail := 'e' :: expSign eneg :: (ex ++ rest)) hi hin hf
      (stops_cons (by decide) _)
    rw [matchExp_exp eneg he hen hrest] at hn
    simp only [List.append_assoc, List.cons_append, List.length_append, List.length_cons]
    exact nextToken_number (matchIdent1_number neg hi (stops_cons (by decide) _) (stops_cons (by decide) _))
      (hn.trans (congrArg some (by omega)))

theorem insertDotZero_noE {a : List Char} (ha : ∀ x ∈ a, (x == 'e') = false) (b : List Char) :
    insertDotZero (a ++ b) = a ++ insertDotZero b := by
  induction a with
  | nil => rfl
  | cons x a ih =>
    have hx := ha x (by simp)
    simp only [List.cons_append, insertDotZero, hx]
    simp [ih (fun y hy => ha y (by simp [hy]))]

theorem insertDotZero_id {a : List Char} (ha : ∀ x ∈ a, (x == 'e') = false) : insertDotZero a = a := by
  simpa [insertDotZero] using insertDotZero_noE ha []

theorem printFloatText_of_dot {r : List Char} (h : r.contains '.' = true) : printFloatText r = r := by
  simp only [printFloatText, h, Bool.not_true, Bool.and_false, Bool.false_eq_true, ↓reduceIte]

/-- what `_spec_parameter_type_str` makes of each shape of `repr`: the forms with a `.` stay, `d+e±d+`
becomes `d+.0e±d+`, the keywords stay -/
theorem printFloatText_cases {r : List Char} (hr : FloatRepr r) :
    Dotted (printFloatText r) ∨ printFloatText r = kwInf ∨ printFloatText r = kwNegInf ∨
      printFloatText r = kwNan := by
  cases hr with
  | fixed neg ip fp hi hin hf hfn =>
    rw [printFloatText_of_dot (by simp)]; exact Or.inl (.plain neg ip fp hi hin hf)
  | expFrac neg ip fp eneg ex hi hin hf hfn he hen =>
    rw [printFloatText_of_dot (by simp)]; exact Or.inl (.exp neg ip fp eneg ex hi hin hf he hen)
  | expInt neg ip eneg ex hi hin he hen =>
    -- mantissa and exponent consist of `[-+0-9]`, so the only `e` is the one between them and there is no `.`
    have hman := numChar_signed neg hi
    have hexp : ∀ x ∈ expSign eneg :: ex, isNumChar x = true := by
      intro x hx
      rcases List.mem_cons.1 hx with rfl | hx
      · cases eneg <;> rfl
      · simp [isNumChar, he x hx]
    have hnodot : (signText neg ++ (ip ++ 'e' :: expSign eneg :: ex)).contains '.' = false := by
      rw [← List.append_assoc]
      refine not_contains_of_class (p := fun x => isNumChar x || x == 'e') (fun x hx => ?_) (by decide)
      rcases List.mem_append.1 hx with hx | hx
      · simp [hman x hx]
      · rcases List.mem_cons.1 hx with rfl | hx
        · decide
        · simp [hexp x hx]
    have hp : printFloatText (signText neg ++ (ip ++ 'e' :: expSign eneg :: ex)) =
        signText neg ++ (ip ++ '.' :: (['0'] ++ 'e' :: expSign eneg :: ex)) := by
      simp only [printFloatText, hnodot, show (signText neg ++ (ip ++ 'e' :: expSign eneg :: ex)).contains 'e'
        = true by simp, Bool.not_false, Bool.and_self, ↓reduceIte]
      rw [← List.append_assoc, insertDotZero_noE fun x hx => beq_false_of_class (hman x hx) (by decide),
        show insertDotZero ('e' :: expSign eneg :: ex) = '.' :: '0' :: 'e' :: insertDotZero (expSign eneg :: ex)
          from rfl,
        insertDotZero_id fun x hx => beq_false_of_class (hexp x hx) (by decide)]
      simp
    rw [hp]
    exact Or.inl (.exp neg ip ['0'] eneg ex hi hin (by intro x hx; simp at hx; subst hx; decide) he hen)
  | inf => exact Or.inr (Or.inl (by decide))
  | negInf => exact Or.inr (Or.inr (Or.inl (by decide)))
  | nan => exact Or.inr (Or.inr (Or.inr (by decide)))

end Xdsl.ArgSpec
