import XdslProofs.Lemmas.ArithInterp
import XdslModel.Generated.ArithInterp
/-!
# C15 — the interpreter's cast kernels compute MLIR (`BitVec`) semantics

"… casts truncate or extend as specified".  `_truncate`, `_sign_extend` and `run_indexcast` are
*regenerated from `/repo/xdsl/interpreters/arith.py` on every check run*; the theorems hold for every
positive width and every Python int (any representative of the signless value, in range or not).
-/
namespace Xdsl.C15
open Xdsl.Generated.ArithInterp

/-- `_truncate(v, w)`: the two's-complement value of the low `w` bits of `v`. -/
theorem truncate_eq (v : Int) (w : Nat) (hw : 0 < w) :
    _truncate v (w : Int) = (BitVec.ofInt w v).toInt := by
  obtain ⟨k, rfl⟩ : ∃ k, w = k + 1 := ⟨w - 1, by omega⟩
  have e1 : ((k + 1 : Nat) : Int) - 1 = (k : Int) := by omega
  -- the kernel is `BitVec.toInt_eq_msb_cond`: the unsigned value, minus `2^w` if the top bit is set
  rw [_truncate, e1, RvK.shl_one_nat, RvK.shl_one_nat, Py.land_mask,
    Py.land_bit (Nat.lt_succ_self k), BitVec.ofInt_natCast, BitVec.ofNat_toNat, BitVec.setWidth_eq,
    show (BitVec.ofInt (k + 1) v).getLsbD k = _ from (BitVec.msb_eq_getLsbD_last _).symm,
    BitVec.toInt_eq_msb_cond, BV.two_pow_cast (k + 1)]
  have hp : (2 : Int) ^ k ≠ 0 := Int.ne_of_gt (BV.two_pow_pos k)
  cases (BitVec.ofInt (k + 1) v).msb <;> simp [hp]

/-- `_sign_extend(v, w)`: reads the low `w` bits of `v` as a two's-complement number. -/
theorem sign_extend_eq (v : Int) (w : Nat) (hw : 0 < w) :
    _sign_extend v (w : Int) = (BitVec.ofInt w v).toInt := by
  obtain ⟨k, rfl⟩ : ∃ k, w = k + 1 := ⟨w - 1, by omega⟩
  have e1 : ((k + 1 : Nat) : Int) - 1 = (k : Int) := by omega
  -- the kernel is `BV.toInt_succ`: the low `w - 1` bits, minus the weight of the sign bit
  rw [_sign_extend, e1, RvK.shl_one_nat, Py.land_mask, Py.land_bit (Nat.lt_succ_self k), BV.toInt_succ,
    BV.setWidth_ofInt_of_le (k + 1) k (Nat.le_succ k), BitVec.msb_eq_getLsbD_last]
  rfl

/-- the two kernels are the same function (both equal the signed normalisation `to_signed`) -/
theorem truncate_eq_sign_extend (v : Int) (w : Nat) (hw : 0 < w) :
    _truncate v (w : Int) = _sign_extend v (w : Int) := by
  rw [truncate_eq v w hw, sign_extend_eq v w hw]

/-- `arith.index_cast` between two different widths returns the two's-complement value of the input
pattern sign-extended to the result width — which for a narrower result is truncation (core's
`BitVec.signExtend_eq_setWidth_of_le`): `_truncate` and `_sign_extend` both read `a` at the *smaller*
of the two widths as a signed number. -/
theorem run_indexcast_eq (wi w : Nat) (hwi : 0 < wi) (hw : 0 < w) (h : wi ≠ w) (a : Int) :
    run_indexcast wi w a = ((BitVec.ofInt wi a).signExtend w).toInt := by
  rcases Nat.lt_or_gt_of_ne h with h | h
  · have h1 : ¬ (wi : Int) > (w : Int) := by omega
    have h2 : (wi : Int) < (w : Int) := by omega
    simp only [run_indexcast, h1, h2, decide_true, decide_false, if_true, if_false,
      Bool.false_eq_true, sign_extend_eq a wi hwi, BitVec.toInt_signExtend_of_le (Nat.le_of_lt h)]
  · have h1 : (wi : Int) > (w : Int) := by omega
    simp only [run_indexcast, h1, decide_true, if_true, truncate_eq a w hw,
      BitVec.signExtend_eq_setWidth_of_le _ (Nat.le_of_lt h), BV.setWidth_ofInt_of_le wi w (Nat.le_of_lt h)]

theorem run_indexcast_same (w : Nat) (a : Int) : run_indexcast w w a = a := by
  simp [run_indexcast]

/-- `arith.index_cast` (the interpreter's `run_indexcast`, input width `wi`, result width `w`):
narrowing truncates the bit pattern, widening sign-extends it, equal widths return the value
unchanged; in the first two cases the result is the canonical signed representative. -/
theorem run_indexcast_spec (wi w : Nat) (hwi : 0 < wi) (hw : 0 < w) (a : Int) :
    (wi > w → BitVec.ofInt w (run_indexcast wi w a) = (BitVec.ofInt wi a).truncate w
              ∧ InSignedRange w (run_indexcast wi w a))
    ∧ (wi < w → BitVec.ofInt w (run_indexcast wi w a) = (BitVec.ofInt wi a).signExtend w
              ∧ InSignedRange w (run_indexcast wi w a))
    ∧ (wi = w → run_indexcast wi w a = a) := by
  refine ⟨fun h => ?_, fun h => ?_, fun h => h ▸ run_indexcast_same wi a⟩
  · rw [run_indexcast_eq wi w hwi hw (Nat.ne_of_gt h), BitVec.ofInt_toInt]
    exact ⟨BitVec.signExtend_eq_setWidth_of_le _ (Nat.le_of_lt h), toInt_inRange _⟩
  · rw [run_indexcast_eq wi w hwi hw (Nat.ne_of_lt h), BitVec.ofInt_toInt]
    exact ⟨rfl, toInt_inRange _⟩

theorem run_indexcast_widen_value (wi w : Nat) (hwi : 0 < wi) (h : wi < w) (a : Int) :
    run_indexcast wi w a = (BitVec.ofInt wi a).toInt
    ∧ run_indexcast wi w a = ((BitVec.ofInt wi a).signExtend w).toInt := by
  rw [run_indexcast_eq wi w hwi (Nat.lt_trans hwi h) (Nat.ne_of_lt h)]
  exact ⟨BitVec.toInt_signExtend_of_le (Nat.le_of_lt h), rfl⟩

theorem run_indexcast_narrow_value (wi w : Nat) (hw : 0 < w) (h : w < wi) (a : Int) :
    run_indexcast wi w a = ((BitVec.ofInt wi a).truncate w).toInt := by
  rw [run_indexcast_eq wi w (Nat.lt_trans hw h) hw (Nat.ne_of_gt h),
    BitVec.signExtend_eq_setWidth_of_le _ (Nat.le_of_lt h)]

/-- non-vacuity / sanity: `index_cast` of `0xF0 : i8` to `i4` is `0`, of `-3 : i4` (given as 13) to
`i8` is `-3`, of `200` (`= -56 : i8`) to `i4` is `-8`. -/
example : run_indexcast 8 4 0xF0 = 0 ∧ run_indexcast 4 8 13 = -3 ∧ run_indexcast 8 4 200 = -8
    ∧ _truncate (-1) 1 = -1 ∧ _sign_extend 5 1 = -1 := by decide +kernel

end Xdsl.C15
