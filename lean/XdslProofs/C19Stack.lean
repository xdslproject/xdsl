import XdslModel.RegAlloc
import XdslProofs.Lemmas.AL
/-!
# C19 — the `RegisterStack`: reservations and exclusion

"… pre-assigned and **reserved registers are respected** …" — the part of the property that rests on
`xdsl/backend/register_stack.py`.  Model: `RStack` / `sstep` in `XdslModel/RegAlloc.lean`
(`push`, `pop`, `include_register`, `exclude_register`, `reserve_register`, `unreserve_register`,
with the reservation counts and the `AssertionError` of `pop`).  All statements are for every
configuration (`allow_infinite`, numbering of the infinite registers), every state and every
operation (sequence).

* **A reserved register is never returned by `pop` and never made available by `push`**
  (`pop_never_reserved`, `push_reserved_noop`, `reserved_stays_unavailable`, `reserved_window`).
* **An excluded register** (finite, removed from the allocatable set) **is never returned by `pop`
  and never made available by `push`** until it is included again
  (`push_excluded_noop`, `exclude_establishes`, `excluded_window`).
* Reservation counts (`count_reserve`, `count_unreserve`, `isReserved_iff_count_pos`), the structural
  invariant (`sinv_step`/`sinv_run`: no duplicates, finite available registers are allocatable,
  stored counts positive), and — under the documented contract "it is invalid to reserve a register
  that is available" — no `AssertionError` ever (`contract_no_assertion`).
* The allocator model's `push`/`pop` are this stack without reservations (`push_eq_spush`,
  `pop_eq_spop`).

What one call may do to each component of the state is `Step`: the primitives that branch have one lemma of that
shape each (`spush_step`, `spop_step`, `sunreserve_step`, by the cases of the primitive itself), `sstep_step` splits
on the call once, and the one-step properties read its fields.  What a call can answer (only `pop` answers with a
register or an `AssertionError`, after testing its `Candidate`) is `sstep_answer`, the other split on the call.
The theorems about operation sequences are instances of one induction (`srun_inv`).
-/
namespace Xdsl.RegAlloc.Stack
open Xdsl.RegMachine

theorem pos_sreserve {s : RStack} (hp : ∀ r n, AL.get s.reserved r = some n → 0 < n) (x : Reg) :
    ∀ r n, AL.get (sreserve s x).reserved r = some n → 0 < n := by
  intro r n hn
  simp only [sreserve, AL.get_set] at hn
  split at hn
  · cases hn; exact Nat.succ_pos _
  · exact hp r n hn

theorem pos_sunreserve {s : RStack} (hp : ∀ r n, AL.get s.reserved r = some n → 0 < n) (x : Reg) :
    ∀ r n, AL.get (sunreserve s x).1.reserved r = some n → 0 < n := by
  unfold sunreserve
  split
  · exact hp
  · split
    · intro r m hm
      simp only [AL.get_del] at hm
      split at hm
      · cases hm
      · exact hp r m hm
    · rename_i hne
      intro r m hm
      simp only [AL.get_set] at hm
      split at hm
      · cases hm; exact Nat.pos_of_ne_zero hne
      · exact hp r m hm

theorem isReserved_iff_count_pos_of {s : RStack} (hp : ∀ r n, AL.get s.reserved r = some n → 0 < n)
    (r : Reg) : s.isReserved r = true ↔ 0 < s.count r := by
  unfold RStack.isReserved RStack.count
  cases hg : AL.get s.reserved r with
  | none => simp
  | some n => simpa using hp r n hg

structure Step (c : Cfg) (o : SOp) (s s' : RStack) : Prop where
  /-- a register is available afterwards only if it was (and the call did not take it out of the
  allocatable set) or the call pushed it: then it is not reserved, and infinite or allocatable -/
  avail : ∀ x ∈ s'.avail, (x ∈ s.avail ∧ (x ∈ s.allocatable → x ∈ s'.allocatable))
    ∨ (s.isReserved x = false ∧ (isInf c x = true ∨ x ∈ s'.allocatable))
  nodup : s.avail.Nodup → s'.avail.Nodup
  alloc : ∀ x ∈ s'.allocatable, x ∈ s.allocatable ∨ o = .incl x
  next : s.nextInf ≤ s'.nextInf
  res : ∀ r, o ≠ .reserve r → o ≠ .unreserve r → AL.get s'.reserved r = AL.get s.reserved r
  pos : (∀ r n, AL.get s.reserved r = some n → 0 < n) → ∀ r n, AL.get s'.reserved r = some n → 0 < n

theorem Step.of_avail {c : Cfg} {o : SOp} {s : RStack} {av : List Reg} {n : Nat} (hn : s.nextInf ≤ n)
    (hav : ∀ x ∈ av, x ∈ s.avail ∨ (s.isReserved x = false ∧ (isInf c x = true ∨ x ∈ s.allocatable)))
    (hnd : s.avail.Nodup → av.Nodup) : Step c o s { s with avail := av, nextInf := n } where
  avail x hx := (hav x hx).imp_left fun h => ⟨h, id⟩
  nodup := hnd
  alloc _ hx := Or.inl hx
  next := hn
  res _ _ _ := rfl
  pos := id

theorem Step.refl (c : Cfg) (o : SOp) (s : RStack) : Step c o s s :=
  .of_avail (Nat.le_refl _) (fun _ => Or.inl) id

theorem Step.of_reserved {c : Cfg} {o : SOp} {s : RStack} {t : AL Reg Nat}
    (hres : ∀ r, o ≠ .reserve r → o ≠ .unreserve r → AL.get t r = AL.get s.reserved r)
    (hpos : (∀ r n, AL.get s.reserved r = some n → 0 < n) → ∀ r n, AL.get t r = some n → 0 < n) :
    Step c o s { s with reserved := t } where
  avail _ hx := Or.inl ⟨hx, id⟩
  nodup := id
  alloc _ hx := Or.inl hx
  next := Nat.le_refl _
  res := hres
  pos := hpos

theorem spush_step (c : Cfg) (o : SOp) (s : RStack) (r : Reg) : Step c o s (spush c s r) := by
  fun_cases spush c s r
  · exact .refl c o s
  · exact .refl c o s
  · rename_i h1 h2
    refine .of_avail (Nat.le_refl _) (fun x hx => ?_) fun h => List.nodup_cons.2 ⟨by simp, h.filter _⟩
    rcases List.mem_cons.1 hx with rfl | hx
    · refine Or.inr ⟨by simpa using h1, ?_⟩
      cases hi : isInf c x
      · simpa [hi] using h2
      · exact Or.inl rfl
    · exact Or.inl (List.mem_filter.1 hx).1

theorem spop_step (c : Cfg) (o : SOp) (s : RStack) : Step c o s (spop c s).1 := by
  fun_cases spop c s
  · rename_i r rest he
    exact .of_avail (Nat.le_refl _) (fun x hx => Or.inl (he ▸ List.mem_cons_of_mem _ hx))
      fun h => (List.nodup_cons.1 (he ▸ h)).2
  · exact .of_avail (Nat.le_succ _) (fun _ => Or.inl) id
  · exact .refl c o s

theorem sunreserve_step (c : Cfg) (s : RStack) (y : Reg) : Step c (.unreserve y) s (sunreserve s y).1 := by
  have hne : ∀ r, SOp.unreserve y ≠ .unreserve r → r ≠ y := fun r h e => h (e ▸ rfl)
  have hp := pos_sunreserve (s := s) (x := y)
  revert hp
  fun_cases sunreserve s y <;> intro hp
  · exact .refl c _ s
  · exact .of_reserved (fun r _ h2 => by rw [AL.get_del, if_neg (hne r h2)]) hp
  · exact .of_reserved (fun r _ h2 => by rw [AL.get_set, if_neg (hne r h2)]) hp

theorem sstep_step (c : Cfg) (s : RStack) (o : SOp) : Step c o s (sstep c s o).1 := by
  cases o with
  | push y => exact spush_step c _ s y
  | pop => exact spop_step c _ s
  | unreserve y => exact sunreserve_step c s y
  | reserve y =>
    exact .of_reserved (fun r h1 _ => by
      have hx : r ≠ y := fun e => h1 (e ▸ rfl)
      rw [AL.get_set, if_neg hx]) fun hp => pos_sreserve hp y
  | excl y =>
    exact { avail := fun x hx => Or.inl ⟨(List.mem_filter.1 hx).1, fun h => List.mem_filter.2 ⟨h, (List.mem_filter.1 hx).2⟩⟩
            nodup := fun h => h.filter _
            alloc := fun x hx => Or.inl (List.mem_filter.1 hx).1
            next := Nat.le_refl _
            res := fun _ _ _ => rfl
            pos := id }
  | incl y =>
    -- `include` = extend the allocatable set, then `push`
    have P := spush_step c (.incl y) { s with allocatable := if s.allocatable.contains y then s.allocatable else y :: s.allocatable } y
    have hal : ∀ x, x ∈ (if s.allocatable.contains y then s.allocatable else y :: s.allocatable) ↔ x = y ∨ x ∈ s.allocatable := by
      intro x; split
      · rename_i h; exact ⟨Or.inr, fun h' => h'.elim (fun e => e ▸ by simpa using h) id⟩
      · exact List.mem_cons
    exact { P with
      avail := fun x hx => (P.avail x hx).imp_left fun h => ⟨h.1, fun h' => h.2 ((hal x).2 (Or.inr h'))⟩
      alloc := fun x hx => (P.alloc x hx).elim
        (fun h => ((hal x).1 h).elim (fun e => Or.inr (e ▸ rfl)) Or.inl) Or.inr }

/-- a register that `pop` may be about to answer with: an available one (the top of the stack is), or, when
none is available, the next infinite one -/
def Candidate (c : Cfg) (s : RStack) (r : Reg) : Prop :=
  r ∈ s.avail ∨ (s.avail = [] ∧ r = c.infBase + s.nextInf)

/-- the final `assert` of `pop` -/
theorem assert_cases (b : Bool) (r : Reg) :
    (∀ x, (if b then SOut.assertionError else .reg r) = .reg x → b = false ∧ x = r)
    ∧ ((if b then SOut.assertionError else .reg r) = .assertionError → b = true) := by
  cases b
  · exact ⟨fun x h => ⟨rfl, (SOut.reg.inj h).symm⟩, nofun⟩
  · exact ⟨nofun, fun _ => rfl⟩

/-- Only `pop` answers with a register or an `AssertionError`; it tests its candidate for a
reservation: the first answer means the candidate is not reserved, the second that it is. -/
theorem sstep_answer (c : Cfg) (s : RStack) (o : SOp) :
    (∀ r, (sstep c s o).2 = .reg r → s.isReserved r = false ∧ Candidate c s r)
    ∧ ((sstep c s o).2 = .assertionError → ∃ r, s.isReserved r = true ∧ Candidate c s r) := by
  cases o with
  | pop =>
    show (∀ r, (spop c s).2 = .reg r → _) ∧ ((spop c s).2 = .assertionError → _)
    fun_cases spop c s
    · rename_i r0 rest he
      have hc : Candidate c s r0 := Or.inl (he ▸ List.mem_cons_self)
      exact ⟨fun r h => by obtain ⟨hb, rfl⟩ := (assert_cases _ _).1 r h; exact ⟨hb, hc⟩,
        fun h => ⟨r0, (assert_cases _ _).2 h, hc⟩⟩
    · rename_i he _
      have hc : Candidate c s (c.infBase + s.nextInf) := Or.inr ⟨he, rfl⟩
      exact ⟨fun r h => by obtain ⟨hb, rfl⟩ := (assert_cases _ _).1 r h; exact ⟨hb, hc⟩,
        fun h => ⟨_, (assert_cases _ _).2 h, hc⟩⟩
    · exact ⟨nofun, nofun⟩
  | unreserve y =>
    show (∀ r, (sunreserve s y).2 = .reg r → _) ∧ ((sunreserve s y).2 = .assertionError → _)
    fun_cases sunreserve s y <;> exact ⟨nofun, nofun⟩
  | incl y => exact ⟨nofun, nofun⟩
  | excl y => exact ⟨nofun, nofun⟩
  | push y => exact ⟨nofun, nofun⟩
  | reserve y => exact ⟨nofun, nofun⟩

/-- `I os s`: the invariant in state `s` when the calls `os` are still to come (so that it can say what
may not be among them); `Q`: what every answer satisfies. -/
theorem srun_inv (c : Cfg) {I : List SOp → RStack → Prop} {Q : SOut → Prop}
    (step : ∀ o os s, I (o :: os) s → I os (sstep c s o).1 ∧ Q (sstep c s o).2) :
    ∀ os s, I os s → I [] (srun c s os).1 ∧ ∀ out ∈ (srun c s os).2, Q out := by
  intro os
  induction os with
  | nil => exact fun s h => ⟨h, nofun⟩
  | cons o os ih =>
    intro s h
    obtain ⟨h1, h2⟩ := step o os s h
    obtain ⟨h3, h4⟩ := ih _ h1
    exact ⟨h3, fun out ho => (List.mem_cons.1 ho).elim (fun e => e ▸ h2) (h4 out)⟩

/-- `push` of a reserved register changes nothing ("Reserved registers (also infinite ones) stay
unavailable"). -/
theorem push_reserved_noop (c : Cfg) (s : RStack) (r : Reg) (h : s.isReserved r = true) :
    spush c s r = s := by
  simp [spush, h]

theorem include_reserved_avail (c : Cfg) (s : RStack) (r : Reg) (h : s.isReserved r = true) :
    (sinclude c s r).avail = s.avail := by
  unfold sinclude
  rw [push_reserved_noop c _ r (by simpa [RStack.isReserved] using h)]

/-- `pop` never hands out a reserved register: what it returns is not reserved (the `assert` of the
real code raises `AssertionError` instead). -/
theorem pop_never_reserved (c : Cfg) (s s' : RStack) (r : Reg) (h : spop c s = (s', .reg r)) :
    s.isReserved r = false :=
  ((sstep_answer c s .pop).1 r (congrArg Prod.snd h)).1

theorem reserved_stays_unavailable (c : Cfg) (s : RStack) (r : Reg) (hres : s.isReserved r = true)
    (hav : r ∉ s.avail) (o : SOp) :
    r ∉ (sstep c s o).1.avail ∧ (sstep c s o).2 ≠ .reg r := by
  refine ⟨fun h => ?_, fun h => by have := ((sstep_answer c s o).1 r h).1; rw [hres] at this; cases this⟩
  rcases (sstep_step c s o).avail r h with ⟨h1, _⟩ | ⟨h1, _⟩
  · exact hav h1
  · rw [hres] at h1; cases h1

theorem reserved_kept (c : Cfg) (s : RStack) (r : Reg) (hres : s.isReserved r = true) (o : SOp)
    (ho : o ≠ .unreserve r) : (sstep c s o).1.isReserved r = true := by
  by_cases h1 : o = .reserve r
  · subst h1; simp [sstep, sreserve, RStack.isReserved, AL.get_set]
  · unfold RStack.isReserved at hres ⊢
    rw [(sstep_step c s o).res r h1 ho]; exact hres

/-- **Every operation sequence.** From a state where `r` is reserved and not available, along any
sequence of operations that does not `unreserve r`: `r` is still reserved, is not available, and no
`pop` of the sequence returned it. -/
theorem reserved_window (c : Cfg) (r : Reg) (os : List SOp) : ∀ (s : RStack),
    s.isReserved r = true → r ∉ s.avail → (∀ o ∈ os, o ≠ .unreserve r) →
    (srun c s os).1.isReserved r = true ∧ r ∉ (srun c s os).1.avail ∧ .reg r ∉ (srun c s os).2 := by
  intro s h1 h2 hno
  obtain ⟨⟨h3, h4, _⟩, h5⟩ := srun_inv c
    (I := fun os s => s.isReserved r = true ∧ r ∉ s.avail ∧ ∀ o ∈ os, o ≠ .unreserve r)
    (Q := fun out => out ≠ .reg r)
    (fun o os s ⟨h1, h2, hno⟩ =>
      have h := reserved_stays_unavailable c s r h1 h2 o
      ⟨⟨reserved_kept c s r h1 o (hno o List.mem_cons_self), h.1,
        fun o' ho' => hno o' (List.mem_cons_of_mem _ ho')⟩, h.2⟩) os s ⟨h1, h2, hno⟩
  exact ⟨h3, h4, fun hm => h5 _ hm rfl⟩

structure SInv (c : Cfg) (s : RStack) : Prop where
  nodup : s.avail.Nodup
  sub : ∀ r ∈ s.avail, isInf c r = true ∨ r ∈ s.allocatable
  pos : ∀ r n, AL.get s.reserved r = some n → 0 < n

theorem sinv_empty (c : Cfg) : SInv c {} :=
  ⟨List.nodup_nil, (fun _ h => by cases h), (fun _ _ h => by simp [AL.get] at h)⟩

theorem sinv_step (c : Cfg) (s : RStack) (h : SInv c s) (o : SOp) : SInv c (sstep c s o).1 :=
  have S := sstep_step c s o
  ⟨S.nodup h.nodup, fun x hx => (S.avail x hx).elim (fun h1 => (h.sub x h1.1).imp_right h1.2) (·.2), S.pos h.pos⟩

theorem sinv_run (c : Cfg) (os : List SOp) : ∀ s, SInv c s → SInv c (srun c s os).1 :=
  fun s h => (srun_inv c (I := fun _ s => SInv c s) (Q := fun _ => True)
    (fun o _ s h => ⟨sinv_step c s h o, trivial⟩) os s h).1

theorem SInv.not_avail {c : Cfg} {s : RStack} (h : SInv c s) {r : Reg} (hfin : isInf c r = false)
    (hex : r ∉ s.allocatable) : r ∉ s.avail := fun hm =>
  (h.sub r hm).elim (fun h1 => by rw [hfin] at h1; cases h1) hex

/-- `push` of a finite register that is not allocatable (excluded, or never included) changes
nothing. -/
theorem push_excluded_noop (c : Cfg) (s : RStack) (r : Reg) (hfin : isInf c r = false)
    (hex : r ∉ s.allocatable) : spush c s r = s := by
  unfold spush
  split
  · rfl
  · simp [hfin, hex]

theorem exclude_establishes (s : RStack) (r : Reg) :
    r ∉ (sexclude s r).avail ∧ r ∉ (sexclude s r).allocatable := by
  simp [sexclude, List.mem_filter]

theorem excluded_step (c : Cfg) (s : RStack) (hinv : SInv c s) (r : Reg) (hfin : isInf c r = false)
    (hex : r ∉ s.allocatable) (o : SOp) (ho : o ≠ .incl r) :
    r ∉ (sstep c s o).1.allocatable ∧ r ∉ (sstep c s o).1.avail ∧ (sstep c s o).2 ≠ .reg r := by
  have hal : r ∉ (sstep c s o).1.allocatable := fun h => ((sstep_step c s o).alloc r h).elim hex ho
  refine ⟨hal, (sinv_step c s hinv o).not_avail hfin hal, fun h => ?_⟩
  rcases ((sstep_answer c s o).1 r h).2 with h1 | ⟨_, h1⟩
  · exact hinv.not_avail hfin hex h1
  · have : isInf c r = true := by rw [h1]; simp [isInf]
    rw [hfin] at this; cases this

/-- **Every operation sequence.** From a consistent state in which the finite register `r` is not
allocatable (it has been excluded, e.g. because it is pre-assigned): along any sequence of operations
without `include_register r`, `r` never becomes allocatable or available and no `pop` returns it. -/
theorem excluded_window (c : Cfg) (r : Reg) (hfin : isInf c r = false) (os : List SOp) :
    ∀ (s : RStack), SInv c s → r ∉ s.allocatable → (∀ o ∈ os, o ≠ .incl r) →
    r ∉ (srun c s os).1.allocatable ∧ r ∉ (srun c s os).1.avail ∧ .reg r ∉ (srun c s os).2 := by
  intro s hinv hex hno
  obtain ⟨⟨h3, h4, _⟩, h5⟩ := srun_inv c
    (I := fun os s => SInv c s ∧ r ∉ s.allocatable ∧ ∀ o ∈ os, o ≠ .incl r)
    (Q := fun out => out ≠ .reg r)
    (fun o os s ⟨hinv, hex, hno⟩ =>
      have h := excluded_step c s hinv r hfin hex o (hno o List.mem_cons_self)
      ⟨⟨sinv_step c s hinv o, h.1, fun o' ho' => hno o' (List.mem_cons_of_mem _ ho')⟩, h.2.2⟩)
    os s ⟨hinv, hex, hno⟩
  exact ⟨h4, h3.not_avail hfin h4, fun hm => h5 _ hm rfl⟩

theorem count_reserve (s : RStack) (r x : Reg) :
    (sreserve s r).count x = if x = r then s.count r + 1 else s.count x := by
  simp only [sreserve, RStack.count, AL.get_set]
  split
  · rename_i h; subst h; rfl
  · rfl

/-- `unreserve` of a register with a positive count lowers the count by one (and only that count);
with count 0 (absent key) it raises `ValueError` and changes nothing -/
theorem count_unreserve (s : RStack) (r x : Reg) :
    (if s.isReserved r then
      (sunreserve s r).2 = .unit ∧
        (sunreserve s r).1.count x = if x = r then s.count r - 1 else s.count x
     else sunreserve s r = (s, .valueError)) := by
  unfold sunreserve RStack.isReserved
  cases hg : AL.get s.reserved r with
  | none => simp
  | some n =>
    simp only [Option.isSome_some, if_true]
    split
    · rename_i hz
      refine ⟨rfl, ?_⟩
      simp only [RStack.count, AL.get_del, hg, Option.getD_some]
      split
      · simp [hz]
      · rfl
    · refine ⟨rfl, ?_⟩
      simp only [RStack.count, AL.get_set, hg, Option.getD_some]
      split
      · rfl
      · rfl

/-- a register is reserved (`index in reserved_registers[pool]`) iff its count is positive -/
theorem isReserved_iff_count_pos (c : Cfg) (s : RStack) (hinv : SInv c s) (r : Reg) :
    s.isReserved r = true ↔ 0 < s.count r := isReserved_iff_count_pos_of hinv.pos r

/-- reserved registers are not available, and reserved infinite registers have been handed out -/
structure Good (c : Cfg) (s : RStack) : Prop where
  disj : ∀ r, s.isReserved r = true → r ∉ s.avail
  inf : ∀ r, s.isReserved r = true → isInf c r = true → r < c.infBase + s.nextInf

/-- "It is invalid to reserve a register that is available" (and an infinite register can only be
reserved once `pop` has created it) -/
def Allowed (c : Cfg) (s : RStack) : SOp → Prop
  | .reserve r => r ∉ s.avail ∧ (isInf c r = true → r < c.infBase + s.nextInf)
  | _ => True

def AllowedSeq (c : Cfg) : RStack → List SOp → Prop
  | _, [] => True
  | s, o :: os => Allowed c s o ∧ AllowedSeq c (sstep c s o).1 os

theorem isReserved_of_step (c : Cfg) (s : RStack) (o : SOp) (r : Reg)
    (h : (sstep c s o).1.isReserved r = true) : s.isReserved r = true ∨ o = .reserve r := by
  by_cases h1 : o = .reserve r
  · exact Or.inr h1
  · left
    by_cases h2 : o = .unreserve r
    · -- `unreserve r` needs a count, and without one changes nothing
      subst h2
      cases hg : AL.get s.reserved r with
      | some n => simp [RStack.isReserved, hg]
      | none =>
        have e : (sunreserve s r).1 = s := by simp [sunreserve, hg]
        change (sunreserve s r).1.isReserved r = true at h
        rw [e] at h; exact h
    · unfold RStack.isReserved at h ⊢
      rw [(sstep_step c s o).res r h1 h2] at h; exact h

theorem good_step (c : Cfg) (s : RStack) (hg : Good c s) (o : SOp) (ha : Allowed c s o) :
    Good c (sstep c s o).1 ∧ (sstep c s o).2 ≠ .assertionError := by
  have hle := Nat.add_le_add_left (sstep_step c s o).next c.infBase
  refine ⟨⟨fun r hr => ?_, fun r hr hi => ?_⟩, fun h => ?_⟩
  · rcases isReserved_of_step c s o r hr with h | rfl
    · exact (reserved_stays_unavailable c s r h (hg.disj r h) o).1
    · exact ha.1
  · rcases isReserved_of_step c s o r hr with h | rfl
    · exact Nat.lt_of_lt_of_le (hg.inf r h hi) hle
    · exact Nat.lt_of_lt_of_le (ha.2 hi) hle
  · -- the candidate of `pop` would be reserved: it is neither available nor a fresh infinite register
    obtain ⟨r, hr, h1 | ⟨_, h1⟩⟩ := (sstep_answer c s o).2 h
    · exact hg.disj r hr h1
    · exact Nat.lt_irrefl _ (h1 ▸ hg.inf r hr (by rw [h1]; simp [isInf]))

/-- **Under the documented contract no operation sequence raises `AssertionError`**, and reserved
registers are never available. -/
theorem contract_no_assertion (c : Cfg) (os : List SOp) : ∀ (s : RStack), Good c s →
    AllowedSeq c s os → Good c (srun c s os).1 ∧ .assertionError ∉ (srun c s os).2 := by
  intro s hg ha
  obtain ⟨⟨h1, _⟩, h2⟩ := srun_inv c (I := fun os s => Good c s ∧ AllowedSeq c s os)
    (Q := fun out => out ≠ .assertionError)
    (fun o os s ⟨hg, ha⟩ =>
      have h := good_step c s hg o ha.1
      ⟨⟨h.1, ha.2⟩, h.2⟩) os s ⟨hg, ha⟩
  exact ⟨h1, fun hm => h2 _ hm rfl⟩

theorem good_empty (c : Cfg) : Good c {} :=
  ⟨fun r h => by simp [RStack.isReserved, AL.get] at h, fun r h => by simp [RStack.isReserved, AL.get] at h⟩

/-- the `RegisterStack` inside the allocator state of `XdslModel/RegAlloc.lean` -/
def stackOf (s : St) : RStack :=
  { allocatable := s.allocatable, nextInf := s.nextInf, reserved := [], avail := s.avail }

/-- the allocator model's `push` is `RegisterStack.push` with no register reserved -/
theorem push_eq_spush (c : Cfg) (s : St) (r : Reg) : stackOf (push c s r) = spush c (stackOf s) r := by
  have e : spush c (stackOf s) r =
      if (!isInf c r && !s.allocatable.contains r) then stackOf s
      else { stackOf s with avail := r :: s.avail.filter (· != r) } := rfl
  rw [e]; unfold push
  by_cases hb : (!isInf c r && !s.allocatable.contains r) = true
  · rw [if_pos hb, if_pos hb]
  · rw [if_neg hb, if_neg hb]; rfl

/-- … and its `pop` is `RegisterStack.pop` (never an `AssertionError`) -/
theorem pop_eq_spop (c : Cfg) (s : St) :
    match pop c s with
    | .ok (r, s') => spop c (stackOf s) = (stackOf s', .reg r)
    | .error .outOfRegisters => spop c (stackOf s) = (stackOf s, .outOfRegisters)
    | .error .diagnostic => False := by
  cases h : s.avail with
  | nil => cases hc : c.allowInf <;> simp [pop, spop, stackOf, h, hc, RStack.isReserved]
  | cons r rest => simp [pop, spop, stackOf, h, RStack.isReserved]

/-- t0 (5) is reserved after being popped: pushing it back is ignored until the reservation count is
back to 0; `exclude 6` removes t1 for good; popping an empty stack without infinite registers raises -/
example :
    (srun { z := false, allowInf := false, infBase := 1000 } {}
      [.incl 5, .incl 6, .pop, .pop, .reserve 5, .reserve 5, .push 5, .unreserve 5, .push 5,
       .unreserve 5, .unreserve 5, .push 5, .excl 6, .push 6, .pop, .pop]).2
    = [.unit, .unit, .reg 6, .reg 5, .unit, .unit, .unit, .unit, .unit,
       .unit, .valueError, .unit, .unit, .unit, .reg 5, .outOfRegisters] := by decide

/-- violating the contract (reserving an available register) is what makes `pop` raise -/
example :
    (srun { z := false, allowInf := false, infBase := 1000 } {} [.incl 5, .reserve 5, .pop]).2
    = [.unit, .unit, .assertionError] := by decide

end Xdsl.RegAlloc.Stack
