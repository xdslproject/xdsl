import XdslProofs.Lemmas.RewriteDriver
/-!
The closed driver (C11), one level up from single calls.

* What one match and one post-walk do to each field of the state (`matchOp_*`, `postWalk_*`).
* Induction principles: an invariant preserved by `populate` (with the reset of `op_was_modified`), by
  one pop + match, and by the post-walk holds of the state returned by `process`, `sweep`, `outer` and
  `rewriteRegion`.
* The invariants behind the theorems of `XdslProofs/C11.lean`: the worklist invariant, "worklist ⊆
  attached" (`VInv`), the trace and the accumulated flag, and the "quiet sweep" lemmas behind
  `fixpoint_on_return`.  The hypothesis bundles `Disciplined` and `ThroughRewriter` and the trace
  classifiers used in the statements of `XdslProofs/C11.lean` are defined here.
-/
namespace Xdsl.RewriteDriver
open Xdsl.Worklist (WL Inv abs)

variable {IR : Type}

/-- the state handed to `matchOp` after `popNext` returned `(x, w)` -/
abbrev popped (d : D IR) (w : WL) : D IR := { d with st := { d.st with wl := w } }

/-- the state at the start of a sweep: `op_was_modified` is assigned afresh by `_process_worklist` -/
abbrev sweepStart (d : D IR) : D IR := { d with st := { d.st with changed := false } }

theorem matchOp_eq (P : Params IR) (d : D IR) (x : Nat) :
    matchOp P d x =
      let s1 := execAll P.recursive { d.st with flag := false } (P.pat d.ir x).1
      { ir := (P.pat d.ir x).2,
        st := { s1 with
          changed := s1.changed || s1.flag,
          trace := s1.trace ++ [.visit x (d.st.attached.contains x) s1.flag (Worklist.abs s1.wl)
            (s1.log.drop d.st.log.length) s1.attached] } } := rfl

theorem matchOp_flag (P : Params IR) (d : D IR) (x : Nat) :
    (matchOp P d x).st.flag = (P.pat d.ir x).1.any Action.setsFlag :=
  (execAll_flag _ _ _).trans (Bool.false_or _)

theorem matchOp_changed (P : Params IR) (d : D IR) (x : Nat) :
    (matchOp P d x).st.changed = (d.st.changed || (P.pat d.ir x).1.any Action.setsFlag) := by
  show ((execAll _ _ _).changed || (matchOp P d x).st.flag) = _
  rw [execAll_changed, matchOp_flag]

theorem matchOp_executed (P : Params IR) (d : D IR) (x : Nat) :
    (matchOp P d x).st.executed = d.st.executed ++ (P.pat d.ir x).1 :=
  execAll_executed _ _ _

theorem matchOp_log (P : Params IR) (d : D IR) (x : Nat) :
    (matchOp P d x).st.log = d.st.log ++ (P.pat d.ir x).1.flatMap Action.events :=
  execAll_log _ _ _

theorem matchOp_attached (P : Params IR) (d : D IR) (x : Nat) :
    (matchOp P d x).st.attached = (P.pat d.ir x).1.foldl attAfter d.st.attached :=
  execAll_attached _ _ _

def TraceItem.reportsChange : TraceItem → Bool
  | .visit _ _ f _ _ _ => f
  | .post c _ _ _ => c
  | .sweep _ _ => false

def TraceItem.visitedDetached : TraceItem → Bool
  | .visit _ att _ _ _ _ => !att
  | _ => false

theorem matchOp_trace (P : Params IR) (d : D IR) (x : Nat) :
    ∃ it, (matchOp P d x).st.trace = d.st.trace ++ [it] ∧
      it.reportsChange = (P.pat d.ir x).1.any Action.setsFlag ∧
      it.visitedDetached = !d.st.attached.contains x :=
  ⟨_, congrArg (· ++ _) (execAll_trace _ _ _), matchOp_flag P d x, rfl⟩

theorem matchOp_wlInv (P : Params IR) (d : D IR) (x : Nat) (h : Inv d.st.wl) :
    Inv (matchOp P d x).st.wl :=
  execAll_wlInv _ _ _ h

theorem postWalk_none (P : Params IR) (d : D IR) (h : P.post = none) : postWalk P d = d := by
  unfold postWalk; rw [h]

theorem postWalk_some (P : Params IR) (d : D IR) {f : IR → List Action × IR × Bool}
    (h : P.post = some f) :
    postWalk P d =
      let s := execAll P.recursive d.st (f d.ir).1
      { ir := (f d.ir).2.1,
        st := { s with flag := d.st.flag, changed := d.st.changed || (f d.ir).2.2,
                       trace := s.trace ++ [.post (d.st.changed || (f d.ir).2.2) (Worklist.abs s.wl)
                         (s.log.drop d.st.log.length) s.attached] } } := by
  unfold postWalk; rw [h]

theorem postWalk_wlInv (P : Params IR) (d : D IR) (h : Inv d.st.wl) : Inv (postWalk P d).st.wl := by
  cases hpost : P.post with
  | none => rw [postWalk_none P d hpost]; exact h
  | some f => rw [postWalk_some P d hpost]; exact execAll_wlInv _ _ _ h

/-- a post-walk appends at most one item, a `post`, which carries the accumulated flag -/
theorem postWalk_trace_changed (P : Params IR) (d : D IR) :
    ∃ t, (postWalk P d).st.trace = d.st.trace ++ t ∧
      (postWalk P d).st.changed = (d.st.changed || t.any TraceItem.reportsChange) ∧
      ∀ it ∈ t, it.visitedDetached = false := by
  cases hpost : P.post with
  | none => rw [postWalk_none P d hpost]; exact ⟨[], by simp, by simp, fun _ h => nomatch h⟩
  | some f =>
    rw [postWalk_some P d hpost]
    refine ⟨[_], congrArg (· ++ _) (execAll_trace _ _ _), ?_, fun _ h => List.mem_singleton.mp h ▸ rfl⟩
    show (d.st.changed || (f d.ir).2.2) = (d.st.changed || [_].any TraceItem.reportsChange)
    cases d.st.changed <;> simp [TraceItem.reportsChange]

theorem populate_wlInv (P : Params IR) (d : D IR) (h : Inv d.st.wl) : Inv (populate P d).st.wl :=
  (pushAll_spec _ h _).1

theorem process_induct (P : Params IR) (Q : D IR → Prop)
    (h_match : ∀ d x w, Q d → popNext (P.pick.map fun f => f d.ir) d.st.wl = some (x, w) →
      Q (matchOp P (popped d w) x)) :
    ∀ fuel d d', Q d → process P fuel d = some d' → Q d' := by
  intro fuel d d' hq h
  fun_induction process P fuel d with
  | case1 => cases h
  | case2 fuel d hp => cases h; exact hq
  | case3 fuel d x w hp ih => exact ih (h_match d x w hq hp) h

theorem sweep_induct (P : Params IR) (Q : D IR → Prop)
    (h_pop : ∀ d, Q d → Q (populate P (sweepStart d)))
    (h_match : ∀ d x w, Q d → popNext (P.pick.map fun f => f d.ir) d.st.wl = some (x, w) →
      Q (matchOp P (popped d w) x))
    (h_post : ∀ d, Q d → Q (postWalk P d)) :
    ∀ fuel d d', Q d → sweep P fuel d = some d' → Q d' := by
  intro fuel d d' hq h
  simp only [sweep, Option.map_eq_some_iff] at h
  obtain ⟨d1, h1, rfl⟩ := h
  exact h_post _ (process_induct P Q h_match fuel _ _ (h_pop d hq) h1)

/-- The fixpoint argument: what `outer` returns is its argument, already unchanged, or the result of a
sweep that reported no change.  `Q` travels along so that this last sweep is known to have started in a
`Q`-state (`sweep_quiet` wants the worklist invariant there). -/
theorem outer_last_sweep (P : Params IR) (fuel : Nat) (Q : D IR → Prop)
    (h_sweep : ∀ d d', Q d → sweep P fuel d = some d' → Q d') :
    ∀ n (d d' : D IR), Q d → outer P fuel n d = some d' →
      Q d' ∧ d'.st.changed = false ∧ (d' = d ∨ ∃ dp, Q dp ∧ sweep P fuel dp = some d') := by
  intro n d d' hq h
  fun_induction outer P fuel n d with
  | case1 => cases h
  | case2 => cases h
  | case3 n d _ d1 hs ih =>
    obtain ⟨q, c, r⟩ := ih (h_sweep _ _ hq hs) h
    exact ⟨q, c, Or.inr (r.elim (fun e => ⟨d, hq, e ▸ hs⟩) id)⟩
  | case4 n d hc => cases h; exact ⟨hq, by simpa using hc, Or.inl rfl⟩

theorem outer_result (P : Params IR) (fuel : Nat) :
    ∀ n d d', outer P fuel n d = some d' →
      d'.st.changed = false ∧ (d' = d ∨ ∃ dp, sweep P fuel dp = some d') := by
  intro n d d' h
  obtain ⟨_, c, r⟩ := outer_last_sweep P fuel (fun _ => True) (fun _ _ _ _ => trivial) n d d' trivial h
  exact ⟨c, r.imp id fun ⟨dp, _, hs⟩ => ⟨dp, hs⟩⟩

theorem rewriteRegion_induct (P : Params IR) (Q : D IR → Prop)
    (h_pop : ∀ d, Q d → Q (populate P (sweepStart d)))
    (h_match : ∀ d x w, Q d → popNext (P.pick.map fun f => f d.ir) d.st.wl = some (x, w) →
      Q (matchOp P (popped d w) x))
    (h_post : ∀ d, Q d → Q (postWalk P d)) :
    ∀ fuel d r, Q d → rewriteRegion P fuel d = some r → Q r.1 := by
  intro fuel d r hq h
  have hs := sweep_induct P Q h_pop h_match h_post fuel
  simp only [rewriteRegion] at h
  split at h
  · cases h
  · rename_i d1 h1
    have q1 := hs _ _ hq h1
    split at h
    · cases h; exact q1
    · simp only [Option.map_eq_some_iff] at h
      obtain ⟨d2, h2, rfl⟩ := h
      exact (outer_last_sweep P fuel Q hs fuel _ _ q1 h2).1

theorem sweep_wlInv (P : Params IR) (fuel : Nat) (d d' : D IR) (h : Inv d.st.wl)
    (hs : sweep P fuel d = some d') : Inv d'.st.wl :=
  sweep_induct P (fun d => Inv d.st.wl) (fun d => populate_wlInv P (sweepStart d))
    (fun _ x _ hd hp => matchOp_wlInv P _ x (popNext_some _ _ _ _ hd hp).1)
    (postWalk_wlInv P) fuel d d' h hs

/-- Pattern discipline: under a coupling `R ir att` ("`att` is the set of ops attached in `ir`"),
every op a call hands to the listeners is attached at that moment, the coupling is kept by every
match / post-walk, and `_populate_worklist` walks attached ops only. -/
structure Disciplined (P : Params IR) (R : IR → List Nat → Prop) : Prop where
  pat_wf : ∀ ir att x, R ir att → x ∈ att → wfActs att (P.pat ir x).1
  pat_R : ∀ ir att x, R ir att → x ∈ att → R (P.pat ir x).2 ((P.pat ir x).1.foldl attAfter att)
  post_wf : ∀ f ir att, P.post = some f → R ir att → wfActs att (f ir).1
  post_R : ∀ f ir att, P.post = some f → R ir att → R (f ir).2.1 ((f ir).1.foldl attAfter att)
  enum_sub : ∀ ir att, R ir att → ∀ y ∈ P.enum ir att, y ∈ att

/-- The invariant behind `visit_attached`: worklist ⊆ attached ops. -/
structure VInv (R : IR → List Nat → Prop) (d : D IR) : Prop where
  wlInv : Inv d.st.wl
  sub : Sub d.st
  coupled : R d.ir d.st.attached

theorem populate_vinv (P : Params IR) (R : IR → List Nat → Prop) (hD : Disciplined P R) (d : D IR)
    (h : VInv R d) : VInv R (populate P (sweepStart d)) := by
  refine { wlInv := populate_wlInv P (sweepStart d) h.wlInv, sub := fun y hy => ?_,
           coupled := h.coupled }
  exact ((pushAll_spec _ h.wlInv _).2 y |>.mp hy).elim (h.sub y) (hD.enum_sub _ _ h.coupled y)

theorem matchOp_vinv (P : Params IR) (R : IR → List Nat → Prop) (hD : Disciplined P R) (d : D IR)
    (x : Nat) (w : WL) (h : VInv R d)
    (hp : popNext (P.pick.map fun f => f d.ir) d.st.wl = some (x, w)) :
    x ∈ d.st.attached ∧ VInv R (matchOp P (popped d w) x) := by
  obtain ⟨p1, p2, p3, _⟩ := popNext_some _ _ _ _ h.wlInv hp
  have hx : x ∈ d.st.attached := h.sub x p2
  refine ⟨hx, { wlInv := matchOp_wlInv P _ x p1, sub := ?_, coupled := ?_ }⟩
  · exact execAll_sub P.recursive { (popped d w).st with flag := false } _ p1
      (fun y hy => h.sub y (p3 y hy)) (hD.pat_wf d.ir d.st.attached x h.coupled hx)
  · rw [matchOp_attached]
    exact hD.pat_R d.ir d.st.attached x h.coupled hx

theorem postWalk_vinv (P : Params IR) (R : IR → List Nat → Prop) (hD : Disciplined P R) (d : D IR)
    (h : VInv R d) : VInv R (postWalk P d) := by
  cases hpost : P.post with
  | none => rw [postWalk_none P d hpost]; exact h
  | some f =>
    rw [postWalk_some P d hpost]
    refine { wlInv := execAll_wlInv _ _ _ h.wlInv,
             sub := execAll_sub P.recursive _ _ h.wlInv h.sub
               (hD.post_wf f d.ir d.st.attached hpost h.coupled),
             coupled := ?_ }
    show R _ (execAll _ _ _).attached
    rw [execAll_attached]
    exact hD.post_R f d.ir d.st.attached hpost h.coupled

/-- A run keeps `VInv`, and whatever it adds to the trace is no visit of a detached op: the op handed to
the pattern comes off a worklist that holds attached ops only. -/
theorem run_vinv (P : Params IR) (R : IR → List Nat → Prop) (hD : Disciplined P R) (fuel : Nat)
    (d : D IR) (r : D IR × Bool) (h : VInv R d) (hrun : rewriteRegion P fuel d = some r) :
    VInv R r.1 ∧ ∀ it ∈ r.1.st.trace, it ∈ d.st.trace ∨ it.visitedDetached = false := by
  refine rewriteRegion_induct P
    (fun e => VInv R e ∧ ∀ it ∈ e.st.trace, it ∈ d.st.trace ∨ it.visitedDetached = false) ?_ ?_ ?_
    fuel d r ⟨h, fun _ => Or.inl⟩ hrun
  · intro e h
    refine ⟨populate_vinv P R hD e h.1, fun it hit => ?_⟩
    exact (List.mem_append.mp hit).elim (h.2 it) fun e => Or.inr (List.mem_singleton.mp e ▸ rfl)
  · intro e x w h hp
    obtain ⟨hx, hv⟩ := matchOp_vinv P R hD e x w h.1 hp
    obtain ⟨it', m1, _, m3⟩ := matchOp_trace P (popped e w) x
    refine ⟨hv, fun it hit => ?_⟩
    rw [m1] at hit
    refine (List.mem_append.mp hit).elim (h.2 it) fun e => Or.inr ?_
    rw [List.mem_singleton.mp e, m3]
    simpa using hx
  · intro e h
    obtain ⟨t, t1, _, t3⟩ := postWalk_trace_changed P e
    refine ⟨postWalk_vinv P R hD e h.1, fun it hit => ?_⟩
    rw [t1] at hit
    exact (List.mem_append.mp hit).elim (h.2 it) fun e => Or.inr (t3 it e)

theorem process_changed (P : Params IR) (fuel : Nat) (d d' : D IR) (h : process P fuel d = some d') :
    ∃ t, d'.st.trace = d.st.trace ++ t ∧
      d'.st.changed = (d.st.changed || t.any TraceItem.reportsChange) := by
  refine process_induct P (fun e => ∃ t, e.st.trace = d.st.trace ++ t ∧
      e.st.changed = (d.st.changed || t.any TraceItem.reportsChange)) ?_ fuel d d' ⟨[], by simp⟩ h
  intro e x w ⟨t, h1, h2⟩ _
  obtain ⟨it, m1, m2, _⟩ := matchOp_trace P (popped e w) x
  refine ⟨t ++ [it], by rw [m1, ← List.append_assoc]; exact congrArg (· ++ _) h1, ?_⟩
  rw [matchOp_changed, ← m2]
  show (e.st.changed || _) = _
  rw [h2, List.any_append, List.any_cons, List.any_nil, Bool.or_false, Bool.or_assoc]

theorem sweep_changed (P : Params IR) (fuel : Nat) (d d' : D IR) (h : sweep P fuel d = some d') :
    ∃ t, d'.st.trace = d.st.trace ++ t ∧ d'.st.changed = t.any TraceItem.reportsChange := by
  simp only [sweep, Option.map_eq_some_iff] at h
  obtain ⟨d1, h1, rfl⟩ := h
  obtain ⟨t, t1, t2⟩ := process_changed P fuel _ _ h1
  obtain ⟨u, u1, u2, _⟩ := postWalk_trace_changed P d1
  simp only [populate] at t1 t2
  refine ⟨[.sweep (P.enum d.ir d.st.attached) d.st.attached] ++ t ++ u, ?_, ?_⟩
  · rw [u1, t1]; simp
  · rw [u2, t2]; simp [TraceItem.reportsChange]

theorem outer_changed (P : Params IR) (fuel : Nat) : ∀ n (d d' : D IR), outer P fuel n d = some d' →
    ∃ t, d'.st.trace = d.st.trace ++ t ∧ (d.st.changed = false → t = []) := by
  intro n d d' h
  fun_induction outer P fuel n d with
  | case1 => cases h
  | case2 => cases h
  | case3 n d hc d1 hs ih =>
    obtain ⟨t1, a1, _⟩ := sweep_changed P fuel _ _ hs
    obtain ⟨t2, a2, _⟩ := ih h
    exact ⟨t1 ++ t2, by rw [a2, a1, List.append_assoc], fun hf => by simp [hc] at hf⟩
  | case4 => cases h; exact ⟨[], by simp, fun _ => rfl⟩

/-- The quantifier's side conditions for the fixpoint clause: patterns (and the post-walk function)
are functions of the IR that change it only through flag-setting rewriter calls / report their
changes, and `_populate_worklist` walks every attached op. -/
structure ThroughRewriter (P : Params IR) : Prop where
  pat_quiet : ∀ ir x, (∀ a ∈ (P.pat ir x).1, a.setsFlag = false) → (P.pat ir x).2 = ir
  post_quiet : ∀ f ir, P.post = some f → (f ir).2.2 = false → (f ir).1 = [] ∧ (f ir).2.1 = ir
  enum_all : ∀ ir att, ∀ y ∈ att, y ∈ P.enum ir att

/-- A `_process_worklist` that reports "nothing done" has visited every op that was on the worklist,
left IR and attached set untouched, and on none of those ops did the pattern make a flag-setting
call — for every schedule. -/
theorem process_quiet (P : Params IR) (hT : ThroughRewriter P) :
    ∀ fuel (d d' : D IR), Inv d.st.wl → process P fuel d = some d' → d'.st.changed = false →
      d'.ir = d.ir ∧ d'.st.attached = d.st.attached ∧
      ∀ x ∈ abs d.st.wl, ∀ a ∈ (P.pat d.ir x).1, a.setsFlag = false := by
  intro fuel d d' hinv h hc
  fun_induction process P fuel d with
  | case1 => cases h
  | case2 n d hp => cases h; exact ⟨rfl, rfl, by simp [popNext_none _ _ hinv hp]⟩
  | case3 n d x w hp ih =>
      obtain ⟨p1, p2, p3, p4⟩ := popNext_some _ _ _ _ hinv hp
      -- `changed` only accumulates: it was still false after this match, so the match was quiet
      obtain ⟨t, _, tc⟩ := process_changed P n _ _ h
      rw [hc, matchOp_changed] at tc
      have hq : ∀ a ∈ (P.pat d.ir x).1, a.setsFlag = false := by
        simpa using (Bool.or_eq_false_iff.mp (Bool.or_eq_false_iff.mp tc.symm).1).2
      have hir : (matchOp P (popped d w) x).ir = d.ir := hT.pat_quiet d.ir x hq
      obtain ⟨hwl, hatt⟩ : (matchOp P (popped d w) x).st.wl = w ∧
          (matchOp P (popped d w) x).st.attached = d.st.attached :=
        execAll_quiet P.recursive { (popped d w).st with flag := false } _ hq
      obtain ⟨i1, i2, i3⟩ := ih (by rw [hwl]; exact p1) h
      refine ⟨i1.trans hir, i2.trans hatt, fun y hy => ?_⟩
      rcases p4 y hy with rfl | hy'
      · exact hq
      · exact hir ▸ i3 y (by rw [hwl]; exact hy')

/-- A sweep that reports "nothing changed" did not change the IR, and in that IR no attached op
has a flag-setting rewrite left; the post-walk function reported no change either. -/
theorem sweep_quiet (P : Params IR) (hT : ThroughRewriter P) (fuel : Nat) (d d' : D IR)
    (hinv : Inv d.st.wl) (hs : sweep P fuel d = some d') (hc : d'.st.changed = false) :
    (∀ x ∈ d'.st.attached, ∀ a ∈ (P.pat d'.ir x).1, a.setsFlag = false) ∧
    (∀ f, P.post = some f → (f d'.ir).2.2 = false) := by
  simp only [sweep, Option.map_eq_some_iff] at hs
  obtain ⟨d1, h1, rfl⟩ := hs
  -- a post-walk that reports no change did nothing, and `process` had reported no change before it
  have key : d1.st.changed = false ∧ (postWalk P d1).ir = d1.ir ∧
      (postWalk P d1).st.attached = d1.st.attached ∧
      (∀ f, P.post = some f → (f d1.ir).2.2 = false) := by
    cases hpost : P.post with
    | none =>
      rw [postWalk_none P d1 hpost] at hc ⊢
      exact ⟨hc, rfl, rfl, fun f hf => nomatch hf⟩
    | some f =>
      rw [postWalk_some P d1 hpost] at hc ⊢
      obtain ⟨c1, c2⟩ := Bool.or_eq_false_iff.mp hc
      obtain ⟨e1, e2⟩ := hT.post_quiet f d1.ir hpost c2
      refine ⟨c1, e2, ?_, fun g hg => Option.some.inj hg ▸ c2⟩
      show (execAll _ _ _).attached = _
      rw [e1]; rfl
  obtain ⟨k1, k2, k3, k4⟩ := key
  obtain ⟨q1, q2, q3⟩ := process_quiet P hT fuel _ _ (populate_wlInv P (sweepStart d) hinv) h1 k1
  refine ⟨fun x hx => ?_, fun f hf => k2 ▸ k4 f hf⟩
  rw [k2.trans q1]
  rw [k3.trans q2] at hx
  exact q3 x (((pushAll_spec _ hinv _).2 x).mpr (Or.inr (hT.enum_all _ _ x hx)))

end Xdsl.RewriteDriver
