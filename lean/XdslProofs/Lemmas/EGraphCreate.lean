import XdslProofs.Lemmas.EGraphExtract
/-!
`eqsat-create-eclasses` on a well-formed, ordered SSA function produces an e-graph in which every
class is a singleton, the only user of its operand, placed after it (`CInv` with nothing left to
wrap; `LInv_of_CInv` turns it into the extraction invariant `LInv`; C28, totality part).  No Mathlib.
-/
namespace Xdsl.EGraph

/-- invariant of the two loops of `insert_eclass_ops`; `ops`, `args` = the op results and the block
arguments still to be wrapped, `c` = the next fresh id -/
structure CInv (g : Prog) (ops args : List Nat) (c : Nat) : Prop where
  nodup : (g.body.map (·.res)).Nodup
  fresh : ∀ n ∈ g.body, g.nargs ≤ n.res
  ord : Ordered g
  below : Below g c
  pend : (ops ++ args).Nodup
  cls : ∀ c' a m, Node.cls c' a m ∈ g.body →
    ∃ x, a = [x] ∧ m = none ∧ x ≠ c' ∧ OnlyUser g x c' ∧ ¬ IsClsRes g x ∧ x ∉ ops ++ args
  opdef : ∀ r ∈ ops, ∃ n ∈ g.body, n.res = r ∧ n.isCls = false
  argdef : ∀ a ∈ args, a < g.nargs

theorem OrdFrom.wrap {K : Node → Prop} [DecidablePred K] {r c : Nat} (hK : K (.cls c [r] none)) :
    ∀ {D : Nat → Prop} {b : List Node}, OrdFrom D b → ¬ D r →
      OrdFrom D ((insertAfter r (.cls c [r] none) b).map (renIf K r c)) := by
  intro D b
  induction b generalizing D with
  | nil => exact fun _ _ => trivial
  | cons n rest ih =>
    intro ⟨ha, hr⟩ hD
    have hn : renIf K r c n = n := renIf_of_not_mem fun h => hD (ha r h)
    rw [insertAfter]
    split
    · rename_i e
      rw [List.map_cons, List.map_cons, hn, renIf_pos hK]
      exact ⟨ha, fun a ha' => Or.inr ((List.mem_singleton.1 ha').trans e.symm),
        hr.rename_defined (fun x hx => Or.inl hx) (Or.inr rfl)⟩
    · rename_i e
      rw [List.map_cons, hn]
      exact ⟨ha, ih hr fun h => h.elim hD fun h => e h.symm⟩

/-- `insertAfter` only adds the node, provided `r` is defined in the list (otherwise the node is dropped) -/
theorem insertAfter_perm {r : Nat} {new : Node} {l : List Node} : (∃ n ∈ l, n.res = r) →
    (insertAfter r new l).Perm (new :: l) := by
  fun_induction insertAfter r new l with
  | case1 => exact fun ⟨_, hn, _⟩ => absurd hn List.not_mem_nil
  | case2 x l _ => exact fun _ => List.Perm.swap new x l
  | case3 x l hne ih =>
    intro ⟨n, hn, e⟩
    rcases List.mem_cons.1 hn with rfl | hn
    · exact absurd e hne
    · exact ((ih ⟨n, hn, e⟩).cons x).trans (List.Perm.swap new x l)

/-- The common part of `wrapOp` / `wrapArg`: the class `c` of the first pending value `r` is put
somewhere into the body (`body1`) and the uses of `r` outside classes are redirected to `c`. -/
theorem CInv.wrap {g : Prog} {ops0 args0 ops args : List Nat} {r c : Nat} (body1 : List Node)
    (h : CInv g ops0 args0 c) (hU : ops0 ++ args0 = r :: (ops ++ args))
    (hops : ∀ x ∈ ops, x ∈ ops0) (hargs : ∀ x ∈ args, x ∈ args0)
    (hperm : body1.Perm (Node.cls c [r] none :: g.body))
    (hord : OrdFrom (· < g.nargs) (body1.map (renIf (fun n => n.isCls = true) r c))) :
    CInv (replUsesNonCls r c { g with body := body1 }) ops args (c + 1) := by
  have hb := h.below
  have hnd := List.nodup_cons.1 (hU ▸ h.pend)
  have hUr : r ∈ ops0 ++ args0 := hU ▸ List.mem_cons_self
  have hUsub : ∀ x ∈ ops ++ args, x ∈ ops0 ++ args0 := fun x hx => hU ▸ List.mem_cons_of_mem _ hx
  have hrdef : r < g.nargs ∨ ∃ n ∈ g.body, n.res = r ∧ n.isCls = false :=
    (List.mem_append.1 hUr).elim (fun h' => Or.inr (h.opdef r h')) fun h' => Or.inl (h.argdef r h')
  have hmem : ∀ {n}, n ∈ body1 ↔ n = Node.cls c [r] none ∨ n ∈ g.body :=
    fun {n} => hperm.mem_iff.trans List.mem_cons
  have hrlt : r < c := hrdef.elim (fun h' => Nat.lt_of_lt_of_le h' hb.nargs) fun ⟨n, hn, e, _⟩ => e ▸ hb.res n hn
  have hrc : r ≠ c := Nat.ne_of_lt hrlt
  have hbelow := Below.wrap body1 (fun m hm => (hmem.1 hm).symm) hb hrlt
  rw [replUsesNonCls_eq] at hbelow ⊢
  have hnoclsr : ¬ IsClsRes g r := by
    intro ⟨a, m, hm⟩
    rcases hrdef with h' | ⟨n, hn, e, hc⟩
    · exact Nat.not_lt.2 (h.fresh _ hm) h'
    · cases eq_of_res_eq h.nodup hn hm e
      cases hc
  have hclsres : ∀ y, IsClsRes (replUsesIf (fun n => n.isCls = true) r c { g with body := body1 }) y →
      y = c ∨ IsClsRes g y := by
    intro y hy
    obtain ⟨a, m, hm⟩ := hy.of_replUsesIf
    rcases hmem.1 hm with e | h1
    · cases e; exact Or.inl rfl
    · exact Or.inr ⟨a, m, h1⟩
  have hcres : c ∉ g.body.map (·.res) := fun hc => by
    obtain ⟨n, hn, e⟩ := List.mem_map.mp hc
    exact Nat.lt_irrefl c (e ▸ hb.res n hn)
  refine ⟨?_, fun n hn => ?_, ⟨hord, fun y hy => ?_, fun x a m hm => ?_⟩, hbelow, hnd.2, fun x a m hm => ?_,
    fun u hu => ?_, fun a ha => h.argdef a (hargs a ha)⟩
  · rw [replUsesIf_res]
    exact (hperm.map (·.res)).nodup_iff.2 (List.nodup_cons.2 ⟨hcres, h.nodup⟩)
  · obtain ⟨n0, hn0, rfl⟩ := List.mem_map.mp hn
    rw [renIf_res]
    rcases hmem.1 hn0 with rfl | h0
    · exact hb.nargs
    · exact h.fresh n0 h0
  · rw [replUsesIf_res]
    rcases mem_map_substId hy with hy | ⟨rfl, _⟩
    · refine (h.ord.ret y hy).imp_right fun h' => ?_
      obtain ⟨n, hn, e⟩ := List.mem_map.mp h'
      exact List.mem_map.mpr ⟨n, hmem.2 (Or.inr hn), e⟩
    · exact Or.inr (List.mem_map.mpr ⟨_, hmem.2 (Or.inl rfl), rfl⟩)
  · rcases hmem.1 (mem_replUsesNonCls_cls hm) with e | h0
    · cases e; exact List.cons_ne_nil _ _
    · exact h.ord.clsArgs x a m h0
  · rcases hmem.1 (mem_replUsesNonCls_cls hm) with e | h0
    · -- the new class: after the renaming only classes use `r`, and no old class does
      cases e
      refine ⟨r, rfl, rfl, hrc, ⟨fun n hn hx => ?_, not_mem_map_substId hrc _⟩,
        fun hh => (hclsres r hh).elim hrc hnoclsr, hnd.1⟩
      obtain ⟨n1, hn1, rfl⟩ := List.mem_map.mp hn
      obtain ⟨hk, e1⟩ := renIf_kept_of_mem hrc hx
      rw [renIf_res]
      rcases hmem.1 hn1 with rfl | h1
      · rfl
      · cases n1 with
        | op _ _ _ _ _ => cases hk
        | cls x1 a1 m1 =>
          obtain ⟨x', rfl, _, _, _, _, hnU⟩ := h.cls x1 a1 m1 h1
          rw [e1] at hx
          exact absurd (List.mem_singleton.1 hx ▸ hUr) hnU
    · obtain ⟨x', rfl, rfl, hxc, hou, hnc, hnU⟩ := h.cls x a m h0
      have hx'r : x' ≠ r := fun e => hnU (e ▸ hUr)
      have hx'c : x' ≠ c := Nat.ne_of_lt (hb.args _ h0 x' List.mem_cons_self)
      have hou1 : OnlyUser { g with body := body1 } x' x :=
        ⟨fun n hn hx => by
          rcases hmem.1 hn with rfl | h1
          · exact absurd (List.mem_singleton.1 hx) hx'r
          · exact hou.1 n h1 hx, hou.2⟩
      exact ⟨x', rfl, rfl, hxc, hou1.replUsesIf hx'c, fun hh => (hclsres x' hh).elim hx'c hnc,
        fun hh => hnU (hUsub x' hh)⟩
  · obtain ⟨n, hn, e, hc⟩ := h.opdef u (hops u hu)
    exact ⟨renIf _ r c n, List.mem_map.mpr ⟨n, hmem.2 (Or.inr hn), rfl⟩, (renIf_res n).trans e,
      (renIf_isCls n).trans hc⟩

theorem CInv.wrapOp {g : Prog} {ops args : List Nat} {r c : Nat} (h : CInv g (r :: ops) args c) :
    CInv (wrapOp g r c) ops args (c + 1) := by
  obtain ⟨n, hn, e, _⟩ := h.opdef r List.mem_cons_self
  refine h.wrap (insertAfter r (.cls c [r] none) g.body) rfl (fun _ hx => List.mem_cons_of_mem _ hx)
    (fun _ hx => hx) (insertAfter_perm ⟨n, hn, e⟩) (OrdFrom.wrap (K := fun n => n.isCls = true) rfl h.ord.body ?_)
  have := h.fresh n hn
  omega

theorem CInv.wrapArg {g : Prog} {args : List Nat} {a c : Nat} (h : CInv g [] (a :: args) c) :
    CInv (wrapArg g a c) [] args (c + 1) := by
  refine h.wrap (.cls c [a] none :: g.body) rfl (fun _ hx => hx) (fun _ hx => List.mem_cons_of_mem _ hx)
    (List.Perm.refl _) ?_
  rw [List.map_cons, renIf_pos (K := fun n => n.isCls = true) rfl]
  exact ⟨fun x hx => List.mem_singleton.1 hx ▸ h.argdef a List.mem_cons_self,
    h.ord.body.rename_defined (fun x hx => Or.inl hx) (Or.inr rfl)⟩

theorem wrapOp_nargs (g : Prog) (r c : Nat) : (wrapOp g r c).nargs = g.nargs := rfl
theorem wrapArg_nargs (g : Prog) (r c : Nat) : (wrapArg g r c).nargs = g.nargs := rfl

theorem createEclasses_cinv {p : Prog} (hw : WF p) (ho : Ordered p) :
    ∃ c, CInv (createEclasses p) [] [] c ∧ (createEclasses p).nargs = p.nargs := by
  refine createEclassesFrom_ind (Q := fun ops args c g => CInv g ops args c ∧ g.nargs = p.nargs)
    (fun h => ⟨h.1.wrapOp, h.2⟩) (fun h => ⟨h.1.wrapArg, h.2⟩)
    ⟨⟨hw.nodup, hw.fresh, ho, below_maxId p, ?_, fun c a m hm => Bool.noConfusion (hw.noCls _ hm), fun r hr => ?_,
      fun a ha => List.mem_range.1 ha⟩, rfl⟩
  · -- an op result is not a block argument
    refine List.nodup_append.2 ⟨hw.nodup, List.nodup_range, fun x hx y hy e => ?_⟩
    obtain ⟨n, hn, rfl⟩ := List.mem_map.mp hx
    exact Nat.not_le.2 (List.mem_range.1 hy) (e ▸ hw.fresh n hn)
  · obtain ⟨n, hn, e⟩ := List.mem_map.mp hr
    exact ⟨n, hn, e, hw.noCls n hn⟩

theorem mem_classIds {body : List Node} {c : Nat} (h : c ∈ classIds body) : ∃ a m, Node.cls c a m ∈ body := by
  simp only [classIds, List.mem_map, List.mem_filter] at h
  obtain ⟨n, ⟨hn, hc⟩, e⟩ := h
  cases n with
  | op _ _ _ _ _ => simp [Node.isCls] at hc
  | cls r a m => simp only [Node.res] at e; subst e; exact ⟨a, m, hn⟩

theorem LInv_of_CInv {g : Prog} {c : Nat} (h : CInv g [] [] c) : LInv g (classIds g.body).reverse := by
  have hnd : (classIds g.body).Nodup := List.Nodup.sublist (List.Sublist.map _ List.filter_sublist) h.nodup
  refine ⟨h.nodup, h.fresh, h.ord, (List.reverse_perm _).nodup_iff.2 hnd, ?_⟩
  intro c hc
  obtain ⟨a, m, hm⟩ := mem_classIds (List.mem_reverse.mp hc)
  obtain ⟨x, rfl, rfl, hxc, hou, hnc, _⟩ := h.cls c a m hm
  exact ⟨x, none, hm, Or.inl rfl, hxc, hou, hnc⟩

end Xdsl.EGraph
