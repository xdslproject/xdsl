import XdslProofs.Lemmas.Clone
/-!
C02, phase 2 (operand assignment by identity) and the follow-up edits by identity: an update
addressed to an identity that does not occur in a tree leaves the tree unchanged; and phase 2, which gives
every new op the renamed operands of the source op at the same walk position, completes the renaming that
phase 1 left without operands (`Iso_applyOps`).
-/
namespace Xdsl.Clone

theorem mkAssign_frame (vm : AL Nat Nat) (os : List (List Nat)) (ns : List Nat)
    (m : AL Nat (List Nat)) (k : Nat) (hk : k ∉ ns) :
    AL.get (mkAssign vm os ns m) k = AL.get m k := by
  induction os generalizing ns m with
  | nil => cases ns <;> simp [mkAssign]
  | cons o os ih =>
    cases ns with
    | nil => simp [mkAssign]
    | cons n ns =>
      simp only [List.mem_cons, not_or] at hk
      simp only [mkAssign]
      rw [ih _ _ hk.2, AL.get_set]; simp [hk.1]

theorem mkAssign_get (vm : AL Nat Nat) (os : List (List Nat)) (ns : List Nat)
    (m : AL Nat (List Nat)) (nd : ns.Nodup) :
    ∀ p ∈ List.zip ns os, AL.get (mkAssign vm os ns m) p.1 = some (p.2.map (mapVal vm)) := by
  induction os generalizing ns m with
  | nil => cases ns <;> simp
  | cons o os ih =>
    cases ns with
    | nil => simp
    | cons n ns =>
      simp only [List.nodup_cons] at nd
      intro p hp
      simp only [List.zip_cons_cons, List.mem_cons] at hp
      simp only [mkAssign]
      rcases hp with hp | hp
      · subst hp
        rw [mkAssign_frame _ _ _ _ _ nd.1, AL.get_set]; simp
      · exact ih _ _ nd.2 p hp

theorem walkIds_sublist_ids {k : Kind} (t : T k) : (walkIds t).Sublist (ids t) := by
  induction t with
  | nil => simp [walkIds, ids]
  | op h rs nx ih1 ih2 =>
    simp only [walkIds, ids, hdrIds, List.cons_append]
    apply List.Sublist.cons_cons
    apply List.Sublist.cons
    apply List.Sublist.cons
    exact List.Sublist.trans (ih1.append ih2) (List.sublist_append_right _ _)
  | region bs nx ih1 ih2 => simp only [walkIds, ids]; exact ih1.append ih2
  | block h ops nx ih1 ih2 =>
    simp only [walkIds, ids]
    exact List.Sublist.trans (ih1.append ih2) (List.sublist_append_right _ _)

theorem walkIds_sub_ids {k : Kind} (t : T k) : ∀ i ∈ walkIds t, i ∈ ids t := fun _ hi =>
  (walkIds_sublist_ids t).subset hi

theorem walkOperands_length {k : Kind} (t : T k) : (walkOperands t).length = (walkIds t).length := by
  induction t with
  | nil => simp [walkOperands, walkIds]
  | op h rs nx ih1 ih2 => simp [walkOperands, walkIds, ih1, ih2]
  | region bs nx ih1 ih2 => simp [walkOperands, walkIds, ih1, ih2]
  | block h ops nx ih1 ih2 => simp [walkOperands, walkIds, ih1, ih2]

theorem Iso_walk_length {co : Bool} {fv fb : Nat → Nat} {k : Kind} (t t' : T k)
    (i : Iso co fv fb t t') : (walkIds t').length = (walkIds t).length := by
  fun_induction Iso co fv fb t t' with
  | case1 => rfl
  | case2 h rs nx h' rs' nx' ih1 ih2 =>
    simp only [walkIds, List.length_cons, List.length_append, ih1 i.2.2.2.2.2.2.1, ih2 i.2.2.2.2.2.2.2]
  | case3 h ops nx h' ops' nx' ih1 ih2 =>
    simp only [walkIds, List.length_append, ih1 i.2.2.1, ih2 i.2.2.2]
  | case4 bs nx bs' nx' ih1 ih2 => simp only [walkIds, List.length_append, ih1 i.1, ih2 i.2]
  | case5 => exact i.elim

theorem applyOps_frame {k : Kind} (m : AL Nat (List Nat)) (u : T k)
    (h : ∀ id ∈ walkIds u, AL.get m id = none) : applyOps m u = u := by
  induction u with
  | nil => rfl
  | op hd rs nx ih1 ih2 =>
    simp only [walkIds, List.mem_cons, List.mem_append] at h
    simp only [applyOps]
    rw [h hd.id (Or.inl rfl), ih1 (fun id hi => h id (Or.inr (Or.inl hi))),
      ih2 (fun id hi => h id (Or.inr (Or.inr hi)))]
  | region bs nx ih1 ih2 =>
    simp only [walkIds, List.mem_append] at h
    simp only [applyOps]
    rw [ih1 (fun id hi => h id (Or.inl hi)), ih2 (fun id hi => h id (Or.inr hi))]
  | block hd ops nx ih1 ih2 =>
    simp only [walkIds, List.mem_append] at h
    simp only [applyOps]
    rw [ih1 (fun id hi => h id (Or.inl hi)), ih2 (fun id hi => h id (Or.inr hi))]

theorem applyOps_ids {k : Kind} (m : AL Nat (List Nat)) (t : T k) : ids (applyOps m t) = ids t := by
  induction t with
  | nil => rfl
  | op h rs nx ih1 ih2 =>
    simp only [applyOps, ids, ih1, ih2]
    cases AL.get m h.id <;> simp [hdrIds]
  | region bs nx ih1 ih2 => simp only [applyOps, ids, ih1, ih2]
  | block h ops nx ih1 ih2 => simp only [applyOps, ids, ih1, ih2]

theorem append_nil {k : Kind} (t : T k) : append t .nil = t := by
  induction t with
  | nil => rfl
  | op _ _ _ _ ih => simp [append, ih]
  | region _ _ _ ih => simp [append, ih]
  | block _ _ _ _ ih => simp [append, ih]

theorem applyOps_append {k : Kind} (m : AL Nat (List Nat)) (a b : T k) :
    applyOps m (append a b) = append (applyOps m a) (applyOps m b) := by
  induction a with
  | nil => simp [append, applyOps]
  | op h rs nx _ ih2 => simp only [append, applyOps, ih2]
  | region bs nx _ ih2 => simp only [append, applyOps, ih2]
  | block h ops nx _ ih2 => simp only [append, applyOps, ih2]

theorem applyOps_insertAt {k : Kind} (m : AL Nat (List Nat)) (i : Nat) (a b : T k) :
    applyOps m (insertAt i a b) = insertAt i (applyOps m a) (applyOps m b) := by
  induction b generalizing i with
  | nil => cases i <;> simp [insertAt, applyOps, applyOps_append]
  | op h rs nx _ ih2 => cases i <;> simp [insertAt, applyOps, applyOps_append, ih2]
  | region bs nx _ ih2 => cases i <;> simp [insertAt, applyOps, applyOps_append, ih2]
  | block h ops nx _ ih2 => cases i <;> simp [insertAt, applyOps, applyOps_append, ih2]

theorem Iso_applyOps {fv fb : Nat → Nat} {k : Kind} (m : AL Nat (List Nat)) (t t' : T k)
    (i : Iso false fv fb t t')
    (hm : ∀ p ∈ List.zip (walkIds t') (walkOperands t), AL.get m p.1 = some (p.2.map fv)) :
    Iso true fv fb t (applyOps m t') := by
  fun_induction Iso false fv fb t t' with
  | case1 => trivial
  | case2 h rs nx h' rs' nx' ih1 ih2 =>
    obtain ⟨i1, i2, i3, i4, _, i6, i7, i8⟩ := i
    have len : (walkIds rs').length = (walkOperands rs).length := by
      rw [walkOperands_length, Iso_walk_length rs rs' i7]
    simp only [walkIds, walkOperands, List.zip_cons_cons, List.zip_append len, List.forall_mem_cons,
      List.forall_mem_append] at hm
    simp only [applyOps, Iso, hm.1]
    exact ⟨i1, i2, i3, i4, by simp, i6, ih1 i7 hm.2.1, ih2 i8 hm.2.2⟩
  | case3 h ops nx h' ops' nx' ih1 ih2 =>
    have len : (walkIds ops').length = (walkOperands ops).length := by
      rw [walkOperands_length, Iso_walk_length ops ops' i.2.2.1]
    simp only [walkIds, walkOperands, List.zip_append len, List.forall_mem_append] at hm
    exact ⟨i.1, i.2.1, ih1 i.2.2.1 hm.1, ih2 i.2.2.2 hm.2⟩
  | case4 bs nx bs' nx' ih1 ih2 =>
    have len : (walkIds bs').length = (walkOperands bs).length := by
      rw [walkOperands_length, Iso_walk_length bs bs' i.1]
    simp only [walkIds, walkOperands, List.zip_append len, List.forall_mem_append] at hm
    exact ⟨ih1 i.1 hm.1, ih2 i.2 hm.2⟩
  | case5 => exact i.elim

/-- the identity (op, block, or dict object) an edit is addressed to -/
def Edit.target : Edit → Nat
  | .setOperand id _ _ => id
  | .eraseOp id => id
  | .addBlockArg id _ _ => id
  | .setDict r _ _ => r

theorem setOperand_frame {k : Kind} (id i v : Nat) (t : T k) (h : id ∉ ids t) :
    setOperand id i v t = t := by
  induction t with
  | nil => rfl
  | op hd rs nx ih1 ih2 =>
    simp only [ids, hdrIds, List.mem_append, List.mem_cons, not_or] at h
    have : ¬ hd.id = id := fun e => h.1.1 e.symm
    simp only [setOperand, this, if_false, ih1 h.2.1, ih2 h.2.2]
  | region bs nx ih1 ih2 =>
    simp only [ids, List.mem_append, not_or] at h
    simp only [setOperand, ih1 h.1, ih2 h.2]
  | block hd ops nx ih1 ih2 =>
    simp only [ids, List.mem_append, not_or] at h
    simp only [setOperand, ih1 h.2.1, ih2 h.2.2]

theorem eraseOp_frame {k : Kind} (id : Nat) (t : T k) (h : id ∉ ids t) : eraseOp id t = t := by
  induction t with
  | nil => rfl
  | op hd rs nx ih1 ih2 =>
    simp only [ids, hdrIds, List.mem_append, List.mem_cons, not_or] at h
    have : ¬ hd.id = id := fun e => h.1.1 e.symm
    simp only [eraseOp, this, if_false, ih1 h.2.1, ih2 h.2.2]
  | region bs nx ih1 ih2 =>
    simp only [ids, List.mem_append, not_or] at h
    simp only [eraseOp, ih1 h.1, ih2 h.2]
  | block hd ops nx ih1 ih2 =>
    simp only [ids, List.mem_append, not_or] at h
    simp only [eraseOp, ih1 h.2.1, ih2 h.2.2]

theorem addBlockArg_frame {k : Kind} (id v ty : Nat) (t : T k) (h : id ∉ ids t) :
    addBlockArg id v ty t = t := by
  induction t with
  | nil => rfl
  | op hd rs nx ih1 ih2 =>
    simp only [ids, List.mem_append, not_or] at h
    simp only [addBlockArg, ih1 h.2.1, ih2 h.2.2]
  | region bs nx ih1 ih2 =>
    simp only [ids, List.mem_append, not_or] at h
    simp only [addBlockArg, ih1 h.1, ih2 h.2]
  | block hd ops nx ih1 ih2 =>
    simp only [ids, List.mem_append, List.mem_cons, not_or] at h
    have : ¬ hd.id = id := fun e => h.1.1 e.symm
    simp only [addBlockArg, this, if_false, ih1 h.2.1, ih2 h.2.2]

theorem setDict_frame {k : Kind} (r key val : Nat) (t : T k) (h : r ∉ ids t) :
    setDict r key val t = t := by
  induction t with
  | nil => rfl
  | op hd rs nx ih1 ih2 =>
    simp only [ids, hdrIds, List.mem_append, List.mem_cons, not_or] at h
    have a : ¬ hd.aref = r := fun e => h.1.2.1 e.symm
    have p : ¬ hd.pref = r := fun e => h.1.2.2.1 e.symm
    simp only [setDict, a, p, if_false, ih1 h.2.1, ih2 h.2.2]
  | region bs nx ih1 ih2 =>
    simp only [ids, List.mem_append, not_or] at h
    simp only [setDict, ih1 h.1, ih2 h.2]
  | block hd ops nx ih1 ih2 =>
    simp only [ids, List.mem_append, not_or] at h
    simp only [setDict, ih1 h.2.1, ih2 h.2.2]

theorem Edit.apply_frame {k : Kind} (e : Edit) (t : T k) (h : e.target ∉ ids t) : e.apply t = t := by
  cases e with
  | setOperand id i v => exact setOperand_frame id i v t h
  | eraseOp id => exact eraseOp_frame id t h
  | addBlockArg id v ty => exact addBlockArg_frame id v ty t h
  | setDict r key val => exact setDict_frame r key val t h

theorem edit_independence {st : St} {k : Kind} {new : T k} (h : ∀ i ∈ ids new, st.next ≤ i) (e : Edit) :
    (e.target ∈ ids new → ∀ {k' : Kind} (u : T k'), Old st u → e.apply u = u)
      ∧ (e.target < st.next → e.apply new = new) := by
  refine ⟨fun ht k' u old => Edit.apply_frame e u fun hin => ?_, fun ht => Edit.apply_frame e new fun hin => ?_⟩
  · have := old _ hin
    have := h _ ht
    omega
  · have := h _ hin
    omega

end Xdsl.Clone
