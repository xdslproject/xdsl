import XdslModel.Prelude
/-!
Association lists `AL α β` (`XdslModel/Prelude.lean`), the finite maps of every model: what `get` returns after
a new head entry, `set`, `del`, a batch of `set`s and a `map` that recomputes the values from the keys
(`get_map_key`, last in the file), and how `get` relates to membership.
-/
namespace Xdsl.AL
variable {α β : Type} [DecidableEq α]

@[simp] theorem get_nil (k : α) : get ([] : AL α β) k = none := rfl

@[simp] theorem get_cons (a : α) (b : β) (r : AL α β) (k : α) :
    get ((a, b) :: r) k = if a = k then some b else get r k := rfl

theorem get_del (m : AL α β) (k k' : α) :
    get (del m k) k' = if k' = k then none else get m k' := by
  induction m with
  | nil => simp [del]
  | cons p r ih =>
    obtain ⟨a, b⟩ := p
    simp only [del]
    split <;> rename_i h
    · subst h
      rw [ih]; split
      · rfl
      · rename_i h2; have : ¬ a = k' := fun e => h2 e.symm
        simp [this]
    · simp only [get_cons, ih]
      split
      · rename_i h2; subst h2; simp [h]
      · rfl

theorem get_set (m : AL α β) (k k' : α) (v : β) :
    get (set m k v) k' = if k' = k then some v else get m k' := by
  unfold set
  by_cases h : k' = k
  · subst h; simp
  · have : ¬ k = k' := fun e => h e.symm
    simp [this, get_del, h]

theorem get_set_eq_some {m : AL α β} {k k' : α} {v v' : β} :
    get (set m k v) k' = some v' ↔ (k' = k ∧ v' = v) ∨ (k' ≠ k ∧ get m k' = some v') := by
  rw [get_set]
  by_cases h : k' = k
  · simp [h, eq_comm]
  · simp [h]

theorem isSome_get_set {m : AL α β} {k' : α} (k : α) (v : β) (h : (get m k').isSome) :
    (get (set m k v) k').isSome := by
  rw [get_set]; split <;> simp [h]

theorem mem_del : ∀ (m : AL α β) (k : α) (kv : α × β),
    kv ∈ del m k → kv ∈ m
  | [], _, _, h => by simp [del] at h
  | (a, b) :: r, k, kv, h => by
    simp only [del] at h
    split at h
    · exact List.mem_cons_of_mem _ (mem_del r k kv h)
    · rcases List.mem_cons.1 h with rfl | h'
      · exact List.mem_cons_self ..
      · exact List.mem_cons_of_mem _ (mem_del r k kv h')

theorem mem_of_get_some {m : AL α β} {k : α} {v : β} (h : get m k = some v) : (k, v) ∈ m := by
  induction m with
  | nil => simp at h
  | cons p t ih =>
    obtain ⟨a, b⟩ := p
    rw [get_cons] at h
    split at h
    · rename_i e; subst e; cases h; exact List.mem_cons_self
    · exact List.mem_cons_of_mem _ (ih h)

/-- what holds of every binding holds of whatever `get` returns (for tables given explicitly the
premise is decidable) -/
theorem forall_of_get {P : α → β → Prop} (m : AL α β)
    (h : ∀ kv ∈ m, P kv.1 kv.2) : ∀ k v, get m k = some v → P k v := by
  induction m with
  | nil => intro k v hg; cases hg
  | cons kv m ih =>
    intro k v hg
    rw [get_cons] at hg
    split at hg
    · rename_i hk; cases hg; exact hk ▸ h kv (List.mem_cons_self ..)
    · exact ih (fun kv' hkv => h kv' (List.mem_cons_of_mem _ hkv)) k v hg

theorem get_cons_new {m : AL α β} {k k' : α} {v v' : β} (hnone : get m k = none)
    (h : get m k' = some v') : get ((k, v) :: m) k' = some v' := by
  rw [get_cons]
  split
  · rename_i e; subst e; rw [hnone] at h; cases h
  · exact h

theorem get_cons_forall {m : AL α β} {k : α} {v : β} {P : α → β → Prop}
    (hold : ∀ k' v', get m k' = some v' → P k' v') (hnew : P k v) :
    ∀ k' v', get ((k, v) :: m) k' = some v' → P k' v' := by
  intro k' v' h
  rw [get_cons] at h
  split at h
  · rename_i e; cases h; exact e ▸ hnew
  · exact hold _ _ h

theorem get_le_eq {m M : AL α β} {k : α} {y x : β}
    (hle : ∀ k v, get m k = some v → get M k = some v) (hg : get m k = some y)
    (hx : get M k = some x) : y = x :=
  Option.some.inj ((hle _ _ hg).symm.trans hx)

theorem get_eq_none_iff {l : AL α β} {k : α} : get l k = none ↔ k ∉ l.map Prod.fst := by
  induction l with
  | nil => simp
  | cons p r ih =>
    obtain ⟨a, b⟩ := p
    simp only [get_cons, List.map_cons, List.mem_cons, not_or]
    split
    · rename_i e; subst e; simp
    · rename_i e
      rw [ih]
      exact ⟨fun h => ⟨fun e' => e e'.symm, h⟩, fun h => h.2⟩

theorem isSome_get_iff {l : AL α β} {k : α} : (get l k).isSome ↔ k ∈ l.map Prod.fst := by
  rw [Option.isSome_iff_ne_none, Ne, get_eq_none_iff, Decidable.not_not]

theorem get_of_mem_nodup {l : AL α β} {k : α} {v : β} (hn : (l.map Prod.fst).Nodup) (h : (k, v) ∈ l) :
    get l k = some v := by
  induction l with
  | nil => cases h
  | cons q r ih =>
    obtain ⟨a, b⟩ := q
    simp only [List.map_cons, List.nodup_cons] at hn
    simp only [get_cons]
    rcases List.mem_cons.mp h with h | h
    · cases h; simp
    · have : a ≠ k := by
        intro e; subst e
        exact hn.1 (List.mem_map.mpr ⟨(a, v), h, rfl⟩)
      simp [this, ih hn.2 h]

/-! ### writing a list of entries

`l.foldl (fun m p => set m (key p) (val p)) m`, the shape of every loop of a model that stores a batch: a key
none of the entries has keeps its value; a key some entry has holds the value of such an entry (the last one
with that key; the entry itself when the keys are distinct); what is read at `k` afterwards depends on `m`
through `get m k` only. -/

theorem get_foldl_set_of_not_mem {γ : Type} (key : γ → α) (val : γ → β) (l : List γ) (m : AL α β) {k : α}
    (h : ∀ p ∈ l, key p ≠ k) : get (l.foldl (fun m p => set m (key p) (val p)) m) k = get m k := by
  induction l generalizing m with
  | nil => rfl
  | cons a l ih =>
    rw [List.foldl_cons, ih _ fun p hp => h p (List.mem_cons_of_mem _ hp), get_set,
      if_neg (h a List.mem_cons_self).symm]

theorem get_foldl_set_of_mem {γ : Type} (key : γ → α) (val : γ → β) {l : List γ} (m : AL α β) {k : α}
    (h : ∃ p ∈ l, key p = k) :
    ∃ q ∈ l, key q = k ∧ get (l.foldl (fun m p => set m (key p) (val p)) m) k = some (val q) := by
  induction l generalizing m with
  | nil => obtain ⟨_, hp, _⟩ := h; cases hp
  | cons a l ih =>
    by_cases hl : ∃ p ∈ l, key p = k
    · obtain ⟨q, hq, e⟩ := ih (set m (key a) (val a)) hl
      exact ⟨q, List.mem_cons_of_mem _ hq, e⟩
    · obtain ⟨p, hp, hk⟩ := h
      have ha : key a = k := by
        rcases List.mem_cons.mp hp with rfl | hp
        · exact hk
        · exact absurd ⟨p, hp, hk⟩ hl
      refine ⟨a, List.mem_cons_self, ha, ?_⟩
      rw [List.foldl_cons, get_foldl_set_of_not_mem key val l _ fun p hp e => hl ⟨p, hp, e⟩, get_set,
        if_pos ha.symm]

theorem get_foldl_set_of_mem_nodup {γ : Type} (key : γ → α) (val : γ → β) {l : List γ} (m : AL α β) {p : γ}
    (hn : (l.map key).Nodup) (hp : p ∈ l) :
    get (l.foldl (fun m p => set m (key p) (val p)) m) (key p) = some (val p) := by
  induction l generalizing m with
  | nil => cases hp
  | cons a l ih =>
    obtain ⟨ha, hn⟩ := List.nodup_cons.mp hn
    rw [List.foldl_cons]
    rcases List.mem_cons.mp hp with rfl | hp
    · rw [get_foldl_set_of_not_mem key val l _ (k := key p) fun q hq e =>
          ha (e ▸ List.mem_map_of_mem (f := key) hq),
        get_set, if_pos rfl]
    · exact ih _ hn hp

theorem get_foldl_set_congr {γ : Type} (key : γ → α) (val : γ → β) (l : List γ) {m m' : AL α β} {k : α}
    (h : get m k = get m' k) :
    get (l.foldl (fun m p => set m (key p) (val p)) m) k =
      get (l.foldl (fun m p => set m (key p) (val p)) m') k := by
  induction l generalizing m m' with
  | nil => exact h
  | cons a l ih => exact ih (by rw [get_set, get_set, h])

theorem get_map_key {γ : Type} (m : AL α β) (g : α → γ) (c : α) :
    get (m.map (fun p => (p.1, g p.1))) c = (get m c).map (fun _ => g c) := by
  induction m with
  | nil => rfl
  | cons p r ih =>
    obtain ⟨a, b⟩ := p
    simp only [List.map_cons, get]
    split
    · subst_vars; rfl
    · exact ih

end Xdsl.AL
