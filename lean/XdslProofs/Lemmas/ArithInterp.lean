import XdslProofs.Lemmas.PyInt
/-!
The signed range in which the interpreter kernels (C15) and the constant folds (C14) return their
results, and the division identity behind `run_divsi`/`run_remsi`.
-/
namespace Xdsl.C15

def InSignedRange (w : Nat) (r : Int) : Prop := -(2 : Int) ^ (w - 1) ≤ r ∧ r < (2 : Int) ^ (w - 1)

theorem toInt_inRange {w : Nat} (x : BitVec w) : InSignedRange w x.toInt :=
  ⟨BitVec.le_toInt x, BitVec.toInt_lt⟩

theorem abs_nonneg (x : Int) : 0 ≤ Py.abs x := by unfold Py.abs; split <;> omega

/-- Python's `abs(l) // abs(r)` with the sign fix-up used by `run_divsi`/`run_remsi` is truncating
division: on the absolute values floor and truncation agree, and `tdiv` commutes with negating either
argument.  (For `l = 0` the test `l > 0` picks the other branch, but both are `0`.) -/
theorem pydiv_eq_tdiv (l r : Int) (hr : r ≠ 0) :
    (if (decide (l > 0) != decide (r > 0)) = true
      then -(Py.floordiv (Py.abs l) (Py.abs r)) else Py.floordiv (Py.abs l) (Py.abs r))
    = Int.tdiv l r := by
  rw [Py.floordiv_eq_ediv _ _ (abs_nonneg r), ← Int.tdiv_eq_ediv_of_nonneg (abs_nonneg l)]
  unfold Py.abs
  rcases Int.lt_trichotomy l 0 with hl | rfl | hl
  · have hl' : ¬ l > 0 := by omega
    rcases Int.lt_or_gt_of_ne hr with hr' | hr'
    · simp [hl, hl', hr', Int.not_lt.mpr (Int.le_of_lt hr'), Int.neg_tdiv, Int.tdiv_neg]
    · simp [hl, hl', hr', Int.not_lt.mpr (Int.le_of_lt hr'), Int.neg_tdiv]
  · simp
  · have hl' : ¬ l < 0 := by omega
    rcases Int.lt_or_gt_of_ne hr with hr' | hr'
    · simp [hl, hl', hr', Int.not_lt.mpr (Int.le_of_lt hr'), Int.tdiv_neg]
    · simp [hl, hl', hr', Int.not_lt.mpr (Int.le_of_lt hr')]

/-- the same with what the kernel goes on to do with the quotient (`f`) inside each branch, as
`run_divsi` (`to_signed`) and `run_remsi` (`lhs - div * rhs`) are written -/
theorem tdiv_fixup {α : Type} (f : Int → α) (l r : Int) (hr : r ≠ 0) :
    (if (decide (l > 0) != decide (r > 0)) = true then f (-Py.floordiv (Py.abs l) (Py.abs r))
      else f (Py.floordiv (Py.abs l) (Py.abs r))) = f (Int.tdiv l r) := by
  rw [← pydiv_eq_tdiv l r hr, apply_ite f]

end Xdsl.C15
