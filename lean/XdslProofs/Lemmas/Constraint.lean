import XdslModel.Constraint
import XdslProofs.Lemmas.AL
/-!
What the C09 theorems are stated with: the declarative meaning `sat` of a constraint, the assumption
`UnivOK` on the class table and what the constructors enforce (`WF`); before them, attribute equality
and the induction principle of the nested constraint type.
-/
namespace Xdsl.Constraint

theorem Attr.beq_iff : ∀ (a b : Attr), Attr.beq a b = true ↔ a = b := fun a =>
  Attr.rec (motive_1 := fun a => ∀ b, Attr.beq a b = true ↔ a = b)
    (motive_2 := fun as => ∀ bs, Attr.beqL as bs = true ↔ as = bs)
    (fun c ps ih b => by cases b <;> simp [Attr.beq, ih])
    (fun c p b => by cases b <;> simp [Attr.beq])
    (fun c ps ih b => by cases b <;> simp [Attr.beq, ih])
    (fun bs => by cases bs <;> simp [Attr.beqL])
    (fun a as iha ihas bs => by cases bs <;> simp [Attr.beqL, iha, ihas]) a

theorem Attr.beqL_iff : ∀ (a b : List Attr), Attr.beqL a b = true ↔ a = b
  | [], [] => by simp [Attr.beqL]
  | a :: as, b :: bs => by simp [Attr.beqL, Attr.beq_iff a b, Attr.beqL_iff as bs]
  | [], _ :: _ | _ :: _, [] => by simp [Attr.beqL]

instance : DecidableEq Attr := fun a b => decidable_of_iff _ (Attr.beq_iff a b)

@[simp] theorem Attr.beq_self (a : Attr) : a.beq a = true := (Attr.beq_iff a a).2 rfl

theorem memA_iff (a : Attr) (vs : List Attr) : memA a vs = true ↔ a ∈ vs := by
  unfold memA
  rw [List.any_eq_true]
  constructor
  · rintro ⟨v, hv, h⟩; rw [Attr.beq_iff] at h; subst h; exact hv
  · intro h; exact ⟨a, h, Attr.beq_self a⟩

theorem mem_dedupA (a : Attr) (vs : List Attr) : a ∈ dedupA vs ↔ a ∈ vs := by
  induction vs with
  | nil => exact Iff.rfl
  | cons v vs ih =>
    simp only [dedupA, List.mem_cons, List.mem_filter, ih]
    by_cases e : a = v
    · simp only [e, true_or]
    · have : a.beq v = false := Bool.eq_false_iff.2 fun hb => e ((Attr.beq_iff a v).1 hb)
      simp only [e, false_or, this, Bool.not_false, and_true]

section
variable {P : C → Prop}
    (any : P .any) (eq : ∀ a, P (.eq a)) (set : ∀ vs, P (.set vs)) (base : ∀ d, P (.base d))
    (anyOf : ∀ cs, (∀ c ∈ cs, P c) → P (.anyOf cs))
    (allOf : ∀ cs, (∀ c ∈ cs, P c) → P (.allOf cs))
    (param : ∀ d ps, (∀ c ∈ ps, P c) → P (.param d ps))
    (var : ∀ n c, P c → P (.var n c))
    (msg : ∀ n c, P c → P (.msg n c))
    (tvar : ∀ n c, P c → P (.tvar n c))
    (arrayOf : ∀ k c, P c → P (.arrayOf k c))
include any eq set base anyOf allOf param var msg tvar arrayOf

/-- `C.rec` with the membership motive for the lists of sub-constraints -/
theorem C.ind : ∀ c, P c := fun c =>
  C.rec (motive_1 := P) (motive_2 := fun cs => ∀ c ∈ cs, P c)
    any eq set base anyOf allOf param var msg tvar arrayOf
    (fun _ h => nomatch h) (fun _ _ hc hcs _ h => (List.mem_cons.1 h).elim (· ▸ hc) (hcs _)) c

theorem C.indL : ∀ cs : List C, ∀ c ∈ cs, P c :=
  fun _ c _ => C.ind any eq set base anyOf allOf param var msg tvar arrayOf c
end

/-- a variable assignment -/
abbrev Asg := Nat → Option Attr

mutual
/-- `sat U σ c a`: attribute `a` is in the set described by `c` under the assignment `σ` — the
property sentence clause by clause:
union = some alternative, intersection = all, base/eq/set/param = class and parameters,
variable = the assignment maps the name to this very attribute (so all occurrences are equal). -/
def sat (U : Univ) (σ : Asg) : C → Attr → Prop
  | .any, _ => True
  | .eq b, a => a = b
  | .set vs, a => a ∈ vs
  | .base d, a => isSub U a.cls d = true
  | .anyOf cs, a => satAny U σ cs a
  | .allOf cs, a => satAll U σ cs a
  | .param d ps, a => isSub U a.cls d = true ∧ (match a with | .param _ as => satZip U σ ps as | _ => False)
  | .var n c, a => σ n = some a ∧ sat U σ c a
  | .msg _ c, a => sat U σ c a
  | .tvar _ b, a => sat U σ b a
  | .arrayOf k c, a => isSub U a.cls k = true ∧ (match a with | .arr _ es => ∀ e ∈ es, sat U σ c e | _ => False)
def satAny (U : Univ) (σ : Asg) : List C → Attr → Prop
  | [], _ => False
  | c :: cs, a => sat U σ c a ∨ satAny U σ cs a
def satAll (U : Univ) (σ : Asg) : List C → Attr → Prop
  | [], _ => True
  | c :: cs, a => sat U σ c a ∧ satAll U σ cs a
def satZip (U : Univ) (σ : Asg) : List C → List Attr → Prop
  | [], [] => True
  | c :: cs, a :: as => sat U σ c a ∧ satZip U σ cs as
  | _, _ => False
end

section
variable (U : Univ) (σ : Asg)
theorem sat_any (a : Attr) : sat U σ .any a = True := rfl
theorem sat_eq (b a : Attr) : sat U σ (.eq b) a = (a = b) := rfl
theorem sat_anyOf (cs : List C) (a : Attr) : sat U σ (.anyOf cs) a = satAny U σ cs a := rfl
theorem sat_allOf (cs : List C) (a : Attr) : sat U σ (.allOf cs) a = satAll U σ cs a := rfl
theorem sat_param (d ca : Nat) (ps : List C) (as : List Attr) :
    sat U σ (.param d ps) (.param ca as) = (isSub U ca d = true ∧ satZip U σ ps as) := rfl
theorem sat_var (n : Nat) (c : C) (a : Attr) : sat U σ (.var n c) a = (σ n = some a ∧ sat U σ c a) := rfl
theorem sat_arrayOf (k ca : Nat) (c : C) (es : List Attr) :
    sat U σ (.arrayOf k c) (.arr ca es) = (isSub U ca k = true ∧ ∀ e ∈ es, sat U σ c e) := rfl
end

theorem satAny_iff (U : Univ) (σ : Asg) (a : Attr) (cs : List C) : satAny U σ cs a ↔ ∃ c ∈ cs, sat U σ c a := by
  induction cs with
  | nil => exact ⟨nofun, nofun⟩
  | cons c cs ih => simp only [satAny, ih, List.mem_cons, exists_eq_or_imp]

theorem satAll_iff (U : Univ) (σ : Asg) (a : Attr) : ∀ cs, satAll U σ cs a ↔ ∀ c ∈ cs, sat U σ c a
  | [] => ⟨fun _ => nofun, fun _ => trivial⟩
  | _ :: cs => (and_congr_right' (satAll_iff U σ a cs)).trans (List.forall_mem_cons (p := (sat U σ · a))).symm

section
variable (U : Univ)

theorem satZip_mono {σ σ' : Asg} (cs : List C) (as : List Attr)
    (ih : ∀ c ∈ cs, ∀ a, sat U σ c a → sat U σ' c a) (h : satZip U σ cs as) : satZip U σ' cs as := by
  induction cs generalizing as with
  | nil => cases as with | nil => exact h | cons _ _ => exact h.elim
  | cons c cs rec =>
    cases as with
    | nil => exact h.elim
    | cons a as =>
      exact ⟨ih c (List.mem_cons_self ..) a h.1, rec as (fun c' hc' => ih c' (List.mem_cons_of_mem _ hc')) h.2⟩

theorem sat_mono {σ σ' : Asg} (hσ : ∀ n v, σ n = some v → σ' n = some v) :
    ∀ c a, sat U σ c a → sat U σ' c a := by
  intro c
  induction c using C.ind with
  | any | eq _ | set _ | base _ => exact fun _ h => h
  | anyOf cs ih =>
    intro a h
    obtain ⟨c, hc, hs⟩ := (satAny_iff U σ a cs).1 h
    exact (satAny_iff U σ' a cs).2 ⟨c, hc, ih c hc a hs⟩
  | allOf cs ih =>
    exact fun a h => (satAll_iff U σ' a cs).2 fun c hc => ih c hc a ((satAll_iff U σ a cs).1 h c hc)
  | param d ps ih =>
    intro a h
    cases a with
    | param ca as => exact ⟨h.1, satZip_mono U ps as ih h.2⟩
    | _ => exact h
  | var n c ih => exact fun a h => ⟨hσ n a h.1, ih a h.2⟩
  | msg n c ih => exact ih
  | tvar n c ih => exact ih
  | arrayOf k c ih =>
    intro a h
    cases a with
    | arr ca es => exact ⟨h.1, fun e he => ih e (h.2 e he)⟩
    | _ => exact h

end

/-- class tables of real Python classes: a runtime-final class has no proper subclass -/
def UnivOK (U : Univ) : Prop := ∀ c d, isFinal U d = true → isSub U c d = true → c = d

theorem isSub_refl (U : Univ) (c : Nat) : isSub U c c = true := by
  unfold isSub; rw [beq_self_eq_true, Bool.true_or]

theorem univOK_of_supers {U : Univ} (h : ∀ i ∈ U, ∀ d ∈ i.supers, isFinal U d = false) : UnivOK U := by
  intro c d hf hs
  rcases Bool.or_eq_true_iff.1 hs with e | hs
  · exact of_decide_eq_true e
  · cases hc : U[c]? with
    | none => rw [hc] at hs; cases hs
    | some i =>
      rw [hc] at hs
      cases (h i (List.mem_of_getElem? hc) d (List.contains_iff_mem.1 hs)).symm.trans hf

mutual
/-- what the constructors enforce: every `AnyOf` node passed `AnyOf.__init__`; `ArrayOfConstraint`
is about the (runtime-final) class `ArrayAttr`. -/
def WF (U : Univ) : C → Prop
  | .any | .eq _ | .set _ | .base _ => True
  | .anyOf cs => checkAnyOf U cs = true ∧ WFL U cs
  | .allOf cs => WFL U cs
  | .param _ ps => WFL U ps
  | .var _ c => WF U c
  | .msg _ c => WF U c
  | .tvar _ c => WF U c
  | .arrayOf k c => isFinal U k = true ∧ WF U c
def WFL (U : Univ) : List C → Prop
  | [] => True
  | c :: cs => WF U c ∧ WFL U cs
end

theorem WFL_iff (U : Univ) : ∀ cs, WFL U cs ↔ ∀ c ∈ cs, WF U c
  | [] => ⟨fun _ => nofun, fun _ => trivial⟩
  | _ :: cs => (and_congr_right' (WFL_iff U cs)).trans List.forall_mem_cons.symm

end Xdsl.Constraint
