import XdslProofs.Lemmas.EGraphTopo
/-!
# C28 — the re-ordering that ends `eqsat-extract` (`restore_dominance_order`)

"Once the e-classes are gone every operation has to come after the operations of its block that
compute its operands": the model `topoSort` of the stable depth-first topological sort (fast path for
ordered blocks, explicit stack, `emitted` / `on_stack` sets, fuel) is proved correct for EVERY block
whose result ids are distinct:

* `topoSort_perm` — the new block is a permutation of the old one (nothing lost, nothing duplicated;
  cyclic blocks included; the fuel the model hands out always suffices);
* `topoSort_ordered` — when the dependencies are acyclic, every operand that the block defines is
  defined before its use in the new block;
* `topoSort_runs` — hence the re-ordered block can be executed whenever the operands it does not
  define itself are bound;
* `extract_order` — the same two facts for the output of `extract`.

The correspondence of `topoSort` with the real `restore_dominance_order` is checked by the harness on
every block with up to 4 binary operations in every placement and on random larger ones.  No Mathlib.
-/
namespace Xdsl.EGraph

variable {V : Type}

/-- **topoSort_perm** — `restore_dominance_order` neither loses nor duplicates an operation: for
every block with distinct result ids (ordered or not, cyclic or not) the re-ordered block is a
permutation of the block. -/
theorem topoSort_perm {body : List Node} (hnd : (body.map (·.res)).Nodup) : (topoSort body).Perm body := by
  rw [topoSort_eq]
  split
  · exact List.Perm.refl _
  · obtain ⟨o, e, hi, hall⟩ := topoSort_final (J := TInv body) id (fun hi hs => hs.inv hi)
      (fun hn hc hi => hi.root hnd hn hc) (TInv_init body)
    rw [e]
    show (o.reverse.filterMap (findDef body)).Perm body
    have hdef : ∀ v ∈ o.reverse, (findDef body v).isSome = true :=
      fun v hv => hi.df v (List.mem_reverse.1 hv)
    have hnd1 : (o.reverse.filterMap (findDef body)).Nodup := by
      apply nodup_of_map (·.res)
      rw [filterMap_findDef_res body o.reverse hdef]
      exact (List.reverse_perm o).nodup_iff.2 hi.nd
    apply (List.perm_ext_iff_of_nodup hnd1 (nodup_of_map _ hnd)).2
    intro n
    constructor
    · intro h
      simp only [List.mem_filterMap] at h
      obtain ⟨v, _, hv⟩ := h
      exact (findDef_mem hv).1
    · intro h
      simp only [List.mem_filterMap]
      exact ⟨n.res, List.mem_reverse.2 (hall n h), findDef_of_mem hnd h⟩

/-- **topoSort_ordered** — when the dependencies of the block are acyclic (`rank` decreases from every
operation to the operands that the block defines), the re-ordered block is in def-before-use order:
scanning it, every operand is either not defined by the block at all (block argument, outer value) or
defined by an operation placed earlier. -/
theorem topoSort_ordered {body : List Node} (hnd : (body.map (·.res)).Nodup) {rank : Nat → Nat}
    (hacy : Acyclic body rank) : OrdFrom (External body) (topoSort body) := by
  rw [topoSort_eq]
  split
  · rename_i ho
    exact ordFrom_of_isOrdered hacy ho
  · obtain ⟨o, e, ⟨hi, ha⟩, _⟩ := topoSort_final (J := fun o s => TInv body o s ∧ AInv body rank o s) And.left
      (fun h hs => ⟨hs.inv h.1, hs.acyclic hacy.on_deps h.1 h.2⟩)
      (fun hn hc h => ⟨h.1.root hnd hn hc, h.2.root⟩) ⟨TInv_init body, List.Pairwise.nil, trivial⟩
    rw [e]
    exact closed_ordFrom hacy o ha.cl hi.df

/-- **topoSort_runs** — the re-ordered block of an acyclic block can be executed: evaluation succeeds
from every environment that binds the operands the block does not define itself. -/
theorem topoSort_runs (I : Interp V) {body : List Node} (hnd : (body.map (·.res)).Nodup) {rank : Nat → Nat}
    (hacy : Acyclic body rank) (hne : ∀ r a m, .cls r a m ∈ body → a ≠ []) (σ : Env V)
    (hσ : ∀ n ∈ body, ∀ a ∈ n.args, External body a → σ a ≠ none) :
    ∃ σ', evalNodes I (topoSort body) σ = some σ' := by
  have ho := topoSort_ordered hnd hacy
  have hq := OrdFrom.restrict (Q := fun a => External body a → σ a ≠ none) ho
    (fun n hn a ha => hσ n (mem_topoSort hn) a ha)
  exact evalNodes_of_ord I (topoSort body) _ σ hq (fun x hx => hx.2 hx.1)
    (fun r a m hm => hne r a m (mem_topoSort hm))

/-- **extract_order** — `eqsat-extract`: whatever the extraction loop leaves in the block, the pass
returns a permutation of it, in def-before-use order when its dependencies are acyclic. -/
theorem extract_order {g g' : Prog} (hl : extractLoop g = some g') (hnd : (g'.body.map (·.res)).Nodup) :
    ∃ p', extract g = some p' ∧ p'.nargs = g'.nargs ∧ p'.ret = g'.ret ∧ p'.body.Perm g'.body ∧
      ∀ rank, Acyclic g'.body rank → OrdFrom (External g'.body) p'.body := by
  refine ⟨{ g' with body := topoSort g'.body }, ?_, rfl, rfl, topoSort_perm hnd, fun rank h => topoSort_ordered hnd h⟩
  rw [extract_eq, hl]
  rfl

/-! ## non-vacuity

The concrete blocks are closed terms; `decide +kernel` hands the evaluation of `topoSort` to the kernel. -/

/-- a transitive out-of-order chain: `x` (first in the block) uses `y` (last), `y` uses `z`, which
sits between them; the only admissible order is `z, y, x` -/
def chainBody : List Node :=
  [.op 1 "x" "" [0, 3] none, .op 2 "z" "" [0, 0] none, .op 3 "y" "" [0, 2] none]

example : topoSort chainBody =
    [.op 2 "z" "" [0, 0] none, .op 3 "y" "" [0, 2] none, .op 1 "x" "" [0, 3] none] := by decide +kernel

example : Acyclic chainBody (fun v => if v = 1 then 2 else if v = 3 then 1 else 0) := by
  intro n hn a ha hd
  simp only [chainBody, List.mem_cons, List.mem_nil_iff, or_false] at hn
  rcases hn with rfl | rfl | rfl <;> simp only [Node.args, List.mem_cons, List.mem_nil_iff, or_false] at ha <;>
    rcases ha with rfl | rfl <;> first | decide | (exfalso; revert hd; decide)

/-- a cyclic block is left as a permutation (here: the search from `a` meets `b`, finds `a` on the stack,
and emits `b` first) -/
example : topoSort [.op 1 "a" "" [2] none, .op 2 "b" "" [1] none] =
    [.op 2 "b" "" [1] none, .op 1 "a" "" [2] none] := by decide +kernel

end Xdsl.EGraph
