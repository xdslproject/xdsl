import XdslProofs.Lemmas.IRStore
import XdslProofs.Lemmas.List
import XdslModel.IRWF
import XdslProofs.Lemmas.Bool
/-!
# Lemmas for the snapshot checker (`XdslModel/IRWF.lean`) — C17

Every clause of `invTable` other than `wfB` quantifies over the pairs of a table (`m.all fun p => … AL.get m p.1 …`)
or over the members of the lists of a family (`l.ends.all fun p => (lst (listsOf l) p.1).all …`), where the
invariant quantifies over all keys.  These two steps are taken once (`all_get_iff`, `all_lists_iff`); what is left of a
clause is what its test says about one key.

* `wfB_iff`: the Boolean check of one family of intrusive lists decides the representation invariant
  `DLL.WF` of C01 (relative to the traversals themselves, which `WF` determines: `WF.eq_toList`);
* every store-level clause of `invTable` decides the corresponding fields of `InvA`, relative to the store's own
  traversals `absOf s` (`invB_iff_invA`; `InvA.abs_eq` in `Lemmas/IRStore.lean`: no other abstraction is possible);
* attachedness (`isAncestor`) as a parent chain `up`, and why its fuel suffices under the invariant;
* `failing_nil_iff`: the verdict lists no failing clause exactly when every entry of the table is `true`
  (`verdict_ok_iff` in `C17.lean`).
-/
namespace Xdsl.IRWF
open Xdsl Xdsl.DLL Xdsl.IR

theorem AL_get_of_mem {β : Type} {m : AL Nat β} {k : Nat} {v : β} (h : (k, v) ∈ m) : (AL.get m k).isSome :=
  AL.isSome_get_iff.2 (List.mem_map_of_mem (f := Prod.fst) h)

/-- The test takes the pair, so that it matches the function of the model as it stands (which looks the key up again:
a listed key is bound); the hypothesis `AL.get m p.1 = some d` of the side condition is what reduces the model's
`match`. -/
theorem all_get_iff {β : Type} {m : AL Nat β} {T : Nat × β → Bool} {P : Nat → β → Prop}
    (h : ∀ p d, AL.get m p.1 = some d → (T p = true ↔ P p.1 d)) :
    m.all T = true ↔ ∀ k d, AL.get m k = some d → P k d := by
  rw [List.all_eq_true]
  refine ⟨fun H k d hd => (h (k, d) d hd).1 (H _ (AL.mem_of_get_some hd)), fun H p hp => ?_⟩
  obtain ⟨d, hd⟩ := Option.isSome_iff_exists.1 (AL_get_of_mem (k := p.1) (v := p.2) hp)
  exact (h p d hd).2 (H p.1 d hd)

theorem lst_listsOf (l : L) (c : Nat) : lst (listsOf l) c = l.toList c := by
  unfold lst listsOf
  rw [AL.get_map_key]
  cases h : AL.get l.ends c with
  | none => simp [toList_of_no_ends h]
  | some e => simp

theorem mem_ends_of_mem_toList {l : L} {c n : Nat} (h : n ∈ l.toList c) : ∃ e, (c, e) ∈ l.ends := by
  cases he : AL.get l.ends c with
  | none => rw [toList_of_no_ends he] at h; cases h
  | some e => exact ⟨e, AL.mem_of_get_some he⟩

/-- a container without an entry in `ends` has the empty traversal, so the listed containers are all there are -/
theorem all_lists_iff {l : L} {T : Nat × Ends → Nat → Bool} {P : Nat → Nat → Prop}
    (h : ∀ p u, T p u = true ↔ P p.1 u) :
    (l.ends.all fun p => (lst (listsOf l) p.1).all (T p)) = true ↔ ∀ c u, u ∈ l.toList c → P c u := by
  simp only [List.all_eq_true, lst_listsOf, h]
  exact ⟨fun H c u hu => by obtain ⟨e, he⟩ := mem_ends_of_mem_toList hu; exact H (c, e) he u hu,
    fun H p _ u hu => H p.1 u hu⟩

theorem linkGo_iff (l : L) (c : Nat) : ∀ (xs : List Nat) (prev : Option Nat), xs.Nodup →
    (linkGo l c prev xs = true ↔ Seg l c prev xs none)
  | [], _, _ => ⟨fun _ => Seg.nil, fun _ => rfl⟩
  | x :: r, prev, hnd => by
    obtain ⟨hx, hr⟩ := List.nodup_cons.mp hnd
    rw [linkGo, Bool.and_eq_true, decide_eq_true_eq, linkGo_iff l c r (some x) hr, Seg.cons hx,
      Option.or_none]

theorem repB_iff {l : L} {c : Nat} {xs : List Nat} : repB l c xs = true ↔ Rep l c xs := by
  simp only [repB, Bool.and_eq_true, decide_eq_true_eq]
  exact ⟨fun ⟨⟨⟨h1, h2⟩, h3⟩, h4⟩ => ⟨h1, h2, ((linkGo_iff l c xs none h4).1 h3).link, h4⟩,
    fun h => ⟨⟨⟨h.first, h.last⟩, (linkGo_iff l c xs none h.nodup).2 h.seg⟩, h.nodup⟩⟩

theorem wfB_iff {l : L} : wfB l = true ↔ WF l l.toList := by
  simp only [wfB, freeB, Bool.and_eq_true, List.all_eq_true, lst_listsOf, repB_iff, Bool.or_eq_true,
    decide_eq_true_eq]
  constructor
  · rintro ⟨hrep, hfree⟩
    have rep : ∀ c, Rep l c (l.toList c) := by
      intro c
      cases he : AL.get l.ends c with
      | none =>
        rw [toList_of_no_ends he]
        exact ⟨by simp [en_of_no_ends he], by simp [en_of_no_ends he], by simp, List.nodup_nil⟩
      | some e => exact hrep (c, e) (AL.mem_of_get_some he)
    refine WF.of_rep_free rep fun n hn => ?_
    cases hg : AL.get l.node n with
    | none => simp [L.nd, hg]
    | some x =>
      rcases hfree (n, x) (AL.mem_of_get_some hg) with e | e
      · exact e
      · split at e
        · rename_i c hc
          exact absurd (List.contains_iff_mem.mp e) (hn c)
        · cases e
  · intro h
    refine ⟨fun p _ => h.rep p.1, fun p _ => ?_⟩
    cases hp : (l.nd p.1).parent with
    | none => exact Or.inl (h.nd_of_parent_none hp)
    | some c => exact Or.inr (List.contains_iff_mem.mpr ((h.mem_iff_parent c p.1).mpr hp))

theorem usesFwdB_iff {s : IRStore} {pos uid : OpData → List Nat} {l : L} :
    usesFwdB s pos uid (listsOf l) = true ↔
      ∀ o d, AL.get s.ops o = some d → (uid d).length = (pos d).length ∧
        ∀ i u v, (uid d)[i]? = some u → (pos d)[i]? = some v → s.use! u = (o, i) ∧ u ∈ l.toList v :=
  all_get_iff fun p d hd => by
    simp only [hd, Bool.and_eq_true, decide_eq_true_eq, List.all_eq_true, Prod.forall,
      List.mk_mem_zipIdx_iff_getElem?, List.getElem?_zip_eq_some, lst_listsOf, List.contains_iff_mem]
    exact and_congr_right fun _ => ⟨fun h i u v hu hv => h u v i ⟨hu, hv⟩, fun h u v i hq => h i u v hq.1 hq.2⟩

theorem usesBwdB_iff {s : IRStore} {pos uid : OpData → List Nat} {l : L} :
    usesBwdB s pos uid l (listsOf l) = true ↔
      ∀ v u, u ∈ l.toList v → u < s.nextUse ∧ ∃ d, AL.get s.ops (s.use! u).1 = some d ∧
        (uid d)[(s.use! u).2]? = some u ∧ (pos d)[(s.use! u).2]? = some v :=
  all_lists_iff fun p u => by
    cases AL.get s.ops (s.use! u).1 <;>
      simp only [Bool.and_eq_true, decide_eq_true_eq, Bool.false_eq_true, and_false, reduceCtorEq, false_and,
        exists_const, Option.some.injEq, exists_eq_left']

theorem usesB_iff {s : IRStore} {pos uid : OpData → List Nat} {l : L} :
    usesFwdB s pos uid (listsOf l) = true ∧ usesBwdB s pos uid l (listsOf l) = true ↔
      UseInv s pos uid l.toList := by
  rw [usesFwdB_iff, usesBwdB_iff]
  exact ⟨fun ⟨hf, hb⟩ => ⟨fun o d hd => (hf o d hd).1, fun o d i u v hd => (hf o d hd).2 i u v,
      fun v u hu => (hb v u hu).2, fun v u hu => (hb v u hu).1⟩,
    fun h => ⟨fun o d hd => ⟨h.len o d hd, fun i u v => h.fwd o d i u v hd⟩,
      fun v u hu => ⟨h.lt v u hu, h.bwd v u hu⟩⟩⟩

theorem valData_eq {x : ValData} {k : VKind} {o i : Nat} (h1 : x.kind = k) (h2 : x.owner = o) (h3 : x.index = i) :
    x = { kind := k, owner := o, index := i } := by
  cases x; simp_all

/-- the test of `resultsB` and `argsB` on the list `l` of one owner `o` -/
theorem indexTest_iff (vals : AL Nat ValData) (k : VKind) (o : Nat) (l : List Nat) :
    (l.zipIdx.all fun q =>
      match AL.get vals q.1 with
      | none => false
      | some x => decide (x.kind = k) && decide (x.owner = o) && decide (x.index = q.2)) = true ↔
    ∀ i v, l[i]? = some v → AL.get vals v = some { kind := k, owner := o, index := i } := by
  simp only [List.all_eq_true, Prod.forall, List.mk_mem_zipIdx_iff_getElem?]
  refine forall_comm.trans (forall₂_congr fun i v => imp_congr_right fun _ => ?_)
  cases AL.get vals v with
  | none => exact ⟨(nomatch ·), (nomatch ·)⟩
  | some x =>
    simp only [Bool.and_eq_true, decide_eq_true_eq, Option.some.injEq]
    exact ⟨fun h => valData_eq h.1.1 h.1.2 h.2, fun h => h ▸ ⟨⟨rfl, rfl⟩, rfl⟩⟩

theorem resultsB_iff (s : IRStore) : resultsB s = true ↔
    ∀ o d, AL.get s.ops o = some d → ∀ i v, d.results[i]? = some v →
      AL.get s.vals v = some { kind := .result, owner := o, index := i } :=
  all_get_iff fun p d hd => by simp only [hd]; exact indexTest_iff s.vals .result p.1 d.results

theorem argsB_iff (s : IRStore) : argsB s = true ↔
    ∀ b d, AL.get s.blocks b = some d → ∀ i v, d.args[i]? = some v →
      AL.get s.vals v = some { kind := .arg, owner := b, index := i } :=
  all_get_iff fun p d hd => by simp only [hd]; exact indexTest_iff s.vals .arg p.1 d.args

theorem regionsB_iff (s : IRStore) : regionsB s = true ↔
    (∀ o d, AL.get s.ops o = some d → d.regions.Nodup ∧ ∀ r ∈ d.regions, s.regionParent r = some o) ∧
    (∀ r o, s.regionParent r = some o → ∃ d, AL.get s.ops o = some d ∧ r ∈ d.regions) := by
  rw [regionsB, Bool.and_eq_true]
  refine and_congr (all_get_iff fun p d hd => ?_) ((all_get_iff (P := fun r _ => ∀ o, s.regionParent r = some o →
    ∃ d, AL.get s.ops o = some d ∧ r ∈ d.regions) fun p _ _ => ?_).trans ?_)
  · simp only [hd, Bool.and_eq_true, decide_eq_true_eq, List.all_eq_true]
  · cases s.regionParent p.1 with
    | none => exact ⟨fun _ _ h => (nomatch h), fun _ => rfl⟩
    | some o =>
      simp only [Option.some.injEq, forall_eq']
      cases AL.get s.ops o <;>
        simp only [List.contains_iff_mem, Bool.false_eq_true, reduceCtorEq, false_and, exists_const,
          Option.some.injEq, exists_eq_left']
  · refine ⟨fun h r o hp => ?_, fun h r _ _ o => h r o⟩
    obtain ⟨x, hx⟩ := Option.isSome_iff_exists.1 (regR_of_regionParent hp)
    exact h r x hx o hp

theorem regOpsB_iff (s : IRStore) :
    regOpsB s (listsOf s.opL) = true ↔ ∀ b o, o ∈ s.opL.toList b → regO s o ∧ regB s b :=
  all_lists_iff fun _ _ => Bool.and_eq_true_iff

theorem regBlocksB_iff (s : IRStore) :
    regBlocksB s (listsOf s.blockL) = true ↔ ∀ r b, b ∈ s.blockL.toList r → regB s b ∧ regR s r :=
  all_lists_iff fun _ _ => Bool.and_eq_true_iff

theorem invB_iff_invA (s : IRStore) : invB s = true ↔ InvA s (absOf s) := by
  simp only [invB, invTable, List.all_cons, List.all_nil, Bool.and_eq_true, Bool.and_true]
  constructor
  · rintro ⟨⟨h1, h1'⟩, ⟨h2, h2'⟩, h3, ⟨⟨h4, h4f⟩, h4b⟩, ⟨⟨h5, h5f⟩, h5b⟩, h6, h7⟩
    have hr := (regionsB_iff s).1 h3
    exact ⟨wfB_iff.1 h1, wfB_iff.1 h2, wfB_iff.1 h4, wfB_iff.1 h5, usesB_iff.1 ⟨h4f, h4b⟩,
      usesB_iff.1 ⟨h5f, h5b⟩, fun o d i v hd => (resultsB_iff s).1 h6 o d hd i v,
      fun b d i v hd => (argsB_iff s).1 h7 b d hd i v, hr.1, hr.2,
      (regOpsB_iff s).1 h1', (regBlocksB_iff s).1 h2'⟩
  · intro h
    have hv := usesB_iff.2 h.operandUses
    have hb := usesB_iff.2 h.successorUses
    exact ⟨⟨wfB_iff.2 h.opL, (regOpsB_iff s).2 h.regOps⟩, ⟨wfB_iff.2 h.blockL, (regBlocksB_iff s).2 h.regBlocks⟩,
      (regionsB_iff s).2 ⟨h.regions, h.regionParent⟩,
      ⟨⟨wfB_iff.2 h.vuseL, hv.1⟩, hv.2⟩, ⟨⟨wfB_iff.2 h.buseL, hb.1⟩, hb.2⟩,
      (resultsB_iff s).2 fun o d hd i v => h.results o d i v hd,
      (argsB_iff s).2 fun b d hd i v => h.args b d i v hd⟩

theorem failing_nil_iff (t : List (String × Bool)) : failing t = [] ↔ t.all (·.2) = true := by
  induction t with
  | nil => exact ⟨fun _ => rfl, fun _ => rfl⟩
  | cons p r ih =>
    obtain ⟨n, b⟩ := p
    cases b
    · exact ⟨(fun h => nomatch h), fun h => nomatch h⟩
    · exact ih

def up (s : IRStore) : Nat → Ref → Option Ref
  | 0, x => some x
  | n + 1, x => (s.parentRef x).bind (up s n)

/-- stated for an optional start, as the walk recurses on `s.parentRef x` -/
theorem isAncestorFrom_iff (s : IRStore) (a : Ref) : ∀ (fuel : Nat) (ox : Option Ref),
    s.isAncestorFrom a fuel ox = true ↔ ∃ n, n < fuel ∧ ox.bind (up s n) = some a
  | 0, _ => ⟨(fun h => nomatch h), fun ⟨_, h, _⟩ => nomatch h⟩
  | _ + 1, none => ⟨(fun h => nomatch h), fun ⟨_, _, h⟩ => nomatch h⟩
  | k + 1, some x => by
    rw [IRStore.isAncestorFrom, Bool.or_eq_true, beq_iff_eq, isAncestorFrom_iff s a k, Nat.exists_lt_succ_left]
    exact or_congr ⟨congrArg some, Option.some.inj⟩ Iff.rfl

theorem up_add (s : IRStore) : ∀ (a b : Nat) (x : Ref), up s (a + b) x = (up s a x).bind (up s b) := by
  intro a
  induction a with
  | zero => intro b x; simp [up]
  | succ k ih =>
    intro b x
    rw [show k + 1 + b = (k + b) + 1 by omega]
    simp only [up]
    cases hp : s.parentRef x with
    | none => rfl
    | some y => simp [ih]

theorem up_split {s : IRStore} {n i : Nat} {x a : Ref} (h : up s n x = some a) (hi : i ≤ n) :
    ∃ y, up s i x = some y ∧ up s (n - i) y = some a := by
  have := up_add s i (n - i) x
  rw [show i + (n - i) = n by omega, h] at this
  cases hy : up s i x with
  | none => rw [hy] at this; cases this
  | some y => rw [hy] at this; exact ⟨y, rfl, this.symm⟩

/-- pigeonhole over the registered objects `IR.allRefs` (the carrier that also bounds the fuel of the downward walk
`subtreeOf`): a parent chain that reaches `a` can be shortened to at most one step per object -/
theorem chain_short {s : IRStore} {ab : Abs} (hinv : InvA s ab) (a : Ref) :
    ∀ (n : Nat) (x : Ref), up s n x = some a → ∃ m, m ≤ (allRefs s).length ∧ up s m x = some a := by
  intro n
  induction n using Nat.strongRecOn with
  | _ n ih =>
    intro x h
    by_cases hn : n ≤ (allRefs s).length
    · exact ⟨n, hn, h⟩
    -- the first `n` objects of the chain have a parent, so they are registered objects
    have hU : ∀ i, i < n → up s i x ∈ (allRefs s).map some := by
      intro i hi
      obtain ⟨y, hy, hrest⟩ := up_split h (Nat.le_of_lt hi)
      rw [show n - i = (n - i - 1) + 1 by omega, up] at hrest
      cases hp : s.parentRef y with
      | none => rw [hp] at hrest; cases hrest
      | some z => exact List.mem_map.mpr ⟨y, mem_allRefs (reg_of_parent hinv hp), hy.symm⟩
    -- there are more of them than registered objects, so one occurs twice: cut the loop out and recurse
    obtain ⟨i, j, hij, hjn, e⟩ := exists_lt_eq_of_length_lt (up s · x) hU (by rw [List.length_map]; omega)
    obtain ⟨y, hy, hrest⟩ := up_split h (Nat.le_of_lt hjn)
    exact ih (i + (n - j)) (by omega) x (by rw [up_add, e, hy]; exact hrest)

theorem chain_isAncestor {s : IRStore} {ab : Abs} (hinv : InvA s ab) {a x : Ref} {n : Nat}
    (h : up s n x = some a) : s.isAncestor a x = true := by
  obtain ⟨m, hm, hu⟩ := chain_short hinv a n x h
  have := allRefs_length s
  exact (isAncestorFrom_iff s a _ _).2 ⟨m, by omega, hu⟩

/-- `a.is_ancestor(x)` of the C01 model, for any two objects: under the invariant the bounded walk
finds exactly the parent chains -/
theorem isAncestor_iff_chain {s : IRStore} (h : Inv s) (a x : Ref) :
    s.isAncestor a x = true ↔ ∃ n, up s n x = some a :=
  ⟨fun hx => ((isAncestorFrom_iff s a _ _).1 hx).imp fun _ hn => hn.2,
   fun ⟨_, hn⟩ => h.elim fun _ ha => chain_isAncestor ha hn⟩

end Xdsl.IRWF
