import XdslModel.Loops
/-!
Trip counts and `scf.for` as an iteration, for C16 (core Lean only).

For `0 < S`, `tripCount lb ub S` is the least `n` with `ub ≤ lb + n * S` (`tripCount_le_iff`, the one lemma that
looks at the division in its definition).  Shifting, scaling and rounding of ranges are comparisons of
these sets of `n` (`tripCount_congr`); a bound rounded up to a whole number of steps is
`lb + tripCount lb ub S * S` (`Rounded.eq`).

`forLoop` is `iter` over the list `ivs` of its induction values, so a loop transformation is an identity
between such lists plus an identity between trip counts: re-indexing (`ivs_add`, `ivs_mul`, `iter_map`), and a
nest as one iteration over the concatenated inner lists (`iter_flatMap`, `ivs_flatMap`, `forLoop_nest`).
Statements about a machine that steps through the loop (`C16.forRun_eq_forLoop`, `C16.for_to_cf_sound`) go by
`loop_induction`: an empty range, or the first iteration (`forLoop_unfold`) followed by the loop from `lb + step`.
-/
namespace Xdsl.Loops

theorem tripCount_of_not_lt {lb ub step : Int} (h : ¬ lb < ub) : tripCount lb ub step = 0 :=
  if_neg fun hh => h hh.1

theorem tripCount_of_step_nonpos {lb ub step : Int} (h : step ≤ 0) : tripCount lb ub step = 0 :=
  if_neg fun hh => Int.not_le.2 hh.2 h

theorem tripCount_le_iff {lb ub S : Int} (hS : 0 < S) (n : Nat) :
    tripCount lb ub S ≤ n ↔ ub ≤ lb + n * S := by
  unfold tripCount
  by_cases h : lb < ub
  · rw [if_pos ⟨h, hS⟩]
    have h0 := Int.ediv_nonneg (show 0 ≤ ub - lb - 1 by omega) (Int.le_of_lt hS)
    have := Int.ediv_lt_iff_lt_mul (a := ub - lb - 1) (b := n) hS
    omega
  · rw [if_neg fun hh => h hh.1]
    have := Int.mul_nonneg (Int.natCast_nonneg n) (Int.le_of_lt hS)
    omega

theorem tripCount_congr {lb ub S lb' ub' S' : Int} (hS : 0 < S) (hS' : 0 < S')
    (h : ∀ n : Nat, ub ≤ lb + n * S ↔ ub' ≤ lb' + n * S') : tripCount lb ub S = tripCount lb' ub' S' :=
  Nat.le_antisymm
    ((tripCount_le_iff hS _).2 ((h _).2 ((tripCount_le_iff hS' _).1 (Nat.le_refl _))))
    ((tripCount_le_iff hS' _).2 ((h _).1 ((tripCount_le_iff hS _).1 (Nat.le_refl _))))

theorem tripCount_eq_zero_iff {lb ub step : Int} (hs : 0 < step) :
    tripCount lb ub step = 0 ↔ ¬ lb < ub := by
  have := tripCount_le_iff (lb := lb) (ub := ub) hs 0
  rw [Int.natCast_zero, Int.zero_mul] at this
  omega

theorem tripCount_pos {lb ub step : Int} (hs : 0 < step) (h : lb < ub) : 0 < tripCount lb ub step :=
  Nat.pos_of_ne_zero fun h0 => (tripCount_eq_zero_iff hs).1 h0 h

theorem lt_of_tripCount_pos {lb ub step : Int} (h : 0 < tripCount lb ub step) : lb < ub :=
  Classical.not_not.1 fun hlt => by rw [tripCount_of_not_lt hlt] at h; omega

theorem tripCount_succ {lb ub step : Int} (hs : 0 < step) (h : lb < ub) :
    tripCount lb ub step = tripCount (lb + step) ub step + 1 := by
  have key (n : Nat) : tripCount lb ub step ≤ n + 1 ↔ tripCount (lb + step) ub step ≤ n := by
    rw [tripCount_le_iff hs, tripCount_le_iff hs, Int.natCast_add, Int.add_mul, Int.natCast_one, Int.one_mul]
    omega
  have hpos := tripCount_pos hs h
  have h1 := (key _).2 (Nat.le_refl _)
  have h2 := (key (tripCount lb ub step - 1)).1 (by omega)
  omega

theorem tripCount_add (lb ub step c : Int) : tripCount (lb + c) (ub + c) step = tripCount lb ub step := by
  by_cases hs : 0 < step
  · exact tripCount_congr hs hs fun n => by omega
  · rw [tripCount_of_step_nonpos (by omega), tripCount_of_step_nonpos (by omega)]

theorem tripCount_mul (lb ub step c : Int) (hc : 0 < c) :
    tripCount (lb * c) (ub * c) (step * c) = tripCount lb ub step := by
  by_cases hs : 0 < step
  · refine tripCount_congr (Int.mul_pos hs hc) hs fun n => ?_
    rw [← Int.mul_assoc, ← Int.add_mul, Int.mul_le_mul_right hc]
  · rw [tripCount_of_step_nonpos (Int.mul_nonpos_of_nonpos_of_nonneg (by omega) (by omega)),
      tripCount_of_step_nonpos (by omega)]

theorem tripCount_eq_of_window {lb ub S : Int} (hS : 0 < S) {n : Nat} (h1 : ub ≤ lb + n * S)
    (h2 : lb + n * S < ub + S) : tripCount lb ub S = n := by
  apply Nat.le_antisymm ((tripCount_le_iff hS n).2 h1)
  have ht := (tripCount_le_iff hS _).1 (Nat.le_refl (tripCount lb ub S))
  have : (n : Int) * S < (tripCount lb ub S + 1) * S := by rw [Int.add_mul, Int.one_mul]; omega
  have := Int.lt_of_mul_lt_mul_right this (Int.le_of_lt hS)
  omega

theorem tripCount_whole {S : Int} (hS : 0 < S) (lb : Int) (n : Nat) : tripCount lb (lb + n * S) S = n :=
  tripCount_eq_of_window hS (Int.le_refl _) (by omega)

theorem ceilDiv_le_iff {S : Int} (hS : 0 < S) (d n : Int) : ceilDiv d S ≤ n ↔ d ≤ n * S := by
  unfold ceilDiv
  rw [Int.fdiv_eq_ediv_of_nonneg _ (Int.le_of_lt hS)]
  have := Int.le_ediv_iff_mul_le (a := -n) (b := -d) hS
  rw [Int.neg_mul] at this
  omega

theorem ceilDiv_spec {d S : Int} (hS : 0 < S) : d ≤ ceilDiv d S * S ∧ ceilDiv d S * S < d + S := by
  have h1 := (ceilDiv_le_iff hS d _).1 (Int.le_refl _)
  have h2 := mt (ceilDiv_le_iff hS d (ceilDiv d S - 1)).2 (by omega)
  rw [Int.sub_mul, Int.one_mul] at h2
  omega

/-- the clamped ceiling the pass computes for the inner loop is its trip count -/
theorem tripCount_eq_ceil {il iu s : Int} (hs : 0 < s) :
    (tripCount il iu s : Int) = max 0 (-(Int.fdiv (il - iu) s)) := by
  have hc : -(Int.fdiv (il - iu) s) = ceilDiv (iu - il) s := by unfold ceilDiv; rw [Int.neg_sub]
  rw [hc]
  have ht := (tripCount_le_iff hs _).1 (Nat.le_refl (tripCount il iu s))
  have h1 := (ceilDiv_le_iff hs (iu - il) (tripCount il iu s)).2 (by omega)
  have hn := (ceilDiv_le_iff hs (iu - il) (ceilDiv (iu - il) s).toNat).1 (Int.self_le_toNat _)
  have h2 := (tripCount_le_iff (lb := il) (ub := iu) hs (ceilDiv (iu - il) s).toNat).2 (by omega)
  rw [Int.max_def]
  split <;> omega

/-- what the flattened loops need of a rounded upper bound `r` of `[lb, ub)` step `S` -/
def Rounded (lb ub S r : Int) : Prop :=
  (ub ≤ lb → r ≤ lb) ∧ (lb < ub → ub ≤ r ∧ r < ub + S ∧ S ∣ (r - lb))

theorem Rounded.eq {lb ub S r : Int} (hS : 0 < S) (h : Rounded lb ub S r) (hlt : lb < ub) :
    r = lb + tripCount lb ub S * S := by
  obtain ⟨h1, h2, q, hq⟩ := h.2 hlt
  rw [Int.mul_comm] at hq
  obtain ⟨k, rfl⟩ := Int.eq_ofNat_of_zero_le (Int.le_of_lt (Int.pos_of_mul_pos_left (show 0 < q * S by omega) hS))
  rw [tripCount_eq_of_window hS (n := k) (by omega) (by omega)]
  omega

theorem tripCount_rounded_mul {ub S r : Int} (hS : 0 < S) (h : Rounded 0 ub S r) (m : Nat) :
    tripCount 0 (r * m) S = tripCount 0 ub S * m := by
  by_cases hlt : 0 < ub
  · have hw := tripCount_whole hS 0 (tripCount 0 ub S * m)
    rw [Int.zero_add, Int.natCast_mul, Int.mul_right_comm] at hw
    rw [h.eq hS hlt, Int.zero_add, hw]
  · have : r * m ≤ 0 := Int.mul_nonpos_of_nonpos_of_nonneg (h.1 (by omega)) (Int.natCast_nonneg m)
    rw [tripCount_of_not_lt (by omega), tripCount_of_not_lt hlt, Nat.zero_mul]

theorem tripCount_rounded_finer_step {lb ub S s r : Int} {m : Nat} (hs : 0 < s) (hS : 0 < S) (hm : S = m * s)
    (h : Rounded lb ub S r) : tripCount lb r s = tripCount lb ub S * m := by
  by_cases hlt : lb < ub
  · have hw := tripCount_whole hs lb (tripCount lb ub S * m)
    rwa [Int.natCast_mul, Int.mul_assoc, ← hm, ← h.eq hS hlt] at hw
  · have := h.1 (by omega)
    rw [tripCount_of_not_lt (by omega), tripCount_of_not_lt hlt, Nat.zero_mul]

theorem rounded_self {lb ub S : Int} (hS : 0 < S) (hd : S ∣ ub - lb) : Rounded lb ub S ub :=
  ⟨fun h => h, fun _ => ⟨Int.le_refl _, by omega, hd⟩⟩

theorem rounded_of_le {lb ub S : Int} (h : ub ≤ lb) : Rounded lb ub S ub :=
  ⟨fun _ => h, fun hlt => by omega⟩

theorem rounded_ceil {lb ub S : Int} (hS : 0 < S) : Rounded lb ub S (lb + ceilDiv (ub - lb) S * S) := by
  have ⟨c1, c2⟩ := ceilDiv_spec (d := ub - lb) hS
  refine ⟨fun h => ?_, fun h => ⟨by omega, by omega, ?_⟩⟩
  · have := Int.mul_nonpos_of_nonpos_of_nonneg ((ceilDiv_le_iff hS (ub - lb) 0).2 (by omega)) (Int.le_of_lt hS)
    omega
  · exact ⟨ceilDiv (ub - lb) S, by rw [Int.mul_comm]; omega⟩

/-- the constant `u + (l - u) % S` (Python `%`) the pass computes for constant bounds is the value of
the bound it emits for symbolic ones -/
theorem ceil_bound_eq (l u S : Int) : l + ceilDiv (u - l) S * S = u + Int.fmod (l - u) S := by
  have := Int.mul_fdiv_add_fmod (l - u) S
  rw [Int.mul_comm] at this
  unfold ceilDiv
  rw [Int.neg_sub, Int.neg_mul]
  omega

/-- `_whole_steps_ub` delivers a `Rounded` bound in each of its three cases (`olb`/`oub` are the
constant values of the bounds where the pass could evaluate them) -/
theorem wholeStepsUb_rounded (olb oub : Option Int) (lb ub S : Int) (hS : 0 < S)
    (hl : ∀ v, olb = some v → v = lb) (hu : ∀ v, oub = some v → v = ub) :
    Rounded lb ub S ((wholeStepsUb olb oub S).val lb ub S) := by
  cases olb with
  | none => exact rounded_ceil hS
  | some l =>
    cases oub with
    | none => exact rounded_ceil hS
    | some u =>
      obtain rfl := hl l rfl
      obtain rfl := hu u rfl
      have hc := rounded_ceil (lb := l) (ub := u) hS
      rw [ceil_bound_eq] at hc
      simp only [wholeStepsUb]
      split
      · rename_i h
        rcases h with h | h
        · exact rounded_of_le h
        · rwa [h, Int.add_zero] at hc
      · exact hc

theorem iter_map {σ : Type} (body : Int → σ → Option σ) (f : Int → Int) (l : List Int) (s : σ) :
    iter body (l.map f) s = iter (fun i => body (f i)) l s := by
  induction l generalizing s with
  | nil => rfl
  | cons a r ih => exact congrArg _ (funext ih)

theorem iter_append {σ : Type} (body : Int → σ → Option σ) (l1 l2 : List Int) (s : σ) :
    iter body (l1 ++ l2) s = (iter body l1 s).bind (iter body l2) := by
  induction l1 generalizing s with
  | nil => rfl
  | cons a r ih =>
    simp only [List.cons_append, iter]
    cases body a s with
    | none => rfl
    | some s' => exact ih s'

theorem ivs_add (lb step c : Int) (n : Nat) : ivs (lb + c) step n = (ivs lb step n).map (· + c) := by
  induction n generalizing lb with
  | zero => rfl
  | succ n ih => rw [ivs, Int.add_right_comm, ih]; rfl

theorem ivs_mul (lb step c : Int) (n : Nat) : ivs (lb * c) (step * c) n = (ivs lb step n).map (· * c) := by
  induction n generalizing lb with
  | zero => rfl
  | succ n ih => rw [ivs, ← Int.add_mul, ih]; rfl

theorem ivs_length (lb step : Int) (n : Nat) : (ivs lb step n).length = n := by
  induction n generalizing lb with
  | zero => rfl
  | succ n ih => rw [ivs, List.length_cons, ih]

theorem iter_flatMap {σ : Type} (body : Int → σ → Option σ) (L : Int → List Int) (l : List Int) (s : σ) :
    iter (fun o => iter body (L o)) l s = iter body (l.flatMap L) s := by
  induction l generalizing s with
  | nil => rfl
  | cons o r ih =>
    rw [List.flatMap_cons, iter_append]
    exact congrArg _ (funext ih)

theorem iter_const_congr {σ : Type} (f : σ → Option σ) :
    ∀ {l l' : List Int}, l.length = l'.length → ∀ s, iter (fun _ => f) l s = iter (fun _ => f) l' s
  | [], [], _, _ => rfl
  | _ :: _, _ :: _, h, _ => congrArg _ (funext (iter_const_congr f (Nat.succ.inj h)))

theorem ivs_append (lb step : Int) (a b : Nat) :
    ivs lb step (a + b) = ivs lb step a ++ ivs (lb + a * step) step b := by
  induction a generalizing lb with
  | zero => rw [Nat.zero_add, Int.natCast_zero, Int.zero_mul, Int.add_zero]; rfl
  | succ a ih =>
    rw [Nat.add_right_comm, ivs, ih, ivs, List.cons_append, Int.natCast_succ, Int.add_mul, Int.one_mul,
      Int.add_assoc, Int.add_comm step]

theorem ivs_map_add_left (o s : Int) (m : Nat) : (ivs 0 s m).map (o + ·) = ivs o s m := by
  have := ivs_add 0 s o m
  rw [Int.zero_add] at this
  rw [this]
  exact List.map_congr_left fun i _ => Int.add_comm o i

theorem ivs_flatMap {S s : Int} {m : Nat} (hS : S = m * s) (lb : Int) (n : Nat) :
    (ivs lb S n).flatMap (fun o => ivs o s m) = ivs lb s (n * m) := by
  subst hS
  induction n generalizing lb with
  | zero => rw [Nat.zero_mul]; rfl
  | succ n ih => rw [ivs, List.flatMap_cons, ih, Nat.succ_mul, Nat.add_comm, ivs_append]

theorem forLoop_pos {σ : Type} {lb ub step : Int} (hs : 0 < step) (body : Int → σ → Option σ) (s : σ) :
    forLoop lb ub step body s = iter body (ivs lb step (tripCount lb ub step)) s :=
  if_neg (Int.not_le.2 hs)

theorem forLoop_nonpos {σ : Type} {lb ub step : Int} (hs : step ≤ 0) (body : Int → σ → Option σ) (s : σ) :
    forLoop lb ub step body s = none :=
  if_pos hs

theorem forLoop_zero_trip {σ : Type} {lb ub step : Int} (hs : 0 < step) (h : ¬ lb < ub)
    (body : Int → σ → Option σ) (s : σ) : forLoop lb ub step body s = some s := by
  rw [forLoop_pos hs, tripCount_of_not_lt h]; rfl

theorem forLoop_unfold {σ : Type} {lb ub step : Int} (hs : 0 < step) (h : lb < ub)
    (body : Int → σ → Option σ) (s : σ) :
    forLoop lb ub step body s = (body lb s).bind (forLoop (lb + step) ub step body) := by
  rw [forLoop_pos hs, tripCount_succ hs h]
  exact congrArg _ (funext fun s' => (forLoop_pos hs body s').symm)

theorem loop_induction {ub step : Int} (hs : 0 < step) {motive : Int → Prop}
    (empty : ∀ lb, ¬ lb < ub → motive lb) (peel : ∀ lb, lb < ub → motive (lb + step) → motive lb)
    (lb : Int) : motive lb := by
  generalize hn : tripCount lb ub step = n
  induction n generalizing lb with
  | zero => exact empty lb ((tripCount_eq_zero_iff hs).1 hn)
  | succ n ih =>
    have hlt : lb < ub := lt_of_tripCount_pos (by rw [hn]; omega)
    exact peel lb hlt (ih _ (by rw [tripCount_succ hs hlt] at hn; omega))

theorem exists_nat_mul_of_dvd {s S : Int} (hs : 0 < s) (hS : 0 < S) (hd : s ∣ S) : ∃ m : Nat, S = m * s := by
  obtain ⟨q, rfl⟩ := hd
  obtain ⟨m, rfl⟩ := Int.eq_ofNat_of_zero_le (Int.le_of_lt (Int.pos_of_mul_pos_right hS hs))
  exact ⟨m, Int.mul_comm _ _⟩

theorem forLoop_nest {σ : Type} {lb ub S s : Int} {m : Nat} (hS : 0 < S) (hs : 0 < s) (hm : S = m * s)
    (body : Int → σ → Option σ) (s0 : σ) :
    forLoop lb ub S (fun o st => forLoop 0 S s (fun i => body (o + i)) st) s0
      = iter body (ivs lb s (tripCount lb ub S * m)) s0 := by
  have hw : tripCount 0 S s = m := by
    have := tripCount_whole hs 0 m
    rwa [Int.zero_add, ← hm] at this
  rw [forLoop_pos hS, ← ivs_flatMap hm, ← iter_flatMap]
  refine congrArg (iter · _ s0) (funext fun o => funext fun st => ?_)
  rw [forLoop_pos hs, ← iter_map, ivs_map_add_left, hw]

theorem bind_const_none {α β : Type} (x : Option α) : x.bind (fun _ => (none : Option β)) = none := by
  cases x <;> rfl

end Xdsl.Loops
