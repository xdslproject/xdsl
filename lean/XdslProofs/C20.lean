import XdslProofs.Lemmas.ParallelMovSym
/-!
# C20 — parallel-move lowering performs a simultaneous assignment (validator part)

"executing the emitted sequence of moves leaves every destination holding the value its source
held before, and changes no register other than the destinations and the designated free
registers" — as a predicate `Realises` on an instruction list, for **every** register file and
every content width, with `zero` reading 0 and discarding writes; and the symbolic validator
`checkSeq` (executed by the driver on every output of the real pass) is sound for it.
The algorithm-level theorems are in `XdslProofs/C20Algo.lean`.
-/
namespace Xdsl.ParallelMov

/-- The property's sentence for one instruction list: after `is`, every destination other than the
hard-wired `zero` holds what its source held before, and every register that is neither a
destination nor designated free is unchanged — for all register files of all widths. -/
def Realises (moves : List Move) (free : List Reg) (is : List Instr) : Prop :=
  ∀ (n : Nat) (ρ : RegFile n),
    (∀ m ∈ moves, m.dst ≠ Reg.zero → rd (exec is ρ) m.dst = rd ρ m.src)
  ∧ (∀ r, (∀ m ∈ moves, m.dst ≠ r) → r ∉ free → rd (exec is ρ) r = rd ρ r)

/-- **Validator soundness.**  If the symbolic execution over xor-sets of initial registers accepts
an instruction list, then executing it realises the simultaneous assignment for every register
file ("destinations get their sources' old values; nothing but destinations and free registers
changes"). -/
theorem checkSeq_sound (moves : List Move) (free : List Reg) (is : List Instr)
    (h : checkSeq moves free is = true) : Realises moves free is := by
  intro n ρ
  have ag := agree_symExec is ρ
  simp only [checkSeq, Bool.and_eq_true, List.all_eq_true] at h
  obtain ⟨⟨hd, hf⟩, _⟩ := h
  constructor
  · intro m hm hz
    have := hd m hm
    simp only [Bool.or_eq_true, decide_eq_true_eq, hz, false_or, beq_iff_eq] at this
    rw [ag m.dst, this]
    split
    · rename_i e; rw [e, rd_zero]; rfl
    · simp
  · intro r hnd hnf
    by_cases hz : r = Reg.zero
    · subst hz; simp [rd_zero]
    rw [ag r]
    cases hg : AL.get (symExec is) r with
    | none => rw [symRd_of_get_none hg]; simp [hz]
    | some v =>
      have := hf (r, v) (AL.mem_of_get_some hg)
      simp only [Bool.or_eq_true, List.any_eq_true, decide_eq_true_eq, List.contains_eq_mem,
        beq_iff_eq] at this
      rcases this with (⟨m, hm, e⟩ | hfree) | hrd
      · exact absurd e (hnd m hm)
      · exact absurd hfree hnf
      · rw [hrd]; simp

/-- non-vacuity: the three-xor swap realises the exchange of two registers and is accepted -/
example : checkSeq [⟨⟨.int, some 1⟩, ⟨.int, some 2⟩, 32⟩, ⟨⟨.int, some 2⟩, ⟨.int, some 1⟩, 32⟩] []
    [.xor ⟨.int, some 2⟩ ⟨.int, some 2⟩ ⟨.int, some 1⟩, .xor ⟨.int, some 1⟩ ⟨.int, some 2⟩ ⟨.int, some 1⟩,
     .xor ⟨.int, some 2⟩ ⟨.int, some 2⟩ ⟨.int, some 1⟩] = true := by decide

/-- non-vacuity: breaking a cycle through a register that is neither a destination nor designated
free is rejected (the pinned tree's "reuse a root register" behaviour) -/
example : checkSeq [⟨⟨.int, some 1⟩, ⟨.int, some 2⟩, 32⟩, ⟨⟨.int, some 2⟩, ⟨.int, some 1⟩, 32⟩,
      ⟨⟨.int, some 3⟩, ⟨.int, some 4⟩, 32⟩] []
    [.mv ⟨.int, some 4⟩ ⟨.int, some 3⟩, .mv ⟨.int, some 3⟩ ⟨.int, some 1⟩,
     .mv ⟨.int, some 1⟩ ⟨.int, some 2⟩, .mv ⟨.int, some 2⟩ ⟨.int, some 3⟩] = false := by decide

end Xdsl.ParallelMov
