import XdslModel.Skeleton
/-!
The token grammar of `XdslModel/Skeleton.lean` reads back what `pr` prints (no symbol tables): each list
reader gives back the printed list when the token after it does not continue the list; over them, by
induction on the tree, the three mutually recursive readers give back a printed tree of the right sort
(`Reads`), with the fuel `need`, which the length of the text bounds (`parseT_pr`).
-/
namespace Xdsl.Skeleton

def NotHead (t : Tok) (rest : List Tok) : Prop := rest.head? ≠ some t

/- The list readers look one token ahead: after an item, anything but a comma ends the list (by
computation for each kind of token); a comma makes the reader go on. -/

theorem paVals_pr (a : Str) (l : List Str) (rest : List Tok) (h : NotHead .comma rest) :
    paVals (prVals (a :: l) ++ rest) = some (a :: l, rest) := by
  induction l generalizing a with
  | nil =>
    match rest, h with
    | [], _ => rfl
    | t :: r, h => cases t <;> first | rfl | exact absurd rfl h
  | cons b l ih =>
    show paVals (.pct a :: .comma :: (prVals (b :: l) ++ rest)) = _
    rw [paVals, ih b]

theorem paCarets_pr (a : Str) (l : List Str) (rest : List Tok) (h : NotHead .comma rest) :
    paCarets (prCarets (a :: l) ++ rest) = some (a :: l, rest) := by
  induction l generalizing a with
  | nil =>
    match rest, h with
    | [], _ => rfl
    | t :: r, h => cases t <;> first | rfl | exact absurd rfl h
  | cons b l ih =>
    show paCarets (.caret a :: .comma :: (prCarets (b :: l) ++ rest)) = _
    rw [paCarets, ih b]

theorem paTys_pr (a : Opq) (l : List Opq) (rest : List Tok) (h : NotHead .comma rest) :
    paTys (prTys (a :: l) ++ rest) = some (a :: l, rest) := by
  induction l generalizing a with
  | nil =>
    match rest, h with
    | [], _ => rfl
    | t :: r, h => cases t <;> first | rfl | exact absurd rfl h
  | cons b l ih =>
    show paTys (.opq a :: .comma :: (prTys (b :: l) ++ rest)) = _
    rw [paTys, ih b]

theorem paArgs_pr (a : Str × Opq) (l : List (Str × Opq)) (rest : List Tok)
    (h : NotHead .comma rest) :
    paArgs (prArgs (a :: l) ++ rest) = some (a :: l, rest) := by
  induction l generalizing a with
  | nil =>
    match rest, h with
    | [], _ => rfl
    | t :: r, h => cases t <;> first | rfl | exact absurd rfl h
  | cons b l ih =>
    show paArgs (.pct a.1 :: .colon :: .opq a.2 :: .comma :: (prArgs (b :: l) ++ rest)) = _
    rw [paArgs, ih b]

@[simp] theorem asKey_keyTok (k : Key) : asKey (keyTok k) = some k := by
  obtain ⟨i, b⟩ := k
  cases b <;> simp [keyTok, asKey]

theorem paEntries_pr (e : Entry) (l : List Entry) (rest : List Tok)
    (h : NotHead .comma rest) (h2 : NotHead .eq rest) :
    paEntries (prEntries (e :: l) ++ rest) = some (e :: l, rest) := by
  induction l generalizing e with
  | nil =>
    obtain ⟨k, v⟩ := e
    cases v with
    | none =>
      simp only [prEntries, prEntry, List.cons_append, List.nil_append]
      rw [paEntries]; simp only [asKey_keyTok]
      cases rest with
      | nil => rfl
      | cons t r =>
        cases t <;> first | rfl | exact absurd rfl h | exact absurd rfl h2
    | some a =>
      simp only [prEntries, prEntry, List.cons_append, List.nil_append]
      rw [paEntries]; simp only [asKey_keyTok]
      cases rest with
      | nil => rfl
      | cons t r =>
        cases t <;> first | rfl | exact absurd rfl h
  | cons f l ih =>
    obtain ⟨k, v⟩ := e
    cases v with
    | none =>
      simp only [prEntries, prEntry, List.cons_append, List.nil_append]
      rw [paEntries]; simp only [asKey_keyTok, ih f]
    | some a =>
      simp only [prEntries, prEntry, List.cons_append, List.nil_append]
      rw [paEntries]; simp only [asKey_keyTok, ih f]

theorem prVals_head (a : Str) (l : List Str) : ∃ tl, prVals (a :: l) = .pct a :: tl := by
  cases l <;> simp [prVals]

theorem prCarets_head (a : Str) (l : List Str) : ∃ tl, prCarets (a :: l) = .caret a :: tl := by
  cases l <;> simp [prCarets]

theorem prTys_head (a : Opq) (l : List Opq) : ∃ tl, prTys (a :: l) = .opq a :: tl := by
  cases l <;> simp [prTys]

theorem prArgs_head (a : Str × Opq) (l : List (Str × Opq)) :
    ∃ tl, prArgs (a :: l) = .pct a.1 :: tl := by
  obtain ⟨a, t⟩ := a
  cases l <;> simp [prArgs]

theorem prEntries_head (e : Entry) (l : List Entry) :
    ∃ tl, prEntries (e :: l) = keyTok e.1 :: tl := by
  obtain ⟨k, v⟩ := e
  cases l <;> cases v <;> simp [prEntries, prEntry]

theorem prLabel_head (args : List (Str × Opq)) (n : Str) : ∃ tl, prLabel (some n) args = .caret n :: tl := by
  cases args <;> exact ⟨_, rfl⟩

theorem keyTok_ne (k : Key) : keyTok k ≠ .rbrace := by
  unfold keyTok; split <;> simp

theorem closed_nil {α : Type} (c : Tok) (p : List Tok → Option (List α × List Tok))
    (rest : List Tok) : closed c p (c :: rest) = some ([], rest) := by
  simp [closed]

/-- a delimited list (`closed`): the closing delimiter at once, or the items and then the
delimiter; `prl` prints the items, and its first token is never the delimiter -/
theorem closed_pr {α : Type} {c : Tok} {p : List Tok → Option (List α × List Tok)}
    {prl : List α → List Tok} (l : List α) (rest : List Tok) (hnil : prl [] = [])
    (hhd : ∀ a l, ∃ t tl, prl (a :: l) = t :: tl ∧ t ≠ c)
    (hp : ∀ a l, p (prl (a :: l) ++ c :: rest) = some (a :: l, c :: rest)) :
    closed c p (prl l ++ c :: rest) = some (l, rest) := by
  cases l with
  | nil => rw [hnil]; exact closed_nil _ _ _
  | cons a l =>
    have hp := hp a l
    obtain ⟨t, tl, e, hne⟩ := hhd a l
    rw [e] at hp ⊢
    simp only [List.cons_append] at hp ⊢
    simp [closed, hne, hp]

theorem closed_vals (l : List Str) (rest : List Tok) :
    closed .rparen paVals (prVals l ++ .rparen :: rest) = some (l, rest) :=
  closed_pr l rest rfl (fun a l => (prVals_head a l).elim fun tl e => ⟨_, tl, e, by simp⟩)
    fun a l => paVals_pr a l _ (by simp [NotHead])

theorem closed_carets (l : List Str) (rest : List Tok) :
    closed .rsq paCarets (prCarets l ++ .rsq :: rest) = some (l, rest) :=
  closed_pr l rest rfl (fun a l => (prCarets_head a l).elim fun tl e => ⟨_, tl, e, by simp⟩)
    fun a l => paCarets_pr a l _ (by simp [NotHead])

theorem closed_tys (l : List Opq) (rest : List Tok) :
    closed .rparen paTys (prTys l ++ .rparen :: rest) = some (l, rest) :=
  closed_pr l rest rfl (fun a l => (prTys_head a l).elim fun tl e => ⟨_, tl, e, by simp⟩)
    fun a l => paTys_pr a l _ (by simp [NotHead])

theorem closed_args (l : List (Str × Opq)) (rest : List Tok) :
    closed .rparen paArgs (prArgs l ++ .rparen :: rest) = some (l, rest) :=
  closed_pr l rest rfl (fun a l => (prArgs_head a l).elim fun tl e => ⟨_, tl, e, by simp⟩)
    fun a l => paArgs_pr a l _ (by simp [NotHead])

theorem closed_entries (l : List Entry) (rest : List Tok) :
    closed .rbrace paEntries (prEntries l ++ .rbrace :: rest) = some (l, rest) :=
  closed_pr l rest rfl (fun a l => (prEntries_head a l).elim fun tl e => ⟨_, tl, e, keyTok_ne _⟩)
    fun a l => paEntries_pr a l _ (by simp [NotHead]) (by simp [NotHead])

theorem paResults_pr (l : List Str) (k : Nat) (rest : List Tok) :
    paResults ((if l.isEmpty then [] else prVals l ++ [.eq]) ++ .str k :: rest) =
      some (l, .str k :: rest) := by
  cases l with
  | nil => simp [paResults]
  | cons a l =>
    have hp := paVals_pr a l (.eq :: .str k :: rest) (by simp [NotHead])
    obtain ⟨tl, e⟩ := prVals_head a l
    simp only [List.isEmpty_cons, Bool.false_eq_true, if_false, List.append_assoc,
      List.cons_append, List.nil_append]
    rw [e] at hp ⊢
    simp only [List.cons_append] at hp ⊢
    simp [paResults, hp, expect]

theorem paSuccs_pr (l : List Str) (rest : List Tok) (h : NotHead .lsq rest) :
    paSuccs ((if l.isEmpty then [] else .lsq :: prCarets l ++ [.rsq]) ++ rest) = some (l, rest) := by
  cases l with
  | nil =>
    match rest, h with
    | [], _ => rfl
    | t :: r, h => cases t <;> first | rfl | exact absurd rfl h
  | cons a l =>
    simp only [List.isEmpty_cons, Bool.false_eq_true, if_false, List.append_assoc,
      List.cons_append, List.nil_append]
    simp [paSuccs, closed_carets]

theorem paProps_pr (l : List Entry) (rest : List Tok) (h : NotHead .lt rest)
    (hd : dupKey l = false) :
    paProps ((if l.isEmpty then [] else .lt :: .lbrace :: prEntries l ++ [.rbrace, .gt]) ++ rest) =
      some (l, rest) := by
  cases l with
  | nil =>
    match rest, h with
    | [], _ => rfl
    | t :: r, h => cases t <;> first | rfl | exact absurd rfl h
  | cons a l =>
    simp only [List.isEmpty_cons, Bool.false_eq_true, if_false, List.append_assoc,
      List.cons_append, List.nil_append]
    simp [paProps, closed_entries, hd]

theorem paAttrs_pr (l : List Entry) (rest : List Tok) (hd : dupKey l = false) :
    paAttrs ((if l.isEmpty then [] else .lbrace :: prEntries l ++ [.rbrace]) ++ .colon :: rest) =
      some (l, .colon :: rest) := by
  cases l with
  | nil => simp [paAttrs]
  | cons a l =>
    simp only [List.isEmpty_cons, Bool.false_eq_true, if_false, List.append_assoc,
      List.cons_append, List.nil_append]
    simp [paAttrs, closed_entries, hd]

theorem paHead_pr (h : Hdr Str Str) (rest : List Tok) (h1 : NotHead .lsq rest)
    (h2 : NotHead .lt rest) (hd : dupKey h.props = false) :
    paHead (prHead h ++ rest) = some (⟨h.results, h.name, h.operands, h.succs, h.props⟩, rest) := by
  unfold prHead paHead
  simp only [List.append_assoc, List.cons_append]
  rw [paResults_pr]
  simp only [closed_vals]
  have hs : NotHead .lsq
      ((if h.props.isEmpty then [] else .lt :: .lbrace :: prEntries h.props ++ [.rbrace, .gt]) ++ rest) := by
    cases hp : h.props.isEmpty <;> simp [NotHead] <;> simpa [NotHead] using h1
  have e1 := paSuccs_pr h.succs _ hs
  have e2 := paProps_pr _ _ h2 hd
  simp only [List.cons_append] at e1 e2
  simp only [e1, e2]

theorem paFnType_pr (ins outs : List Opq) (rest : List Tok) :
    paFnType (.lparen :: prTys ins ++ .rparen :: .arrow :: prOuts outs ++ rest) =
      some ((ins, outs), rest) := by
  simp only [paFnType, List.cons_append, List.append_assoc, closed_tys]
  match outs with
  | [] => simp [prOuts, closed_nil]
  | [t] =>
    cases hf : t.fn
    · simp [prOuts, hf]
    · have := closed_tys [t] rest
      simp only [prTys, List.cons_append, List.nil_append] at this
      simp [prOuts, hf, this]
  | a :: b :: r =>
    have := closed_tys (a :: b :: r) rest
    simp only [prOuts, List.cons_append, List.append_assoc, List.nil_append] at this ⊢
    simp [this]

theorem paTail_pr (h : Hdr Str Str) (rest : List Tok) (hd : dupKey h.attrs = false) :
    paTail (prTail h ++ rest) = some ((h.attrs, h.inTys, h.outTys), rest) := by
  unfold prTail paTail
  simp only [List.append_assoc, List.cons_append]
  have e1 := paAttrs_pr h.attrs (.lparen :: (prTys h.inTys ++ .rparen :: .arrow :: (prOuts h.outTys ++ rest))) hd
  have e2 := paFnType_pr h.inTys h.outTys rest
  simp only [List.append_assoc, List.cons_append] at e1 e2
  simp only [e1, e2]

theorem paLabelRest_pr (args : List (Str × Opq)) (n : Str) (rest : List Tok) :
    ∃ tl, prLabel (some n) args = .caret n :: tl ∧ paLabelRest (tl ++ rest) = some (args, rest) := by
  cases args with
  | nil => exact ⟨[.colon], rfl, by simp [paLabelRest, expect]⟩
  | cons a l =>
    refine ⟨.lparen :: prArgs (a :: l) ++ [.rparen, .colon], rfl, ?_⟩
    have := closed_args (a :: l) (.colon :: rest)
    simp only [List.cons_append, List.append_assoc, List.nil_append] at this ⊢
    simp [paLabelRest, this, expect]

theorem retro_id (names : List Nat) (props attrs : List Entry)
    (h : names.all (fun k => !hasKey attrs k || hasKey props k) = true) :
    retro names props attrs = (props, attrs) := by
  unfold retro
  induction names with
  | nil => rfl
  | cons k ks ih =>
    simp only [List.all_cons, Bool.and_eq_true] at h
    have hk : retroStep (props, attrs) k = (props, attrs) := by
      unfold retroStep
      have := h.1
      cases ha : hasKey attrs k <;> cases hp : hasKey props k <;> simp_all
    simp only [List.foldl_cons, hk]
    exact ih h.2

theorem mkHdr_id (defs : Nat → List Nat) (h : Hdr Str Str) (ok : hdrOK defs h = true) :
    mkHdr defs ⟨h.results, h.name, h.operands, h.succs, h.props⟩ (h.attrs, h.inTys, h.outTys) = h := by
  unfold hdrOK at ok
  simp only [Bool.and_eq_true] at ok
  unfold mkHdr
  simp only [retro_id _ _ _ ok.2]

theorem hdrOK_dup {V B : Type} (defs : Nat → List Nat) (h : Hdr V B) (ok : hdrOK defs h = true) :
    dupKey h.props = false ∧ dupKey h.attrs = false := by
  unfold hdrOK at ok
  simp only [Bool.and_eq_true, Bool.not_eq_true'] at ok
  exact ⟨ok.1.1, ok.1.2⟩

/-- fuel that suffices to read a tree back -/
def need : NTree → Nat
  | .nil => 0
  | .op _ rs nx => need rs + need nx + 1
  | .region bs nx => need bs + need nx + 1
  | .block (some _) _ ops nx => need ops + need nx + 1
  | .block none _ ops nx => need ops + need nx

def StopsOps (rest : List Tok) : Prop := opStart rest = some false

def IsOpTok : Tok → Prop
  | .pct _ => True
  | .str _ => True
  | _ => False

theorem opStart_of (t : Tok) (tl : List Tok) (h : IsOpTok t) : opStart (t :: tl) = some true := by
  cases t <;> first | rfl | exact absurd h (by simp [IsOpTok])

theorem regionStart_of (t : Tok) (tl : List Tok) (h : IsOpTok t) :
    regionStart (.lbrace :: t :: tl) = .unlabelled (t :: tl) := by
  cases t <;> first | rfl | exact absurd h (by simp [IsOpTok])

theorem prHead_head (h : Hdr Str Str) : ∃ t tl, prHead h = t :: tl ∧ IsOpTok t := by
  unfold prHead
  cases hr : h.results with
  | nil => exact ⟨.str h.name, _, by simp; rfl, trivial⟩
  | cons a l =>
    obtain ⟨tl, e⟩ := prVals_head a l
    exact ⟨.pct a, _, by simp [e]; rfl, trivial⟩

/-- what follows the operations of a block: the label of the next block or the `}` -/
theorem stops_blocks (defs : Nat → List Nat) (nx : NTree) (rest : List Tok)
    (hs : shape defs .blocks nx = true) (hl : labelsOK false nx = true) :
    StopsOps (pr nx ++ .rbrace :: rest) := by
  cases nx with
  | nil => rfl
  | op => simp [shape] at hs
  | region => simp [shape] at hs
  | block lab args ops nx' =>
    cases lab with
    | none => simp [labelsOK] at hl
    | some n =>
      obtain ⟨tl, e⟩ := prLabel_head args n
      simp [pr, e, StopsOps, opStart]

/-- the three readers, on the printed form of a tree of the right sort -/
structure Reads (defs : Nat → List Nat) (t : NTree) : Prop where
  ops : shape defs .ops t = true → labelsOK false t = true → ∀ f, need t < f →
    ∀ rest, StopsOps rest → paOps defs f (pr t ++ rest) = some (t, rest)
  regions : shape defs .regions t = true → labelsOK false t = true → t.isNil = false →
    ∀ f, need t < f → ∀ rest, paRegions defs f (pr t ++ rest) = some (t, rest)
  blocks : shape defs .blocks t = true → labelsOK false t = true → ∀ f, need t < f →
    ∀ rest, paBlocks defs f (pr t ++ .rbrace :: rest) = some (t, rest)

theorem reads_nil (defs : Nat → List Nat) : Reads defs .nil where
  ops := by
    intro _ _ f hf rest hr
    obtain ⟨f, rfl⟩ : ∃ g, f = g + 1 := ⟨f - 1, by omega⟩
    unfold paOps
    simp only [pr, List.nil_append]
    rw [show opStart rest = some false from hr]
  regions := by intro _ _ h; simp [Tree.isNil] at h
  blocks := by
    intro _ _ f hf rest
    obtain ⟨f, rfl⟩ : ∃ g, f = g + 1 := ⟨f - 1, by omega⟩
    unfold paBlocks
    simp [pr]

theorem opStart_prHead (h : Hdr Str Str) (X : List Tok) : opStart (prHead h ++ X) = some true := by
  obtain ⟨t, tl, e, ht⟩ := prHead_head h
  rw [e]; exact opStart_of t _ ht

/-- the tail of an operation starts with `{` or `:`: neither a successor list nor properties nor a
region list can be read in front of it -/
theorem prTail_follows (h : Hdr Str Str) (Y : List Tok) :
    NotHead .lsq (prTail h ++ Y) ∧ NotHead .lt (prTail h ++ Y) ∧
      regStart (prTail h ++ Y) = .inr (prTail h ++ Y) := by
  unfold prTail
  cases h.attrs.isEmpty <;> exact ⟨by simp [NotHead], by simp [NotHead], by simp; rfl⟩

theorem reads_op (defs : Nat → List Nat) (h : Hdr Str Str) (rs nx : NTree)
    (ihr : Reads defs rs) (ihn : Reads defs nx) : Reads defs (.op h rs nx) where
  regions := by intro hs; simp [shape] at hs
  blocks := by intro hs; simp [shape] at hs
  ops := by
    intro hs hl f hf rest hr
    simp only [shape, Bool.and_eq_true] at hs
    simp only [labelsOK, Bool.and_eq_true] at hl
    obtain ⟨⟨hok, hsr⟩, hsn⟩ := hs
    obtain ⟨hlr, hln⟩ := hl
    obtain ⟨f, rfl⟩ : ∃ g, f = g + 1 := ⟨f - 1, by omega⟩
    simp only [need] at hf
    obtain ⟨hdp, hda⟩ := hdrOK_dup defs h hok
    have hn := ihn.ops hsn hln f (by omega) rest hr
    unfold paOps
    cases rs with
    | nil =>
      obtain ⟨l1, l2, l3⟩ := prTail_follows h (pr nx ++ rest)
      simp only [pr, List.append_assoc, List.nil_append, opStart_prHead, paHead_pr h _ l1 l2 hdp,
        l3, paTail_pr h _ hda, hn, mkHdr_id defs h hok]
    | op => simp [shape] at hsr
    | block => simp [shape] at hsr
    | region bs nx2 =>
      have hreg := ihr.regions hsr hlr rfl f (by omega) (prTail h ++ (pr nx ++ rest))
      have hh := paHead_pr h (.lparen :: (pr (.region bs nx2) ++ (prTail h ++ (pr nx ++ rest))))
        (by simp [NotHead]) (by simp [NotHead]) hdp
      have hrs : ∀ X, regStart (.lparen :: .lbrace :: X) = .inl (.lbrace :: X) := fun _ => rfl
      simp only [pr, List.append_assoc, List.cons_append] at hh hreg ⊢
      simp only [opStart_prHead, hh, hrs, hreg, paTail_pr h _ hda, hn, mkHdr_id defs h hok]

theorem reads_block (defs : Nat → List Nat) (lab : Option Str) (args : List (Str × Opq))
    (ops nx : NTree) (iho : Reads defs ops) (ihn : Reads defs nx) :
    Reads defs (.block lab args ops nx) where
  ops := by intro hs; simp [shape] at hs
  regions := by intro hs; simp [shape] at hs
  blocks := by
    intro hs hl f hf rest
    simp only [shape, Bool.and_eq_true] at hs
    obtain ⟨hso, hsn⟩ := hs
    cases lab with
    | none => simp [labelsOK] at hl
    | some n =>
      simp only [labelsOK, Bool.and_eq_true, Bool.true_and] at hl
      obtain ⟨hlo, hln⟩ := hl
      obtain ⟨f, rfl⟩ : ∃ g, f = g + 1 := ⟨f - 1, by omega⟩
      simp only [need] at hf
      obtain ⟨tl, e, hp⟩ := paLabelRest_pr args n (pr ops ++ (pr nx ++ .rbrace :: rest))
      unfold paBlocks
      simp only [pr, e, List.append_assoc, List.cons_append, hp,
        iho.ops hso hlo f (by omega) _ (stops_blocks defs nx rest hsn hln),
        ihn.blocks hsn hln f (by omega) rest]

/-- a block list read as the body of a region, after the `{`: the entry block may omit its label -/
def ReadsBody (defs : Nat → List Nat) (t : NTree) : Prop :=
  shape defs .blocks t = true → labelsOK true t = true → ∀ f, need t < f → ∀ rest,
    regionBody (paOps defs f) (paBlocks defs f) (.lbrace :: (pr t ++ .rbrace :: rest)) =
      some (t, rest)

theorem pr_ops_head (defs : Nat → List Nat) (t : NTree) (X : List Tok)
    (hs : shape defs .ops t = true) (hn : t.isNil = false) :
    ∃ t0 tl, pr t ++ X = t0 :: tl ∧ IsOpTok t0 := by
  cases t with
  | nil => cases hn
  | op h rs nx =>
    obtain ⟨t, tl, e, ht⟩ := prHead_head h
    exact ⟨t, _, by simp [pr, e]; rfl, ht⟩
  | region => simp [shape] at hs
  | block => simp [shape] at hs

/-- `regionStart`/`regionBody` split the text as the entry block is: labelled (all blocks are read
by `paBlocks`), or unlabelled (`labelsOK` makes it a non-empty operation list without arguments,
so its text starts with an operation; it is read by `paOps`, the other blocks by `paBlocks`) -/
theorem readsBody_block (defs : Nat → List Nat) (lab : Option Str) (args : List (Str × Opq))
    (ops nx : NTree) (iho : Reads defs ops) (ihn : Reads defs nx)
    (hb : Reads defs (.block lab args ops nx)) : ReadsBody defs (.block lab args ops nx) := by
  intro hs hl f hf rest
  unfold regionBody
  cases lab with
  | some n =>
    obtain ⟨tl, e⟩ := prLabel_head args n
    have hrs : regionStart (.lbrace :: (pr (.block (some n) args ops nx) ++ .rbrace :: rest)) =
        .labelled (pr (.block (some n) args ops nx) ++ .rbrace :: rest) := by
      simp [pr, e, regionStart]
    rw [hrs]
    exact hb.blocks hs (by simpa [labelsOK] using hl) f hf rest
  | none =>
    simp only [shape, Bool.and_eq_true] at hs
    simp only [labelsOK, Bool.and_eq_true, Bool.true_and, List.isEmpty_iff,
      Bool.not_eq_true'] at hl
    obtain ⟨hso, hsn⟩ := hs
    obtain ⟨⟨⟨ha, hnn⟩, hlo⟩, hln⟩ := hl
    subst ha
    simp only [need] at hf
    obtain ⟨t0, tl0, e0, ht0⟩ := pr_ops_head defs ops (pr nx ++ .rbrace :: rest) hso hnn
    have ho := iho.ops hso hlo f (by omega) _ (stops_blocks defs nx rest hsn hln)
    have e : pr (.block none [] ops nx) ++ .rbrace :: rest = pr ops ++ (pr nx ++ .rbrace :: rest) := by
      simp only [pr, prLabel, List.nil_append, List.append_assoc]
    rw [e, e0, regionStart_of _ _ ht0, ← e0]
    simp only [ho, ihn.blocks hsn hln f (by omega) rest]

theorem reads_region (defs : Nat → List Nat) (bs nx : NTree)
    (hbs : ReadsBody defs bs)
    (ihn : Reads defs nx) : Reads defs (.region bs nx) where
  ops := by intro hs; simp [shape] at hs
  blocks := by intro hs; simp [shape] at hs
  regions := by
    intro hs hl _ f hf rest
    simp only [shape, Bool.and_eq_true] at hs
    simp only [labelsOK, Bool.and_eq_true] at hl
    obtain ⟨hsb, hsn⟩ := hs
    obtain ⟨hlb, hln⟩ := hl
    obtain ⟨f, rfl⟩ : ∃ g, f = g + 1 := ⟨f - 1, by omega⟩
    simp only [need] at hf
    unfold paRegions
    cases nx with
    | nil =>
      have hb := hbs hsb hlb f (by omega) (.rparen :: rest)
      simp only [pr, List.append_assoc, List.cons_append, List.nil_append, hb]
    | op => simp [shape] at hsn
    | block => simp [shape] at hsn
    | region bs2 nx2 =>
      have hb := hbs hsb hlb f (by omega) (.comma :: (pr (.region bs2 nx2) ++ rest))
      have hn := ihn.regions hsn hln rfl f (by omega) rest
      simp only [pr, List.append_assoc, List.cons_append] at hb hn ⊢
      simp only [hb, hn]

theorem reads (defs : Nat → List Nat) (t : NTree) : Reads defs t ∧ ReadsBody defs t := by
  induction t with
  | nil => exact ⟨reads_nil defs, fun _ _ f _ rest => by simp [pr, regionBody, regionStart]⟩
  | op h rs nx ihr ihn =>
    exact ⟨reads_op defs h rs nx ihr.1 ihn.1, fun hs => by simp [shape] at hs⟩
  | region bs nx ihb ihn =>
    exact ⟨reads_region defs bs nx ihb.2 ihn.1, fun hs => by simp [shape] at hs⟩
  | block lab args ops nx iho ihn =>
    have hb := reads_block defs lab args ops nx iho.1 ihn.1
    exact ⟨hb, readsBody_block defs lab args ops nx iho.1 ihn.1 hb⟩

theorem length_pr_op (h : Hdr Str Str) (rs nx : NTree) :
    (prHead h).length + (pr rs).length + (pr nx).length ≤ (pr (.op h rs nx)).length := by
  cases rs <;> simp only [pr, List.length_append, List.length_cons, List.length_nil] <;> omega

theorem length_pr_region (bs nx : NTree) :
    1 + (pr bs).length + (pr nx).length ≤ (pr (.region bs nx)).length := by
  cases nx <;> simp only [pr, List.length_append, List.length_cons, List.length_nil] <;> omega

/-- every cell that costs fuel prints at least one token: the text length is fuel enough -/
theorem need_le : ∀ t : NTree, need t ≤ (pr t).length
  | .nil => Nat.le_refl _
  | .op h rs nx => by
    have := need_le rs; have := need_le nx; have := length_pr_op h rs nx
    obtain ⟨t, tl, e, -⟩ := prHead_head h
    rw [e] at this
    simp only [need]; simp only [List.length_cons] at this; omega
  | .region bs nx => by
    have := need_le bs; have := need_le nx; have := length_pr_region bs nx
    simp only [need]; omega
  | .block (some n) args ops nx => by
    have := need_le ops; have := need_le nx
    have : 0 < (prLabel (some n) args).length := by cases args <;> exact Nat.succ_pos _
    simp only [need, pr, List.length_append]; omega
  | .block none args ops nx => by
    have := need_le ops; have := need_le nx
    simp only [need, pr, List.length_append]; omega

theorem parseT_pr (defs : Nat → List Nat) (t : NTree) (hs : shape defs .ops t = true)
    (hl : labelsOK false t = true) : parseT defs (pr t) = some t := by
  unfold parseT
  have := (reads defs t).1.ops hs hl ((pr t).length + 1) (by have := need_le t; omega) [] rfl
  simp only [List.append_nil] at this
  simp only [this]

end Xdsl.Skeleton
