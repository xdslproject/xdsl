import XdslProofs.Lemmas.OfInt
import XdslModel.PyInt
import XdslModel.Generated.Comparisons
import XdslModel.Generated.BuiltinInt
/-!
Bridge between the Python-integer primitives of the translator (`XdslModel/PyInt.lean`), the translated
`utils/comparisons.py` / `IntegerType.normalized_value`, and `BitVec`: what `to_unsigned`, `to_signed`,
`normalized_value` and `&`, `|`, `^` on unbounded integers are at `w` bits (what `BitVec.ofInt w` itself
is, without Python: `Lemmas/OfInt.lean`).

Core Lean only: the C22 proof modules, whose axiom audit runs on every check, load no Mathlib.
-/
namespace Xdsl.RvK
open Xdsl Xdsl.Generated.Comparisons Xdsl.Generated.BuiltinInt

theorem mod_eq_emod (x m : Int) (hm : 0 ≤ m) : Py.mod x m = x % m :=
  Int.fmod_eq_emod_of_nonneg x hm

theorem shl_nat (a : Int) (w : Nat) : Py.shl a (w : Int) = a * (2 : Int) ^ w := by
  rw [Py.shl, Int.toNat_natCast]

theorem shl_one_nat (w : Nat) : Py.shl 1 (w : Int) = (2 : Int) ^ w := by
  rw [shl_nat, Int.one_mul]

theorem shr_nat (a : Int) (k : Nat) : Py.shr a (k : Int) = a / (2 : Int) ^ k := by
  rw [Py.shr, Int.toNat_natCast]
  exact Int.fdiv_eq_ediv_of_nonneg a (Int.pow_nonneg (by omega))

theorem shr_one (a : Int) : Py.shr a 1 = a / 2 := shr_nat a 1

theorem ofInt_shl (w : Nat) (c : Int) (n : Nat) :
    BitVec.ofInt w (Py.shl c (n : Int)) = BitVec.ofInt w c <<< n := by
  rw [shl_nat, BV.ofInt_mul_two_pow]

theorem umod_eq (w : Nat) (c : Int) : Py.mod c ((2 : Int) ^ w) = ((BitVec.ofInt w c).toNat : Int) := by
  rw [mod_eq_emod _ _ (Int.le_of_lt (BV.two_pow_pos w)), BV.toNat_ofInt]

theorem shr_unsigned {w : Nat} (A : BitVec w) (n : Nat) :
    Py.shr (A.toNat : Int) (n : Int) = ((A >>> n).toNat : Int) := by
  rw [shr_nat, BV.toNat_ushiftRight]

theorem shr_signed {w : Nat} (A : BitVec w) (n : Nat) :
    Py.shr A.toInt (n : Int) = (A.sshiftRight n).toInt := by
  rw [shr_nat, BV.toInt_sshiftRight]

theorem ofInt_lnot (w : Nat) (a : Int) : BitVec.ofInt w (Py.lnot a) = ~~~BitVec.ofInt w a := by
  have e : Py.lnot a = -a + -1 := by simp only [Py.lnot]; omega
  rw [e, BitVec.ofInt_add, BitVec.ofInt_neg]
  have h := BitVec.neg_eq_not_add (BitVec.ofInt w a)
  rw [h]
  have : BitVec.ofInt w (-1) = -1#w := by rw [BitVec.ofInt_neg, BV.ofInt_one]
  rw [this, BitVec.add_assoc, BitVec.add_right_neg]
  simp

theorem unsigned_upper_bound_eq (w : Nat) : unsigned_upper_bound (w : Int) = (2 : Int) ^ w :=
  shl_one_nat w

/-- `to_unsigned x w` is the unsigned value of the `w`-bit pattern of `x`. -/
theorem to_unsigned_eq (x : Int) (w : Nat) :
    to_unsigned x (w : Int) = ((BitVec.ofInt w x).toNat : Int) := by
  rw [to_unsigned, unsigned_upper_bound_eq, mod_eq_emod _ _ (Int.le_of_lt (BV.two_pow_pos w)),
    Int.add_emod_right, BV.toNat_ofInt]

/-- `to_signed x w` is the two's-complement value of the `w`-bit pattern of `x`, in the closed form
`BV.toInt_ofInt_wrap`. -/
theorem to_signed_eq (x : Int) (w : Nat) :
    to_signed x (w : Int) = (BitVec.ofInt w x).toInt := by
  rw [to_signed, unsigned_upper_bound_eq, shr_one, mod_eq_emod _ _ (Int.le_of_lt (BV.two_pow_pos w)),
    BV.toInt_ofInt_wrap]

theorem signed_upper_bound_eq (w : Nat) (hw : 1 ≤ w) :
    signed_upper_bound (w : Int) = (2 : Int) ^ (w - 1) := by
  have : Py.max ((w : Int) - 1) 0 = ((w - 1 : Nat) : Int) := by
    simp only [Py.max]; split <;> omega
  rw [signed_upper_bound, this, shl_one_nat]

theorem signed_lower_bound_eq (w : Nat) (hw : 1 ≤ w) :
    signed_lower_bound (w : Int) = -(2 : Int) ^ (w - 1) := by
  rw [signed_lower_bound, shl_one_nat, shr_one, BV.pow_split w hw, Int.mul_ediv_cancel_left _ (by omega)]

/-- the last step of `normalized_value`: a value `u` of the signless range `[-2^(w-1), 2^w)` is moved
into the signed range by subtracting the modulus from the upper half; the result is the
two's-complement value of any `v` congruent to `u` -/
theorem wrap_eq (w : Nat) (hw : 1 ≤ w) (u v : Int) (hc : u % 2 ^ w = v % 2 ^ w)
    (hlo : -(2 : Int) ^ (w - 1) ≤ u) (hhi : u < 2 ^ w) :
    (if 2 ^ (w - 1) ≤ u then u - 2 ^ w else u) = (BitVec.ofInt w v).toInt := by
  have hm := BV.pow_split w hw
  split
  · exact (BV.toInt_ofInt_eq w v _ ((Int.sub_emod_right u _).trans hc) (by omega) (by omega)).symm
  · exact (BV.toInt_ofInt_eq w v u hc (by omega) (by omega)).symm

/-- `IntegerType.normalized_value(v, truncate_bits=t)` for a signless type of width `w ≥ 1`: when
truncation is requested, or `v` already lies in the signless range `[-2^(w-1), 2^w)`, the result is
the two's-complement value of the `w`-bit pattern of `v` (in particular it is not `None`). -/
theorem normalized_eq (w : Nat) (hw : 1 ≤ w) (v : Int) (t : Bool)
    (h : t = true ∨ (-(2 : Int) ^ (w - 1) ≤ v ∧ v < (2 : Int) ^ w)) :
    normalized_value_signless (w : Int) v t = some (BitVec.ofInt w v).toInt := by
  have hpos := BV.two_pow_pos w
  simp only [normalized_value_signless, signless_value_range, signed_lower_bound_eq w hw,
    unsigned_upper_bound_eq, signed_upper_bound_eq w hw, Int.toNat_natCast, if_true, decide_eq_true_eq,
    ← apply_ite some, ← Bool.decide_and, Bool.not_eq_true', decide_eq_false_iff_not,
    mod_eq_emod _ _ (Int.le_of_lt hpos)]
  by_cases hin : -(2 : Int) ^ (w - 1) ≤ v ∧ v < 2 ^ w
  · rw [if_neg (not_not_intro hin), wrap_eq w hw v v rfl hin.1 hin.2]
  · have ht : t = true := h.resolve_right hin
    have := Int.emod_nonneg v (Int.ne_of_gt hpos)
    have := BV.two_pow_pos (w - 1)
    rw [if_pos hin, ht, if_neg (Bool.noConfusion),
      wrap_eq w hw _ v (Int.emod_emod_of_dvd v (Int.dvd_refl _)) (by omega) (Int.emod_lt_of_pos v hpos)]

/-- bit `i` of a Python int in two's complement -/
def tb (z : Int) (i : Nat) : Bool :=
  match z with
  | .ofNat m => m.testBit i
  | .negSucc m => !m.testBit i

theorem getLsbD_ofInt (w : Nat) (z : Int) (i : Nat) :
    (BitVec.ofInt w z).getLsbD i = (decide (i < w) && tb z i) := by
  cases z with
  | ofNat n => exact BitVec.getLsbD_ofNat w n i
  | negSucc n =>
    rw [BitVec.ofInt_negSucc_eq_not_ofNat, BitVec.getLsbD_not, BitVec.getLsbD_ofNat, tb]
    cases decide (i < w) <;> rfl

theorem getLsbD_ofInt_lt (w : Nat) (c : Int) (n : Nat) (hn : n < w) :
    (BitVec.ofInt w c).getLsbD n = tb c n := by
  rw [getLsbD_ofInt]; simp [hn]

theorem natLdiff_testBit (m k i : Nat) : (Py.natLdiff m k).testBit i = (m.testBit i && !k.testBit i) :=
  Nat.testBit_bitwise rfl m k i

theorem tb_land (a b : Int) (i : Nat) : tb (Py.land a b) i = (tb a i && tb b i) := by
  cases a <;> cases b <;> simp [Py.land, tb, natLdiff_testBit, Bool.and_comm]

theorem tb_lor (a b : Int) (i : Nat) : tb (Py.lor a b) i = (tb a i || tb b i) := by
  cases a <;> cases b <;> simp [Py.lor, tb, natLdiff_testBit, Bool.or_comm]

theorem tb_xor (a b : Int) (i : Nat) : tb (Py.xor a b) i = (tb a i ^^ tb b i) := by
  cases a <;> cases b <;> simp [Py.xor, tb]

theorem ofInt_land (w : Nat) (a b : Int) :
    BitVec.ofInt w (Py.land a b) = BitVec.ofInt w a &&& BitVec.ofInt w b := by
  apply BitVec.eq_of_getLsbD_eq
  intro i hi
  simp only [BitVec.getLsbD_and, getLsbD_ofInt, tb_land, hi, decide_true, Bool.true_and]

theorem ofInt_lor (w : Nat) (a b : Int) :
    BitVec.ofInt w (Py.lor a b) = BitVec.ofInt w a ||| BitVec.ofInt w b := by
  apply BitVec.eq_of_getLsbD_eq
  intro i hi
  simp only [BitVec.getLsbD_or, getLsbD_ofInt, tb_lor, hi, decide_true, Bool.true_and]

theorem ofInt_xor (w : Nat) (a b : Int) :
    BitVec.ofInt w (Py.xor a b) = BitVec.ofInt w a ^^^ BitVec.ofInt w b := by
  apply BitVec.eq_of_getLsbD_eq
  intro i hi
  simp only [BitVec.getLsbD_xor, getLsbD_ofInt, tb_xor, hi, decide_true, Bool.true_and]

end Xdsl.RvK

namespace Xdsl.Py

theorem land_range (v : Int) {m : Int} {w : Nat} (h0 : 0 ≤ m) (hm : m < 2 ^ w) :
    0 ≤ Py.land v m ∧ Py.land v m < 2 ^ w := by
  obtain ⟨n, rfl⟩ := Int.eq_ofNat_of_zero_le h0
  rw [BV.two_pow_cast] at hm ⊢
  have hn : n < 2 ^ w := Int.ofNat_lt.mp hm
  cases v with
  | ofNat a => exact ⟨Int.natCast_nonneg _, Int.ofNat_lt.mpr (Nat.lt_of_le_of_lt Nat.and_le_right hn)⟩
  | negSucc a =>
    refine ⟨Int.natCast_nonneg _, Int.ofNat_lt.mpr (Nat.lt_pow_two_of_testBit _ fun i hi => ?_)⟩
    rw [RvK.natLdiff_testBit,
      Nat.testBit_lt_two_pow (Nat.lt_of_lt_of_le hn (Nat.pow_le_pow_right (by omega) hi)), Bool.false_and]

/-- Python's `&` with a mask `0 ≤ m < 2^w` reads only the low `w` bits of `v`: it is `&&&` on the
`w`-bit patterns, read unsigned.  Mask facts (`2^w - 1`, `2^k`) are then facts about `BitVec`. -/
theorem land_eq_toNat (w : Nat) (v : Int) {m : Int} (h0 : 0 ≤ m) (hm : m < 2 ^ w) :
    Py.land v m = ((BitVec.ofInt w v &&& BitVec.ofInt w m).toNat : Int) := by
  rw [← RvK.ofInt_land, BV.toNat_ofInt_of_range (land_range v h0 hm)]

theorem land_bit {w k : Nat} (hk : k < w) (v : Int) :
    Py.land v ((2 : Int) ^ k) = if (BitVec.ofInt w v).getLsbD k then (2 : Int) ^ k else 0 := by
  have hlt : (2 : Int) ^ k < 2 ^ w := Int.pow_lt_pow_of_lt (by omega) hk
  rw [land_eq_toNat w v (Int.le_of_lt (BV.two_pow_pos k)) hlt, BV.ofInt_two_pow, BitVec.and_twoPow]
  cases (BitVec.ofInt w v).getLsbD k
  · rfl
  · rw [if_pos rfl, if_pos rfl, BitVec.toNat_twoPow_of_lt hk, BV.two_pow_cast]

/-- the mask `v & ((1 << w) - 1)` of `_truncate` / `_sign_extend` (`xdsl/interpreters/arith.py`) -/
theorem land_mask (w : Nat) (v : Int) :
    Py.land v ((2 : Int) ^ w - 1) = ((BitVec.ofInt w v).toNat : Int) := by
  have hp := BV.two_pow_pos w
  have e : BitVec.ofInt w ((2 : Int) ^ w - 1) = BitVec.allOnes w :=
    BitVec.eq_of_toNat_eq (Int.ofNat_inj.mp (by
      rw [BV.toNat_ofInt_of_range ⟨by omega, by omega⟩, BitVec.toNat_allOnes, BV.two_pow_cast]
      have := Nat.two_pow_pos w
      omega))
  rw [land_eq_toNat w v (by omega) (by omega), e, BitVec.and_allOnes]

end Xdsl.Py
