import XdslProofs.Lemmas.DCEMiniDel
/-!
Unreachable blocks (C13 on `Sem`): what `cert` does not have to check.

* `keptReachB_of` (from `kr_liveSet` of `Lemmas/DCEComplete.lean`): every block `region_dce` keeps is the
  entry block of its region or one the post-order iteration yields.
* `region_succ` / `succB_of_cfg`: a kept operation of a kept block branches only to kept blocks — its block
  is yielded, so (`mem_reachSet_iff`, i.e. `postorder_spec` of C24: yielded = reachable) are its successors; a yielded block ends
  in a terminator, terminators are never `would_be_trivially_dead`, so by the closedness of the live set the
  block has a live operation and is kept.  The MiniIR successors are tied to the block positions of the tree
  by the decidable `cfgOkB` (unique block ids per region, only the last operation of a block has successors,
  they are the blocks its `Hdr.succs` point at, non-entry blocks end in a terminator).
-/
namespace Xdsl.DCEM
open Xdsl.DCE Xdsl.MiniIR Xdsl.Sem

variable {live : List Nat}

theorem kr_mask (bs : T) : ∀ (f : Bool) (reach : List Nat) (idx : Nat), KR live bs f reach idx →
    ∀ k, (keepMask live bs f).getD k false = true → (f = true ∧ k = 0) ∨ reach.contains (idx + k) = true := by
  induction bs with
  | nil => intro f reach idx _ k hk; simp [keepMask] at hk
  | op _ _ _ _ _ => intro f reach idx _ k hk; simp [keepMask] at hk
  | region _ _ _ _ => intro f reach idx _ k hk; simp [keepMask] at hk
  | block ops next _ ihn =>
    intro f reach idx hkr k hk
    obtain ⟨h1, h2⟩ := hkr
    cases k with
    | zero =>
      simp only [keepMask, List.getD_cons_zero, Bool.or_eq_true] at hk
      rcases (h1 hk).1 with h | h
      · exact Or.inl ⟨h, rfl⟩
      · exact Or.inr (by simpa using h)
    | succ k =>
      simp only [keepMask, List.getD_cons_succ] at hk
      rcases ihn false reach (idx + 1) h2 k hk with ⟨h, _⟩ | h
      · cases h
      · right; rw [← h]; congr 1; omega

theorem graphOf_pos_of_kept {t : T} {f : Bool} {k : Nat} (h : (keepMask live t f).getD k false = true) :
    0 < (graphOf t).length := by
  cases t with
  | block _ _ => exact Nat.succ_pos _
  | nil => cases h
  | op _ _ _ => cases h
  | region _ _ => cases h

theorem keptReachB_of (a : AT) : ∀ (s : Srt) (f : Bool) (reach : List Nat) (idx : Nat),
    ws (toT a) s = true → wfT (toT a) = true → KR live (toT a) f reach idx → keptReachB live a s f = true := by
  induction a with
  | nil => intro s f reach idx _ _ _; rfl
  | op h m rs next ihr ihn =>
    intro s f reach idx hws hwf hkr
    cases s with
    | blocks => cases hws
    | regions => cases hws
    | ops =>
      simp only [toT_op, ws, wfT, Bool.and_eq_true] at hws hwf
      obtain ⟨k1, k2⟩ := hkr
      simp only [keptReachB, Bool.and_eq_true, not_or_imp]
      exact ⟨fun hl => ihr .regions true [] 0 hws.1 hwf.1 (k1 (by simpa using hl)),
        ihn .ops false [] 0 hws.2 hwf.2 k2⟩
  | block i args ops next iho ihn =>
    intro s f reach idx hws hwf hkr
    cases s with
    | ops => cases hws
    | regions => cases hws
    | blocks =>
      simp only [toT_block, ws, wfT, Bool.and_eq_true] at hws hwf
      obtain ⟨k1, k2⟩ := hkr
      simp only [keptReachB, Bool.and_eq_true, ← Bool.not_or, not_or_imp]
      exact ⟨fun hd => iho .ops false [] 0 hws.1 hwf.1
          (k1 (by rwa [anyLiveA_toT, Bool.or_eq_true] at hd)).2,
        ihn .blocks false reach (idx + 1) hws.2 hwf.2 k2⟩
  | region bs next ihb ihn =>
    intro s f reach idx hws hwf hkr
    cases s with
    | ops => cases hws
    | blocks => cases hws
    | regions =>
      simp only [toT_region, ws, wfT, Bool.and_eq_true, Bool.or_eq_true] at hws hwf
      obtain ⟨k1, k2⟩ := hkr
      simp only [keptReachB, Bool.and_eq_true]
      refine ⟨⟨kept_reach_iff.mpr fun k hm => ?_, ihb .blocks true _ 0 hws.1 hwf.1.2 k1⟩,
        ihn .regions true [] 0 hws.2 hwf.2 k2⟩
      rw [keepMaskA_toT] at hm
      rcases kr_mask (toT bs) true _ 0 k1 k hm with ⟨_, rfl⟩ | h
      · rcases hwf.1.1 with h0 | h0
        · rw [beq_iff_eq.mp h0] at hm; cases hm
        · exact zero_mem_reachSet _ h0.1 (graphOf_pos_of_kept hm)
      · simpa using h

theorem toT_opsAt (bs : AT) : ∀ k, toT (opsAt bs k) = blockAt (toT bs) k := by
  induction bs with
  | nil => intro k; rfl
  | op _ _ _ _ _ _ => intro k; rfl
  | region _ _ _ _ => intro k; rfl
  | block i a ops next _ ihn =>
    intro k
    cases k with
    | zero => rfl
    | succ k => simpa [opsAt, blockAt] using ihn k

theorem succOps_spec (bs : AT) (ops : AT) (h : succOpsB bs ops = true) :
    ∀ c ∈ directOps ops, ∀ s ∈ c.2.1.succs, ∃ k ∈ lastSuccs (toT ops), s.1 = blockIdAt bs k := by
  induction ops with
  | nil => intro c hc; simp [directOps] at hc
  | block _ _ _ _ _ _ => intro c hc; simp [directOps] at hc
  | region _ _ _ _ => intro c hc; simp [directOps] at hc
  | op hd m rs next _ ihn =>
    intro c hc s hs
    simp only [directOps, List.mem_cons] at hc
    cases next with
    | nil =>
      simp only [directOps, List.not_mem_nil, or_false] at hc
      subst hc
      simp only [succOpsB, Bool.and_eq_true, decide_eq_true_eq, Bool.or_eq_true] at h
      have hterm : hd.term = true := by
        rcases h.2 with h0 | h0
        · simp only [List.isEmpty_iff] at h0
          rw [h0] at hs; cases hs
        · exact h0
      have hm : s.1 ∈ hd.succs.map (blockIdAt bs) := by
        rw [← h.1]; exact List.mem_map.mpr ⟨s, hs, rfl⟩
      obtain ⟨k, hk, e⟩ := List.mem_map.mp hm
      exact ⟨k, by simp [lastSuccs, hterm, hk], e.symm⟩
    | op h2 m2 r2 n2 =>
      simp only [succOpsB, Bool.and_eq_true] at h
      rcases hc with rfl | hc
      · have := h.1
        simp only [List.isEmpty_iff] at this
        rw [this] at hs; cases hs
      · obtain ⟨k, hk, e⟩ := ihn h.2 c hc s hs
        exact ⟨k, by simpa [lastSuccs] using hk, e⟩
    | block _ _ _ _ =>
      simp only [directOps, List.not_mem_nil, or_false] at hc
      subst hc
      simp only [succOpsB, Bool.and_eq_true] at h
      have := h.1
      simp only [List.isEmpty_iff] at this
      rw [this] at hs; cases hs
    | region _ _ =>
      simp only [directOps, List.not_mem_nil, or_false] at hc
      subst hc
      simp only [succOpsB, Bool.and_eq_true] at h
      have := h.1
      simp only [List.isEmpty_iff] at this
      rw [this] at hs; cases hs

theorem succ_graphOf (t : T) : ∀ p, Graph.succ (graphOf t) p = lastSuccs (blockAt t p) := by
  induction t with
  | nil => intro p; simp [graphOf, Graph.succ, blockAt, lastSuccs]
  | op _ _ _ _ _ => intro p; simp [graphOf, Graph.succ, blockAt, lastSuccs]
  | region _ _ _ _ => intro p; simp [graphOf, Graph.succ, blockAt, lastSuccs]
  | block ops next _ ihn =>
    intro p
    cases p with
    | zero => simp [graphOf, Graph.succ, blockAt]
    | succ p => simpa [graphOf, Graph.succ, blockAt] using ihn p

theorem reach_step (t : T) (hwf : Graph.wf (graphOf t) = true) (hpos : 0 < (graphOf t).length) {p k : Nat}
    (hp : p ∈ reachSet t) (hk : k ∈ Graph.succ (graphOf t) p) : k ∈ reachSet t ∧ k < (graphOf t).length :=
  ⟨(mem_reachSet_iff hwf hpos).mpr (((mem_reachSet_iff hwf hpos).mp hp).step hk), (Graph.wf_iff _).mp hwf p k hk⟩

theorem lastTerm_spec (ops : AT) (h : lastTermB ops = true) : ∃ c ∈ directOps ops, c.1.term = true := by
  induction ops with
  | nil => simp [lastTermB] at h
  | block _ _ _ _ _ _ => simp [lastTermB] at h
  | region _ _ _ _ => simp [lastTermB] at h
  | op hd m rs next _ ihn =>
    cases next with
    | nil => exact ⟨(hd, m, rs), by simp [directOps], by simpa [lastTermB] using h⟩
    | op h2 m2 r2 n2 =>
      obtain ⟨c, hc, ht⟩ := ihn (by simpa [lastTermB] using h)
      exact ⟨c, by simp only [directOps, List.mem_cons] at hc ⊢; exact Or.inr hc, ht⟩
    | block _ _ _ _ => simp [lastTermB] at h
    | region _ _ => simp [lastTermB] at h

theorem directOps_vcells (ops : AT) : ∀ c ∈ directOps ops, (c.1, toT c.2.2) ∈ vcells (toT ops) none := by
  induction ops with
  | nil => intro c hc; simp [directOps] at hc
  | block _ _ _ _ _ _ => intro c hc; simp [directOps] at hc
  | region _ _ _ _ => intro c hc; simp [directOps] at hc
  | op hd m rs next _ ihn =>
    intro c hc
    simp only [directOps, List.mem_cons] at hc
    simp only [toT_op, vcells, List.mem_cons]
    rcases hc with rfl | hc
    · exact Or.inl rfl
    · exact Or.inr (ihn c hc)

theorem anyLive_of_reach {P : T} (bs : AT) (hws : ws (toT bs) .blocks = true) {k : Nat}
    (hcl : Closed P live (toT bs) (some k)) (hterm : lastTermB (opsAt bs k) = true) :
    anyLiveA live (opsAt bs k) = true := by
  obtain ⟨c, hc, ht⟩ := lastTerm_spec _ hterm
  have hv := directOps_vcells _ c hc
  rw [toT_opsAt, ← vcells_blockAt _ k hws] at hv
  have hm : c.1.id ∈ live := (closed_mem hcl hv).1 (Or.inl (by simp [wbd, ht]))
  rw [anyLiveA_toT, toT_opsAt]
  exact anyLive_blockAt hws hv hm

theorem blockIdAt_mem (bs : AT) (k : Nat) (hk : k < (blockIdsOf bs).length) : blockIdAt bs k ∈ blockIdsOf bs := by
  unfold blockIdAt
  simp only [List.getD, List.getElem?_eq_getElem hk, Option.getD_some]
  exact List.getElem_mem hk

theorem firstKept_at (bs : AT) : ∀ (f : Bool) (k : Nat), k < (blockIdsOf bs).length → (blockIdsOf bs).Nodup →
    ((f = true ∧ k = 0) ∨ anyLiveA live (opsAt bs k) = true) → firstKeptB live (blockIdAt bs k) bs f = true := by
  induction bs with
  | nil => intro f k hk; simp [blockIdsOf] at hk
  | op _ _ _ _ _ _ => intro f k hk; simp [blockIdsOf] at hk
  | region _ _ _ _ => intro f k hk; simp [blockIdsOf] at hk
  | block i a ops next _ ihn =>
    intro f k hk hnd hkeep
    simp only [blockIdsOf, List.nodup_cons] at hnd
    cases k with
    | zero =>
      simp only [firstKeptB, blockIdAt, blockIdsOf, List.getD_cons_zero, if_true, Bool.or_eq_true]
      rcases hkeep with ⟨h, _⟩ | h
      · exact Or.inl h
      · exact Or.inr (by simpa [opsAt] using h)
    | succ k =>
      simp only [blockIdsOf, List.length_cons, Nat.add_lt_add_iff_right] at hk
      have e : blockIdAt (.block i a ops next) (k + 1) = blockIdAt next k := by
        simp [blockIdAt, blockIdsOf]
      rw [e]
      have hne : i ≠ blockIdAt next k := fun heq => hnd.1 (heq ▸ blockIdAt_mem next k hk)
      simp only [firstKeptB, hne, if_false]
      refine ihn false k hk hnd.2 (Or.inr ?_)
      rcases hkeep with ⟨_, h⟩ | h
      · cases h
      · simpa [opsAt] using h

theorem blocksCfg_at (bs : AT) (bs0 : AT) : ∀ (f : Bool) (p : Nat), blocksCfgB bs bs0 f = true →
    succOpsB bs (opsAt bs0 p) = true ∧ (p < (blockIdsOf bs0).length → (f = true ∧ p = 0) ∨ lastTermB (opsAt bs0 p) = true) := by
  induction bs0 with
  | nil => intro f p _; simp [opsAt, succOpsB, blockIdsOf]
  | op _ _ _ _ _ _ => intro f p _; simp [opsAt, succOpsB, blockIdsOf]
  | region _ _ _ _ => intro f p _; simp [opsAt, succOpsB, blockIdsOf]
  | block i a ops next _ ihn =>
    intro f p h
    simp only [blocksCfgB, Bool.and_eq_true, Bool.or_eq_true] at h
    cases p with
    | zero =>
      refine ⟨by simpa [opsAt] using h.1.1, fun _ => ?_⟩
      rcases h.1.2 with h0 | h0
      · exact Or.inl ⟨h0, rfl⟩
      · exact Or.inr (by simpa [opsAt] using h0)
    | succ p =>
      obtain ⟨e1, e2⟩ := ihn false p h.2
      refine ⟨by simpa [opsAt] using e1, fun hp => ?_⟩
      simp only [blockIdsOf, List.length_cons, Nat.add_lt_add_iff_right] at hp
      rcases e2 hp with ⟨h0, _⟩ | h0
      · cases h0
      · exact Or.inr (by simpa [opsAt] using h0)

theorem length_graphOf (bs : AT) : (graphOf (toT bs)).length = (blockIdsOf bs).length := by
  induction bs with
  | nil => rfl
  | op _ _ _ _ _ _ => rfl
  | region _ _ _ _ => rfl
  | block i a ops next _ ihn => simp [graphOf, blockIdsOf, ihn]

/-- **a kept operation of a kept block branches only to kept blocks**: its block is one the iteration yields,
so are its successors, and a yielded block ends in a terminator, which is live -/
theorem region_succ {P : T} (bs : AT) (hws : ws (toT bs) .blocks = true)
    (hwf : Graph.wf (graphOf (toT bs)) = true)
    (hcl : ∀ k ∈ reachSet (toT bs), Closed P live (toT bs) (some k))
    (hreach : ∀ k, (keepMaskA live bs true).getD k false = true → k ∈ reachSet (toT bs))
    (hnd : (blockIdsOf bs).Nodup) (hcfg : blocksCfgB bs bs true = true) :
    ∀ p, (keepMaskA live bs true).getD p false = true → ∀ c ∈ directOps (opsAt bs p), ∀ s ∈ c.2.1.succs,
      firstKeptB live s.1 bs true = true := by
  intro p hp c hc s hs
  obtain ⟨k, hk, hsk⟩ := succOps_spec bs _ (blocksCfg_at bs bs true p hcfg).1 c hc s hs
  rw [hsk]
  rw [toT_opsAt, ← succ_graphOf] at hk
  have hpos : 0 < (graphOf (toT bs)).length := graphOf_pos_of_kept (keepMaskA_toT bs true ▸ hp)
  obtain ⟨hkr, hklt⟩ := reach_step _ hwf hpos (hreach p hp) hk
  rw [length_graphOf] at hklt
  refine firstKept_at bs true k hklt hnd ?_
  rcases (blocksCfg_at bs bs true k hcfg).2 hklt with ⟨_, h0⟩ | h0
  · exact Or.inl ⟨rfl, h0⟩
  · exact Or.inr (anyLive_of_reach bs hws (hcl k hkr) h0)

/-- the part of `succB` that concerns the operations directly in the list (not those nested in their regions), which
`succB_of_cfg` carries through its recursion as a hypothesis; at a region it comes from `region_succ` -/
def SuccsKept (live : List Nat) (a : AT) (s : Srt) (kb : Nat → Bool) (f : Bool) : Prop :=
  match s with
  | .ops => ∀ c ∈ directOps a, ∀ x ∈ c.2.1.succs, kb x.1 = true
  | .blocks => ∀ p, (keepMaskA live a f).getD p false = true →
      ∀ c ∈ directOps (opsAt a p), ∀ x ∈ c.2.1.succs, kb x.1 = true
  | .regions => True

theorem succB_of_cfg {t : T} (a : AT) (s : Srt) (kb : Nat → Bool) (f : Bool) :
    ws (toT a) s = true → wfT (toT a) = true → ClosedAt t live a s f → keptReachB live a s f = true →
    cfgOkB live a = true → SuccsKept live a s kb f → succB live a s kb f = true := by
  fun_induction keptReachB live a s f generalizing kb with
  | case1 s f => intro _ _ _ _ _ _; cases s <;> rfl
  | case2 h m rs next f ihr ihn =>
    intro hws hwf hy hk hcfg hS
    simp only [toT_op, ws, wfT, Bool.and_eq_true] at hws hwf
    simp only [cfgOkB, Bool.and_eq_true, not_or_imp] at hk hcfg
    simp only [succB, Bool.and_eq_true, not_or_imp, List.all_eq_true]
    exact ⟨fun hl => ⟨fun x hx => hS (h, m, rs) (List.mem_cons_self ..) x hx,
        ihr _ hws.1 hwf.1 (hy.op_regions hl) (hk.1 hl) (hcfg.1 hl) trivial⟩,
      ihn kb hws.2 hwf.2 hy.op_next hk.2 hcfg.2 (fun c hc => hS c (List.mem_cons_of_mem _ hc))⟩
  | case3 i args ops next f iho ihn =>
    intro hws hwf hy hk hcfg hS
    simp only [toT_block, ws, wfT, Bool.and_eq_true] at hws hwf
    simp only [cfgOkB, Bool.and_eq_true, ← Bool.not_or, not_or_imp] at hk hcfg
    simp only [succB, Bool.and_eq_true, ← Bool.not_or, not_or_imp]
    exact ⟨fun hd => iho kb hws.1 hwf.1 (hy.block_ops hd) (hk.1 hd) hcfg.1 (hS 0 hd),
      ihn kb hws.2 hwf.2 hy.block_next hk.2 hcfg.2 (fun p hp => hS (p + 1) hp)⟩
  | case4 bs next f ihb ihn =>
    intro hws hwf hy hk hcfg hS
    simp only [toT_region, ws, wfT, Bool.and_eq_true, Bool.or_eq_true] at hws hwf
    simp only [cfgOkB, Bool.and_eq_true] at hk hcfg
    obtain ⟨⟨⟨hc1, hc2⟩, hc3⟩, hc4⟩ := hcfg
    have hreach := kept_reach_iff.mp hk.1.1
    simp only [succB, Bool.and_eq_true]
    refine ⟨ihb _ hws.1 hwf.1.2 (hy.region_blocks hreach) hk.1.2 hc3 fun p hp => ?_,
      ihn _ hws.2 hwf.2 hy.region_next hk.2 hc4 trivial⟩
    have hg : Graph.wf (graphOf (toT bs)) = true := by
      rcases hwf.1.1 with h0 | h0
      · rw [keepMaskA_toT, beq_iff_eq.mp h0] at hp; cases hp
      · exact h0.1
    exact region_succ bs hws.1 hg hy.region_yielded hreach ((nodupB_iff _).mp hc1) hc2 p hp
  | case5 => intro _ _ _ hk; cases hk

end Xdsl.DCEM
