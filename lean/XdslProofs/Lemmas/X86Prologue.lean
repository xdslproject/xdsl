import XdslProofs.Lemmas.X86Frame
import XdslProofs.Lemmas.Bool
import XdslProofs.Lemmas.List
/-!
The model of the repaired prologue/epilogue insertion (`insertPrologue`) always produces a frame
that `frameOk` accepts, and it does not change what the function computes.
-/
namespace Xdsl.X86

theorem mem_addUsed {acc : List Nat} {d x : Nat} :
    x ∈ addUsed acc d ↔ x ∈ acc ∨ (x = d ∧ d ∈ calleeSaved) := by
  by_cases hc : d ∈ calleeSaved <;> by_cases ha : d ∈ acc <;> simp [addUsed, hc, ha]
  rintro rfl; exact ha

theorem nodup_addUsed {acc : List Nat} (d : Nat) (h : acc.Nodup) : (addUsed acc d).Nodup := by
  unfold addUsed
  split
  · next hc =>
    have : d ∉ acc := by simp at hc; exact hc.2
    exact List.nodup_append.mpr ⟨h, List.pairwise_singleton _ d, fun a ha b hb e =>
      this (List.mem_singleton.mp hb ▸ e ▸ ha)⟩
  · exact h

theorem foldl_addUsed (ds : List Nat) : ∀ acc : List Nat, acc.Nodup →
    (ds.foldl addUsed acc).Nodup ∧
      ∀ x, x ∈ ds.foldl addUsed acc ↔ x ∈ acc ∨ (x ∈ ds ∧ x ∈ calleeSaved) := by
  induction ds with
  | nil => intro acc h; exact ⟨h, by simp⟩
  | cons d r ih =>
    intro acc h
    obtain ⟨h1, h2⟩ := ih _ (nodup_addUsed d h)
    refine ⟨h1, fun x => ?_⟩
    rw [List.foldl_cons, h2, mem_addUsed, List.mem_cons]
    constructor
    · rintro ((h | ⟨rfl, h⟩) | ⟨h, h'⟩)
      · exact .inl h
      · exact .inr ⟨.inl rfl, h⟩
      · exact .inr ⟨.inr h, h'⟩
    · rintro (h | ⟨rfl | h, h'⟩)
      · exact .inl (.inl h)
      · exact .inl (.inr ⟨rfl, h'⟩)
      · exact .inr ⟨h, h'⟩

theorem mem_usedCS {body : List Instr} {x : Nat} :
    x ∈ usedCS body ↔ x ∈ calleeSaved ∧ ∃ i ∈ body, destOf i = some x := by
  rw [usedCS, (foldl_addUsed _ [] List.nodup_nil).2]
  simp [List.mem_filterMap, and_comm]

theorem usedCS_length (body : List Instr) : (usedCS body).length ≤ 6 :=
  (foldl_addUsed _ [] List.nodup_nil).1.length_le_of_subset fun _ hx => (mem_usedCS.mp hx).1

theorem takePushes_map_push (rs : List Nat) (Y : List Instr) (hY : ∀ i ∈ Y.head?, pushReg? i = none) :
    takePushes (rs.map Instr.push ++ Y) = (rs, Y) := by
  induction rs with
  | nil =>
    cases Y with
    | nil => rfl
    | cons y r =>
      have := hY y (by simp)
      cases y <;> first | rfl | simp [pushReg?] at this
  | cons r rs ih => simp [takePushes, ih]

theorem head?_append_cons {α : Type} {P : α → Prop} (Z : List α) (x : α) (t : List α)
    (hZ : ∀ i ∈ Z, P i) (hx : P x) : ∀ i ∈ (Z ++ x :: t).head?, P i := by
  cases Z with
  | nil => intro i hi; cases hi; exact hx
  | cons z r => intro i hi; cases hi; exact hZ z List.mem_cons_self

theorem frameOk_shape (rs : List Nat) (body t : List Instr) (hlen : rs.length ≤ depthCap)
    (h4 : RSP ∉ rs)
    (hb : ∀ i ∈ body, bodyInstrOk rs i = true ∧ isLabel i = false) :
    frameOk (Instr.label :: (rs.map Instr.push ++ body ++ rs.reverse.map Instr.pop ++ Instr.ret :: t)) = true := by
  -- body and pops hold nothing that `beforeRet`, `takePushes` or `dropWhile isLabel` stop at; the
  -- `ret` after them stops only `beforeRet`
  have hZ : ∀ i ∈ body ++ rs.reverse.map Instr.pop,
      i ≠ Instr.ret ∧ pushReg? i = none ∧ isLabel i = false := by
    intro i hi
    rcases List.mem_append.mp hi with hi | hi
    · have := (bodyInstrOk_regCode fun j hj => (hb j hj).1).shape i hi
      exact ⟨this.1, this.2, (hb i hi).2⟩
    · obtain ⟨r, _, rfl⟩ := List.mem_map.mp hi
      exact ⟨nofun, rfl, rfl⟩
  have hY := head?_append_cons _ Instr.ret t (fun i hi => (hZ i hi).2) ⟨rfl, rfl⟩
  have hdrop : (Instr.label :: (rs.map Instr.push ++ ((body ++ rs.reverse.map Instr.pop) ++ Instr.ret :: t))).dropWhile isLabel
      = rs.map Instr.push ++ ((body ++ rs.reverse.map Instr.pop) ++ Instr.ret :: t) := by
    refine dropWhile_run (a := [Instr.label]) (fun _ hx => by cases List.mem_singleton.1 hx; rfl) ?_
    cases rs with
    | nil => exact fun i hi => (hY i hi).2
    | cons r0 r => intro i hi; cases hi; rfl
  have hl : (body ++ rs.reverse.map Instr.pop).length - rs.length = body.length := by simp
  have h4' : rs.contains RSP = false := by simpa using h4
  rw [List.append_assoc, List.append_assoc, ← List.append_assoc body]
  unfold frameOk
  simp only [hdrop, takePushes_map_push rs _ fun i hi => (hY i hi).1,
    beforeRet_append_ret _ t fun i hi => (hZ i hi).1, hl, List.drop_left, List.take_left, h4',
    Bool.not_false, Bool.and_true, Bool.and_eq_true, decide_eq_true_eq, beq_self_eq_true,
    List.all_eq_true]
  exact ⟨⟨by simp, hlen⟩, fun i hi => (hb i hi).1⟩

theorem plain_rebase_ok (body : List Instr) (hp : ∀ i ∈ body, plainInstr i = true) (n : Nat) :
    ∀ i ∈ body.map (rebase n), bodyInstrOk (usedCS body) i = true ∧ isLabel i = false := by
  intro i hi
  obtain ⟨j, hj, rfl⟩ := List.mem_map.mp hi
  have hpl := hp j hj
  have key : ∀ d, destOf j = some d → d ≠ RSP → writeOk (usedCS body) d = true := by
    intro d hd h4
    simp only [writeOk, Bool.and_eq_true, decide_eq_true_eq, not_or_imp, List.contains_eq_mem]
    exact ⟨h4, fun hc => mem_usedCS.mpr ⟨hc, j, hj, hd⟩⟩
  cases j <;> simp [plainInstr] at hpl <;> simp [rebase, bodyInstrOk, isLabel]
  · exact key _ rfl hpl.1
  · exact key _ rfl hpl
  · exact key _ rfl hpl.1.1
  · exact key _ rfl hpl.1

theorem plain_regCode {body : List Instr} (hp : ∀ i ∈ body, plainInstr i = true) :
    RegCode (· ≠ RSP) body := by
  intro i hi
  have := hp i hi
  cases i with
  | mov _ d _ | movi _ d _ | load _ d _ | alu _ _ d _ =>
    refine .inr ⟨d, rfl, fun e => ?_⟩
    subst e
    simp [plainInstr] at this
  | store | push | pop | ret | label => cases this

theorem exec_pushes (rs : List Nat) : ∀ {N n : Nat} {σ : St} {a : W} {μ : W → W}, Stk a μ N n σ →
    n + rs.length ≤ N →
    Stk a μ N (n + rs.length) (exec (rs.map Instr.push) σ) ∧
      ∀ r, r ≠ RSP → (exec (rs.map Instr.push) σ).reg r = σ.reg r := by
  induction rs with
  | nil => exact fun h _ => ⟨h, fun _ _ => rfl⟩
  | cons r0 rs ih =>
    intro N n σ a μ h hn
    rw [List.length_cons] at hn ⊢
    obtain ⟨h1, h2⟩ := ih (h.push (by omega) r0) (by omega)
    refine ⟨?_, fun r hr => (h2 r hr).trans (by simp [step, hr])⟩
    rw [← Nat.add_assoc, Nat.add_right_comm]; exact h1

theorem exec_pops (rs : List Nat) :
    ∀ σ : St, ∀ r, r ∉ rs → r ≠ RSP → (exec (rs.map Instr.pop) σ).reg r = σ.reg r := by
  induction rs with
  | nil => intro σ r _ _; rfl
  | cons r0 rs ih =>
    intro σ r hr h4
    simp only [List.map_cons, exec_cons]
    rw [ih _ r (fun h => hr (by simp [h])) h4]
    have : r ≠ r0 := fun h => hr (by simp [h])
    simp [step, this, h4]

/-- `σo`: a state of the bare body; `σn`: the corresponding state of the rebased body inside a frame of
`n` pushes: same registers except `rsp`, and `σn` keeps the stack discipline relative to `σo` -/
structure Sim (n : Nat) (σo σn : St) : Prop where
  regs : ∀ r, r ≠ RSP → σn.reg r = σo.reg r
  stk : Stk (σo.reg RSP) σo.mem n n σn

theorem Sim.setReg {n : Nat} {σo σn : St} (S : Sim n σo σn) (d : Nat) (hd : d ≠ RSP) (v : W) :
    Sim n (setReg σo d v) (setReg σn d v) := by
  refine ⟨fun r hr => ?_, by rw [setReg_reg, if_neg (Ne.symm hd)]; exact S.stk.setReg hd v⟩
  rw [setReg_reg, setReg_reg, S.regs r hr]

theorem step_sim {n : Nat} {σo σn : St} (S : Sim n σo σn) (i : Instr)
    (hp : plainInstr i = true) : Sim n (step i σo) (step (rebase n i) σn) := by
  cases i <;> simp [plainInstr] at hp
  · next sz d s =>
    simp only [step, rebase]; rw [S.regs s hp.2, S.regs d hp.1]; exact S.setReg d hp.1 _
  · next sz d imm => simp only [step, rebase]; rw [S.regs d hp]; exact S.setReg d hp _
  · next sz d k =>
    simp only [step, rebase]
    rw [S.stk.load k hp.1.2 hp.2, S.regs d hp.1.1]
    exact S.setReg d hp.1.1 _
  · next op sz d s =>
    simp only [step, rebase]; rw [S.regs s hp.2, S.regs d hp.1]; exact S.setReg d hp.1 _

theorem exec_sim {n : Nat} (body : List Instr) (hp : ∀ i ∈ body, plainInstr i = true) :
    ∀ {σo σn : St}, Sim n σo σn → Sim n (exec body σo) (exec (body.map (rebase n)) σn) := by
  induction body with
  | nil => intro σo σn S; exact S
  | cons i r ih =>
    intro σo σn S
    simp only [List.map_cons, exec_cons]
    exact ih (fun j hj => hp j (by simp [hj])) (step_sim S i (hp i (by simp)))

end Xdsl.X86
