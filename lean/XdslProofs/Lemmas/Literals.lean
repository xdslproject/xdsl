import XdslModel.Literals
import XdslProofs.Lemmas.List
/-!
Lemmas for C06 over `XdslModel/Literals.lean`, one group per kind of literal: what a printer function
emits is shown to be what the lexer and parser functions read back.  Digit strings go through `Numeral`
(what the number lexer has to know of one to read it as `n`), so that for integers and bit patterns the
lexer is met in `lexNumber_dec` and `lexNumber_hex` only, whichever printer wrote the digits (decimal,
upper-case or lower-case hexadecimal).  CPython's float formatting is not modelled: it enters as the
hypotheses `Lawful`, `LawfulData` about a `FloatOracle`, and the float parsers are characterised on a
text of the shape those hypotheses promise (`floatLitText`, one token by `lexNumber_floatLit`).
-/
namespace Xdsl.Literals

theorem utf8_eq (s : List Char) : (utf8 s).toByteArray = s.utf8Encode := by
  have : utf8 s = s.flatMap String.utf8EncodeChar := by
    induction s with
    | nil => rfl
    | cons c l ih => simp [utf8, ih]
  rw [this]; rfl

theorem utf8Decode_utf8 (s : List Char) : utf8Decode? (utf8 s) = some s := by
  simp [utf8Decode?, utf8_eq]

theorem isUtf8_utf8 (s : List Char) : isUtf8 (utf8 s) = true := by
  simp [isUtf8, utf8Decode_utf8]

theorem hexVal?_hexU : ∀ n, n < 16 → hexVal? (hexU n) = some n := by decide +kernel

theorem hexVal?_hexL : ∀ n, n < 16 → hexVal? (hexL n) = some n := by decide +kernel

theorem ne_of_hexVal? {c e : Char} {k : Nat} (hc : hexVal? c = some k) (he : hexVal? e = none) :
    c ≠ e :=
  fun h => by rw [h, he] at hc; cases hc

theorem nibble_lt (b : UInt8) : b.toNat / 16 < 16 ∧ b.toNat % 16 < 16 :=
  ⟨by have := b.toNat_lt; omega, Nat.mod_lt _ (by decide)⟩

theorem ofNat_nibbles (b : UInt8) : UInt8.ofNat (b.toNat / 16 * 16 + b.toNat % 16) = b := by
  rw [Nat.div_add_mod']; exact UInt8.ofNat_toNat

/-- the bytes `print_bytes_literal` writes as an escape sequence -/
def needsEsc (b : UInt8) : Bool := b = 0x5C || b < 0x20 || b > 0x7E || b = 0x22

theorem toNat_ofNat_byte (b : UInt8) : (Char.ofNat b.toNat).toNat = b.toNat := by
  have hv : b.toNat.isValidChar := Or.inl (by have := b.toNat_lt; omega)
  simp only [Char.ofNat, dif_pos hv]
  rfl

/-- A byte printed without escape is a character that the string regex takes literally and that
UTF-8 encodes to that byte. -/
theorem plainByte_char (b : UInt8) (h : needsEsc b = false) :
    Char.ofNat b.toNat ≠ '"' ∧ Char.ofNat b.toNat ≠ '\\' ∧ Char.ofNat b.toNat ≠ '\n' ∧
      Char.ofNat b.toNat ≠ '\x0b' ∧ Char.ofNat b.toNat ≠ '\x0c' ∧
      String.utf8EncodeChar (Char.ofNat b.toNat) = [b] := by
  have hc : (Char.ofNat b.toNat).val.toNat = b.toNat := toNat_ofNat_byte b
  simp only [needsEsc, Bool.or_eq_false_iff, decide_eq_false_iff_not, UInt8.lt_iff_toNat_lt,
    ← UInt8.toNat_inj, UInt8.reduceToNat] at h
  -- the five characters the regex treats specially have codes that are escaped
  have ne : ∀ d : Char, (d.val.toNat < 32 ∨ d.val.toNat = 34 ∨ d.val.toNat = 92) →
      Char.ofNat b.toNat ≠ d :=
    fun d hd e => by rw [e] at hc; omega
  refine ⟨ne _ (by decide), ne _ (by decide), ne _ (by decide), ne _ (by decide), ne _ (by decide), ?_⟩
  -- a code below 128 is encoded by UTF-8 as itself
  rw [String.utf8EncodeChar_eq_singleton (Char.utf8Size_eq_one_iff.2 (UInt32.le_iff_toNat_le.2 ?_))]
  · exact congrArg (· :: []) (UInt8.toNat_inj.1 (by rw [UInt32.toNat_toUInt8, hc]; omega))
  · show (Char.ofNat b.toNat).val.toNat ≤ 127; omega

theorem scanBody_escapeByte (b : UInt8) (t : List Char) :
    scanBody (escapeByte b ++ t) = Scan.push [b] (needsEsc b) (scanBody t) := by
  by_cases h1 : b = 0x5C
  · subst h1
    simp [escapeByte, scanBody, needsEsc]
  · have hn : needsEsc b = (b < 0x20 || b > 0x7E || b = 0x22) := by simp [needsEsc, h1]
    unfold escapeByte
    rw [if_neg h1, hn]
    cases h2 : (b < 0x20 || b > 0x7E || b = 0x22)
    · -- printed as itself
      obtain ⟨hquote, hbackslash, hnl, hvt, hff, henc⟩ := plainByte_char b (hn.trans h2)
      simp only [Bool.false_eq_true, if_false, List.cons_append, List.nil_append]
      rw [scanBody.eq_def]
      simp [hquote, hbackslash, hnl, hvt, hff, henc]
    · -- printed as `\HH`: two hex digits, the first of which is none of the escape letters
      have hhi := hexVal?_hexU _ (nibble_lt b).1
      have hlo := hexVal?_hexU _ (nibble_lt b).2
      have ne : ∀ e, hexVal? e = none → hexU (b.toNat / 16) ≠ e := fun e => ne_of_hexVal? hhi
      simp only [if_true, List.cons_append, List.nil_append]
      rw [scanBody.eq_def]
      simp [hhi, hlo, ne '"' (by decide), ne 'n' (by decide), ne 't' (by decide),
        ne '\\' (by decide), ofNat_nibbles b]

/-- bytes that are printed without any escape are printable ASCII, hence valid UTF-8 -/
theorem isUtf8_of_no_esc (bs : List UInt8) (h : bs.any needsEsc = false) : isUtf8 bs = true := by
  have : bs = utf8 (bs.map fun b => Char.ofNat b.toNat) := by
    induction bs with
    | nil => rfl
    | cons b bs ih =>
      simp only [List.any_cons, Bool.or_eq_false_iff] at h
      simp only [List.map_cons, utf8, (plainByte_char b h.1).2.2.2.2.2, List.singleton_append]
      rw [← ih h.2]
  rw [this]; exact isUtf8_utf8 _

theorem div_lt_of_div_ne_zero {n b : Nat} (hb : 2 ≤ b) (h : n / b ≠ 0) : n / b < n :=
  Nat.div_lt_self (by
    rcases Nat.eq_zero_or_pos n with h0 | h0
    · subst h0; simp at h
    · exact h0) hb

/-- `toDec`/`toHexU` with the base as a parameter -/
def toBase (b : Nat) (dig : Nat → Char) (n : Nat) : List Char := toBaseAux b dig (n + 1) n []

theorem toDec_eq (n : Nat) : toDec n = toBase 10 hexU n := rfl
theorem toHexU_eq (n : Nat) : toHexU n = toBase 16 hexU n := rfl

/-- Induction on `n`, not on the fuel: both sides recurse on `n / b`, with different fuel. -/
theorem toBaseAux_eq (b : Nat) (hb : 2 ≤ b) (dig : Nat → Char) (n : Nat) :
    ∀ (fuel : Nat) (acc : List Char), n < fuel →
      toBaseAux b dig fuel n acc = toBase b dig n ++ acc := by
  induction n using Nat.strongRecOn with
  | _ n ih =>
    intro fuel acc h
    obtain ⟨k, rfl⟩ : ∃ k, fuel = k + 1 := ⟨fuel - 1, by omega⟩
    simp only [toBase, toBaseAux]
    by_cases h0 : n / b = 0
    · simp only [h0, if_true, List.cons_append, List.nil_append]
    · have hlt := div_lt_of_div_ne_zero hb h0
      simp only [h0, if_false]
      rw [ih _ hlt k _ (by omega), ih _ hlt n _ hlt, List.append_assoc]; rfl

theorem toBase_small (b : Nat) (dig : Nat → Char) (n : Nat) (h : n / b = 0) :
    toBase b dig n = [dig (n % b)] := by
  simp [toBase, toBaseAux, h]

theorem toBase_step (b : Nat) (hb : 2 ≤ b) (dig : Nat → Char) (n : Nat) (h : n / b ≠ 0) :
    toBase b dig n = toBase b dig (n / b) ++ [dig (n % b)] := by
  show toBaseAux b dig (n + 1) n [] = _
  rw [toBaseAux]
  simp only [h, if_false]
  exact toBaseAux_eq b hb dig (n / b) n _ (div_lt_of_div_ne_zero hb h)

theorem ofDigits_append (b : Nat) (xs ys : List Char) :
    ofDigits b (xs ++ ys) = ys.foldl (fun acc c => acc * b + (hexVal? c).getD 0) (ofDigits b xs) := by
  simp [ofDigits, List.foldl_append]

theorem isDigit_hexU : ∀ d, d < 10 → isDigit (hexU d) = true := by decide +kernel

theorem isHexDigit_hexU (d : Nat) (h : d < 16) : isHexDigit (hexU d) = true := by
  rw [isHexDigit, hexVal?_hexU d h]; rfl

theorem isHexDigit_hexL (d : Nat) (h : d < 16) : isHexDigit (hexL d) = true := by
  rw [isHexDigit, hexVal?_hexL d h]; rfl

/-- `ds` is a numeral of `n` in base `b`, `p` being the lexer's test for a digit of that base: what
the number lexer has to know of a printed number to read it back as `n`. -/
structure Numeral (p : Char → Bool) (b : Nat) (ds : List Char) (n : Nat) : Prop where
  ne_nil : ds ≠ []
  digit : ∀ c ∈ ds, p c = true
  value : ofDigits b ds = n

abbrev Dec := Numeral isDigit 10
abbrev Hex := Numeral isHexDigit 16

theorem toBase_numeral {p : Char → Bool} {b : Nat} (hb : 2 ≤ b) (hb16 : b ≤ 16)
    (hp : ∀ d, d < b → p (hexU d) = true) (n : Nat) : Numeral p b (toBase b hexU n) n := by
  induction n using Nat.strongRecOn with
  | _ n ih =>
    have hlt : n % b < b := Nat.mod_lt n (by omega)
    -- the numeral of `n / b` (nothing if that is `0`) followed by the digit `n % b`
    obtain ⟨pre, he, hd, hv⟩ : ∃ pre, toBase b hexU n = pre ++ [hexU (n % b)] ∧
        (∀ c ∈ pre, p c = true) ∧ ofDigits b pre = n / b := by
      by_cases h : n / b = 0
      · exact ⟨[], toBase_small b hexU n h, by simp, by rw [h]; rfl⟩
      · have i := ih (n / b) (div_lt_of_div_ne_zero hb h)
        exact ⟨_, toBase_step b hb hexU n h, i.digit, i.value⟩
    rw [he]
    refine ⟨by simp, fun c hc => ?_, ?_⟩
    · rcases List.mem_append.1 hc with hc | hc
      · exact hd c hc
      · rw [List.mem_singleton.1 hc]; exact hp _ hlt
    · rw [ofDigits_append, hv]
      simp only [List.foldl_cons, List.foldl_nil, hexVal?_hexU _ (Nat.lt_of_lt_of_le hlt hb16),
        Option.getD_some]
      rw [Nat.mul_comm]; exact Nat.div_add_mod n b

theorem dec_toDec (n : Nat) : Dec (toDec n) n :=
  toBase_numeral (by decide) (by decide) isDigit_hexU n

theorem hex_toHexU (n : Nat) : Hex (toHexU n) n :=
  toBase_numeral (by decide) (by decide) isHexDigit_hexU n

theorem spanP_eq (p : Char → Bool) (l : List Char) : spanP p l = (l.takeWhile p, l.dropWhile p) := by
  fun_induction spanP p l <;> simp_all

theorem spanP_all (p : Char → Bool) (ds t : List Char) (h : ∀ c ∈ ds, p c = true)
    (ht : ∀ c ∈ t.head?, p c = false) : spanP p (ds ++ t) = (ds, t) := by
  rw [spanP_eq, takeWhile_run h ht, dropWhile_run h ht]

theorem spanP_append (p : Char → Bool) (l : List Char) : (spanP p l).1 ++ (spanP p l).2 = l := by
  rw [spanP_eq]; exact List.takeWhile_append_dropWhile

theorem spanP_fst_all (p : Char → Bool) (l : List Char) : ∀ c ∈ (spanP p l).1, p c = true := by
  rw [spanP_eq]; exact List.all_eq_true.1 List.all_takeWhile

theorem lexHex?_eq_none (c : Char) (rest : List Char) (h : rest.head? ≠ some 'x') :
    lexHex? (c :: rest) = none := by
  unfold lexHex?
  split
  · next heq => simp at heq; simp [heq.2] at h
  · rfl

theorem isDigit_ne {c d : Char} (hc : isDigit c = true) (hd : isDigit d = false) : c ≠ d :=
  fun e => by rw [e, hd] at hc; cases hc

theorem head?_digits_append_ne_x (ds t : List Char) (hall : ∀ c ∈ ds, isDigit c = true)
    (ht : t.head? ≠ some 'x') : (ds ++ t).head? ≠ some 'x' := by
  cases ds with
  | nil => exact ht
  | cons e es => exact fun he => isDigit_ne (hall e (by simp)) (by decide) (Option.some.inj he)

/-- Digits followed by something that continues neither the digits nor a float or hexadecimal
literal are one decimal `INTEGER_LIT`. -/
theorem lexNumber_dec {ds : List Char} {n : Nat} (h : Dec ds n) (t : List Char)
    (ht : ∀ c ∈ t.head?, isDigit c = false ∧ c ≠ '.' ∧ c ≠ 'x') :
    lexNumber (ds ++ t) = some (.int n false, t) := by
  obtain ⟨hne, hall, rfl⟩ := h
  have hspan : spanDigits (ds ++ t) = (ds, t) := spanP_all _ _ _ hall fun c hc => (ht c hc).1
  have hdec : lexDec (ds ++ t) = (.int (ofDigits 10 ds) false, t) := by
    unfold lexDec
    rw [hspan]
    simp only []
    split
    · exact absurd rfl (ht '.' rfl).2.1
    · rfl
  cases ds with
  | nil => exact absurd rfl hne
  | cons d ds' =>
    have hhex : lexHex? (d :: (ds' ++ t)) = none :=
      lexHex?_eq_none _ _ (head?_digits_append_ne_x ds' t (fun c hc => hall c (by simp [hc]))
        fun hx => (ht 'x' hx).2.2 rfl)
    simp only [List.cons_append] at hdec
    simp only [lexNumber, List.cons_append, hall d (by simp), Bool.not_true, Bool.false_eq_true,
      if_false, hhex, hdec]

theorem lexNumber_hex {hs : List Char} {n : Nat} (h : Hex hs n) :
    lexNumber ('0' :: 'x' :: hs) = some (.int n true, []) := by
  obtain ⟨hne, hall, rfl⟩ := h
  cases hs with
  | nil => exact absurd rfl hne
  | cons h r =>
    have hspan : spanHex (h :: r) = (h :: r, []) := by
      simpa [spanHex] using spanP_all isHexDigit (h :: r) [] hall (by simp)
    simp [lexNumber, lexHex?, hall h (by simp), hspan, show isDigit '0' = true by decide]

theorem toDec_eq_cons (n : Nat) : ∃ d ds, toDec n = d :: ds ∧ isDigit d = true := by
  cases h : toDec n with
  | nil => exact absurd h (dec_toDec n).ne_nil
  | cons d ds => exact ⟨d, ds, rfl, (dec_toDec n).digit d (by simp [h])⟩

theorem intToDec_append_ne_bool (v : Int) (t : List Char) :
    intToDec v ++ t ≠ "true".toList ∧ intToDec v ++ t ≠ "false".toList := by
  obtain ⟨d, ds, hd, hdig⟩ := toDec_eq_cons v.natAbs
  have hh : ∃ c r, intToDec v ++ t = c :: r ∧ (c = '-' ∨ isDigit c = true) := by
    unfold intToDec
    split
    · exact ⟨'-', _, rfl, Or.inl rfl⟩
    · exact ⟨d, ds ++ t, by rw [hd]; rfl, Or.inr hdig⟩
  obtain ⟨c, r, hc, hcd⟩ := hh
  rw [hc]
  constructor <;> (intro h; injection h with h _; subst h; revert hcd; decide)

theorem stripMinus_intToDec (v : Int) (t : List Char) :
    stripMinus (intToDec v ++ t) = (decide (v < 0), toDec v.natAbs ++ t) := by
  obtain ⟨d, ds, hd, hdig⟩ := toDec_eq_cons v.natAbs
  unfold intToDec
  split
  · next h => simp [stripMinus, h]
  · next h => simp [hd, stripMinus, h, isDigit_ne hdig (by decide : isDigit '-' = false)]

theorem dropSpaces_toDec (n : Nat) (t : List Char) : dropSpaces (toDec n ++ t) = toDec n ++ t := by
  obtain ⟨d, ds, hd, hdig⟩ := toDec_eq_cons n
  simp [hd, dropSpaces, isDigit_ne hdig (by decide : isDigit ' ' = false)]

theorem signed_natAbs (v : Int) :
    (if decide (v < 0) = true then -(v.natAbs : Int) else v.natAbs) = v := by
  split <;> simp at * <;> omega

theorem two_pow_half (w : Nat) : 0 < (2:Int)^(w-1) ∧
    (((2:Int)^w = 1 ∧ (2:Int)^(w-1) = 1) ∨ (2:Int)^w = 2 * (2:Int)^(w-1)) := by
  refine ⟨Int.pow_pos (by decide), ?_⟩
  cases w with
  | zero => left; simp
  | succ k => right; simp [Int.pow_succ]; omega

theorem inRange_iff (s : Sgn) (w : Nat) (v : Int) :
    inRange s w v = true ↔ (valueRange s w).1 ≤ v ∧ v < (valueRange s w).2 := by
  simp [inRange]

theorem normalizedValue_false (s : Sgn) (w : Nat) (v : Int) :
    normalizedValue s w v false =
      if inRange s w v = true then
        (if s ≠ .unsigned ∧ signedUB w ≤ v then some (v - unsignedUB w) else some v)
      else none := by
  by_cases h : inRange s w v = true <;> simp [normalizedValue, h]

/-- What `normalized_value` returns lies in the range of the type and, unless the type is unsigned,
below the signed upper bound: the upper half of a signless range has been shifted down by `2^w`
(for a signed type the range ends at the signed upper bound, so nothing is shifted). -/
theorem normalizedValue_spec {s : Sgn} {w : Nat} {v v' : Int}
    (h : normalizedValue s w v false = some v') :
    inRange s w v' = true ∧ (s ≠ .unsigned → v' < signedUB w) := by
  obtain ⟨hH, hP⟩ := two_pow_half w
  rw [normalizedValue_false] at h
  split at h
  · next hin =>
    rw [inRange_iff] at hin ⊢
    split at h <;> cases h
    · next hc =>
      obtain ⟨hs, hle⟩ := hc
      cases s with
      | unsigned => exact absurd rfl hs
      | signless | signed => simp only [valueRange, signedLB, signedUB, unsignedUB] at *; omega
    · next hc => exact ⟨hin, fun hs => Int.not_le.1 fun hle => hc ⟨hs, hle⟩⟩
  · cases h

/-- Such a value is a fixed point of `normalized_value`. -/
theorem normalizedValue_canonical {s : Sgn} {w : Nat} {v : Int} (hr : inRange s w v = true)
    (hlt : s ≠ .unsigned → v < signedUB w) : normalizedValue s w v false = some v := by
  rw [normalizedValue_false, if_pos hr, if_neg]
  exact fun ⟨hs, hle⟩ => Int.not_le.2 (hlt hs) hle

/-- `IntegerAttr.__init__` stores `normalized_value(v)`: the range check after normalising never
fails. -/
theorem intAttrCtor_int (s : Sgn) (w : Nat) (v : Int) :
    intAttrCtor (.int s w) v = normalizedValue s w v false := by
  cases hn : normalizedValue s w v false with
  | some v' => simp [intAttrCtor, hn, (normalizedValue_spec hn).1]
  | none =>
    have : inRange s w v = false := by
      rw [normalizedValue_false] at hn
      split at hn
      · split at hn <;> cases hn
      · next hin => exact Bool.eq_false_iff.2 hin
    simp [intAttrCtor, hn, this]

/-- `intAttrCtor ty v = some v` is how the lemmas below say that `v` is a stored value. -/
theorem intAttrCtor_idem {ty : IntTy} {v v' : Int} (h : intAttrCtor ty v = some v') :
    intAttrCtor ty v' = some v' := by
  cases ty with
  | index => rfl
  | int s w =>
    rw [intAttrCtor_int] at h ⊢
    exact normalizedValue_canonical (normalizedValue_spec h).1 (normalizedValue_spec h).2

theorem normalizedValue_i1 {v v' : Int} (h : normalizedValue .signless 1 v false = some v') :
    v' = -1 ∨ v' = 0 := by
  obtain ⟨hr, hlt⟩ := normalizedValue_spec h
  have hlt := hlt (by decide)
  rw [inRange_iff] at hr
  simp only [valueRange, signedLB, signedUB, unsignedUB] at hr hlt
  omega

theorem isI1_iff (ty : IntTy) : ty.isI1 = true ↔ ty = .int .signless 1 := by
  unfold IntTy.isI1
  split <;> simp_all

theorem isIdentChar_of_isDigit (c : Char) (h : isDigit c = true) : isIdentChar c = true := by
  simp [isIdentChar, h]

theorem parseIntTy_printIntTy (ty : IntTy) : parseIntTy (printIntTy ty) = some ty ∧
    (printIntTy ty).all isIdentChar = true ∧ dropSpaces (printIntTy ty) = printIntTy ty := by
  cases ty with
  | index => decide
  | int s w =>
    obtain ⟨hne, hd, hv⟩ := dec_toDec w
    have hall : (toDec w).all isDigit = true := List.all_eq_true.2 hd
    have hid : (toDec w).all isIdentChar = true :=
      List.all_eq_true.2 fun c hc => isIdentChar_of_isDigit c (hd c hc)
    have hemp : (toDec w).isEmpty = false := by simpa using hne
    -- `i<digits>` is not the word `index`
    have hidx : ¬ toDec w = ['n', 'd', 'e', 'x'] :=
      fun h' => absurd (hd 'n' (by simp [h'])) (by decide)
    cases s <;>
      exact ⟨by simp [parseIntTy, printIntTy, hidx, hemp, hall, hv],
        by simp [printIntTy, hid, isIdentChar], by simp [printIntTy, dropSpaces]⟩

theorem parseIntAttr_typed (ty : IntTy) (v : Int) (hc : intAttrCtor ty v = some v) :
    parseIntAttr (intToDec v ++ (" : ".toList ++ printIntTy ty)) = some (ty, v) := by
  obtain ⟨hty, hident, hdrop⟩ := parseIntTy_printIntTy ty
  obtain ⟨h1, h2⟩ := intToDec_append_ne_bool v (" : ".toList ++ printIntTy ty)
  have hlex := lexNumber_dec (dec_toDec v.natAbs) (" : ".toList ++ printIntTy ty)
    (by rintro c ⟨⟩; decide)
  unfold parseIntAttr
  rw [if_neg h1, if_neg h2]
  simp only [stripMinus_intToDec, dropSpaces_toDec, hlex, signed_natAbs]
  simp [dropSpaces, hdrop, hident, hty, hc]

theorem parseIntAttr_printIntAttr (ty : IntTy) (v : Int) (h : intAttrCtor ty v = some v) :
    parseIntAttr (printIntAttr ty v) = some (ty, v) := by
  by_cases hI : ty.isI1 = true
  · cases (isI1_iff ty).1 hI
    rw [intAttrCtor_int] at h
    rcases normalizedValue_i1 h with rfl | rfl <;> decide +kernel
  · simp only [Bool.not_eq_true] at hI
    simp only [printIntAttr, printInt, hI, Bool.false_eq_true, if_false]
    exact parseIntAttr_typed ty v h

theorem packNat_length (n u : Nat) : (packNat n u).length = n := by
  induction n generalizing u with
  | zero => rfl
  | succ k ih => simp [packNat, ih]

theorem unpackLEU_packNat (n u : Nat) : unpackLEU (packNat n u) = u % 256 ^ n := by
  induction n generalizing u with
  | zero => simp [packNat, unpackLEU, Nat.mod_one]
  | succ k ih =>
    simp only [packNat, unpackLEU, ih]
    have h : (UInt8.ofNat (u % 256)).toNat = u % 256 := by
      simp [UInt8.toNat_ofNat']
    rw [h, Nat.pow_succ, Nat.mul_comm (256 ^ k) 256, Nat.mod_mul]

theorem unpackLEU_lt (bs : List UInt8) : unpackLEU bs < 256 ^ bs.length := by
  induction bs with
  | nil => simp [unpackLEU]
  | cons b r ih =>
    simp only [unpackLEU, List.length_cons, Nat.pow_succ]
    have := b.toNat_lt
    omega

theorem packNat_unpackLEU (bs : List UInt8) : packNat bs.length (unpackLEU bs) = bs := by
  induction bs with
  | nil => rfl
  | cons b r ih =>
    simp only [List.length_cons, packNat, unpackLEU]
    have hb : b.toNat < 256 := b.toNat_lt
    rw [Nat.add_mul_mod_self_left, Nat.mod_eq_of_lt hb, Nat.add_mul_div_left _ _ (by decide),
      Nat.div_eq_of_lt hb, Nat.zero_add, ih, UInt8.ofNat_toNat]

theorem two_pow_8 (n : Nat) : (2:Nat) ^ (8 * n) = 256 ^ n := by
  rw [Nat.pow_mul]

theorem packLE_length (n : Nat) (v : Int) : (packLE n v).length = n :=
  packNat_length _ _

theorem signed_residue {M H v : Int} (hM : M = 2 * H) (lo : -H ≤ v) (hi : v < H) :
    (if H ≤ v % M then v % M - M else v % M) = v := by
  by_cases hv : 0 ≤ v
  · rw [Int.emod_eq_of_lt hv (by omega), if_neg (by omega)]
  · have : v % M = v + M := by
      rw [← Int.add_emod_right v M]; exact Int.emod_eq_of_lt (by omega) (by omega)
    rw [this, if_pos (by omega)]; omega

theorem unpackLEU_packLE (n : Nat) (v : Int) :
    ((unpackLEU (packLE n v) : Nat) : Int) = v.emod ((2:Int) ^ (8 * n)) := by
  have hM : ((256 ^ n : Nat) : Int) = (2:Int) ^ (8 * n) := by rw [← two_pow_8]; simp
  have hpos : (0:Int) < (2:Int) ^ (8 * n) := Int.pow_pos (by decide)
  have h0 : 0 ≤ v.emod ((2:Int) ^ (8 * n)) := Int.emod_nonneg v (Int.ne_of_gt hpos)
  have hlt : v.emod ((2:Int) ^ (8 * n)) < (2:Int) ^ (8 * n) := Int.emod_lt_of_pos v hpos
  unfold packLE
  rw [unpackLEU_packNat, Nat.mod_eq_of_lt (by omega), Int.toNat_of_nonneg h0]

theorem range_of_packInt?_isSome (signed : Bool) (n : Nat) (v : Int)
    (h : (packInt? signed n v).isSome = true) :
    (if signed = true then -((2:Int) ^ (8 * n - 1)) else 0) ≤ v ∧
      v < (if signed = true then (2:Int) ^ (8 * n - 1) else 2 ^ (8 * n)) := by
  cases signed <;> simpa [packInt?] using h

/-- `struct.unpack ∘ struct.pack` is the identity on the range of the format: the bytes denote
`v mod 2^(8n)`, which is `v` itself for an unsigned format; the signed reading is `signed_residue`. -/
theorem unpackLE_packLE (signed : Bool) (n : Nat) (v : Int) (hn : 0 < n)
    (h : (packInt? signed n v).isSome = true) : unpackLE signed (packLE n v) = v := by
  have hhalf : (2:Int) ^ (8 * n) = 2 * (2:Int) ^ (8 * n - 1) := by
    rw [← Int.pow_succ']; congr 1; omega
  have hr := range_of_packInt?_isSome signed n v h
  simp only [unpackLE, packLE_length, unpackLEU_packLE]
  cases signed with
  | false => exact Int.emod_eq_of_lt hr.1 hr.2
  | true =>
    simp only [Bool.true_and, hn, decide_true, Bool.and_true, decide_eq_true_eq]
    exact signed_residue hhalf hr.1 hr.2

/-- `[0-9]+ \. [0-9]* ([eE][+-]?[0-9]+)?` covering the whole text: what the lexer reads as exactly
one `FLOAT_LIT` -/
def isFloatLit (t : List Char) : Bool :=
  !(spanDigits t).1.isEmpty &&
    (match (spanDigits t).2 with
     | '.' :: r =>
       (spanDigits r).2.isEmpty ||
         (!(lexExponent (spanDigits r).2).1.isEmpty && (lexExponent (spanDigits r).2).2.isEmpty)
     | _ => false)

theorem lexSign_append (l : List Char) : (lexSign l).1 ++ (lexSign l).2 = l := by
  unfold lexSign
  split
  · split <;> simp
  · rfl

theorem lexExponent_append (l : List Char) : (lexExponent l).1 ++ (lexExponent l).2 = l := by
  unfold lexExponent
  split
  · rename_i e r
    split
    · split
      · rfl
      · have h1 := spanP_append isDigit (lexSign r).2
        have h2 := lexSign_append r
        simp only [spanDigits, List.cons_append, List.append_assoc, List.cons.injEq, true_and]
        rw [h1, h2]
    · rfl
  · rfl

theorem lexNumber_floatLit (t : List Char) (h : isFloatLit t = true) :
    lexNumber t = some (.float t, []) := by
  unfold isFloatLit at h
  have happ := spanP_append isDigit t
  have hall := spanP_fst_all isDigit t
  simp only [spanDigits] at h
  -- `t = ds ++ rest` with `ds` the leading digits
  generalize (spanP isDigit t).1 = ds at h happ hall
  generalize (spanP isDigit t).2 = rest at h happ
  subst happ
  simp only [Bool.and_eq_true, Bool.not_eq_true'] at h
  obtain ⟨hne, hrest⟩ := h
  cases ds with
  | nil => cases hne
  | cons d ds =>
    split at hrest
    case h_2 => cases hrest
    next r =>
    have hspan : spanP isDigit (d :: ds ++ '.' :: r) = (d :: ds, '.' :: r) :=
      spanP_all _ _ _ hall (by rintro c ⟨⟩; decide)
    have hhex : lexHex? (d :: (ds ++ '.' :: r)) = none :=
      lexHex?_eq_none _ _ (head?_digits_append_ne_x ds _ (fun c hc => hall c (by simp [hc]))
        (by simp))
    -- the exponent, if any, ends the text, so fraction and exponent together are all of `r`
    have he2 : (lexExponent (spanP isDigit r).2).2 = [] := by
      rcases Bool.or_eq_true_iff.1 hrest with h | h
      · rw [List.isEmpty_iff.1 h]; rfl
      · exact List.isEmpty_iff.1 (Bool.and_eq_true_iff.1 h).2
    have htxt : (spanP isDigit r).1 ++ (lexExponent (spanP isDigit r).2).1 = r := by
      have := lexExponent_append (spanP isDigit r).2
      rw [he2, List.append_nil] at this
      rw [this]; exact spanP_append isDigit r
    simp only [List.cons_append] at hspan
    simp only [lexNumber, List.cons_append, hall d (by simp), Bool.not_true, Bool.false_eq_true,
      if_false, hhex, lexDec, spanDigits, hspan, he2, htxt]

theorem hexOfBytesL_append (a b : List UInt8) : hexOfBytesL (a ++ b) = hexOfBytesL a ++ hexOfBytesL b := by
  induction a with
  | nil => rfl
  | cons x r ih => simp [hexOfBytesL, ih]

theorem hexOfBytesL_digits (bs : List UInt8) : ∀ c ∈ hexOfBytesL bs, isHexDigit c = true := by
  induction bs with
  | nil => simp [hexOfBytesL]
  | cons b r ih =>
    intro c hc
    simp only [hexOfBytesL, List.mem_cons] at hc
    rcases hc with rfl | rfl | hc
    · exact isHexDigit_hexL _ (nibble_lt b).1
    · exact isHexDigit_hexL _ (nibble_lt b).2
    · exact ih c hc

theorem ofDigits_hexOfBytesL_reverse (bs : List UInt8) :
    ofDigits 16 (hexOfBytesL bs.reverse) = unpackLEU bs := by
  induction bs with
  | nil => rfl
  | cons b r ih =>
    rw [List.reverse_cons, hexOfBytesL_append, ofDigits_append, ih]
    simp only [hexOfBytesL, List.foldl_cons, List.foldl_nil, hexVal?_hexL _ (nibble_lt b).1,
      hexVal?_hexL _ (nibble_lt b).2, Option.getD_some, unpackLEU]
    omega

theorem hexOfBytesL_ne_nil (bs : List UInt8) (h : bs ≠ []) : hexOfBytesL bs ≠ [] := by
  cases bs with
  | nil => exact absurd rfl h
  | cons b r => simp [hexOfBytesL]

theorem hex_hexOfBytesL (bs : List UInt8) (h : bs ≠ []) :
    Hex (hexOfBytesL bs.reverse) (unpackLEU bs) :=
  ⟨hexOfBytesL_ne_nil _ (by simpa using h), hexOfBytesL_digits _, ofDigits_hexOfBytesL_reverse _⟩

theorem toBytesLE?_unpackLEU (bs : List UInt8) : toBytesLE? bs.length (unpackLEU bs) = some bs := by
  unfold toBytesLE?
  have := unpackLEU_lt bs
  rw [two_pow_8]
  simp [this, packNat_unpackLEU]

theorem bytesOfHex_hexOfBytesU (bs : List UInt8) : bytesOfHex? (hexOfBytesU bs) = some bs := by
  induction bs with
  | nil => rfl
  | cons b r ih =>
    simp [hexOfBytesU, bytesOfHex?, hexVal?_hexU _ (nibble_lt b).1,
      hexVal?_hexU _ (nibble_lt b).2, ih, ofNat_nibbles b]

theorem parseDenseIntElem_dec (ty : IntTy) (v : Int)
    (hneg : v < 0 → ∀ w, ty ≠ .int .unsigned w) : parseDenseIntElem ty (intToDec v) = some v := by
  obtain ⟨h1, h2⟩ := intToDec_append_ne_bool v []
  have hlex := lexNumber_dec (dec_toDec v.natAbs) [] (by rintro c ⟨⟩)
  have hs := stripMinus_intToDec v []
  simp only [List.append_nil] at h1 h2 hlex hs
  unfold parseDenseIntElem
  rw [if_neg h1, if_neg h2]
  simp only [hs, hlex, signed_natAbs]
  -- a negative value is refused only for an unsigned type
  by_cases hv : v < 0
  · have := hneg hv
    cases ty with
    | index => simp
    | int s w => cases s <;> simp_all
  · simp [hv]

theorem stored_unsigned_nonneg {w : Nat} {v : Int} (h : intAttrCtor (.int .unsigned w) v = some v) :
    0 ≤ v := by
  rw [intAttrCtor_int] at h
  have := (normalizedValue_spec h).1
  simp only [inRange_iff, valueRange] at this
  exact this.1

/-- Not `= some v` before the constructor is applied: `true` is read back as `1`, which the
constructor normalises to the stored `-1` again. -/
theorem parseDenseIntElem_printInt (ty : IntTy) (v : Int) (h : intAttrCtor ty v = some v) :
    (parseDenseIntElem ty (printInt v ty.isI1)).bind (intAttrCtor ty) = some v := by
  by_cases hI : ty.isI1 = true
  · cases (isI1_iff ty).1 hI
    rw [intAttrCtor_int] at h
    rcases normalizedValue_i1 h with rfl | rfl <;> decide +kernel
  · simp only [Bool.not_eq_true] at hI
    simp only [hI, printInt, Bool.false_eq_true, if_false]
    rw [parseDenseIntElem_dec ty v fun hneg w heq => by
      subst heq; exact absurd (stored_unsigned_nonneg h) (Int.not_le.2 hneg)]
    exact h

/-- `from_list` on one element: normalise as `IntegerAttr.__init__` does, then `struct.pack`; so
what is known of stored values carries over to dense elements, uniformly in the element type. -/
theorem denseElemBytes?_eq (ty : IntTy) (v : Int) :
    denseElemBytes? ty v =
      (intAttrCtor ty v).bind fun v' => ty.size?.bind fun n => packInt? ty.signedFmt n v' := by
  cases ty with
  | index => rfl
  | int s w =>
    rw [intAttrCtor_int]
    simp only [denseElemBytes?, IntTy.size?, IntTy.signedFmt]
    cases normalizedValue s w v false <;> cases fmtSize w <;> rfl

/-- one rung of an `if … then some a else …` ladder -/
theorem ite_some_elim {α : Type} {P : α → Prop} {c : Prop} [Decidable c] {a : α} {o : Option α}
    (ha : P a) (ho : ∀ n, o = some n → P n) : ∀ n, (if c then some a else o) = some n → P n := by
  intro n h
  split at h
  · cases h; exact ha
  · exact ho n h

theorem fmtSize_pos (w n : Nat) (h : fmtSize w = some n) : 0 < n :=
  ite_some_elim (P := (0 < ·)) (by decide) (ite_some_elim (by decide) (ite_some_elim (by decide)
    (ite_some_elim (by decide) (ite_some_elim (by decide) (fun _ h => by cases h))))) n h

theorem size?_pos (ty : IntTy) (n : Nat) (h : ty.size? = some n) : 0 < n := by
  cases ty with
  | index => cases h; decide
  | int s w => exact fmtSize_pos w n h

theorem packInt?_some {signed : Bool} {n : Nat} {v : Int} {c : List UInt8}
    (h : packInt? signed n v = some c) : c = packLE n v := by
  unfold packInt? at h
  cases signed <;> simp at h <;> exact h.2.symm

theorem mapM?_eq_some_iff {α β : Type} (f : α → Option β) (vs : List α) (cs : List β) :
    mapM? f vs = some cs ↔ vs.map f = cs.map some := by
  induction vs generalizing cs with
  | nil => cases cs <;> simp [mapM?]
  | cons v vs ih =>
    show ((f v).bind fun b => (mapM? f vs).bind fun bs => some (b :: bs)) = some cs ↔ _
    constructor
    · intro h
      obtain ⟨b, hb, h⟩ := Option.bind_eq_some_iff.1 h
      obtain ⟨bs, hbs, h⟩ := Option.bind_eq_some_iff.1 h
      cases h
      rw [List.map_cons, hb, (ih bs).1 hbs]; rfl
    · intro h
      cases cs with
      | nil => cases h
      | cons c cs =>
        injection h with h1 h2
        rw [h1, (ih cs).2 h2]; rfl

theorem flatten_length_const {cs : List (List UInt8)} {n : Nat} (h : ∀ c ∈ cs, c.length = n) :
    cs.flatten.length = n * cs.length := by
  induction cs with
  | nil => simp
  | cons c cs ih =>
    have h1 := h c (by simp)
    have h2 := ih (fun c' hc' => h c' (by simp [hc']))
    simp [h1, h2, Nat.mul_succ]; omega

theorem unpackList_flatten (sf : Bool) (n : Nat) (hn : 0 < n) (cs : List (List UInt8))
    (h : ∀ c ∈ cs, c.length = n) (fuel : Nat) (hf : cs.length ≤ fuel) :
    unpackList sf n fuel cs.flatten = cs.map (unpackLE sf) := by
  induction cs generalizing fuel with
  | nil =>
    cases fuel with
    | zero => rfl
    | succ k => simp [unpackList]
  | cons c cs ih =>
    cases fuel with
    | zero => simp at hf
    | succ k =>
      have h1 := h c (by simp)
      have hne : (c ++ cs.flatten).isEmpty = false := by
        cases c with
        | nil => simp at h1; omega
        | cons _ _ => rfl
      have hn0 : ¬ (n = 0) := by omega
      simp only [List.flatten_cons, unpackList, hne, hn0, decide_false, Bool.or_self,
        Bool.false_eq_true, if_false, List.map_cons]
      rw [← h1, List.take_left, List.drop_left, h1]
      rw [ih (fun c' hc' => h c' (by simp [hc'])) k (by simp at hf; omega)]

/-- `dense_roundtrip` with the chunks as variables: only their size and the round trip of each
through its text are used, not that `from_list` made them. -/
theorem dense_chunks_roundtrip (ty : IntTy) (n : Nat) (hn : ty.size? = some n)
    (cs : List (List UInt8)) (hlen : ∀ c ∈ cs, c.length = n)
    (helem : ∀ c ∈ cs, (parseDenseIntElem ty (printInt (unpackLE ty.signedFmt c) ty.isI1)).bind
      (denseElemBytes? ty) = some c) :
    parseDenseInt ty cs.length (printDenseInt ty cs.flatten) = some cs.flatten := by
  have hnpos := size?_pos ty n hn
  have hflen := flatten_length_const hlen
  have hdiv : cs.flatten.length / n = cs.length := by
    rw [hflen]; exact Nat.mul_div_cancel_left _ hnpos
  have hvals := unpackList_flatten ty.signedFmt n hnpos cs hlen cs.length (Nat.le_refl _)
  unfold printDenseInt
  simp only [hn, hdiv, hvals]
  cases cs with
  | nil => simp [parseDenseInt, hn]
  | cons c0 cs' =>
    have h0 : (c0 :: cs').length ≠ 0 := by simp
    simp only [h0, if_false]
    split
    · -- splat: the payload is `length` copies of the first chunk
      next hsp =>
      have htake : (c0 :: cs').flatten.take n = c0 := by
        rw [List.flatten_cons, ← hlen c0 (by simp), List.take_left]
      rw [isSplat, decide_eq_true_eq, hdiv, htake] at hsp
      simp only [parseDenseInt, hn, List.map_cons, List.headD_cons]
      obtain ⟨v, hv, hb⟩ := Option.bind_eq_some_iff.1 (helem c0 (by simp))
      simp only [hv, Option.bind_some, hb, Option.map_some, ← hsp]
    · split
      · -- hexadecimal string: more than one element, so the bytes are not replicated
        next hbig =>
        have hne : ¬ ((c0 :: cs').flatten.length = n) := by
          rw [hflen]; intro he
          have : n * (c0 :: cs').length ≥ n * 101 := Nat.mul_le_mul_left n hbig
          omega
        simp only [parseDenseInt, hn, bytesOfHex_hexOfBytesU, if_neg hne, hdiv, if_true]
      · -- element list
        simp only [parseDenseInt, hn, List.length_map, ne_eq, not_true_eq_false, if_false,
          List.map_map, Function.comp_def]
        rw [(mapM?_eq_some_iff _ _ _).2 (by rw [List.map_map]; exact List.map_congr_left helem)]; rfl

def FloatOracle.finite (O : FloatOracle) (x : O.F) : Prop := O.isNan x = false ∧ O.isInf x = false

/-- the body of a printed float after an optional leading `-` is one `FLOAT_LIT` -/
def floatLitText (s : List Char) : Prop := isFloatLit (stripMinus s).2 = true

/-- The laws of CPython (`'%.5e'`, `'%.9g'`, `'%.17g'`, `repr`, `float()`), `struct` and the xDSL
`pack`/`unpack` that `float_tree_roundtrip` assumes; each is sampled against the running
interpreter by the check. -/
structure Lawful (O : FloatOracle) : Prop where
  size_pos : ∀ ty, 0 < O.size ty
  pack_length : ∀ ty x, (O.pack ty x).length = O.size ty
  /-- `float("-" + t) = -float(t)` -/
  parse_neg : ∀ t, O.parse ('-' :: t) = O.neg (O.parse t)
  /-- `'%.5e'` has the form `-?d.ddddde±dd`: with the inserted `0` it is one float literal -/
  fmt5e_shape : ∀ x, O.finite x → floatLitText (ins0 (O.fmt5e x))
  /-- `==` on the re-read 6-digit form implies bit identity (sign of zero is kept by format/parse) -/
  fmt5e_exact : ∀ ty x, O.finite x →
    O.pyEq (O.round ty (O.parse (ins0 (O.fmt5e x)))) x = true →
    O.round ty (O.parse (ins0 (O.fmt5e x))) = x
  fmt9g_shape : ∀ x, O.finite x → (O.fmt9g x).contains '.' = true → floatLitText (O.fmt9g x)
  fmt9g_roundtrip : ∀ x, O.finite x → O.round .f32 x = x → O.round .f32 (O.parse (O.fmt9g x)) = x
  fmt17g_shape : ∀ x, O.finite x → (O.fmt17g x).contains '.' = true → floatLitText (O.fmt17g x)
  fmt17g_roundtrip : ∀ x, O.finite x → O.round .f64 x = x → O.round .f64 (O.parse (O.fmt17g x)) = x
  /-- `repr` is the shortest round-tripping form; when the 6-digit form is not exact it has a `.` -/
  repr_shape : ∀ ty x, O.finite x → O.round ty x = x →
    O.pyEq (O.round ty (O.parse (ins0 (O.fmt5e x)))) x = false → floatLitText (O.repr x)
  repr_roundtrip : ∀ ty x, O.finite x → O.round ty x = x → O.round ty (O.parse (O.repr x)) = x

theorem stripMinus_cases (s : List Char) :
    (∃ t, s = '-' :: t ∧ stripMinus s = (true, t)) ∨ stripMinus s = (false, s) := by
  unfold stripMinus
  split
  · rename_i r; exact Or.inl ⟨r, rfl, rfl⟩
  · exact Or.inr rfl

/-- negating what follows the `-` token is `float()` of the whole text -/
theorem parse_stripMinus (O : FloatOracle) (hO : Lawful O) (s : List Char) :
    (if (stripMinus s).1 = true then O.neg (O.parse (stripMinus s).2) else O.parse (stripMinus s).2)
      = O.parse s := by
  rcases stripMinus_cases s with ⟨t, rfl, hs⟩ | hs <;> simp [hs, hO.parse_neg]

theorem parseFloatLit_text (O : FloatOracle) (hO : Lawful O) (ty : FTy) (s : List Char)
    (h : floatLitText s) : parseFloatLit O ty s = some (O.round ty (O.parse s)) := by
  unfold parseFloatLit
  rw [lexNumber_floatLit _ h]
  simp only [parse_stripMinus O hO]

theorem stripMinus_zero (t : List Char) : stripMinus ('0' :: t) = (false, '0' :: t) := rfl

theorem parseFloatLit_hex (O : FloatOracle) (ty : FTy) (hs : List Char) (bs : List UInt8)
    (h : Hex hs (unpackLEU bs)) (hlen : bs.length = O.size ty) :
    parseFloatLit O ty ('0' :: 'x' :: hs) = some (O.round ty (O.unpack ty bs)) := by
  unfold parseFloatLit
  simp only [stripMinus_zero, lexNumber_hex h, ← hlen, toBytesLE?_unpackLEU, Bool.not_false,
    Bool.and_true, if_true, Option.map_some]

/-- The laws of CPython and `struct` that `floatdata_roundtrip` assumes in addition to
`Lawful.parse_neg`/`pack_length` (sampled against the running interpreter by the check):
a binary64 is 8 bytes, `struct.unpack("<d", struct.pack("<d", x))` is bit-identical to `x`
(NaN payloads and signs included), and `repr` of a finite float — with `.0` spliced in before the
exponent when it has no `.` — is one float literal that `float()` reads back bit-identically. -/
structure LawfulData (O : FloatOracle) : Prop where
  size_f64 : O.size .f64 = 8
  bits_roundtrip : ∀ x, O.unpack .f64 (O.pack .f64 x) = x
  fd_shape : ∀ x, O.finite x → floatLitText (fdText (O.repr x))
  fd_exact : ∀ x, O.finite x → O.parse (fdText (O.repr x)) = x

theorem parseFloatData_text (O : FloatOracle) (hO : Lawful O) (s : List Char)
    (h : floatLitText s) : parseFloatData O s = some (O.parse s) := by
  unfold parseFloatData
  rw [lexNumber_floatLit _ h]
  simp only [parse_stripMinus O hO]

theorem parseFloatData_hex (O : FloatOracle) (hs : List Char) (bs : List UInt8)
    (h : Hex hs (unpackLEU bs)) (hlen : bs.length = 8) :
    parseFloatData O ('0' :: 'x' :: hs) = some (O.unpack .f64 bs) := by
  unfold parseFloatData
  simp only [stripMinus_zero, lexNumber_hex h, ← hlen, toBytesLE?_unpackLEU, Bool.not_false,
    Bool.and_true, if_true, Option.map_some]

end Xdsl.Literals
