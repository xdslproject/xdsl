import XdslModel.Sem
/-!
# What `Sem.intBin`, `Sem.cmpi` and `Sem.pureOp` compute, per operation name

Unfolding lemmas, so that other proofs can name the `BitVec` operation the reference semantics
executes for an `arith` operation without unfolding `intBin`.
No Mathlib.

Every `intBin` equation below holds by `rfl`.  It is proved by `unfold intBin; simp only []` because a
term-mode `rfl` makes the elaborator evaluate the string comparisons of the `match` by `isDefEq`,
twice, which is several times slower than `simp`'s reduction of a `match` on literals.
-/
namespace Xdsl.SemMeta
open Xdsl.Sem Xdsl.MiniIR

/-- the `let sdivUB` of `Sem.intBin`: the undefined-behaviour condition that the signed division-like
operations share -/
def sdivUB {w : Nat} (a b : BitVec w) : Bool := b == 0#w || (a == BitVec.intMin w && b == BitVec.allOnes w)

/-- the right side is spelt as the hypotheses of `BitVec.toInt_sdiv_of_ne_or_ne` and of
`C15.run_divsi_spec` are: `-1#w`, not `allOnes` -/
theorem sdivUB_eq_false_iff {w : Nat} {a b : BitVec w} :
    sdivUB a b = false ↔ b ≠ 0#w ∧ (a ≠ BitVec.intMin w ∨ b ≠ -1#w) := by
  rw [BitVec.neg_one_eq_allOnes]
  simp only [sdivUB, Bool.or_eq_false_iff, Bool.and_eq_false_iff, beq_eq_false_iff_ne, ne_eq]

section
variable {w : Nat} (a b : BitVec w)
theorem intBin_addi : intBin "arith.addi" a b = .val (a + b) := by unfold intBin; simp only []
theorem intBin_subi : intBin "arith.subi" a b = .val (a - b) := by unfold intBin; simp only []
theorem intBin_muli : intBin "arith.muli" a b = .val (a * b) := by unfold intBin; simp only []
theorem intBin_andi : intBin "arith.andi" a b = .val (a &&& b) := by unfold intBin; simp only []
theorem intBin_ori : intBin "arith.ori" a b = .val (a ||| b) := by unfold intBin; simp only []
theorem intBin_xori : intBin "arith.xori" a b = .val (a ^^^ b) := by unfold intBin; simp only []
theorem intBin_shli : intBin "arith.shli" a b = if b.toNat ≥ w then .ub else .val (a <<< b.toNat) := by
  unfold intBin; simp only []
theorem intBin_shrui : intBin "arith.shrui" a b = if b.toNat ≥ w then .ub else .val (a >>> b.toNat) := by
  unfold intBin; simp only []
theorem intBin_shrsi :
    intBin "arith.shrsi" a b = if b.toNat ≥ w then .ub else .val (a.sshiftRight b.toNat) := by
  unfold intBin; simp only []
theorem intBin_divui : intBin "arith.divui" a b = if b == 0#w then .ub else .val (a / b) := by
  unfold intBin; simp only []
theorem intBin_remui : intBin "arith.remui" a b = if b == 0#w then .ub else .val (a % b) := by
  unfold intBin; simp only []
theorem intBin_divsi : intBin "arith.divsi" a b = if sdivUB a b then .ub else .val (a.sdiv b) := by
  unfold intBin sdivUB; simp only []
theorem intBin_remsi : intBin "arith.remsi" a b = if sdivUB a b then .ub else .val (a.srem b) := by
  unfold intBin sdivUB; simp only []
theorem intBin_floordivsi :
    intBin "arith.floordivsi" a b
      = if sdivUB a b then .ub else .val (BitVec.ofInt w (Int.fdiv a.toInt b.toInt)) := by
  unfold intBin sdivUB; simp only []
theorem intBin_ceildivsi :
    intBin "arith.ceildivsi" a b
      = if sdivUB a b then .ub else .val (BitVec.ofInt w (-(Int.fdiv (-a.toInt) b.toInt))) := by
  unfold intBin sdivUB; simp only []
theorem intBin_ceildivui :
    intBin "arith.ceildivui" a b
      = if b == 0#w then .ub else .val (BitVec.ofNat w ((a.toNat + b.toNat - 1) / b.toNat)) := by
  unfold intBin; simp only []
theorem intBin_minsi : intBin "arith.minsi" a b = .val (if a.slt b then a else b) := by
  unfold intBin; simp only []
theorem intBin_maxsi : intBin "arith.maxsi" a b = .val (if a.slt b then b else a) := by
  unfold intBin; simp only []
theorem intBin_minui : intBin "arith.minui" a b = .val (if a.ult b then a else b) := by
  unfold intBin; simp only []
theorem intBin_maxui : intBin "arith.maxui" a b = .val (if a.ult b then b else a) := by
  unfold intBin; simp only []

theorem cmpi_eq : cmpi 0 a b = some (a == b) := rfl
theorem cmpi_ne : cmpi 1 a b = some (a != b) := rfl
theorem cmpi_slt : cmpi 2 a b = some (a.slt b) := rfl
theorem cmpi_sle : cmpi 3 a b = some (a.sle b) := rfl
theorem cmpi_sgt : cmpi 4 a b = some (b.slt a) := rfl
theorem cmpi_sge : cmpi 5 a b = some (b.sle a) := rfl
theorem cmpi_ult : cmpi 6 a b = some (a.ult b) := rfl
theorem cmpi_ule : cmpi 7 a b = some (a.ule b) := rfl
theorem cmpi_ugt : cmpi 8 a b = some (b.ult a) := rfl
theorem cmpi_uge : cmpi 9 a b = some (b.ule a) := rfl
end

theorem pureOp_int_bin (o : Op) {w : Nat} (a b : BitVec w) (h : o.name ≠ "arith.cmpi") :
    pureOp o [.int w a, .int w b] =
      match intBin o.name a b with
      | .val v => .ok [.int w v]
      | .ub => .ub o.name
      | .unknown => .err s!"unsupported op {o.name}" := by
  unfold pureOp
  -- `simp` selects the arm `_, [.int w a, .int w' b]`: the arguments rule out every other arm but
  -- `arith.cmpi`, and that one is excluded by `h` (taken from the context)
  simp only [↓reduceDIte]
  cases intBin o.name a b <;> rfl

theorem pureOp_of_intBin_val (o : Op) {w : Nat} (a b v : BitVec w) (h : o.name ≠ "arith.cmpi")
    (hv : intBin o.name a b = .val v) : pureOp o [.int w a, .int w b] = .ok [.int w v] := by
  rw [pureOp_int_bin o a b h, hv]

theorem pureOp_of_intBin_ub (o : Op) {w : Nat} (a b : BitVec w) (h : o.name ≠ "arith.cmpi")
    (hv : intBin o.name a b = .ub) : pureOp o [.int w a, .int w b] = .ub o.name := by
  rw [pureOp_int_bin o a b h, hv]

theorem pureOp_cmpi (o : Op) {w : Nat} (a b : BitVec w) (p : Int) (t : Ty) (h : o.name = "arith.cmpi")
    (hp : o.attr? "predicate" = some (.int p t)) :
    pureOp o [.int w a, .int w b] =
      match cmpi p a b with
      | some r => .ok [.int 1 (if r then 1#1 else 0#1)]
      | none => .err "cmpi predicate" := by
  unfold pureOp
  simp only [h, ↓reduceDIte, hp]
  cases cmpi p a b <;> rfl

end Xdsl.SemMeta
