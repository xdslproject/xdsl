import XdslProofs.Lemmas.RiscVNorm
import XdslProofs.Lemmas.SemInt
/-!
The symbolic executor of `XdslModel/RiscVValidate.lean` abstracts the RV32 machine (`symExec_sound`),
and the source trees denote the source values (`srcTerms_sound`).  Core Lean only.
-/
namespace Xdsl.RiscV.TV

theorem srcBin_val {op : BinOp} {a b v : W} (h : srcBin op a b = some v) :
    Sem.intBin op.name a b = .val v := by
  unfold srcBin at h
  split at h
  · cases h; assumption
  · cases h

/-- where MLIR defines a signed division, the instruction takes neither of its special branches -/
theorem not_sdivUB {a b : W} (h : ¬SemMeta.sdivUB a b = true) :
    ¬b = 0#32 ∧ ¬(a = intMin ∧ b = BitVec.allOnes 32) ∧ (a ≠ BitVec.intMin 32 ∨ b ≠ -1#32) := by
  obtain ⟨h0, hne⟩ := SemMeta.sdivUB_eq_false_iff.mp (Bool.eq_false_iff.mpr h)
  exact ⟨h0, fun ⟨ha, hb⟩ => hne.elim (· ha) (· hb), hne⟩

open Xdsl.SemMeta in
theorem srcBin_rop (op : BinOp) (a b v : W) (h : srcBin op a b = some v) : v = aluR op.rop a b := by
  have h := srcBin_val h
  cases op <;> simp only [BinOp.name, BinOp.rop, aluR, intBin_addi, intBin_subi, intBin_muli, intBin_andi,
    intBin_ori, intBin_xori, intBin_shli, intBin_shrsi, intBin_shrui, intBin_divui, intBin_remui,
    intBin_divsi, intBin_remsi] at h ⊢
  case addi | subi | muli | andi | ori | xori => cases h; rfl
  case shli | shrsi | shrui =>
    -- MLIR defines the shift only below the width, where the instruction's `% 32` is the identity
    split at h
    · cases h
    · next hb => cases h; rw [Nat.mod_eq_of_lt (by omega)]
  case divui | remui =>
    split at h
    · cases h
    · next hb => cases h; simp at hb; simp [hb]
  case divsi =>
    split at h
    · cases h
    · next hb =>
      cases h
      obtain ⟨hb0, hov, hne⟩ := not_sdivUB hb
      rw [if_neg hb0, if_neg hov, ← BitVec.toInt_sdiv_of_ne_or_ne _ _ hne, BitVec.ofInt_toInt]
  case remsi =>
    split at h
    · cases h
    · next hb =>
      cases h
      obtain ⟨hb0, hov, _⟩ := not_sdivUB hb
      rw [if_neg hb0, if_neg hov, ← BitVec.toInt_srem, BitVec.ofInt_toInt]

theorem cmpiTerm_ok (base : Nat → W) (p : Nat) (x y t : T) (v : W) (ht : cmpiTerm p x y = some t)
    (hv : srcCmpi p (den base x) (den base y) = some v) : v = den base t := by
  unfold cmpiTerm at ht
  simp only [srcCmpi, Sem.cmpi] at hv
  split at ht <;> cases ht <;> simp at hv <;> subst hv <;> simp only [den, aluR]
  · exact (cmp_eq _ _).symm
  · have := cmp_ne (den base x) (den base y); simpa [imm32] using this.symm
  · rw [not_b2w, BitVec.sle_eq_not_slt]
  · rw [not_b2w, BitVec.sle_eq_not_slt]
  · rw [not_b2w, BitVec.ule_eq_not_ult]
  · rw [not_b2w, BitVec.ule_eq_not_ult]

theorem srcTerms_sound (base : Nat → W) (ops : List SrcOp) (ts ts' : List T) (vs : List W)
    (h1 : srcTerms ops ts = some ts') (h2 : evalOps ops (ts.map (den base)) = some vs) :
    vs = ts'.map (den base) := by
  fun_induction srcTerms ops ts with
  | case1 => cases h1; exact (Option.some.inj h2).symm
  | case2 c r ts ih => exact ih h1 (by simpa [evalOps, den] using h2)
  | case3 op a b r ts x y hy hx ih =>
    simp only [evalOps, List.getElem?_map, hx, hy, Option.map] at h2
    split at h2
    · next v hv => exact ih h1 (by simpa [den, srcBin_rop op _ _ _ hv] using h2)
    · cases h2
  | case5 p a b r ts x y hy hx t ht ih =>
    simp only [evalOps, List.getElem?_map, hx, hy, Option.map] at h2
    split at h2
    · next v hv => exact ih h1 (by simpa [cmpiTerm_ok base p x y t v ht hv] using h2)
    · cases h2
  | case4 | case6 | case7 => cases h1

theorem store_get (s : St) (a v : W) (r : Reg) : (s.store a v).get r = s.get r := rfl

def baseOf (σ0 : St) : Nat → W := fun i => σ0.get i

/-- the abstraction relation between machine state and symbolic state -/
structure Inv (σ0 σ : St) (S : Sym) : Prop where
  reg : ∀ r, 0 < r → r < 32 → σ.get r = den (baseOf σ0) (S.reg r)
  stk : ∀ k t, 0 ≤ k → k < M32 → S.stk k = some t → σ.mem (σ0.get SP + imm32 k) = den (baseOf σ0) t

theorem Inv_init (σ0 : St) : Inv σ0 σ0 symInit :=
  ⟨fun _ _ _ => rfl, fun _ _ _ _ h => by simp [symInit] at h⟩

theorem Inv.get {σ0 σ : St} {S : Sym} (I : Inv σ0 σ S) {r : Reg} {t : T} (h : S.get r = some t) :
    σ.get r = den (baseOf σ0) t := by
  unfold Sym.get at h
  by_cases h0 : r = 0
  · simp only [h0, if_true] at h; cases h; subst h0; simp [den, imm32]
  · by_cases h1 : r < 32
    · simp only [h0, h1, if_true, if_false] at h; cases h
      exact I.reg r (Nat.pos_of_ne_zero h0) h1
    · simp [h0, h1] at h

theorem Inv.set {σ0 σ : St} {S S' : Sym} (I : Inv σ0 σ S) {rd : Reg} {t : T} {v : W}
    (h : S.set rd t = some S') (hv : v = den (baseOf σ0) t) : Inv σ0 (σ.set rd v) S' := by
  unfold Sym.set at h
  by_cases h0 : rd = 0
  · simp only [h0, if_true] at h; cases h; subst h0; simpa using I
  · by_cases h1 : rd < 32
    · simp only [h0, h1, if_true, if_false] at h; cases h
      refine ⟨?_, ?_⟩
      · intro r hr0 hr
        by_cases e : r = rd
        · subst e; simp only [if_true]; rw [get_set_same _ _ _ h0, hv]
        · simp only [e, if_false]; rw [get_set_ne _ _ _ _ e]; exact I.reg r hr0 hr
      · intro k t' hk0 hk hs
        rw [set_mem]; exact I.stk k t' hk0 hk hs
    · simp [h0, h1] at h

theorem spOff_den (σ0 : St) : ∀ (t : T) (k : Int), spOff t = some k →
    den (baseOf σ0) t = σ0.get SP + imm32 k := by
  intro t
  induction t with
  | var i =>
    intro k h
    simp only [spOff] at h
    split at h
    · next e => cases h; subst e; simp [den, baseOf, imm32]
    · cases h
  | const c => intro k h; simp [spOff] at h
  | bin op a b iha _ =>
    intro k h
    cases op <;> try (simp [spOff] at h; done)
    cases b <;> try (simp [spOff] at h; done)
    rename_i c
    simp only [spOff, Option.map_eq_some_iff] at h
    obtain ⟨k', hk', rfl⟩ := h
    simp only [den, aluR, iha k' hk', imm32_add, BitVec.add_assoc]

theorem key_range (x : Int) : 0 ≤ x % M32 ∧ x % M32 < M32 :=
  ⟨Int.emod_nonneg _ (by decide), Int.emod_lt_of_pos _ (by decide)⟩

/-- a base register that symbolically holds `entry sp + k` addresses, with offset `off`, the spill
slot with key `(k + off) % 2^32`; the access is aligned when the key is -/
theorem Inv.slot {σ0 σ : St} {S : Sym} (I : Inv σ0 σ S) {base : Reg} {k : Int} (off : Int)
    (hk : (S.get base).bind spOff = some k) (hal : aligned (σ0.get SP) = true) :
    σ.get base + imm32 off = σ0.get SP + imm32 ((k + off) % M32) ∧
      ((k + off) % M32 % 4 = 0 → aligned (σ.get base + imm32 off) = true) := by
  obtain ⟨tb, htb, hsp⟩ := Option.bind_eq_some_iff.mp hk
  have haddr : σ.get base + imm32 off = σ0.get SP + imm32 ((k + off) % M32) := by
    have e : imm32 ((k + off) % M32) = imm32 (k + off) := imm32_emod _
    rw [I.get htb, spOff_den σ0 tb k hsp, e, imm32_add, BitVec.add_assoc]
  exact ⟨haddr, fun hk4 => haddr ▸ aligned_add hal (aligned_imm32 hk4)⟩

theorem aluI_eq_aluR (op : IOp) (a : W) (imm : Int) : aluI op a imm = aluR (iopROp op) a (imm32 imm) := by
  cases op <;> rfl

theorem aluS_eq_aluR (op : SOp) (o : ROp) (a : W) (n : Nat) (ho : sopROp op = some o) (hn : n < 32) :
    aluS op a n = aluR o a (imm32 (n : Int)) := by
  have hm : (imm32 (n : Int)).toNat % 32 = n := by
    have := toNat_imm32 n
    omega
  cases op <;> simp [sopROp] at ho <;> subst ho <;> simp only [aluS, aluR, hm]

theorem symStep_sound {σ0 σ : St} {S S' : Sym} (i : Instr) (I : Inv σ0 σ S)
    (hal : aligned (σ0.get SP) = true) (h : symStep i S = some S') :
    ∃ σ', exec1 i σ = some σ' ∧ Inv σ0 σ' S' := by
  revert h
  -- the branches of `symStep` in the order of its definition; those not named below return `none`
  fun_cases symStep i S <;> intro h
  case case1 op rd a b x y hy hx => exact ⟨_, rfl, I.set h (by simp only [den, I.get hx, I.get hy])⟩
  case case3 op rd a imm x hx => exact ⟨_, rfl, I.set h (by simp only [den, I.get hx, aluI_eq_aluR])⟩
  case case5 op rd a n x o ho hx hn =>
    exact ⟨_, rfl, I.set h (by simp only [den, I.get hx, aluS_eq_aluR op o _ n ho hn])⟩
  case case8 rd imm => exact ⟨_, rfl, I.set h rfl⟩
  case case9 rd a x hx => exact ⟨_, rfl, I.set h (I.get hx)⟩
  case case11 rd base off k hk key hk4 t ht =>
    obtain ⟨haddr, hA⟩ := I.slot off hk hal
    obtain ⟨hr0, hr1⟩ := key_range (k + off)
    refine ⟨σ.set rd (σ.mem (σ.get base + imm32 off)), by simp only [exec1, hA hk4, if_true], I.set h ?_⟩
    rw [haddr]; exact I.stk _ t hr0 hr1 ht
  case case15 v base off k x hx hk key hk4 =>
    cases h
    obtain ⟨haddr, hA⟩ := I.slot off hk hal
    obtain ⟨hr0, hr1⟩ := key_range (k + off)
    refine ⟨σ.store (σ.get base + imm32 off) (σ.get v), by simp only [exec1, hA hk4, if_true], ?_, ?_⟩
    · intro r hr0' hr; rw [store_get]; exact I.reg r hr0' hr
    · intro j t hj0 hj1 hs
      simp only [St.store, haddr]
      by_cases e : j = (k + off) % M32
      · subst e
        simp only [key, if_true] at hs ⊢
        cases hs; exact I.get hx
      · simp only [key, e, if_false] at hs
        have hne : σ0.get SP + imm32 j ≠ σ0.get SP + imm32 ((k + off) % M32) :=
          fun hh => e (add_imm32_inj _ hj0 hj1 hr0 hr1 hh)
        simp only [hne, if_false]
        exact I.stk j t hj0 hj1 hs
  case case18 => cases h; exact ⟨_, rfl, I⟩
  all_goals cases h

theorem symExec_sound (is : List Instr) : ∀ {σ0 σ : St} {S S' : Sym}, Inv σ0 σ S →
    aligned (σ0.get SP) = true → symExec is S = some S' →
    ∃ σ', exec is σ = some σ' ∧ Inv σ0 σ' S' := by
  induction is with
  | nil => intro σ0 σ S S' I _ h; simp [symExec] at h; subst h; exact ⟨σ, rfl, I⟩
  | cons i r ih =>
    intro σ0 σ S S' I hal h
    simp only [symExec] at h
    obtain ⟨S1, h1, h2⟩ := Option.bind_eq_some_iff.mp h
    obtain ⟨σ1, e1, I1⟩ := symStep_sound i I hal h1
    obtain ⟨σ', e2, I2⟩ := ih I1 hal h2
    exact ⟨σ', by simp only [exec, e1, Option.bind, e2], I2⟩

end Xdsl.RiscV.TV
