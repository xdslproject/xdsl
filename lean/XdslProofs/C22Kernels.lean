import XdslProofs.Lemmas.RiscvKernels
import XdslModel.Generated.RiscvPyOps
/-!
# C22 — the constant-fold kernels of the RISC-V dialect, as translated from the source

"RISC-V canonicalization alone never changes results": `ShiftConstantFolding` replaces an
immediate-shift / single-bit instruction whose operand is a known constant by `li rd, k` with
`k = op.py_operation(constant)`; `ElideConstantBranches` decides a branch by `const_evaluate`;
`_fits_si12` / `_folded_li_immediate` guard every immediate and every folded `li` the integer patterns
emit.  Every definition `Xdsl.Generated.RiscvPyOps.*` is *regenerated from the Python source on every
check run* (`xdsl/dialects/rv32.py`, `rv64.py`, `riscv_cf.py`, `canonicalization_patterns/riscv.py`);
the theorems below are re-checked against what the source says now.

* `rs1` is the payload of the constant (`IntegerAttr[i32]`/`[i64]`: the signed range `InS`), `n` the
  immediate (`ui5`/`ui6`: `n < XLEN`).
* A kernel returns `Option Int`: `none` = the `IntegerAttr` constructor raises (value out of range).
  Each theorem says the kernel does **not** raise and returns the two's-complement reading of exactly
  the register the instruction computes (`aluS` of the RV32 machine model; `aluSW` at 64 bits).  What
  each single class needs of these hypotheses is in its `*_body` lemma (`Lemmas/RiscvKernels.lean`).
* `pyShift_eq_kernel` ties the hand-written fold of `XdslModel/RiscVRules.lean` (the one
  `shiftConstantFolding_sound` is about) to the translated kernels.
-/
namespace Xdsl.C22K
open Xdsl Xdsl.RiscV Xdsl.RvK Xdsl.Generated.RiscvPyOps Xdsl.Generated.Comparisons

theorem c32 : (4294967296 : Int) = 2 ^ 32 := by decide
theorem c64 : (18446744073709551616 : Int) = 2 ^ 64 := by decide

theorem inS32_iff (c : Int) : InS 32 c ↔ inS32 c := Iff.rfl

/-- the translated kernel of each immediate-shift class of the `rv32` dialect -/
def kernel32 : SOp → Int → Int → Option Int
  | .slli => rv32_SlliOp_py_operation
  | .srli => rv32_SrliOp_py_operation
  | .srai => rv32_SraiOp_py_operation
  | .bclri => rv32_BclrIOp_py_operation
  | .bexti => rv32_BextIOp_py_operation
  | .binvi => rv32_BinvIOp_py_operation
  | .bseti => rv32_BsetIOp_py_operation
  | .rori => rv32_RorIOp_py_operation

/-- **every rv32 fold kernel is the instruction**: for every constant payload `c` of `i32` and every
encodable shift amount, `op.py_operation(c)` does not raise and is the signed reading of the register
the instruction `op rd, rs1, n` writes when `rs1` holds `c`. -/
theorem kernel32_sound (op : SOp) (c : Int) (hc : inS32 c) (n : Nat) (hn : n < 32) :
    kernel32 op c n = some (aluS op (imm32 c) n).toInt := by
  rw [aluS_eq]
  cases op
  · exact slli_body 32 (by omega) c n
  · exact srli_body 32 (by omega) c n _ c32
  · exact srai_body 32 (by omega) c ((inS32_iff c).2 hc) n
  · exact bclri_body 32 (by omega) c n
  · exact bexti_body 32 c n hn
  · exact binvi_body 32 (by omega) c n
  · exact bseti_body 32 c ((inS32_iff c).2 hc) n hn
  · exact rori_body 32 c n hn _ c32

/-- hence the `li` that replaces the instruction loads the instruction's result -/
theorem kernel32_li (op : SOp) (c : Int) (hc : inS32 c) (n : Nat) (hn : n < 32) :
    ∃ k, kernel32 op c n = some k ∧ imm32 k = aluS op (imm32 c) n ∧ inS32 k :=
  ⟨_, kernel32_sound op c hc n hn, imm32_toInt _, toInt_range _⟩

/-- **the hand-written fold of the rule model is the translated kernel**: `pyShift` (used by
`Rules.shiftConstantFolding`, proved sound in `XdslProofs/C22.lean`) returns what the source's
`py_operation` returns, for every `i32` payload and shift amount `< 32`. -/
theorem pyShift_eq_kernel (op : SOp) (c : Int) (hc : inS32 c) (n : Nat) (hn : n < 32) :
    kernel32 op c n = some (pyShift op c n) := by
  rw [kernel32_sound op c hc n hn, ← pyShift_sound op c n hc, toInt_imm32 _ (pyShift_inS32 op c n hc)]

/-! ## rv64: `py_operation` = the instruction on `BitVec 64` -/

def kernel64 : SOp → Int → Int → Option Int
  | .slli => rv64_SlliOp_py_operation
  | .srli => rv64_SrliOp_py_operation
  | .srai => rv64_SraiOp_py_operation
  | .bclri => rv64_BclrIOp_py_operation
  | .bexti => rv64_BextIOp_py_operation
  | .binvi => rv64_BinvIOp_py_operation
  | .bseti => rv64_BsetIOp_py_operation
  | .rori => rv64_RorIOp_py_operation

/-- **every rv64 fold kernel is the instruction** on 64-bit registers -/
theorem kernel64_sound (op : SOp) (c : Int) (hc : InS 64 c) (n : Nat) (hn : n < 64) :
    kernel64 op c n = some (aluSW op (BitVec.ofInt 64 c) n).toInt := by
  cases op
  · exact slli_body 64 (by omega) c n
  · exact srli_body 64 (by omega) c n _ c64
  · exact srai_body 64 (by omega) c hc n
  · exact bclri_body 64 (by omega) c n
  · exact bexti_body 64 c n hn
  · exact binvi_body 64 (by omega) c n
  · exact bseti_body 64 c hc n hn
  · exact rori_body 64 c n hn _ c64

/-! ## witnesses: without `truncate_bits` the constructor raises; the kernels at boundary values

Before the C22 fixes `slli`/`bclri`/`binvi` built `IntegerAttr(v, i32)` without `truncate_bits`; the
translated `normalized_value` then refuses results outside the signless range, e.g. `3 << 31` (first example). -/

example : Xdsl.Generated.BuiltinInt.normalized_value_signless 32 (Py.shl 3 31) false = none := by decide
example : rv32_SlliOp_py_operation 3 31 = some (-2147483648) := by decide
example : rv32_BsetIOp_py_operation 5 31 = some (-2147483643) := by decide
example : rv32_SraiOp_py_operation (-8) 1 = some (-4) := by decide
example : rv32_RorIOp_py_operation 1 1 = some (-2147483648) := by decide
example : rv64_BextIOp_py_operation (-1) 63 = some 1 := by decide +kernel

theorem toNat_inj32 (a b : Int) :
    (((imm32 a).toNat : Int) = ((imm32 b).toNat : Int)) ↔ imm32 a = imm32 b :=
  BV.toNat_cast_inj

/-- the hand-written `constEvaluate` of the rule model is the translated `const_evaluate` -/
theorem constEvaluate_eq_kernel (a b : Int) :
    constEvaluate .beq a b = cf_BeqOp_const_evaluate a b 32
    ∧ constEvaluate .bne a b = cf_BneOp_const_evaluate a b 32
    ∧ constEvaluate .blt a b = cf_BltOp_const_evaluate a b 32
    ∧ constEvaluate .bge a b = cf_BgeOp_const_evaluate a b 32
    ∧ constEvaluate .bltu a b = cf_BltuOp_const_evaluate a b 32
    ∧ constEvaluate .bgeu a b = cf_BgeuOp_const_evaluate a b 32 := by
  -- translated and hand-written normalisation are both readings of the 32-bit pattern
  have hu : ∀ x : Int, to_unsigned x (32 : Int) = toUnsigned32 x := fun x =>
    (RvK.to_unsigned_eq x 32).trans (toUnsigned32_eq x).symm
  have hs : ∀ x : Int, to_signed x (32 : Int) = toSigned32 x := fun x =>
    (RvK.to_signed_eq x 32).trans (toSigned32_eq x).symm
  simp only [cf_BeqOp_const_evaluate, cf_BneOp_const_evaluate, cf_BltOp_const_evaluate,
    cf_BgeOp_const_evaluate, cf_BltuOp_const_evaluate, cf_BgeuOp_const_evaluate, hu, hs, constEvaluate]
  refine ⟨?_, ?_, ?_, ?_, ?_, ?_⟩ <;> first | rfl | simp

/-- **the constant evaluation of each conditional branch is the machine's branch decision**, for all
Python ints `a b` (no range needed: `const_evaluate` normalises with `to_unsigned`/`to_signed`) -/
theorem const_evaluate_sound (a b : Int) :
    cf_BeqOp_const_evaluate a b 32 = taken .beq (imm32 a) (imm32 b)
    ∧ cf_BneOp_const_evaluate a b 32 = taken .bne (imm32 a) (imm32 b)
    ∧ cf_BltOp_const_evaluate a b 32 = taken .blt (imm32 a) (imm32 b)
    ∧ cf_BgeOp_const_evaluate a b 32 = taken .bge (imm32 a) (imm32 b)
    ∧ cf_BltuOp_const_evaluate a b 32 = taken .bltu (imm32 a) (imm32 b)
    ∧ cf_BgeuOp_const_evaluate a b 32 = taken .bgeu (imm32 a) (imm32 b) := by
  obtain ⟨h1, h2, h3, h4, h5, h6⟩ := constEvaluate_eq_kernel a b
  exact ⟨h1 ▸ constEvaluate_taken _ a b, h2 ▸ constEvaluate_taken _ a b, h3 ▸ constEvaluate_taken _ a b,
    h4 ▸ constEvaluate_taken _ a b, h5 ▸ constEvaluate_taken _ a b, h6 ▸ constEvaluate_taken _ a b⟩

/-- `_fits_si12` is the encodability of a 12-bit signed immediate on the machine model -/
theorem fits_si12_eq (v : Int) : fits_si12 v = fitsSI12 v := by
  simp only [fits_si12, fitsSI12]
  rw [Bool.eq_iff_iff]; simp; omega

/-- `_folded_li_immediate(v, *sources)` with all sources of type `i32`: never raises, and the `li`
gets the signed reading of the low 32 bits of the exact result `v` (`wrap32` of the rule model) -/
theorem folded_li_immediate_i32 (v : Int) : folded_li_immediate v true = some (wrap32 v) := by
  simp only [folded_li_immediate, if_true]
  exact normalized_eq 32 (by omega) v true (Or.inl rfl)

/-- … with a 64-bit source: folded only when `v` is a signed 32-bit value, then unchanged; never raises -/
theorem folded_li_immediate_i64 (v : Int) :
    folded_li_immediate v false = if -2147483648 ≤ v ∧ v < 2147483648 then some v else none := by
  have e : (2 : Int) ^ ((31 : Int)).toNat = 2147483648 := by decide
  simp only [folded_li_immediate, e, Bool.false_eq_true, if_false]
  by_cases h : -2147483648 ≤ v ∧ v < 2147483648
  · simp only [h.1, h.2, decide_true, Bool.and_self, if_true, and_self]
    have hr : InS 32 v := (inS32_iff v).2 h
    rw [show (32 : Int) = ((32 : Nat) : Int) from rfl,
      normalized_eq 32 (by omega) v false (Or.inr (inS_signless (by omega) hr)), BitVec.toInt_ofInt_eq_self (by omega) hr.1 hr.2]
  · rw [if_neg h]
    have h' : (decide (-2147483648 ≤ v) && decide (v < 2147483648)) = false := by
      simp only [Bool.and_eq_false_iff, decide_eq_false_iff_not]; omega
    simp [h']

/-- in both cases a folded `li` immediate is a signed 32-bit value whose image is the image of `v` -/
theorem folded_li_immediate_sound (v : Int) (all32 : Bool) (k : Int)
    (h : folded_li_immediate v all32 = some k) : imm32 k = imm32 v ∧ inS32 k := by
  cases all32
  · rw [folded_li_immediate_i64] at h
    split at h
    · cases h; exact ⟨rfl, by assumption⟩
    · cases h
  · rw [folded_li_immediate_i32] at h
    cases h
    exact ⟨imm32_wrap32 v, wrap32_range v⟩

end Xdsl.C22K
