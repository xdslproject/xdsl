import XdslModel.RiscVLabels
/-!
C22, labels of the emitted unit (model `XdslModel/RiscVLabels.lean`).

The property says that the emitted instructions compute what the source computes.  A module is
emitted as one assembler unit, so the instructions are only well defined if every branch target
names exactly one position of the unit.  Proved here:

* the symbol table (`assemble`): rejected as `dup` ⇔ some name is defined twice; an accepted unit
  defines no name twice and resolves every target to a position that holds the definition of that name,
  and "first definition wins" and "last definition wins" agree on it (a strict assembler needs
  no tie-breaking rule; with a duplicate they differ: `dup_resolution_differs`);
* the label numbering of the loop lowerings (`allocShared`, one counter per module): all labels
  of the module are pairwise distinct, whatever the number of functions and loops; restarting
  the counter per function defines a label twice as soon as two functions contain a loop
  (`allocPerFunction_dup`).
-/
namespace Xdsl.RiscV.Labels

theorem firstDup_none_iff (seen l : List Nat) :
    firstDup seen l = none ↔ l.Nodup ∧ ∀ x ∈ l, x ∉ seen := by
  induction l generalizing seen with
  | nil => simp [firstDup]
  | cons n r ih =>
    simp only [firstDup]
    by_cases h : n ∈ seen
    · simp [h]
    · simp only [h, if_false, ih, List.nodup_cons, List.mem_cons]
      constructor
      · rintro ⟨hn, hs⟩
        refine ⟨⟨fun hm => ?_, hn⟩, ?_⟩
        · exact (hs n hm) (Or.inl rfl)
        · intro x hx
          rcases hx with rfl | hx
          · exact h
          · exact fun hxs => hs x hx (Or.inr hxs)
      · rintro ⟨⟨hnr, hn⟩, hs⟩
        refine ⟨hn, fun x hx hxs => ?_⟩
        rcases hxs with rfl | hxs
        · exact hnr hx
        · exact hs x (Or.inr hx) hxs


theorem firstPos_none_of_not_mem (n : Nat) (u : List Item) (k : Nat) (h : n ∉ defs u) :
    firstPos n u k = none := by
  fun_induction firstPos n u k with
  | case1 => rfl
  | case2 => exact absurd List.mem_cons_self h
  | case3 _ _ _ _ ih => exact ih (fun hm => h (List.mem_cons_of_mem _ hm))
  | case4 _ _ _ ih => exact ih h

theorem lastPos_none_of_not_mem (n : Nat) (u : List Item) (k : Nat) (h : n ∉ defs u) :
    lastPos n u k = none := by
  fun_induction lastPos n u k with
  | case1 => rfl
  | case2 _ _ _ _ hp ih => rw [ih (fun hm => h (List.mem_cons_of_mem _ hm))] at hp; cases hp
  | case3 => exact absurd List.mem_cons_self h
  | case4 => rfl
  | case5 _ _ _ ih => exact ih h

/-- "an assembler rejects a unit that defines a symbol twice": `dup` exactly for such units -/
theorem assemble_dup_iff (u : List Item) : (∃ n, assemble u = .dup n) ↔ ¬ (defs u).Nodup := by
  unfold assemble
  cases h : firstDup [] (defs u) with
  | some n =>
    have : ¬ (firstDup [] (defs u) = none) := by simp [h]
    rw [firstDup_none_iff] at this
    simp only [List.not_mem_nil, not_false_eq_true, implies_true, and_true] at this
    simp [this]
  | none =>
    have hn := (firstDup_none_iff [] (defs u)).mp h
    constructor
    · rintro ⟨n, hn'⟩
      cases hr : resolve u (targets u) <;> simp [hr] at hn'
    · intro hc
      exact absurd hn.1 hc

theorem firstPos_eq_lastPos (n : Nat) (u : List Item) (k : Nat) (h : (defs u).Nodup) :
    firstPos n u k = lastPos n u k := by
  induction u generalizing k with
  | nil => rfl
  | cons it r ih =>
    cases it with
    | label m =>
      simp only [defs, List.nodup_cons] at h
      by_cases hm : m = n
      · subst hm
        simp [firstPos, lastPos, lastPos_none_of_not_mem m r (k + 1) h.1]
      · simp only [firstPos, lastPos, hm, if_false, ih (k + 1) h.2]
        cases lastPos n r (k + 1) <;> rfl
    | ins t => simpa [firstPos, lastPos] using ih (k + 1) (by simpa [defs] using h)

theorem firstPos_sound (n : Nat) (u : List Item) (k p : Nat) (h : firstPos n u k = some p) :
    k ≤ p ∧ u[p - k]? = some (.label n) := by
  fun_induction firstPos n u k with
  | case1 => cases h
  | case2 => cases h; simp
  | case3 _ _ k _ ih | case4 _ _ k ih =>
    obtain ⟨h1, h2⟩ := ih h
    refine ⟨by omega, ?_⟩
    rw [show p - k = (p - (k + 1)) + 1 by omega]; simpa using h2

theorem resolve_sound (u : List Item) (ts ps : List Nat) (h : resolve u ts = .ok ps) :
    ps.length = ts.length ∧ ∀ np ∈ ts.zip ps, u[np.2]? = some (.label np.1) := by
  induction ts generalizing ps with
  | nil => simp [resolve] at h; subst h; simp
  | cons n r ih =>
    simp only [resolve] at h
    cases hp : firstPos n u 0 with
    | none => simp [hp] at h
    | some p =>
      simp only [hp] at h
      cases hr : resolve u r with
      | error e => simp [hr] at h
      | ok qs =>
        simp only [hr, Except.ok.injEq] at h
        subst h
        obtain ⟨hl, hz⟩ := ih qs hr
        refine ⟨by simp [hl], ?_⟩
        intro np hnp
        simp only [List.zip_cons_cons, List.mem_cons] at hnp
        rcases hnp with rfl | hnp
        · simpa using (firstPos_sound n u 0 p hp).2
        · exact hz np hnp

/-- an accepted unit: no name is defined twice, and every branch target (in order: `targets u` against the
resolved positions) is resolved to a position of the unit that holds the definition of exactly that name -/
theorem assemble_ok_sound (u : List Item) (ps : List Nat) (h : assemble u = .ok ps) :
    (defs u).Nodup ∧ ps.length = (targets u).length ∧
      ∀ np ∈ (targets u).zip ps, u[np.2]? = some (.label np.1) := by
  unfold assemble at h
  cases hd : firstDup [] (defs u) with
  | some n => simp [hd] at h
  | none =>
    simp only [hd] at h
    refine ⟨((firstDup_none_iff [] (defs u)).mp hd).1, ?_⟩
    cases hr : resolve u (targets u) with
    | error e => simp [hr] at h
    | ok qs =>
      simp only [hr, Verdict.ok.injEq] at h
      subst h
      exact resolve_sound u (targets u) qs hr

/-- …and the two tie-breaking rules agree on every name of an accepted unit -/
theorem assemble_ok_policy_free (u : List Item) (ps : List Nat) (h : assemble u = .ok ps) (n : Nat) :
    firstPos n u 0 = lastPos n u 0 :=
  firstPos_eq_lastPos n u 0 (assemble_ok_sound u ps h).1

/-- with a name defined twice the two rules send the same branch to different places: two functions
`f: L0 … blt → L0` and `g: L0 …` (positions 0 and 2) -/
theorem dup_resolution_differs :
    let u := [Item.label 0, .ins (some 0), .label 0, .ins (some 0)]
    assemble u = .dup 0 ∧ firstPos 0 u 0 = some 0 ∧ lastPos 0 u 0 = some 2 := by decide

theorem mem_funcLabels {kinds : List Nat} {c n : Nat} {l : Lbl} :
    l ∈ funcLabels kinds c n ↔ l.kind ∈ kinds ∧ c ≤ l.idx ∧ l.idx < c + n := by
  simp only [funcLabels, loopLabels, List.mem_flatMap, List.mem_range'_1, List.mem_map]
  constructor
  · rintro ⟨k, ⟨h1, h2⟩, c', hc, rfl⟩
    exact ⟨hc, h1, h2⟩
  · rintro ⟨hk, h1, h2⟩
    exact ⟨l.idx, ⟨h1, h2⟩, l.kind, hk, rfl⟩

/-- one counter threaded through the functions: the labels of the module are those of one function that
has all the loops -/
theorem allocFrom_flatten (kinds : List Nat) (c : Nat) (ns : List Nat) :
    (allocFrom kinds c ns).flatten = funcLabels kinds c ns.sum := by
  induction ns generalizing c with
  | nil => simp [allocFrom, funcLabels]
  | cons n r ih =>
    simp only [allocFrom, List.flatten_cons, ih, funcLabels, List.sum_cons, ← List.flatMap_append,
      List.range'_append_1]

theorem funcLabels_nodup {kinds : List Nat} (hk : kinds.Nodup) (c n : Nat) :
    (funcLabels kinds c n).Nodup := by
  rw [funcLabels, List.Nodup, List.pairwise_flatMap]
  -- within a loop the kinds differ, between loops the numbers
  refine ⟨fun k _ => List.Pairwise.map _ (fun _ _ h e => h (congrArg Lbl.kind e)) hk, ?_⟩
  refine (List.nodup_range' (s := c) (n := n)).imp fun {i j} hij x hx y hy e => ?_
  simp only [loopLabels, List.mem_map] at hx hy
  obtain ⟨_, _, rfl⟩ := hx
  obtain ⟨_, _, rfl⟩ := hy
  exact hij (congrArg Lbl.idx e)

/-- one counter for the whole module: the labels of all loops of all functions are pairwise
distinct - for every number of functions and of loops per function (given distinct label kinds) -/
theorem allocShared_nodup {kinds : List Nat} (hk : kinds.Nodup) (ns : List Nat) :
    (allocShared kinds ns).flatten.Nodup := by
  rw [allocShared, allocFrom_flatten]; exact funcLabels_nodup hk 0 _

/-- restarting the counter in every function: as soon as two functions contain a loop, a label is
defined twice (two functions with one loop each, the labels of the cf lowering) -/
theorem allocPerFunction_dup : ¬ (allocPerFunction [0, 1] [1, 1]).flatten.Nodup := by decide

/-- …in general: functions `i < j` with a loop each share the labels of loop 0 -/
theorem allocPerFunction_dup_general (kinds : List Nat) (hk : kinds ≠ []) (pre mid post : List Nat) (a b : Nat) :
    ¬ (allocPerFunction kinds (pre ++ (a + 1) :: mid ++ (b + 1) :: post)).flatten.Nodup := by
  obtain ⟨k, ks, rfl⟩ := List.exists_cons_of_ne_nil hk
  intro h
  have hmem : ∀ x, (⟨k, 0⟩ : Lbl) ∈ funcLabels (k :: ks) 0 (x + 1) := fun x =>
    mem_funcLabels.mpr ⟨by simp, by simp, by simp⟩
  have h1 : (allocPerFunction (k :: ks) (pre ++ (a + 1) :: mid ++ (b + 1) :: post)).flatten
      = (pre.map (funcLabels (k :: ks) 0)).flatten ++ (funcLabels (k :: ks) 0 (a + 1) ++
          ((mid.map (funcLabels (k :: ks) 0)).flatten ++ (funcLabels (k :: ks) 0 (b + 1) ++
            (post.map (funcLabels (k :: ks) 0)).flatten))) := by
    simp [allocPerFunction]
  rw [h1] at h
  have h2 := (List.nodup_append.mp h).2.1
  have h3 := (List.nodup_append.mp h2).2.2
  exact h3 _ (hmem a) _ (by simp [hmem b]) rfl

/-! non-vacuity -/
example : assemble [.label 7, .ins none, .ins (some 3), .label 3, .ins (some 7)] = .ok [3, 0] := by decide
example : assemble [.label 7, .ins (some 3)] = .undef 3 := by decide
example : allocShared [0, 1] [2, 0, 1] = [[⟨0, 0⟩, ⟨1, 0⟩, ⟨0, 1⟩, ⟨1, 1⟩], [], [⟨0, 2⟩, ⟨1, 2⟩]] := by decide

end Xdsl.RiscV.Labels
