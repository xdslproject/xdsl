import XdslModel.Lexer
/-!
Helper lemmas for C07: per-matcher bounds (length matched ≤ input length, ticks ≤ linear in what
was read) for `XdslModel/Lexer.lean`.  A bound on a recursive matcher is proved by induction along
the matcher's own recursion; what is left in each case is linear arithmetic.  The bounds meet in
`Good`, what one call of `lexTok` may do: `lexTok_good` is all that the loop invariant in `C07.lean`
uses of the token functions.
-/
namespace Xdsl.Lexer

theorem countWhile_le (p : CP → Bool) (l : List CP) : (countWhile p l).1 ≤ l.length := by
  fun_induction countWhile p l <;> simp +zetaDelta only [List.length_cons, List.length_nil] <;> omega

theorem countWhile_ticks (p : CP → Bool) (l : List CP) :
    (countWhile p l).2 = (countWhile p l).1 + 1 := by
  fun_induction countWhile p l <;> simp +zetaDelta only [] <;> omega

theorem skipWs_le (b : Bool) (l : List CP) : (skipWs b l).1 ≤ l.length := by
  fun_induction skipWs b l <;> simp +zetaDelta only [List.length_cons, List.length_nil] <;> omega

theorem skipWs_ticks (b : Bool) (l : List CP) : (skipWs b l).2 ≤ (skipWs b l).1 + 2 := by
  fun_induction skipWs b l <;> simp +zetaDelta only [] <;> omega

theorem suffixId_some {l : List CP} {n t : Nat} (h : suffixId l = (some n, t)) :
    1 ≤ n ∧ n ≤ l.length ∧ t ≤ n + 1 := by
  cases l with
  | nil => cases h
  | cons c r =>
    have h1 := countWhile_le isDigit r
    have h2 := countWhile_ticks isDigit r
    have h3 := countWhile_le isSuffixChar r
    have h4 := countWhile_ticks isSuffixChar r
    simp only [suffixId, List.length_cons] at h ⊢
    split at h
    · cases h; omega
    split at h
    · cases h; omega
    · cases h

theorem suffixId_none {l : List CP} {t : Nat} (h : suffixId l = (none, t)) : t = 1 := by
  revert h
  fun_cases suffixId l <;> rintro ⟨⟩ <;> rfl

theorem strBody_ticks (l : List CP) : (strBody l).2 ≤ l.length + 1 := by
  fun_induction strBody l <;> simp +zetaDelta only [List.length_cons, List.length_nil] <;> omega

theorem strBody_some {l : List CP} {n : Nat} (h : (strBody l).1 = some n) :
    1 ≤ n ∧ n ≤ l.length ∧ (strBody l).2 = n := by
  fun_induction strBody l generalizing n <;>
    simp +zetaDelta only [List.length_cons, Option.map_eq_some_iff, Option.some.injEq, reduceCtorEq] at h ⊢
  · omega
  all_goals
    obtain ⟨a, ha, rfl⟩ := h
    rename_i ih
    have := ih ha
    omega

theorem hasBackslash_ticks (l : List CP) : (hasBackslash l).2 ≤ l.length + 1 := by
  fun_induction hasBackslash l <;> simp +zetaDelta only [List.length_cons, List.length_nil] <;> omega

theorem utf8Enc_length (v : Nat) : (utf8Enc v).length ≤ 4 := by
  fun_cases utf8Enc v <;> simp

theorem litBytes_ticks (l : List CP) : (litBytes l).2 ≤ l.length + 1 := by
  fun_induction litBytes l <;> simp +zetaDelta only [List.length_cons, List.length_nil] <;> omega

/-- at most four bytes per code point (`utf8Enc_length`); an escape of two or three code points is
one byte -/
theorem litBytes_length (l : List CP) : (litBytes l).1.length ≤ 4 * l.length := by
  fun_induction litBytes l <;>
    simp +zetaDelta only [List.length_cons, List.length_nil, List.length_append] <;> try omega
  have := utf8Enc_length ‹CP›.val
  omega

theorem utf8Valid_ticks (l : List Nat) : (utf8Valid l).2 ≤ l.length + 4 := by
  fun_induction utf8Valid l <;> simp +zetaDelta only [List.length_cons] <;> omega

/-- three passes over a literal with a backslash: the search, the unescaping, and the UTF-8 check
of up to four bytes per code point -/
theorem litKind_ticks (l : List CP) : (litKind l).2 ≤ 6 * l.length + 6 := by
  have h1 := hasBackslash_ticks l
  have h2 := litBytes_ticks l
  have h3 := litBytes_length l
  have h4 := utf8Valid_ticks (litBytes l).1
  simp only [litKind]
  split <;> simp only [] <;> omega

theorem litKind_kind (l : List CP) : (litKind l).1 = .stringLit ∨ (litKind l).1 = .bytesLit := by
  simp only [litKind]
  split
  · split <;> simp
  · simp

/-- scanning a literal body and classifying it: one tick per code point for `strBody`, six for
`litKind` on the `l` code points of the body -/
theorem strLit_ticks {r : List CP} {l t : Nat} (h : strBody r = (some l, t)) :
    1 ≤ l ∧ l ≤ r.length ∧ t + (litKind (r.take l)).2 ≤ 7 * l + 6 := by
  have hs := strBody_some (l := r) (n := l) (by rw [h])
  have hk := litKind_ticks (r.take l)
  rw [h] at hs
  rw [List.length_take] at hk
  omega

theorem matchExp_le (l : List CP) : (matchExp l).1 ≤ l.length ∧ (matchExp l).2 ≤ (matchExp l).1 + 3 := by
  fun_cases matchExp l
  case case1 | case4 => simp
  all_goals
    rename_i c r _ sg k hk
    have h1 := countWhile_le isDigit (r.drop sg)
    have h2 := countWhile_ticks isDigit (r.drop sg)
    simp +zetaDelta only [List.length_drop, List.length_cons, beq_iff_eq] at h1 h2 hk ⊢
    omega

/-- What one matcher run may do when `avail` code points are left: a token takes between one and
`avail` code points, costs at most `7·len + 5` ticks and is never of kind EOF; EOF is reported
only on empty input; an error costs at most `avail + 4` ticks and its span is non-empty and lies
within the `avail` code points. -/
def Good (avail : Nat) (q : Res × Nat) : Prop :=
  match q.1 with
  | .tok k len => 1 ≤ len ∧ len ≤ avail ∧ q.2 ≤ 7 * len + 5 ∧ k ≠ .eof
  | .eof => q.2 = 1 ∧ avail = 0
  | .err _ off len => q.2 ≤ avail + 4 ∧ 1 ≤ len ∧ off + len ≤ avail

theorem Good.tok {avail len t : Nat} {k : Kind} (h : 1 ≤ len ∧ len ≤ avail ∧ t ≤ 7 * len + 5)
    (hk : k ≠ .eof) : Good avail (.tok k len, t) := ⟨h.1, h.2.1, h.2.2, hk⟩

theorem Good.err {avail off len t : Nat} {m : Msg} (h : t ≤ avail + 4 ∧ 1 ≤ len ∧ off + len ≤ avail) :
    Good avail (.err m off len, t) := h

/-- The token functions are trees of `if`s over matcher calls: `Good` is proved leaf by leaf. -/
theorem Good.ite {avail : Nat} {c : Prop} [Decidable c] {x y : Res × Nat}
    (hx : c → Good avail x) (hy : ¬c → Good avail y) : Good avail (if c then x else y) := by
  split
  · exact hx ‹_›
  · exact hy ‹_›

theorem lexString_good (r : List CP) : Good (r.length + 1) (lexString r) := by
  unfold lexString
  rcases h : strBody r with ⟨_ | l, t⟩
  · have := strBody_ticks r
    rw [h] at this
    exact Good.err (by omega)
  · have := strLit_ticks h
    refine Good.tok (by omega) ?_
    rcases litKind_kind (r.take l) with e | e <;> simp [e]

theorem lexAt_good (r : List CP) : Good (r.length + 1) (lexAt r) := by
  cases r with
  | nil => exact Good.err (by omega)
  | cons d r =>
    simp only [lexAt, List.length_cons]
    refine Good.ite (fun _ => ?_) fun _ => Good.ite (fun _ => ?_) fun _ => ?_
    · have h1 := countWhile_le isIdentChar r
      have h2 := countWhile_ticks isIdentChar r
      exact Good.tok (by omega) nofun
    · rcases h : strBody r with ⟨_ | l, t⟩
      · have := strBody_ticks r
        rw [h] at this
        exact Good.err (by omega)
      · have := strLit_ticks h
        exact Good.tok (by omega) nofun
    · exact Good.err (by omega)

theorem startsWith1_len {a : Nat} {r : List CP} (h : startsWith1 a r = true) : 1 ≤ r.length := by
  match r, h with
  | d :: r', _ => simp

theorem startsWith2_len {a b : Nat} {r : List CP} (h : startsWith2 a b r = true) : 2 ≤ r.length := by
  match r, h with
  | d :: e :: r', _ => simp

theorem isHexPrefix_len {d0 : Nat} {r : List CP} (h : isHexPrefix d0 r = true) : 2 ≤ r.length := by
  match r, h with
  | x :: y :: r', _ => simp

theorem lexNumber_good (d0 : Nat) (r : List CP) : Good (r.length + 1) (lexNumber d0 r) := by
  unfold lexNumber
  refine Good.ite (fun hp => ?_) fun _ => ?_
  · have h0 := isHexPrefix_len hp
    have h1 := countWhile_le isHex (r.drop 1)
    have h2 := countWhile_ticks isHex (r.drop 1)
    rw [List.length_drop] at h1
    exact Good.tok (by omega) nofun
  · have h1 := countWhile_le isDigit r
    have h2 := countWhile_ticks isDigit r
    dsimp only
    split
    · exact Good.tok (by omega) nofun
    · rename_i dot r2 hd
      have hl := congrArg List.length hd
      rw [List.length_drop, List.length_cons] at hl
      refine Good.ite (fun _ => ?_) fun _ => Good.tok (by omega) nofun
      have h3 := countWhile_le isDigit r2
      have h4 := countWhile_ticks isDigit r2
      have h5 := matchExp_le (r2.drop (countWhile isDigit r2).1)
      rw [List.length_drop] at h5
      exact Good.tok (by omega) nofun

theorem singlePunct_ne_eof {n : Nat} {k : Kind} (h : singlePunct n = some k) : k ≠ .eof := by
  rintro rfl
  revert h
  fun_cases singlePunct n <;> simp

theorem prefixKind_ne_eof (n : Nat) : prefixKind n ≠ .eof := by
  fun_cases prefixKind n <;> simp

theorem lexTok_good (l : List CP) : Good l.length (lexTok l) := by
  cases l with
  | nil => exact ⟨rfl, rfl⟩
  | cons c r =>
    simp only [lexTok, List.length_cons]
    refine Good.ite (fun _ => ?_) fun _ => ?_
    · have h1 := countWhile_le isIdentChar r
      have h2 := countWhile_ticks isIdentChar r
      exact Good.tok (by omega) nofun
    split
    · exact Good.tok (by omega) (singlePunct_ne_eof ‹_›)
    -- `...`
    refine Good.ite (fun _ => Good.ite (fun h => ?_) fun _ => ?_) fun _ => ?_
    · have := startsWith2_len h
      exact Good.tok (by omega) nofun
    · exact Good.err (by omega)
    -- `->`, `-`
    refine Good.ite (fun _ => Good.ite (fun h => ?_) fun _ => ?_) fun _ => ?_
    · have := startsWith1_len h
      exact Good.tok (by omega) nofun
    · exact Good.tok (by omega) nofun
    -- `{-#`, `{`
    refine Good.ite (fun _ => Good.ite (fun h => ?_) fun _ => ?_) fun _ => ?_
    · have := startsWith2_len h
      exact Good.tok (by omega) nofun
    · exact Good.tok (by omega) nofun
    -- `#-}`
    refine Good.ite (fun h => ?_) fun _ => ?_
    · have := startsWith2_len (Bool.and_eq_true_iff.mp h).2
      exact Good.tok (by omega) nofun
    refine Good.ite (fun _ => lexAt_good r) fun _ => Good.ite (fun _ => ?_) fun _ =>
      Good.ite (fun _ => lexString_good r) fun _ => Good.ite (fun _ => lexNumber_good c.val r) fun _ =>
        Good.err (by omega)
    -- `#`, `!`, `^`, `%` and a suffix identifier
    rcases h : suffixId r with ⟨_ | n, t⟩
    · have := suffixId_none h
      exact Good.err (by omega)
    · have := suffixId_some h
      exact Good.tok (by omega) (prefixKind_ne_eof c.val)

end Xdsl.Lexer
