import XdslModel.DeclFormat
/-!
C05, the list parsers: the comma-separated list / optional element parsers consume exactly what
`commaSep` / a single token printed, provided the next token is not one they would take; and
`_set_using_variadic_index` (behind `operands`, `type(operands)`, `type(results)`, `functional-type`)
gives back the segments of a flat list when the definition has at most one optional/variadic member
(`splitByKinds_flatten`).
-/
namespace Xdsl.DeclFormat

def clsHd (ts : List Tok) : Cls := clsOf ts.head?

@[simp] theorem clsHd_nil : clsHd [] = Cls.eof := rfl
@[simp] theorem clsHd_cons (t : Tok) (r : List Tok) : clsHd (t :: r) = clsOf (some t) := rfl

/-- `sel`/`mk` pair: `mk` builds the token that `sel` recognises -/
structure SelMk (sel : Tok → Option Nat) (mk : Nat → Tok) : Prop where
  sel_mk : ∀ n, sel (mk n) = some n
  mk_ne_comma : ∀ n, mk n ≠ Tok.punct ","

theorem moreList_nil (sel : Tok → Option Nat) : moreList sel [] = some ([], []) := by
  rw [moreList.eq_def]

theorem moreList_cons_ne (sel : Tok → Option Nat) (t : Tok) (r : List Tok) (h : t ≠ Tok.punct ",") :
    moreList sel (t :: r) = some ([], t :: r) := by
  rw [moreList.eq_def]
  simp [h]

theorem moreList_comma (sel : Tok → Option Nat) (u : Tok) (r : List Tok) (v : Nat) (h : sel u = some v) :
    moreList sel (Tok.punct "," :: u :: r) = (moreList sel r).map fun p => (v :: p.1, p.2) := by
  rw [moreList.eq_def]
  simp [h]

theorem moreList_commaTail {sel : Tok → Option Nat} {mk : Nat → Tok} (h : SelMk sel mk)
    (xs : List Nat) (rest : List Tok) (hr : clsHd rest ≠ Cls.punct ",") :
    moreList sel (commaTail mk xs ++ rest) = some (xs, rest) := by
  induction xs with
  | nil =>
    cases rest with
    | nil => simp [commaTail, moreList_nil]
    | cons t r =>
      have : t ≠ Tok.punct "," := by
        intro e; subst e; exact hr rfl
      simp [commaTail, moreList_cons_ne _ _ _ this]
  | cons x xs ih =>
    simp [commaTail, moreList_comma _ _ _ _ (h.sel_mk x), ih]

/-- the next token is neither taken by `sel` nor one on which the optional parser commits -/
def Passes (sel : Tok → Option Nat) (bad : Tok → Bool) (rest : List Tok) : Prop :=
  match rest with
  | [] => True
  | t :: _ => sel t = none ∧ bad t = false

theorem optList_nil {sel : Tok → Option Nat} (bad : Tok → Bool) (rest : List Tok)
    (hp : Passes sel bad rest) : optList sel bad rest = some ([], rest) := by
  cases rest with
  | nil => rfl
  | cons t r =>
    obtain ⟨h1, h2⟩ := hp
    simp [optList, h1, h2]

theorem optList_commaSep {sel : Tok → Option Nat} {mk : Nat → Tok} (h : SelMk sel mk)
    (bad : Tok → Bool) (xs : List Nat) (rest : List Tok) (hr : xs ≠ [] → clsHd rest ≠ Cls.punct ",")
    (hp : xs = [] → Passes sel bad rest) :
    optList sel bad (commaSep mk xs ++ rest) = some (xs, rest) := by
  cases xs with
  | nil => simpa [commaSep] using optList_nil bad rest (hp rfl)
  | cons x xs =>
    simp [commaSep, optList, h.sel_mk, moreList_commaTail h xs rest (hr (List.cons_ne_nil _ _))]

theorem optOne_some {sel : Tok → Option Nat} {mk : Nat → Tok} (h : SelMk sel mk) (bad : Tok → Bool)
    (x : Nat) (rest : List Tok) : optOne sel bad (mk x :: rest) = some (some x, rest) := by
  simp [optOne, h.sel_mk]

theorem optOne_none {sel : Tok → Option Nat} (bad : Tok → Bool) (rest : List Tok)
    (hp : Passes sel bad rest) : optOne sel bad rest = some (none, rest) := by
  cases rest with
  | nil => rfl
  | cons t r =>
    obtain ⟨h1, h2⟩ := hp
    simp [optOne, h1, h2]

theorem reqOne_mk {sel : Tok → Option Nat} {mk : Nat → Tok} (h : SelMk sel mk)
    (x : Nat) (rest : List Tok) : reqOne sel (mk x :: rest) = some (x, rest) := by
  simp [reqOne, h.sel_mk]

theorem manyRegions_map (xs : List Nat) (rest : List Tok) (hp : Passes selRegion badBrace rest) :
    manyRegions (xs.map Tok.region ++ rest) = some (xs, rest) := by
  induction xs with
  | nil =>
    cases rest with
    | nil => rfl
    | cons t r =>
      obtain ⟨h1, h2⟩ := hp
      cases t <;> simp_all [manyRegions, selRegion]
  | cons x xs ih => simp [manyRegions, ih]

theorem commaSep_le_one (mk : Nat → Tok) (xs : List Nat) (h : xs.length ≤ 1) :
    commaSep mk xs = xs.map mk := by
  match xs, h with
  | [], _ => rfl
  | [x], _ => rfl

theorem commaSep_eq_nil {mk : Nat → Tok} {xs : List Nat} : commaSep mk xs = [] ↔ xs = [] := by
  cases xs <;> simp [commaSep]

theorem clsHd_commaSep (mk : Nat → Tok) (x : Nat) (xs : List Nat) (r : List Tok) :
    clsHd (commaSep mk (x :: xs) ++ r) = clsOf (some (mk x)) := by
  simp [commaSep]

theorem clsHd_commaSep_mem (mk : Nat → Tok) {c : Cls} (hc : ∀ x, clsOf (some (mk x)) = c) (xs : List Nat)
    {r : List Tok} {F : List Cls} (hr : clsHd r ∈ F) : clsHd (commaSep mk xs ++ r) ∈ c :: F := by
  cases xs with
  | nil => exact List.mem_cons_of_mem _ hr
  | cons x xs => rw [clsHd_commaSep, hc]; exact List.mem_cons_self ..

theorem fitsK_single {xs : List Nat} : fitsK .single xs = true ↔ xs.length = 1 := by simp [fitsK]

theorem fitsK_opt {xs : List Nat} : fitsK .opt xs = true ↔ xs.length ≤ 1 := by simp [fitsK]

theorem countSingle_cons (k : Kind) (ks : List Kind) :
    countSingle (k :: ks) = (if k = Kind.single then 1 else 0) + countSingle ks := by
  cases k <;> simp [countSingle] <;> omega

theorem nonSingle_cons (k : Kind) (ks : List Kind) :
    nonSingle (k :: ks) = (if k = Kind.single then 0 else 1) + nonSingle ks := by
  cases k <;> simp [nonSingle] <;> omega

theorem length_eq_count (ks : List Kind) : ks.length = countSingle ks + nonSingle ks := by
  induction ks with
  | nil => rfl
  | cons k ks ih =>
    rw [countSingle_cons, nonSingle_cons, List.length_cons, ih]
    cases k <;> simp <;> omega

theorem fits_length {ks : List Kind} {segs : List (List Nat)} (h : fits ks segs = true) :
    segs.length = ks.length := by
  fun_induction fits ks segs with
  | case1 => rfl
  | case2 k ks s ss ih =>
    rw [Bool.and_eq_true] at h
    rw [List.length_cons, List.length_cons, ih h.2]
  | case3 => cases h

theorem length_flatten_cons (s : List Nat) (ss : List (List Nat)) :
    (s :: ss).flatten.length = s.length + ss.flatten.length := by
  rw [List.flatten_cons, List.length_append]

/-- The flat list of a fitting instance splits back: with no optional/variadic definition whatever `n` is,
with one when `n` is the length of its segment (the only length the definitions leave open).  "Whatever `n`"
is what the step at the optional/variadic definition needs of its all-single tail. -/
theorem splitFlat_flatten {ks : List Kind} {segs : List (List Nat)} (hf : fits ks segs = true)
    (hn : nonSingle ks ≤ 1) :
    (nonSingle ks = 0 → segs.flatten.length = countSingle ks ∧ ∀ n, splitFlat ks segs.flatten n = some segs) ∧
    (nonSingle ks = 1 → ∃ v, segs.flatten.length = countSingle ks + v ∧ splitFlat ks segs.flatten v = some segs) := by
  fun_induction fits ks segs with
  | case1 => exact ⟨fun _ => ⟨rfl, fun _ => rfl⟩, fun h => nomatch h⟩
  | case2 k ks s ss ih =>
    rw [Bool.and_eq_true] at hf
    rw [nonSingle_cons] at hn ⊢
    rw [countSingle_cons, length_flatten_cons]
    by_cases hk : k = Kind.single
    · subst hk
      obtain ⟨x, rfl⟩ := List.length_eq_one_iff.mp (fitsK_single.mp hf.1)
      rw [if_pos rfl, Nat.zero_add] at hn ⊢
      obtain ⟨ih0, ih1⟩ := ih hf.2 hn
      have step : ∀ n, splitFlat ks ss.flatten n = some ss →
          splitFlat (Kind.single :: ks) ([x] :: ss).flatten n = some ([x] :: ss) := fun n h => by
        rw [List.flatten_cons, List.singleton_append, splitFlat, h]; rfl
      refine ⟨fun h0 => ⟨congrArg (1 + ·) (ih0 h0).1, fun n => step n ((ih0 h0).2 n)⟩, fun h1 => ?_⟩
      obtain ⟨v, hv, hs⟩ := ih1 h1
      exact ⟨v, by rw [hv, if_pos rfl, List.length_singleton, Nat.add_assoc], step v hs⟩
    · rw [if_neg hk] at hn ⊢
      obtain ⟨hl, h0⟩ := (ih hf.2 (by omega)).1 (by omega)
      refine ⟨fun h => by omega, fun _ => ⟨s.length, by rw [hl, if_neg hk]; omega, ?_⟩⟩
      -- the segment is cut off by its length; an optional one has at most one element
      rw [List.flatten_cons]
      cases k with
      | single => exact absurd rfl hk
      | opt => simp [splitFlat, h0 0, fitsK_opt.mp hf.1]
      | var => simp [splitFlat, h0 0]
  | case3 => cases hf

/-- `_set_using_variadic_index` on the flattened segments of a fitting instance returns the segments -/
theorem splitByKinds_flatten (ks : List Kind) (segs : List (List Nat))
    (hf : fits ks segs = true) (hu : uniqueVar ks = true) :
    splitByKinds ks segs.flatten = some segs := by
  have hn : nonSingle ks ≤ 1 := by simpa [uniqueVar] using hu
  obtain ⟨h0, h1⟩ := splitFlat_flatten hf hn
  have hlen := length_eq_count ks
  unfold splitByKinds
  by_cases hz : nonSingle ks = 0
  · obtain ⟨hl, hs⟩ := h0 hz
    have e1 : ks.length - countSingle ks = 0 := by omega
    simp only [e1, hl, hs, Nat.lt_irrefl, Nat.not_lt_zero, if_false, ne_eq, not_true_eq_false, decide_false,
      Bool.and_false, Bool.false_eq_true]
  · obtain ⟨v, hl, hs⟩ := h1 (by omega)
    have e1 : ks.length - countSingle ks = 1 := by omega
    have e2 : segs.flatten.length - countSingle ks = v := by omega
    have h2 : ¬ (segs.flatten.length < countSingle ks) := by omega
    simp only [e1, e2, h2, hs, Nat.lt_irrefl, if_false, Nat.succ_ne_zero, decide_false, Bool.false_and,
      Bool.false_eq_true]

end Xdsl.DeclFormat
