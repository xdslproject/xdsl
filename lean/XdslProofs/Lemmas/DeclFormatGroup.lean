import XdslProofs.Lemmas.DeclFormatSeq
/-!
C05, optional groups and whole formats.  The first half of the round trip (`parseD_printD`): parsing the
printed tokens (followed by any `rest` whose first token the format's trailing directives cannot
mistake) consumes exactly the printed tokens and leaves the parsing state `replayD fmt op st`.
The second half — `build` on that state returns the operation — is in `DeclFormatSlots` (the segments),
`DeclFormatDict` (the dictionaries) and `DeclFormatMain`, over the list of actions of `DeclFormatTrace`.
-/
namespace Xdsl.DeclFormat

/-- the construct of `d` is what `set_empty` leaves behind -/
def emptyS (op : OpInst) : SDir → Prop
  | .operand i _ => seg op.operands i = []
  | .operandTy i _ => seg op.operandTys i = []
  | .resultTy i _ => seg op.resultTys i = []
  | .region i .single => seg op.regions i = [0]
  | .region i _ => seg op.regions i = []
  | .succ i _ => seg op.succs i = []
  | .attr name isProp _ dflt =>
    dictGet isProp op name = none ∨ (dflt.isSome = true ∧ dictGet isProp op name = dflt)
  | .unitAttr name isProp _ => dictGet isProp op name = none
  | _ => True

/-- a unit attribute variable in a taken branch: the operation has the unit attribute -/
def unitSet (op : OpInst) : SDir → Prop
  | .unitAttr name isProp u => dictGet isProp op name = some u
  | _ => True

/-- group consistency (the op author's obligation): what the printer leaves out is empty -/
def GroupCons (op : OpInst) (a f : SDir) (r e : List SDir) : Prop :=
  if presentS op a = true then (∀ d ∈ e, emptyS op d) ∧ (∀ d ∈ f :: r, unitSet op d)
  else ∀ d ∈ f :: r, emptyS op d

/-- instance conditions for a whole format -/
def ValidD (D : Defs) (op : OpInst) : List Dir → Prop
  | [] => True
  | .s d :: ds => okInstAll D op d ∧ ValidD D op ds
  | .group a f r e :: ds =>
    (∀ d ∈ f :: r, okInstAll D op d) ∧ (∀ d ∈ e, okInstAll D op d) ∧ GroupCons op a f r e ∧ ValidD D op ds

theorem wfD_tail {d : Dir} {ds : List Dir} {K : List Cls} (h : wfD (d :: ds) K = true) : wfD ds K = true := by
  cases d <;> simp only [wfD, Bool.and_eq_true] at h <;> exact h.2

theorem fragD_tail {d : Dir} {ds : List Dir} (h : fragD (d :: ds) = true) : fragD ds = true := by
  cases d with
  | s d => exact h
  | group a f r e => simp only [fragD, Bool.and_eq_true] at h; exact h.2

theorem wfA_tail {D : Defs} {d : Dir} {ds : List Dir} (h : wfA D (d :: ds) = true) : wfA D ds = true := by
  cases d with
  | s d => simp only [wfA, Bool.and_eq_true] at h; exact h.2
  | group a f r e => exact h

theorem validD_tail {D : Defs} {op : OpInst} {d : Dir} {ds : List Dir} (h : ValidD D op (d :: ds)) :
    ValidD D op ds := by
  cases d with
  | s d => exact h.2
  | group a f r e => exact h.2.2.2

theorem wfD_group {a f : SDir} {r e : List SDir} {ds : List Dir} {K : List Cls}
    (h : wfD (.group a f r e :: ds) K = true) :
    okFirst f = true ∧ (isLiteral f || a == f) = true ∧ (f :: r).all okInGroup = true ∧
    e.all okInGroup = true ∧ (∀ n p u, SDir.unitAttr n p u ∉ e) ∧
    (firstSeq e (firstD ds K)).all (fun c => !conflict f c) = true ∧
    wfSeq (f :: r) (firstD ds K) = true ∧ wfSeq e (firstD ds K) = true := by
  simp only [wfD, Bool.and_eq_true] at h
  obtain ⟨⟨⟨⟨⟨⟨⟨⟨⟨hfirst, _⟩, hlit⟩, _⟩, hing⟩, hinge⟩, hunt⟩, hwfT⟩, hwfE⟩, _⟩ := h
  refine ⟨hfirst, hlit, hing, ?_, ?_, hunt, hwfT, hwfE⟩
  · exact List.all_eq_true.mpr fun x hx => (Bool.and_eq_true .. |>.mp (List.all_eq_true.mp hinge _ hx)).1
  · intro n p u hm
    cases (Bool.and_eq_true .. |>.mp (List.all_eq_true.mp hinge _ hm)).2

theorem inFragment_of_okInGroup {d : SDir} (h : okInGroup d = true) : inFragment d = true := by
  cases d <;> first | rfl | cases h

/-- optional groups hold no aggregate directive: `okInGroup` refuses them -/
theorem fragD_of_wfD (fmt : List Dir) (K : List Cls) (h : wfD fmt K = true) : fragD fmt = true := by
  induction fmt with
  | nil => rfl
  | cons d ds ih =>
    cases d with
    | s d => exact ih (wfD_tail h)
    | group a f r e =>
      obtain ⟨_, _, hing, hinge, _⟩ := wfD_group h
      have hin : ∀ {l : List SDir}, l.all okInGroup = true → l.all inFragment = true := fun hl =>
        List.all_eq_true.mpr fun x hx => inFragment_of_okInGroup (List.all_eq_true.mp hl _ hx)
      have hT := hin hing
      rw [List.all_cons, Bool.and_eq_true] at hT
      simp only [fragD, Bool.and_eq_true]
      exact ⟨⟨⟨hT.1, hT.2⟩, hin hinge⟩, ih (wfD_tail h)⟩

/-- a segment that counts as present is not empty (the types of an operand are as many as the operand) -/
theorem seg_ne_nil_of_present {op : OpInst} {fam : Fam} {i : Nat} {k : Kind}
    (hp : presentS op (segD fam i k) = true) (ht : tysMatch op (segD fam i k)) :
    seg (opF fam op) i ≠ [] := by
  intro h
  cases fam <;> simp only [opF] at h
  case operandTys =>
    have ht : (seg op.operandTys i).length = (seg op.operands i).length := ht
    have h0 : seg op.operands i = [] := List.eq_nil_of_length_eq_zero (by rw [← ht, h]; rfl)
    simp [presentS, segD, h0] at hp
  case regions => cases k <;> simp [presentS, segD, h] at hp
  all_goals simp [presentS, segD, h] at hp

theorem present_print (D : Defs) (op : OpInst) (a : SDir) (hok : okFirst a = true)
    (hinst : okInstAll D op a) (hp : presentS op a = true) : printS D op a ≠ [] := by
  cases a using SDir.segCases with
  | seg fam i k =>
    rw [printS_segD]
    cases hx : seg (opF fam op) i with
    | nil => exact absurd hx (seg_ne_nil_of_present hp hinst.2)
    | cons x xs => exact printSeg_cons_ne fam x xs
  | kw s => exact List.cons_ne_nil _ _
  | punct s => exact List.cons_ne_nil _ _
  | attr name isProp optional dflt =>
    simp only [presentS, printS] at hp ⊢
    cases hg : dictGet isProp op name with
    | none => simp [hg] at hp
    | some v =>
      simp only [hg] at hp
      have : (dflt == some v) = false := by simpa using hp
      simp [this]
  | _ => cases hok

theorem printS_ne_nil_of_isLiteral (D : Defs) (op : OpInst) {f : SDir} (h : isLiteral f = true) :
    printS D op f ≠ [] := by
  cases f <;> first | exact List.cons_ne_nil _ _ | cases h

theorem parseOptS_cases (D : Defs) (f : SDir) :
    (∃ i, f = .region i .single) ∨ parseOptS D f = parseS D f := by
  cases f with
  | region i k => cases k <;> first | exact Or.inl ⟨i, rfl⟩ | exact Or.inr rfl
  | _ => exact Or.inr rfl

theorem parseOptS_eq_parseS (D : Defs) {f : SDir} (h : ∀ i, f ≠ .region i .single) :
    parseOptS D f = parseS D f :=
  (parseOptS_cases D f).resolve_left fun ⟨i, e⟩ => h i e

theorem parseOptS_present (D : Defs) (op : OpInst) (f : SDir) (rest : List Tok) (st : PState)
    (hfrag : inFragment f = true) (hinst : okInst D op f) (hf : FollowOK f rest)
    (hne : printS D op f ≠ []) :
    parseOptS D f (printS D op f ++ rest) st = some (true, replayS D op f st, rest) := by
  rcases parseOptS_cases D f with ⟨i, rfl⟩ | hr
  · obtain ⟨x, hx⟩ := List.length_eq_one_iff.mp hinst
    simp [parseOptS, printS, replayS, hx, optOne, selRegion]
  · obtain ⟨b, hb, ht⟩ := parseS_printS_ret D op f rest st hinst (okAgg_of_inFragment D hfrag) hf
    rw [hr, hb, ht hne]

/-- what `set_empty` writes into the slot of a segment directive -/
def emptyVal : Fam → Kind → List Nat
  | .regions, .single => [0]
  | _, _ => []

theorem emptyVal_nullable (fam : Fam) {k : Kind} (hk : kindNullable k = true) : emptyVal fam k = [] := by
  cases k with
  | single => cases hk
  | _ => cases fam <;> rfl

theorem emptyS_segD (op : OpInst) (fam : Fam) (i : Nat) (k : Kind) :
    emptyS op (segD fam i k) ↔ seg (opF fam op) i = emptyVal fam k := by
  cases fam <;> cases k <;> exact Iff.rfl

theorem parseOptS_absent (D : Defs) (op : OpInst) (f : SDir) (toks : List Tok) (st : PState)
    (hok : okFirst f = true)
    (hempty : emptyS op f) (hc : conflict f (clsHd toks) = false) :
    parseOptS D f toks st = some (false, replayS D op f st, toks) := by
  cases f using SDir.segCases with
  | seg fam i k =>
    by_cases hk : kindNullable k = true
    · have h := parseS_segD_print D fam i k [] toks st (by cases k <;> first | rfl | cases hk)
        (fun _ => passes_segD hc) (fun _ h => absurd rfl h)
      rw [printSeg_nil, List.nil_append] at h
      have hne : ∀ j, segD fam i k ≠ .region j .single := fun j e => by
        cases k with
        | single => cases hk
        | _ => cases fam <;> cases e
      rw [parseOptS_eq_parseS D hne, replayS_segD, (emptyS_segD op fam i k).mp hempty, emptyVal_nullable fam hk, h]
      rfl
    · -- only a region may be first in its group without being optional
      cases k <;> first | exact absurd rfl hk | skip
      cases fam <;> first | cases hok | skip
      have hs : seg op.regions i = [0] := hempty
      have hp : Passes selRegion badBrace toks := passes_segD hc
      simp [parseOptS, segD, replayS, hs, optOne_none badBrace toks hp]
  | kw s => exact parseS_literal_absent D rfl toks st hc
  | punct s => exact parseS_literal_absent D rfl toks st hc
  | attr name isProp optional dflt =>
    obtain rfl : optional = true := hok
    have ho : attrOut op name isProp true dflt = none := by
      unfold attrOut
      rcases hempty with hg | ⟨_, hg⟩
      · rw [hg]; rfl
      · rw [hg]; cases dflt <;> simp
    rw [replayS_attr, ho]
    exact parseS_attr_print D name isProp true dflt none toks st (fun h => nomatch h) (fun _ => passes_attr hc)
  | _ => cases hok

/-- specification of the state change of one top-level directive -/
def replayDir (D : Defs) (op : OpInst) : Dir → PState → PState
  | .s d, st => replayS D op d st
  | .group a f r e, st =>
    if presentS op a = true then setEmptySeq (replaySeq D op (f :: r) st) e
    else replaySeq D op e (setEmptySeq (replayS D op f st) r)

def replayD (D : Defs) (op : OpInst) : List Dir → PState → PState
  | [], st => st
  | d :: ds, st => replayD D op ds (replayDir D op d st)

theorem clsHd_printD (D : Defs) (op : OpInst) (fmt : List Dir) (K : List Cls) (rest : List Tok)
    (hv : ValidD D op fmt) (hK : clsHd rest ∈ K) :
    clsHd (printD D fmt op ++ rest) ∈ firstD fmt K := by
  induction fmt with
  | nil => simpa [printD, firstD] using hK
  | cons d ds ih =>
    cases d with
    | s d =>
      rw [printD, printDir, List.append_assoc]
      exact clsHd_printS D op d _ _ hv.1.1 (ih hv.2)
    | group a f r e =>
      obtain ⟨hv1, hv2, _, hv4⟩ := hv
      have ih' := ih hv4
      simp only [printD, printDir, firstD]
      by_cases hp : presentS op a = true
      · simp only [hp, if_true]
        apply List.mem_append_left
        have := clsHd_printSeq D op (f :: r) (firstD ds K) (printD D ds op ++ rest)
          (fun x hx => (hv1 x hx).1) ih'
        simpa [printSeq, List.append_assoc] using this
      · simp only [hp, if_false, Bool.false_eq_true]
        apply List.mem_append_right
        have := clsHd_printSeq D op e (firstD ds K) (printD D ds op ++ rest)
          (fun x hx => (hv2 x hx).1) ih'
        simpa [List.append_assoc] using this

theorem parseDir_printDir (D : Defs) (op : OpInst) (d : Dir) (ds : List Dir) (K : List Cls)
    (tail : List Tok) (st : PState)
    (hwf : wfD (d :: ds) K = true) (ha : wfA D (d :: ds) = true) (hv : ValidD D op (d :: ds))
    (htail : clsHd tail ∈ firstD ds K) :
    parseDir D d (printDir D op d ++ tail) st = some (replayDir D op d st, tail) := by
  cases d with
  | s d =>
    simp only [wfD, Bool.and_eq_true] at hwf
    simp only [wfA, Bool.and_eq_true] at ha
    obtain ⟨⟨_, hfol⟩, _⟩ := hwf
    obtain ⟨b, hb⟩ := parseS_printS D op d tail st hv.1.1 ha.1
      (followOK_of_okFollow hfol htail)
    simp [parseDir, printDir, replayDir, hb]
  | group a f r e =>
    obtain ⟨hfirst, hlit, hing, hinge, _, hunt, hwfT, hwfE⟩ := wfD_group hwf
    obtain ⟨hv1, hv2, hcons, _⟩ := hv
    have hfragT : ∀ x ∈ f :: r, inFragment x = true := fun x hx => inFragment_of_okInGroup (List.all_eq_true.mp hing _ hx)
    by_cases hp : presentS op a = true
    · simp only [GroupCons, hp, if_true] at hcons
      simp only [wfSeq, Bool.and_eq_true] at hwfT
      obtain ⟨hfolF, hwfR⟩ := hwfT
      have hfr : ∀ x ∈ r, inFragment x = true := fun x hx => hfragT x (List.mem_cons_of_mem _ hx)
      have hir : ∀ x ∈ r, okInst D op x := fun x hx => (hv1 x (List.mem_cons_of_mem _ hx)).1
      have hfirstR := clsHd_printSeq D op r (firstD ds K) tail hir htail
      have hnef : printS D op f ≠ [] := by
        rcases Bool.or_eq_true .. |>.mp hlit with h | h
        · exact printS_ne_nil_of_isLiteral D op h
        · have : a = f := by simpa using h
          subst this
          exact present_print D op a hfirst (hv1 a (List.mem_cons_self ..)) hp
      have h1 := parseOptS_present D op f (printSeq D op r ++ tail) st (hfragT f (List.mem_cons_self ..))
        (hv1 f (List.mem_cons_self ..)).1 (followOK_of_okFollow hfolF hfirstR) hnef
      have h2 := parseSeq_printSeq D op r (firstD ds K) tail (replayS D op f st) hwfR hfr hir htail
      simp [parseDir, printDir, replayDir, hp, List.append_assoc, h1, h2, replaySeq]
    · have hp' : presentS op a = false := by simpa using hp
      simp only [GroupCons, hp] at hcons
      have hfe : ∀ x ∈ e, inFragment x = true := fun x hx => inFragment_of_okInGroup (List.all_eq_true.mp hinge _ hx)
      have hie : ∀ x ∈ e, okInst D op x := fun x hx => (hv2 x hx).1
      have hfirstE := clsHd_printSeq D op e (firstD ds K) tail hie htail
      have h1 := parseOptS_absent D op f (printSeq D op e ++ tail) st hfirst
        (hcons f (List.mem_cons_self ..)) (by simpa using List.all_eq_true.mp hunt _ hfirstE)
      have h2 := parseSeq_printSeq D op e (firstD ds K) tail (setEmptySeq (replayS D op f st) r) hwfE hfe hie
        htail
      simp [parseDir, printDir, replayDir, hp', h1, h2]

theorem parseD_printD (D : Defs) (op : OpInst) (fmt : List Dir) (K : List Cls) (rest : List Tok) (st : PState)
    (hwf : wfD fmt K = true) (ha : wfA D fmt = true) (hv : ValidD D op fmt) (hK : clsHd rest ∈ K) :
    parseD D fmt (printD D fmt op ++ rest) st = some (replayD D op fmt st, rest) := by
  induction fmt generalizing st with
  | nil => simp [parseD, printD, replayD]
  | cons d ds ih =>
    have htail := clsHd_printD D op ds K rest (validD_tail hv) hK
    have h1 := parseDir_printDir D op d ds K (printD D ds op ++ rest) st hwf ha hv htail
    simp only [printD, List.append_assoc, parseD, h1, replayD]
    exact ih _ (wfD_tail hwf) (wfA_tail ha) (validD_tail hv)

end Xdsl.DeclFormat
