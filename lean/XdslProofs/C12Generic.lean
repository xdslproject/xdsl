import XdslProofs.C12UnionFind
import XdslProofs.Lemmas.DisjointSetGeneric
/-!
# C12 — the generic `DisjointSet` wrapper (values ↔ indices)

`DisjointSet(values)` keeps `_values`, `_index_by_value` and an `IntDisjointSet` `_base`.  Under the
documented contract — the initial values are pairwise distinct and `add` is given a *new* value —
every wrapper operation is the `IntDisjointSet` operation on the indices of its arguments
(`gstep_eq_uf`, `gds_simulates`), raises `KeyError` exactly for absent values, and therefore inherits
the partition theorems of `C12UnionFind` on values (`gstep_refines`, `gds_history`, …).

Vocabulary (`Lemmas/DisjointSetGeneric.lean`): `GWF g` — wrapper invariant (`_values` duplicate free,
`_base` has one node per value, `_index_by_value[v] = i ↔ _values[i] = v`); `toOp vals o` — the index
operation `o` stands for (`none` if a value is absent); `Fresh`/`Contract` — the contract of `add`;
`GSpec` = values + value pairs unioned so far, `GOutOK` — results the value partition allows,
`GRepr g γ` — `g` represents `γ`; `Through vals σ γ` — `γ` is the index-level abstract state `σ` read
through `vals`, with the two lemmas that carry `OutOK`/`Spec.step` over to `GOutOK`/`GSpec.step`.
-/
namespace Xdsl.DisjointSet

/-- `DisjointSet(vs)` for pairwise distinct `vs` satisfies the wrapper invariant, over the forest of
`len(vs)` singletons. -/
theorem ginit_inv (vs : List Nat) (h : vs.Nodup) :
    GWF (ginit vs) ∧ (ginit vs).base = init vs.length ∧ (ginit vs).values = vs :=
  ⟨ginit_wf vs h, rfl, rfl⟩

/-- Under the invariant the dict lookup succeeds exactly for present values and yields the position
of the value in `_values`: "KeyError exactly for absent values". -/
theorem index_lookup (g : GDS) (h : GWF g) (v : Nat) :
    g.index.get v = if v ∈ g.values then some (g.values.idxOf v) else none := by
  split
  · rename_i hv; exact h.get_of_mem hv
  · rename_i hv; exact h.get_of_not_mem hv

/-- **Operation-wise.** Under the invariant and the `add` contract: the new `_values` are the old
ones (plus the added value), the invariant is kept, and
* if all value arguments are present, `_base` afterwards is `_base` after the `IntDisjointSet`
  operation on the indices of the arguments, and the result is that operation's result (`find`: read
  through `_values`);
* otherwise the call raises `KeyError` and changes nothing. -/
theorem gstep_eq_uf (g : GDS) (h : GWF g) (hi : Inv g.base) (hc : Counts g.base) (o : GOp)
    (hf : Fresh g.values o) :
    GWF (gstep g o).1 ∧ (gstep g o).1.values = valsStep g.values o ∧
    match toOp g.values o with
    | some o' => (gstep g o).1.base = (step g.base o').1 ∧
        (gstep g o).2 = liftOut g.values (isFind o) (step g.base o').2
    | none => gstep g o = (g, .keyError) := by
  have keep : ∀ o' : Op, o' ≠ .add → ∀ b, GWF (g.lift b (step g.base o')).1 := by
    intro o' ho' b
    refine ⟨h.nodup, ?_, h.index⟩
    have := step_size g.base hi hc o'
    rw [if_neg ho'] at this
    exact this.trans h.size
  cases o with
  | add v =>
    refine ⟨gwf_add h hf, rfl, rfl, rfl⟩
  | find v =>
    by_cases hv : v ∈ g.values
    · simp only [gstep, toOp, h.get_of_mem hv, if_pos hv]
      exact ⟨keep _ (by simp) _, rfl, rfl, rfl⟩
    · simp only [gstep, toOp, h.get_of_not_mem hv, if_neg hv]
      exact ⟨h, rfl, trivial⟩
  | union a b | unionLeft a b | connected a b =>
    -- both dict lookups come first: the first absent value raises `KeyError`
    by_cases hab : a ∈ g.values ∧ b ∈ g.values
    · simp only [gstep, toOp, h.get_of_mem hab.1, h.get_of_mem hab.2, if_pos hab]
      exact ⟨keep _ (by simp) _, rfl, rfl, rfl⟩
    · by_cases ha : a ∈ g.values
      · have hb : b ∉ g.values := fun c => hab ⟨ha, c⟩
        simp only [gstep, toOp, h.get_of_mem ha, h.get_of_not_mem hb, if_neg hab]
        exact ⟨h, rfl, trivial⟩
      · simp only [gstep, toOp, h.get_of_not_mem ha, if_neg hab]
        exact ⟨h, rfl, trivial⟩

theorem gstep_base_inv (g : GDS) (h : GWF g) (hi : Inv g.base) (hc : Counts g.base) (o : GOp)
    (hf : Fresh g.values o) : Inv (gstep g o).1.base ∧ Counts (gstep g o).1.base := by
  have := (gstep_eq_uf g h hi hc o hf).2.2
  cases e : toOp g.values o with
  | some o' => rw [e] at this; rw [this.1]; exact step_preserves_inv g.base hi hc o'
  | none => rw [e] at this; rw [this]; exact ⟨hi, hc⟩

/-- **Histories.** Under the contract, `_base` after a wrapper history is `_base` after the translated
index history `transOps` (the calls whose values are all present, on their indices). -/
theorem gds_simulates (os : List GOp) : ∀ (g : GDS), GWF g → Inv g.base → Counts g.base →
    Contract g.values os →
    (grun g os).1.base = (run g.base (transOps g.values os)).1
      ∧ GWF (grun g os).1 ∧ Inv (grun g os).1.base ∧ Counts (grun g os).1.base := by
  induction os with
  | nil => intro g h hi hc _; exact ⟨rfl, h, hi, hc⟩
  | cons o os ih =>
    intro g h hi hc hcon
    obtain ⟨hw, hv, hm⟩ := gstep_eq_uf g h hi hc o hcon.1
    obtain ⟨hi', hc'⟩ := gstep_base_inv g h hi hc o hcon.1
    obtain ⟨e1, e2⟩ := ih (gstep g o).1 hw hi' hc' (hv ▸ hcon.2)
    refine ⟨?_, e2⟩
    show (grun (gstep g o).1 os).1.base = _
    rw [e1, hv, transOps]
    cases e : toOp g.values o with
    | some o' => rw [e] at hm; rw [hm.1]; rfl
    | none => rw [e] at hm; rw [hm]; rfl

/-- **One wrapper call refines the value partition.** Under the `add` contract the result is one the
abstract value state allows (`GOutOK`: `find v` returns a value of `v`'s class; `connected a b` is
true iff `a`,`b` are related by the equivalence closure of the value pairs unioned so far;
`union`/`union_left` return true iff the classes were distinct; `KeyError` exactly when a value is
absent) and the new state represents the new abstract state. -/
theorem gstep_refines (g : GDS) (γ : GSpec) (h : GRepr g γ) (o : GOp) (hf : Fresh g.values o) :
    GOutOK γ o (gstep g o).2 ∧ GRepr (gstep g o).1 (γ.step o) := by
  obtain ⟨hw, σ, hr, t⟩ := grepr_iff.mp h
  obtain ⟨hw', hv', hm⟩ := gstep_eq_uf g hw hr.inv hr.counts o hf
  -- the call is an index call (or a `KeyError`): carry `step_refines` over through `_values`
  cases e : toOp g.values o with
  | none =>
    rw [e] at hm
    obtain ⟨t1, t2⟩ := t.none e
    rw [hm, t2]
    exact ⟨t1, h⟩
  | some o' =>
    rw [e] at hm
    obtain ⟨t1, t2⟩ := t.some e hf
    obtain ⟨ho, hr'⟩ := step_refines g.base σ hr o'
    rw [hm.2]
    exact ⟨(t1 _ ho).1, grepr_iff.mpr ⟨hw', σ.step o', hm.1 ▸ hr', hv' ▸ t2⟩⟩

theorem grepr_init (vs : List Nat) (h : vs.Nodup) : GRepr (ginit vs) { values := vs } :=
  ⟨ginit_wf vs h, rfl, { n := vs.length }, repr_init _, (fun _ hq => by cases hq), rfl⟩

theorem grun_refines (os : List GOp) : ∀ (g : GDS) (γ : GSpec), GRepr g γ → Contract g.values os →
    GOutsOK γ os (grun g os).2 ∧ GRepr (grun g os).1 (γ.run os) := by
  induction os with
  | nil => intro g γ h _; exact ⟨trivial, h⟩
  | cons o os ih =>
    intro g γ h hc
    obtain ⟨h1, h2⟩ := gstep_refines g γ h o hc.1
    obtain ⟨hw, σ, hr, _⟩ := grepr_iff.mp h
    have hv := (gstep_eq_uf g hw hr.inv hr.counts o hc.1).2.1
    obtain ⟨h3, h4⟩ := ih (gstep g o).1 (γ.step o) h2 (hv ▸ hc.2)
    exact ⟨⟨h1, h3⟩, h4⟩

/-- After any history from `DisjointSet(vs)` (distinct `vs`, fresh `add`s): the wrapper invariant
holds, `_values` are the initial values followed by the added ones, `_base` is the forest reached by
the translated index history, and all results along the way were those of the value partition. -/
theorem gds_history (vs : List Nat) (hnd : vs.Nodup) (os : List GOp) (hc : Contract vs os) :
    let g := (grun (ginit vs) os).1
    let γ := GSpec.run { values := vs } os
    GWF g ∧ g.values = γ.values
      ∧ g.base = (run (init vs.length) (transOps vs os)).1
      ∧ GOutsOK { values := vs } os (grun (ginit vs) os).2 := by
  obtain ⟨h1, h2⟩ := grun_refines os (ginit vs) { values := vs } (grepr_init vs hnd) hc
  have h3 := gds_simulates os (ginit vs) (ginit_wf vs hnd) (init_inv _) (init_counts _) hc
  exact ⟨h2.wf, h2.values, h3.1, h1⟩

/-- `find v` in a state that represents `γ`: a present value's representative is a present value of
its class; an absent value raises `KeyError` and nothing changes. -/
theorem find_member_of_repr (g : GDS) (γ : GSpec) (h : GRepr g γ) (v : Nat) :
    if v ∈ g.values then ∃ r, (gstep g (.find v)).2 = .val r ∧ r ∈ g.values ∧ Rel γ.vus v r
    else gstep g (.find v) = (g, .keyError) := by
  have h3 := (gstep_refines g γ h (.find v) trivial).1
  simp only [GOutOK, ← h.values] at h3
  split
  · rename_i hv; simpa only [if_pos hv] using h3
  · rename_i hv
    obtain ⟨hw, σ, hr, _⟩ := grepr_iff.mp h
    have := (gstep_eq_uf g hw hr.inv hr.counts (.find v) trivial).2.2
    simpa only [toOp, if_neg hv] using this

/-- `find v` after any history under the contract (see `find_member_of_repr`). -/
theorem gds_find_member (vs : List Nat) (hnd : vs.Nodup) (os : List GOp) (hc : Contract vs os)
    (v : Nat) :
    let g := (grun (ginit vs) os).1
    let γ := GSpec.run { values := vs } os
    if v ∈ g.values then ∃ r, (gstep g (.find v)).2 = .val r ∧ r ∈ g.values ∧ Rel γ.vus v r
    else gstep g (.find v) = (g, .keyError) := by
  obtain ⟨_, h2⟩ := grun_refines os (ginit vs) { values := vs } (grepr_init vs hnd) hc
  intro g γ
  exact find_member_of_repr g γ h2 v

/-- `connected`, `union`, `union_left` after any history, for present values: `connected` answers
the equivalence closure of the value pairs unioned so far, the unions return true iff the classes
were distinct. -/
theorem gds_connected_union (vs : List Nat) (hnd : vs.Nodup) (os : List GOp) (hc : Contract vs os)
    (a b : Nat) :
    let g := (grun (ginit vs) os).1
    let γ := GSpec.run { values := vs } os
    a ∈ g.values → b ∈ g.values →
    (∃ c, (gstep g (.connected a b)).2 = .bool c ∧ (c = true ↔ Rel γ.vus a b))
    ∧ (∃ c, (gstep g (.union a b)).2 = .bool c ∧ (c = true ↔ ¬ Rel γ.vus a b))
    ∧ (∃ c, (gstep g (.unionLeft a b)).2 = .bool c ∧ (c = true ↔ ¬ Rel γ.vus a b)) := by
  obtain ⟨_, h2⟩ := grun_refines os (ginit vs) { values := vs } (grepr_init vs hnd) hc
  intro g γ ha hb
  have hab : a ∈ γ.values ∧ b ∈ γ.values := by rw [← h2.values]; exact ⟨ha, hb⟩
  have h3 := (gstep_refines g γ h2 (.connected a b) trivial).1
  have h4 := (gstep_refines g γ h2 (.union a b) trivial).1
  have h5 := (gstep_refines g γ h2 (.unionLeft a b) trivial).1
  simp only [GOutOK, if_pos hab] at h3 h4 h5
  exact ⟨h3, h4, h5⟩

/-- "KeyError exactly for absent values": a call raises `KeyError` iff one of its value arguments is
not in `_values` (that it then has no effect is the `none` case of `gstep_eq_uf`). -/
theorem gds_keyError_iff (g : GDS) (γ : GSpec) (h : GRepr g γ) (o : GOp) (hf : Fresh g.values o) :
    (gstep g o).2 = .keyError ↔ toOp g.values o = none := by
  obtain ⟨hw, σ, hr, t⟩ := grepr_iff.mp h
  have hm := (gstep_eq_uf g hw hr.inv hr.counts o hf).2.2
  cases e : toOp g.values o with
  | none => rw [e] at hm; simp [hm]
  | some o' =>
    rw [e] at hm
    simpa [hm.2] using ((t.some e hf).1 _ (step_refines g.base σ hr o').1).2

/-- "Left-biased union keeps the left representative", on values: right after `union_left(a, b)`
`find` of any value of the merged class (in particular `a` and `b`) returns what `find a` returned
right before it. -/
theorem g_union_left_rep (g : GDS) (γ : GSpec) (h : GRepr g γ) (a b y : Nat)
    (ha : a ∈ g.values) (hb : b ∈ g.values) (hy : y ∈ g.values)
    (hrel : Rel ((a, b) :: γ.vus) y a) :
    (gstep (gstep g (.unionLeft a b)).1 (.find y)).2 = (gstep g (.find a)).2 := by
  obtain ⟨hw, σ, hr, t⟩ := grepr_iff.mp h
  -- the three wrapper calls are index calls …
  obtain ⟨hw1, hv1, hm1⟩ := gstep_eq_uf g hw hr.inv hr.counts (.unionLeft a b) trivial
  obtain ⟨hi1, hc1⟩ := gstep_base_inv g hw hr.inv hr.counts (.unionLeft a b) trivial
  have hm2 := (gstep_eq_uf _ hw1 hi1 hc1 (.find y) trivial).2.2
  have hm3 := (gstep_eq_uf g hw hr.inv hr.counts (.find a) trivial).2.2
  have hab := And.intro ha hb
  simp only [valsStep] at hv1
  simp only [toOp, if_pos hab] at hm1
  simp only [toOp, hv1, if_pos hy] at hm2
  simp only [toOp, if_pos ha] at hm3
  -- … and relatedness after the union is relatedness of the indices
  have key := ((t.some (o := .unionLeft a b)
    (o' := .unionLeft (g.values.idxOf a) (g.values.idxOf b)) (by simp only [toOp, if_pos hab])
    trivial).2.rel hy ha).mpr
  simp only [Spec.step, GSpec.step, t.values, if_pos hab,
    if_pos (And.intro (t.idx_lt ha) (t.idx_lt hb))] at key
  rw [hm2.2, hm3.2, hm1.1, unionLeft_find_rep_of_rel g.base σ hr _ _ _ (t.idx_lt ha) (t.idx_lt hb)
    (t.idx_lt hy) (key hrel)]
  rfl

/-- a concrete wrapper history over values `7, 3, 9` (indices 0, 1, 2), with a `KeyError` for the
absent value `5`, an `add 5`, and `union_left 5 7` making `5` the representative of `{7, 3, 5}` -/
example :
    (grun (ginit [7, 3, 9]) [.union 7 3, .connected 3 7, .connected 3 9, .find 5, .add 5,
        .unionLeft 5 7, .find 3, .find 9]).2
      = [.bool true, .bool true, .bool false, .keyError, .unit, .bool true, .val 5, .val 9] := by
  decide

/-- outside the contract (duplicate initial value) the index map is not the inverse of `_values`:
position 0 is unreachable -/
example : (ginit [4, 4]).index.get 4 = some 1 ∧ ¬ GWF (ginit [4, 4]) := by
  refine ⟨by decide, fun h => ?_⟩
  have := h.nodup
  simp [ginit] at this

end Xdsl.DisjointSet
