import XdslModel.RewriteDriver
import XdslProofs.C12Worklist
/-!
Helper lemmas for C11 (greedy rewrite driver), at the level of one worklist operation and one rewriter
call: the worklist facts are the C12 refinement theorem (`Worklist.step_refines`) read as statements
about membership in `abs`; `exec` is one record equation (`exec_eq`) from which the field lemmas of
`execAll`, the exact worklist effect and the invariants through `exec`/`execAll` follow.  At the end:
what a handler receives (`view` of `deliver`), for the histories of `XdslProofs/C11.lean`.
-/
namespace Xdsl.RewriteDriver
open Xdsl.Worklist (WL Inv abs step_refines)

theorem push_spec (w : WL) (h : Inv w) (x : Nat) :
    Inv (Worklist.step w (.push x)).1 ∧
    ∀ y, y ∈ abs (Worklist.step w (.push x)).1 ↔ (y ∈ abs w ∨ y = x) := by
  obtain ⟨_, h2, h3⟩ := step_refines w h (.push x)
  refine ⟨h3, fun y => ?_⟩
  rw [h2]; simp only [Worklist.Spec.step]
  split
  · rename_i hx; exact ⟨Or.inl, fun h => h.elim id (· ▸ hx)⟩
  · rw [List.mem_cons, or_comm]

theorem remove_spec (w : WL) (h : Inv w) (x : Nat) :
    Inv (Worklist.step w (.remove x)).1 ∧
    ∀ y, y ∈ abs (Worklist.step w (.remove x)).1 ↔ (y ∈ abs w ∧ y ≠ x) := by
  obtain ⟨_, h2, h3⟩ := step_refines w h (.remove x)
  refine ⟨h3, fun y => ?_⟩
  rw [h2]; simp [Worklist.Spec.step]

theorem pushAll_spec (w : WL) (h : Inv w) (xs : List Nat) :
    Inv (pushAll w xs) ∧ ∀ y, y ∈ abs (pushAll w xs) ↔ (y ∈ abs w ∨ y ∈ xs) := by
  induction xs generalizing w with
  | nil => exact ⟨h, fun y => by simp [pushAll]⟩
  | cons x r ih =>
    obtain ⟨h1, h2⟩ := push_spec w h x
    obtain ⟨i1, i2⟩ := ih _ h1
    refine ⟨i1, fun y => ?_⟩
    show y ∈ abs (pushAll (Worklist.step w (.push x)).1 r) ↔ _
    rw [i2 y, h2 y, List.mem_cons, or_assoc]

theorem removeAll_spec (w : WL) (h : Inv w) (xs : List Nat) :
    Inv (removeAll w xs) ∧ ∀ y, y ∈ abs (removeAll w xs) ↔ (y ∈ abs w ∧ y ∉ xs) := by
  induction xs generalizing w with
  | nil => exact ⟨h, fun y => by simp [removeAll]⟩
  | cons x r ih =>
    obtain ⟨h1, h2⟩ := remove_spec w h x
    obtain ⟨i1, i2⟩ := ih _ h1
    refine ⟨i1, fun y => ?_⟩
    show y ∈ abs (removeAll (Worklist.step w (.remove x)).1 r) ↔ _
    rw [i2 y, h2 y, List.mem_cons, not_or, and_assoc]

theorem pushAll_nil (w : WL) : pushAll w [] = w := rfl

theorem removeAll_nil (w : WL) : removeAll w [] = w := rfl

theorem popNext_spec (pick : Option (List Nat → Nat)) (w : WL) (h : Inv w) :
    match popNext pick w with
    | none => abs w = []
    | some (x, w') => Inv w' ∧
      match pick with
      | none => abs w = x :: abs w'
      | some _ => x ∈ abs w ∧ abs w' = (abs w).filter (· ≠ x) := by
  obtain ⟨e1, e2, e3⟩ := step_refines w h .isEmpty
  -- `__bool__` answers for the abstract stack and leaves it as it is
  have he : Worklist.step w .isEmpty = ((Worklist.step w .isEmpty).1, .bool (!(abs w).isEmpty)) :=
    Prod.ext rfl e1
  generalize (Worklist.step w .isEmpty).1 = w1 at he e2 e3
  unfold popNext
  rw [he]
  cases hl : abs w with
  | nil => rfl
  | cons a t =>
    replace e2 : abs w1 = a :: t := hl ▸ e2
    cases pick with
    | none =>
      obtain ⟨p1, p2, p3⟩ := step_refines w1 e3 .pop
      rw [e2] at p1 p2
      have hp : Worklist.step w1 .pop = ((Worklist.step w1 .pop).1, .item a) := Prod.ext rfl p1
      generalize (Worklist.step w1 .pop).1 = w2 at hp p2 p3
      simp only [List.isEmpty_cons, Bool.not_false, hp]
      exact ⟨p3, by rw [p2]; rfl⟩
    | some f =>
      have hlt : f (abs w1) % (abs w1).length < (abs w1).length :=
        Nat.mod_lt _ (by rw [e2]; exact Nat.succ_pos _)
      obtain ⟨x, hx⟩ : ∃ x, (abs w1)[f (abs w1) % (abs w1).length]? = some x :=
        ⟨_, List.getElem?_eq_getElem hlt⟩
      obtain ⟨_, r2, r3⟩ := step_refines w1 e3 (.remove x)
      simp only [List.isEmpty_cons, Bool.not_false, hx]
      refine ⟨r3, ?_, ?_⟩
      · rw [← e2]; exact List.mem_of_getElem? hx
      · rw [r2, e2]; simp [Worklist.Spec.step]

theorem popNext_some (pick : Option (List Nat → Nat)) (w w' : WL) (x : Nat) (h : Inv w)
    (hp : popNext pick w = some (x, w')) :
    Inv w' ∧ x ∈ abs w ∧ (∀ y, y ∈ abs w' → y ∈ abs w) ∧ (∀ y, y ∈ abs w → y = x ∨ y ∈ abs w') := by
  have hs := popNext_spec pick w h
  rw [hp] at hs
  refine ⟨hs.1, ?_⟩
  cases pick with
  | none =>
    rw [hs.2]
    exact ⟨List.mem_cons_self, fun y => List.mem_cons_of_mem _, fun y => List.mem_cons.mp⟩
  | some f =>
    obtain ⟨hx, hs⟩ := hs.2
    rw [hs]
    refine ⟨hx, fun y hy => (List.mem_filter.mp hy).1, fun y hy => ?_⟩
    by_cases hyx : y = x
    · exact Or.inl hyx
    · exact Or.inr (List.mem_filter.mpr ⟨hy, by simpa using hyx⟩)

theorem popNext_none (pick : Option (List Nat → Nat)) (w : WL) (h : Inv w)
    (hp : popNext pick w = none) : abs w = [] := by
  have hs := popNext_spec pick w h
  rwa [hp] at hs

theorem not_setsFlag_iff (a : Action) : a.setsFlag = false ↔ a = .rauw false [] := by
  cases a <;> simp [Action.setsFlag]

/-- The events the model delivers for one call (read off `exec`). -/
def Action.events : Action → List Event
  | .insert op _ => [.inserted op]
  | .replaced op _ => [.replaced op]
  | .rauw _ users => users.map .modified
  | .erase op _ _ => [.removed op]
  | .modify op => [.modified op]
  | .blockArg => []
  | .inlineBlock _ _ => []
  | .createBlock => [.blockCreated]

/-- Effect of one call on the attached set. -/
def attAfter (att : List Nat) : Action → List Nat
  | .insert op nested => att ++ (op :: nested).filter fun y => !att.contains y
  | .erase op nested _ => att.filter fun y => !(op :: nested).contains y
  | _ => att

/-- the ops a call removes from the worklist (`_handle_operation_removal`: the erased op and every
op nested in it) -/
def Action.unqueued : Action → List Nat
  | .erase op nested _ => op :: nested
  | _ => []

/-- the ops a call pushes in recursive mode (`_handle_operation_insertion/_modification/
_replacement`, `_add_operands_to_worklist`) -/
def Action.queued : Action → List Nat
  | .insert op _ => [op]
  | .replaced _ users => users
  | .rauw _ users => users
  | .erase _ _ defs => defs
  | .modify op => [op]
  | _ => []

/-- `exec`, field by field: the handlers push first (recursive mode only), then the removal handler
takes the erased ops off again. -/
theorem exec_eq (r : Bool) (s : St) (a : Action) :
    exec r s a =
      { attached := attAfter s.attached a,
        wl := removeAll (if r then pushAll s.wl a.queued else s.wl) a.unqueued,
        flag := s.flag || a.setsFlag,
        changed := s.changed,
        log := s.log ++ a.events,
        executed := s.executed ++ [a],
        trace := s.trace } := by
  cases a <;>
    simp only [exec, attAfter, Action.queued, Action.unqueued, Action.setsFlag, Action.events,
      pushAll_nil, removeAll_nil, Bool.or_true, Bool.or_assoc, List.append_nil, ite_self]

theorem exec_wlInv (r : Bool) (s : St) (a : Action) (h : Inv s.wl) : Inv (exec r s a).wl := by
  rw [exec_eq]
  cases r
  · exact (removeAll_spec _ h _).1
  · exact (removeAll_spec _ (pushAll_spec _ h _).1 _).1

/-- Exact worklist effect of one rewriter call, as a set: afterwards the worklist holds what it
held before plus (recursive mode) the ops the handlers push, minus the erased op and the ops nested
in it — nothing else comes or goes. -/
theorem exec_worklist_spec (r : Bool) (s : St) (a : Action) (h : Inv s.wl) (y : Nat) :
    y ∈ abs (exec r s a).wl ↔
      ((y ∈ abs s.wl ∨ (r = true ∧ y ∈ a.queued)) ∧ y ∉ a.unqueued) := by
  rw [exec_eq]
  cases r
  · simp [(removeAll_spec _ h _).2]
  · simp [(removeAll_spec _ (pushAll_spec _ h _).1 _).2, (pushAll_spec _ h _).2]

theorem exec_quiet (r : Bool) (s : St) (a : Action) (h : a.setsFlag = false) :
    (exec r s a).wl = s.wl ∧ (exec r s a).attached = s.attached := by
  rw [not_setsFlag_iff] at h; subst h
  rw [exec_eq]
  exact ⟨by cases r <;> rfl, rfl⟩

theorem execAll_cons (r : Bool) (s : St) (a : Action) (as : List Action) :
    execAll r s (a :: as) = execAll r (exec r s a) as := rfl

theorem execAll_trace (r : Bool) (s : St) (as : List Action) : (execAll r s as).trace = s.trace := by
  induction as generalizing s with
  | nil => rfl
  | cons a t ih => rw [execAll_cons, ih, exec_eq]

theorem execAll_changed (r : Bool) (s : St) (as : List Action) : (execAll r s as).changed = s.changed := by
  induction as generalizing s with
  | nil => rfl
  | cons a t ih => rw [execAll_cons, ih, exec_eq]

theorem execAll_flag (r : Bool) (s : St) (as : List Action) :
    (execAll r s as).flag = (s.flag || as.any Action.setsFlag) := by
  induction as generalizing s with
  | nil => simp [execAll]
  | cons a t ih => rw [execAll_cons, ih, exec_eq, List.any_cons, Bool.or_assoc]

theorem execAll_log (r : Bool) (s : St) (as : List Action) :
    (execAll r s as).log = s.log ++ as.flatMap Action.events := by
  induction as generalizing s with
  | nil => simp [execAll]
  | cons a t ih => rw [execAll_cons, ih, exec_eq, List.flatMap_cons, List.append_assoc]

theorem execAll_executed (r : Bool) (s : St) (as : List Action) :
    (execAll r s as).executed = s.executed ++ as := by
  induction as generalizing s with
  | nil => simp [execAll]
  | cons a t ih => rw [execAll_cons, ih, exec_eq, List.append_assoc]; rfl

theorem execAll_attached (r : Bool) (s : St) (as : List Action) :
    (execAll r s as).attached = as.foldl attAfter s.attached := by
  induction as generalizing s with
  | nil => rfl
  | cons a t ih => rw [execAll_cons, ih, exec_eq]; rfl

theorem execAll_quiet (r : Bool) (s : St) (as : List Action) (h : ∀ a ∈ as, a.setsFlag = false) :
    (execAll r s as).wl = s.wl ∧ (execAll r s as).attached = s.attached := by
  induction as generalizing s with
  | nil => exact ⟨rfl, rfl⟩
  | cons a t ih =>
    obtain ⟨q1, q2⟩ := exec_quiet r s a (h a List.mem_cons_self)
    obtain ⟨i1, i2⟩ := ih (exec r s a) (fun b hb => h b (List.mem_cons_of_mem _ hb))
    exact ⟨i1.trans q1, i2.trans q2⟩

theorem execAll_wlInv (r : Bool) (s : St) (as : List Action) (h : Inv s.wl) :
    Inv (execAll r s as).wl := by
  induction as generalizing s with
  | nil => exact h
  | cons a t ih => exact ih _ (exec_wlInv r s a h)

/-- The ops a call hands to the listeners (and hence possibly to the worklist) are attached. -/
def Action.wf (att : List Nat) : Action → Prop
  | .replaced _ users => ∀ u ∈ users, u ∈ att
  | .rauw _ users => ∀ u ∈ users, u ∈ att
  | .erase _ _ defs => ∀ d ∈ defs, d ∈ att
  | .modify op => op ∈ att
  | _ => True

/-- Every call of the list is well-formed at the moment it is made. -/
def wfActs : List Nat → List Action → Prop
  | _, [] => True
  | att, a :: as => a.wf att ∧ wfActs (attAfter att a) as

/-- worklist ⊆ attached ops -/
def Sub (s : St) : Prop := ∀ x ∈ abs s.wl, x ∈ s.attached

/-- an inserted op becomes attached by the call; everything else a handler pushes is attached already
(`Action.wf`) -/
theorem mem_attAfter {att : List Nat} {a : Action} {y : Nat} (hw : a.wf att)
    (hy : y ∈ att ∨ y ∈ a.queued) (hn : y ∉ a.unqueued) : y ∈ attAfter att a := by
  cases a with
  | insert op nested =>
    by_cases hc : y ∈ att
    · exact List.mem_append_left _ hc
    · have : y = op := by simpa [Action.queued, hc] using hy
      exact List.mem_append_right _ (by simp [this ▸ hc, this])
  | erase op nested defs =>
    simp only [attAfter, List.mem_filter, List.contains_eq_mem, Bool.not_eq_true',
      decide_eq_false_iff_not]
    exact ⟨hy.elim id (hw y), hn⟩
  | replaced _ users | rauw _ users => exact hy.elim id (hw y)
  | modify op => exact hy.elim id (fun h => List.mem_singleton.mp h ▸ hw)
  | blockArg | inlineBlock _ _ | createBlock => exact hy.elim id (fun h => nomatch h)

theorem exec_sub (r : Bool) (s : St) (a : Action) (h : Inv s.wl) (hs : Sub s)
    (hw : a.wf s.attached) : Sub (exec r s a) := by
  intro y hy
  obtain ⟨hy, hn⟩ := (exec_worklist_spec r s a h y).mp hy
  rw [exec_eq]
  exact mem_attAfter hw (hy.imp (hs y) And.right) hn

theorem execAll_sub (r : Bool) (s : St) (as : List Action) (h : Inv s.wl) (hs : Sub s)
    (hw : wfActs s.attached as) : Sub (execAll r s as) := by
  induction as generalizing s with
  | nil => exact hs
  | cons a t ih =>
    exact ih _ (exec_wlInv r s a h) (exec_sub r s a h hs hw.1) (by rw [exec_eq]; exact hw.2)

theorem view_append (h : Nat) (a b : List (Nat × Event)) : view h (a ++ b) = view h a ++ view h b := by
  simp [view]

theorem view_deliver (h : Nat) (hs : List Nat) (log : List Event) :
    view h (deliver hs log) = log.flatMap fun e => List.replicate (hs.count h) e := by
  simp only [view, deliver, List.filter_flatMap, List.map_flatMap, List.filter_map, List.map_map]
  congr 1; funext e
  rw [List.count_eq_countP, List.countP_eq_length_filter, ← List.map_const']
  rfl

theorem view_deliver_nodup (h : Nat) (hs : List Nat) (log : List Event) (hn : hs.Nodup) :
    view h (deliver hs log) = if h ∈ hs then log else [] := by
  rw [view_deliver, hn.count]
  split <;> simp

theorem edits_delivered (es : List Edit) (v : Walker) : (es.foldl Walker.edit v).delivered = v.delivered := by
  induction es generalizing v with
  | nil => rfl
  | cons e1 t1 ih => rw [List.foldl_cons, ih]; cases e1 <;> rfl

end Xdsl.RewriteDriver
