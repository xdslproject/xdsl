import XdslProofs.Lemmas.DeclFormatList
import XdslProofs.Lemmas.List
/-!
C05, single directives: one simple directive parses back what it printed (`parseS_printS`).
`replayS` is the specification of the state change: "the slot of the directive receives the value
the operation has there".
-/
namespace Xdsl.DeclFormat

/-- state after `attr-dict` has read the dictionary `d` -/
def dictState (st : PState) (expProps : List String) (d : List (String × Nat)) : PState :=
  { st with props := (d.filter (fun p => expProps.contains p.1)).foldl (fun m p => AL.set m p.1 p.2) st.props,
            attrs := (d.filter (fun p => !expProps.contains p.1)).foldl (fun m p => AL.set m p.1 p.2) st.attrs }

/-- what `set_types` of a typeable directive does with the operation's own types -/
def replayTy (op : OpInst) : TyRef → PState → PState
  | .operand i _, st => { st with operandTys := AL.set st.operandTys i (seg op.operandTys i) }
  | .result i _, st => { st with resultTys := AL.set st.resultTys i (seg op.resultTys i) }
  | .operands, st => { st with operandTys := setAll st.operandTys op.operandTys }
  | .results, st => { st with resultTys := setAll st.resultTys op.resultTys }

/-- what parsing directive `d` should do to the state when the text was printed from `op` -/
def replayS (D : Defs) (op : OpInst) (d : SDir) (st : PState) : PState :=
  match d with
  | .operand i _ => { st with operands := AL.set st.operands i (seg op.operands i) }
  | .operandTy i _ => { st with operandTys := AL.set st.operandTys i (seg op.operandTys i) }
  | .resultTy i _ => { st with resultTys := AL.set st.resultTys i (seg op.resultTys i) }
  | .region i _ => { st with regions := AL.set st.regions i (seg op.regions i) }
  | .succ i _ => { st with succs := AL.set st.succs i (seg op.succs i) }
  | .attr name isProp optional dflt =>
    match dictGet isProp op name with
    | none => st
    | some v => if optional && dflt == some v then st else setDict isProp st name v
  | .unitAttr name isProp u => setDict isProp st name u
  | .attrDict _ reserved expProps => dictState st expProps (dictEntries D reserved expProps op)
  | .operandsAll => { st with operands := setAll st.operands op.operands }
  | .operandTysAll => { st with operandTys := setAll st.operandTys op.operandTys }
  | .resultTysAll => { st with resultTys := setAll st.resultTys op.resultTys }
  | .funcTy ins outs => replayTy op outs (replayTy op ins st)
  | _ => st

/-- the types a typeable directive stands for have the cardinalities its flavour / the definitions
promise -/
def okTy (D : Defs) (op : OpInst) : TyRef → Prop
  | .operand i k => fitsK k (seg op.operandTys i) = true
  | .result i k => fitsK k (seg op.resultTys i) = true
  | .operands => fits D.operandKinds op.operandTys = true
  | .results => fits D.resultKinds op.resultTys = true

/-- the instance has the cardinalities the directive's flavour promises (part of "verifies") -/
def okInst (D : Defs) (op : OpInst) : SDir → Prop
  | .operand i .single => (seg op.operands i).length = 1
  | .operand i .opt => (seg op.operands i).length ≤ 1
  | .operandTy i .single => (seg op.operandTys i).length = 1
  | .operandTy i .opt => (seg op.operandTys i).length ≤ 1
  | .resultTy i .single => (seg op.resultTys i).length = 1
  | .resultTy i .opt => (seg op.resultTys i).length ≤ 1
  | .region i .single => (seg op.regions i).length = 1
  | .region i .opt => (seg op.regions i).length ≤ 1
  | .succ i .single => (seg op.succs i).length = 1
  | .succ i .opt => (seg op.succs i).length ≤ 1
  | .attr name isProp optional _ => optional = false → (dictGet isProp op name).isSome = true
  | .operandsAll => fits D.operandKinds op.operands = true
  | .operandTysAll => fits D.operandKinds op.operandTys = true
  | .resultTysAll => fits D.resultKinds op.resultTys = true
  | .funcTy ins outs => okTy D op ins ∧ okTy D op outs
  | _ => True

/-- the token after the directive is not one the directive would take -/
structure FollowOK (d : SDir) (rest : List Tok) : Prop where
  absent : nullableS d = true → conflict d (clsHd rest) = false
  comma : commaLike d = true → clsHd rest ≠ Cls.punct ","
  brace : regionLike d = true → clsBadBrace (clsHd rest) = false

/-! ## segment directives

`operand`, `type(operand)`, `type(result)`, `region`, `successor` are one directive indexed by the
family `fam`: in flavour `k` it prints segment `i` of the family's lists with the family's token, reads
it back with the family's selector, and writes slot `(fam, i)` of the parsing state. -/

def getF : Fam → PState → AL Nat (List Nat)
  | .operands, st => st.operands
  | .operandTys, st => st.operandTys
  | .resultTys, st => st.resultTys
  | .regions, st => st.regions
  | .succs, st => st.succs

def opF : Fam → OpInst → List (List Nat)
  | .operands, op => op.operands
  | .operandTys, op => op.operandTys
  | .resultTys, op => op.resultTys
  | .regions, op => op.regions
  | .succs, op => op.succs

def segD : Fam → Nat → Kind → SDir
  | .operands, i, k => .operand i k
  | .operandTys, i, k => .operandTy i k
  | .resultTys, i, k => .resultTy i k
  | .regions, i, k => .region i k
  | .succs, i, k => .succ i k

def setF : Fam → PState → Nat → List Nat → PState
  | .operands, st, i, v => { st with operands := AL.set st.operands i v }
  | .operandTys, st, i, v => { st with operandTys := AL.set st.operandTys i v }
  | .resultTys, st, i, v => { st with resultTys := AL.set st.resultTys i v }
  | .regions, st, i, v => { st with regions := AL.set st.regions i v }
  | .succs, st, i, v => { st with succs := AL.set st.succs i v }

theorem getF_setF (fam : Fam) (st : PState) (i : Nat) (v : List Nat) :
    getF fam (setF fam st i v) = AL.set (getF fam st) i v := by
  cases fam <;> rfl

theorem getF_setF_ne {fam fam' : Fam} (h : fam' ≠ fam) (st : PState) (i : Nat) (v : List Nat) :
    getF fam' (setF fam st i v) = getF fam' st := by
  cases fam <;> cases fam' <;> first | rfl | exact absurd rfl h

def tokF : Fam → Nat → Tok
  | .operands => Tok.val
  | .operandTys => Tok.ty
  | .resultTys => Tok.ty
  | .regions => Tok.region
  | .succs => Tok.succ

def selF : Fam → Tok → Option Nat
  | .operands => selVal
  | .operandTys => selTy
  | .resultTys => selTy
  | .regions => selRegion
  | .succs => selSucc

def badF : Fam → Tok → Bool
  | .operands => badNone
  | .operandTys => badTy
  | .resultTys => badTy
  | .regions => badBrace
  | .succs => badNone

@[elab_as_elim] theorem SDir.segCases {motive : SDir → Prop}
    (seg : ∀ fam i k, motive (segD fam i k))
    (kw : ∀ s, motive (.kw s)) (punct : ∀ s, motive (.punct s))
    (attr : ∀ name isProp optional dflt, motive (.attr name isProp optional dflt))
    (unitAttr : ∀ name isProp u, motive (.unitAttr name isProp u))
    (attrDict : ∀ withKw reserved expProps, motive (.attrDict withKw reserved expProps))
    (operandsAll : motive .operandsAll) (operandTysAll : motive .operandTysAll)
    (resultTysAll : motive .resultTysAll) (funcTy : ∀ ins outs, motive (.funcTy ins outs)) :
    ∀ d, motive d
  | .operand i k => seg .operands i k
  | .operandTy i k => seg .operandTys i k
  | .resultTy i k => seg .resultTys i k
  | .region i k => seg .regions i k
  | .succ i k => seg .succs i k
  | .kw s => kw s
  | .punct s => punct s
  | .attr n p o d => attr n p o d
  | .unitAttr n p u => unitAttr n p u
  | .attrDict w r e => attrDict w r e
  | .operandsAll => operandsAll
  | .operandTysAll => operandTysAll
  | .resultTysAll => resultTysAll
  | .funcTy a b => funcTy a b

theorem selMk_F (fam : Fam) : SelMk (selF fam) (tokF fam) := by
  cases fam <;> exact ⟨fun _ => rfl, fun _ h => by cases h⟩

/-- regions are printed one after the other, everything else comma separated -/
def printSeg (fam : Fam) (xs : List Nat) : List Tok :=
  if fam = .regions then xs.map Tok.region else commaSep (tokF fam) xs

def listF (fam : Fam) (ts : List Tok) : Option (List Nat × List Tok) :=
  if fam = .regions then manyRegions ts else optList (selF fam) (badF fam) ts

theorem printSeg_nil (fam : Fam) : printSeg fam [] = [] := by cases fam <;> rfl

theorem printSeg_single (fam : Fam) (x : Nat) : printSeg fam [x] = [tokF fam x] := by cases fam <;> rfl

theorem printSeg_cons_ne (fam : Fam) (x : Nat) (xs : List Nat) : printSeg fam (x :: xs) ≠ [] := by
  cases fam <;> exact List.cons_ne_nil _ _

theorem clsHd_printSeg (fam : Fam) (x : Nat) (xs : List Nat) (r : List Tok) :
    clsHd (printSeg fam (x :: xs) ++ r) = clsOf (some (tokF fam x)) := by
  cases fam <;> rfl

theorem printS_segD (D : Defs) (op : OpInst) (fam : Fam) (i : Nat) (k : Kind) :
    printS D op (segD fam i k) = printSeg fam (seg (opF fam op) i) := by
  cases fam <;> rfl

theorem replayS_segD (D : Defs) (op : OpInst) (fam : Fam) (i : Nat) (k : Kind) (st : PState) :
    replayS D op (segD fam i k) st = setF fam st i (seg (opF fam op) i) := by
  cases fam <;> rfl

theorem parseS_segD_single (D : Defs) (fam : Fam) (i : Nat) (ts : List Tok) (st : PState) :
    parseS D (segD fam i .single) ts st =
      (reqOne (selF fam) ts).map fun p => (true, setF fam st i [p.1], p.2) := by
  cases fam <;> rfl

theorem parseS_segD_opt (D : Defs) (fam : Fam) (i : Nat) (ts : List Tok) (st : PState) :
    parseS D (segD fam i .opt) ts st =
      (optOne (selF fam) (badF fam) ts).map fun p => (p.1.isSome, setF fam st i p.1.toList, p.2) := by
  cases fam <;> rfl

theorem parseS_segD_var (D : Defs) (fam : Fam) (i : Nat) (ts : List Tok) (st : PState) :
    parseS D (segD fam i .var) ts st =
      (listF fam ts).map fun p => (!p.1.isEmpty, setF fam st i p.1, p.2) := by
  cases fam <;> rfl

theorem nullableS_segD (fam : Fam) (i : Nat) (k : Kind) : nullableS (segD fam i k) = kindNullable k := by
  cases fam <;> rfl

theorem okInst_segD {D : Defs} {op : OpInst} {fam : Fam} {i : Nat} {k : Kind} :
    okInst D op (segD fam i k) ↔ fitsK k (seg (opF fam op) i) = true := by
  cases fam <;> cases k <;>
    first | exact fitsK_single.symm | exact fitsK_opt.symm | exact iff_of_true trivial rfl

/-- the conflict classes of a segment directive are the tokens its optional parser takes or commits on -/
theorem passes_segD {fam : Fam} {i : Nat} {k : Kind} {rest : List Tok}
    (h : conflict (segD fam i k) (clsHd rest) = false) : Passes (selF fam) (badF fam) rest := by
  cases rest with
  | nil => trivial
  | cons t r =>
    -- token by token: not taken and not committed on, or excluded by `h`
    cases fam <;> cases t <;> first | exact ⟨rfl, rfl⟩ | exact ⟨rfl, h⟩ | cases h

theorem listF_printSeg (fam : Fam) (xs : List Nat) (rest : List Tok)
    (hp : Passes (selF fam) (badF fam) rest)
    (hc : xs ≠ [] → fam ≠ .regions → clsHd rest ≠ Cls.punct ",") :
    listF fam (printSeg fam xs ++ rest) = some (xs, rest) := by
  cases fam
  case regions => exact manyRegions_map xs rest hp
  all_goals exact optList_commaSep (selMk_F _) _ xs rest (fun h => hc h (by decide)) (fun _ => hp)

theorem parseS_segD_print (D : Defs) (fam : Fam) (i : Nat) (k : Kind) (xs : List Nat) (rest : List Tok)
    (st : PState) (hfit : fitsK k xs = true)
    (hp : kindNullable k = true → Passes (selF fam) (badF fam) rest)
    (hc : k = .var → xs ≠ [] → fam ≠ .regions → clsHd rest ≠ Cls.punct ",") :
    parseS D (segD fam i k) (printSeg fam xs ++ rest) st = some (!xs.isEmpty, setF fam st i xs, rest) := by
  cases k with
  | single =>
    obtain ⟨x, rfl⟩ := List.length_eq_one_iff.mp (fitsK_single.mp hfit)
    rw [parseS_segD_single, printSeg_single, List.singleton_append, reqOne_mk (selMk_F fam)]; rfl
  | opt =>
    rcases eq_nil_or_singleton (fitsK_opt.mp hfit) with rfl | ⟨x, rfl⟩
    · rw [parseS_segD_opt, printSeg_nil, List.nil_append, optOne_none _ rest (hp rfl)]; rfl
    · rw [parseS_segD_opt, printSeg_single, List.singleton_append, optOne_some (selMk_F fam)]; rfl
  | var => rw [parseS_segD_var, listF_printSeg fam xs rest (hp rfl) (hc rfl)]; rfl

theorem not_of_and_false {b c : Bool} (h : (b && c) = false) (hc : c = true) : ¬ b = true := by
  rw [hc, Bool.and_true] at h
  rw [h]; exact Bool.false_ne_true

/-- a keyword or punctuation is not there when the next token is not of a class it conflicts with: not the
literal itself, and no opaque token whose text may begin with it -/
theorem parseS_literal_absent (D : Defs) {f : SDir} (hl : isLiteral f = true) (toks : List Tok) (st : PState)
    (hc : conflict f (clsHd toks) = false) : parseS D f toks st = some (false, st, toks) := by
  cases toks with
  | nil => cases f <;> first | rfl | cases hl
  | cons t r =>
    cases f with
    | kw s =>
      have hc : (clsHd (t :: r) == Cls.kw s || (attrLikeKw s && clsHd (t :: r) == Cls.attr) ||
          (typeLikeKw s && clsHd (t :: r) == Cls.ty)) = false := hc
      rw [Bool.or_eq_false_iff, Bool.or_eq_false_iff] at hc
      obtain ⟨⟨h1, h2⟩, h3⟩ := hc
      cases t with
      | kw s' => exact if_neg fun e => ne_of_beq_false h1 (congrArg Cls.kw e)
      | ty n => exact if_neg (not_of_and_false h3 rfl)
      | attr n => exact if_neg (not_of_and_false h2 rfl)
      | _ => rfl
    | punct s =>
      have hc : (clsHd (t :: r) == Cls.punct s || (attrStartP s && clsHd (t :: r) == Cls.attr) ||
          (s == "(" && clsHd (t :: r) == Cls.ty) ||
          (s == "{" && (clsHd (t :: r) == Cls.dict || clsHd (t :: r) == Cls.region))) = false := hc
      rw [Bool.or_eq_false_iff, Bool.or_eq_false_iff, Bool.or_eq_false_iff] at hc
      obtain ⟨⟨⟨h1, h2⟩, h3⟩, h4⟩ := hc
      cases t with
      | punct s' => exact if_neg fun e => ne_of_beq_false h1 (congrArg Cls.punct e)
      | ty n => exact if_neg fun e => not_of_and_false h3 rfl (beq_iff_eq.mpr e)
      | attr n => exact if_neg (not_of_and_false h2 rfl)
      | dict d => exact if_neg fun e => not_of_and_false h4 rfl (beq_iff_eq.mpr e)
      | region n => exact if_neg fun e => not_of_and_false h4 rfl (beq_iff_eq.mpr e)
      | _ => rfl
    | _ => cases hl

/-! ## attribute variables

An attribute variable stands for an optional value (`attrOut`): it prints the value as one token, reads it
back, and writes it into its dictionary. -/

/-- the value an attribute variable prints, if any: the entry of the operation, unless it is left out as the
default of an optional variable -/
def attrOut (op : OpInst) (name : String) (isProp optional : Bool) (dflt : Option Nat) : Option Nat :=
  (dictGet isProp op name).bind fun v => if (optional && dflt == some v) = true then none else some v

def setOpt (isProp : Bool) (st : PState) (name : String) : Option Nat → PState
  | none => st
  | some v => setDict isProp st name v

theorem printS_attr (D : Defs) (op : OpInst) (name : String) (isProp optional : Bool) (dflt : Option Nat) :
    printS D op (.attr name isProp optional dflt) = (attrOut op name isProp optional dflt).toList.map Tok.attr := by
  unfold attrOut
  simp only [printS]
  cases dictGet isProp op name with
  | none => rfl
  | some v => simp only [Option.bind_some]; split <;> rfl

theorem replayS_attr (D : Defs) (op : OpInst) (name : String) (isProp optional : Bool) (dflt : Option Nat)
    (st : PState) :
    replayS D op (.attr name isProp optional dflt) st = setOpt isProp st name (attrOut op name isProp optional dflt) := by
  unfold attrOut
  simp only [replayS]
  cases dictGet isProp op name with
  | none => rfl
  | some v => simp only [Option.bind_some]; split <;> rfl

theorem dictGet_of_attrOut {op : OpInst} {name : String} {isProp optional : Bool} {dflt : Option Nat} {v : Nat}
    (h : attrOut op name isProp optional dflt = some v) : dictGet isProp op name = some v := by
  unfold attrOut at h
  cases hg : dictGet isProp op name with
  | none => rw [hg] at h; cases h
  | some w =>
    rw [hg, Option.bind_some] at h
    split at h
    · cases h
    · exact h

theorem attrOut_isSome {D : Defs} {op : OpInst} {name : String} {isProp optional : Bool} {dflt : Option Nat}
    (hinst : okInst D op (.attr name isProp optional dflt)) (ho : optional = false) :
    (attrOut op name isProp optional dflt).isSome = true := by
  have := hinst ho
  subst ho
  unfold attrOut
  cases hg : dictGet isProp op name with
  | none => rw [hg] at this; cases this
  | some v => rfl

theorem passes_attr {rest : List Tok} (h : clsBadAttr (clsHd rest) = false) : Passes selAttr badAttr rest := by
  cases rest with
  | nil => trivial
  | cons t r => cases t <;> simp_all [Passes, selAttr, badAttr, clsOf, clsBadAttr]

theorem parseS_attr_print (D : Defs) (name : String) (isProp optional : Bool) (dflt ov : Option Nat)
    (rest : List Tok) (st : PState) (hreq : optional = false → ov.isSome = true)
    (hp : ov = none → Passes selAttr badAttr rest) :
    parseS D (.attr name isProp optional dflt) (ov.toList.map Tok.attr ++ rest) st =
      some (ov.isSome, setOpt isProp st name ov, rest) := by
  cases ov with
  | some v => cases optional <;> rfl
  | none =>
    cases optional with
    | false => cases hreq rfl
    | true =>
      show (optOne selAttr badAttr rest).map _ = _
      rw [optOne_none badAttr rest (hp rfl)]; rfl

theorem setTyRef_get (D : Defs) (op : OpInst) (r : TyRef) (st : PState)
    (hok : okTy D op r) (ha : okAggTy D r = true) :
    setTyRef D st r (tyRefGet op r) = some (replayTy op r st) := by
  cases r with
  | operand i k => rfl
  | result i k => rfl
  | operands =>
    simp only [okAggTy, Bool.and_eq_true] at ha
    simp [setTyRef, tyRefGet, replayTy, splitByKinds_flatten _ _ hok ha.2]
  | results =>
    simp only [okAggTy, Bool.and_eq_true] at ha
    simp [setTyRef, tyRefGet, replayTy, splitByKinds_flatten _ _ hok ha.2]

theorem fitsK_tyRefKind (D : Defs) (op : OpInst) (r : TyRef) (hok : okTy D op r) :
    fitsK (tyRefKind r) (tyRefGet op r) = true := by
  cases r <;> first | exact hok | rfl

/-- `parse_types` of a typeable directive inside `functional-type(…)`: the list is closed by `)` -/
theorem parseTyRef_print (D : Defs) (op : OpInst) (r : TyRef) (rest : List Tok) (st : PState)
    (hok : okTy D op r) (ha : okAggTy D r = true) :
    parseTyRef D r (commaSep Tok.ty (tyRefGet op r) ++ Tok.punct ")" :: rest) st =
      some (replayTy op r st, Tok.punct ")" :: rest) := by
  have hset := setTyRef_get D op r st hok ha
  have hk := fitsK_tyRefKind D op r hok
  have hpass : Passes selTy badTy (Tok.punct ")" :: rest) := ⟨rfl, by decide⟩
  unfold parseTyRef
  cases hkind : tyRefKind r with
  | single =>
    rw [hkind] at hk
    obtain ⟨x, hx⟩ := List.length_eq_one_iff.mp (fitsK_single.mp hk)
    rw [hx] at hset
    simp [hx, commaSep, commaTail, reqOne, selTy, hset]
  | opt =>
    rw [hkind] at hk
    rcases eq_nil_or_singleton (fitsK_opt.mp hk) with hx | ⟨x, hx⟩
    · rw [hx] at hset
      simp [hx, commaSep, optOne_none badTy _ hpass, hset]
    · rw [hx] at hset
      simp [hx, commaSep, commaTail, optOne, selTy, hset]
  | var =>
    have := optList_commaSep (selMk_F .operandTys) badTy (tyRefGet op r) (Tok.punct ")" :: rest)
      (fun _ => by simp [clsOf]) (fun _ => hpass)
    simp [selF, tokF] at this
    simp [this, hset]

theorem dictEntries_not_reserved (D : Defs) (reserved expProps : List String) (op : OpInst) :
    (dictEntries D reserved expProps op).any (fun p => reserved.contains p.1) = false := by
  unfold dictEntries
  rw [List.any_eq_false]
  intro p hp
  simp only [List.mem_filter, Bool.and_eq_true, Bool.not_eq_eq_eq_not, Bool.not_true] at hp
  have := hp.2.1
  simpa using this

theorem parseS_attrDict_print (D : Defs) (w : Bool) (res exp : List String) (es : List (String × Nat))
    (rest : List Tok) (st : PState) (hres : es.any (fun p => res.contains p.1) = false)
    (hp : es = [] → conflict (.attrDict w res exp) (clsHd rest) = false) :
    parseS D (.attrDict w res exp)
        ((if es.isEmpty then [] else (if w then [Tok.kw "attributes"] else []) ++ [Tok.dict es]) ++ rest) st =
      some (!es.isEmpty, dictState st exp es, rest) := by
  cases es with
  | nil =>
    have hc := hp rfl
    show parseS D (.attrDict w res exp) rest st = some (false, st, rest)
    cases rest with
    | nil => cases w <;> rfl
    | cons t r =>
      cases w <;> cases t <;>
        first | rfl | cases hc | simp_all [parseS, conflict, clsOf, clsBadBrace, badBrace]
  | cons e es => cases w <;> exact if_neg (ne_true_of_eq_false hres)

/-- the flat list of an aggregate directive `d` (`operands`, `type(operands)`, `type(results)`) is read
back whole: `d` conflicts with the tokens a variadic segment directive of its family conflicts with (`hc`).
It is handed to `split` (`_set_using_variadic_index`), whose result `a` goes into the state by `put`; the
directive reports presence when it printed something. -/
theorem optList_flat {α : Type} (fam : Fam) (d : SDir) (xs : List Nat) (rest : List Tok)
    (hc : conflict d = conflict (segD fam 0 .var))
    (hn : nullableS d = true) (hcl : commaLike d = true) (hf : FollowOK d rest)
    {split : List Nat → Option α} {a : α} (hs : split xs = some a) (put : α → PState) :
    ((optList (selF fam) (badF fam) (commaSep (tokF fam) xs ++ rest)).bind fun p =>
        (split p.1).map fun s => (!p.1.isEmpty, put s, p.2)) = some (!xs.isEmpty, put a, rest) ∧
      (commaSep (tokF fam) xs ≠ [] → (!xs.isEmpty) = true) := by
  rw [optList_commaSep (selMk_F fam) _ xs rest (fun _ => hf.comma hcl)
    (fun _ => passes_segD (i := 0) (k := .var) (hc ▸ hf.absent hn)), Option.bind_some, hs]
  exact ⟨rfl, fun h => by cases xs <;> first | rfl | exact absurd rfl h⟩

/-- A simple directive parses back exactly the tokens it printed and puts the operation's own value
into its slot; `parse` returns True when the directive printed something. -/
theorem parseS_printS_ret (D : Defs) (op : OpInst) (d : SDir) (rest : List Tok) (st : PState)
    (hinst : okInst D op d) (ha : okAgg D d = true) (hf : FollowOK d rest) :
    ∃ b, parseS D d (printS D op d ++ rest) st = some (b, replayS D op d st, rest) ∧
      (printS D op d ≠ [] → b = true) := by
  cases d using SDir.segCases with
  | seg fam i k =>
    refine ⟨!(seg (opF fam op) i).isEmpty, ?_, fun hne => ?_⟩
    · rw [printS_segD, replayS_segD]
      refine parseS_segD_print D fam i k _ rest st (okInst_segD.mp hinst)
        (fun hk => passes_segD (hf.absent (nullableS_segD fam i k ▸ hk))) (fun hk _ hr => hf.comma ?_)
      subst hk
      cases fam <;> first | rfl | exact absurd rfl hr
    · cases hx : seg (opF fam op) i with
      | nil => rw [printS_segD, hx, printSeg_nil] at hne; exact absurd rfl hne
      | cons x xs => rfl
  | kw s => exact ⟨true, if_pos rfl, fun _ => rfl⟩
  | punct s => exact ⟨true, if_pos rfl, fun _ => rfl⟩
  | attr name isProp optional dflt =>
    refine ⟨(attrOut op name isProp optional dflt).isSome, ?_, fun hne => ?_⟩
    · rw [printS_attr, replayS_attr]
      refine parseS_attr_print D name isProp optional dflt _ rest st (attrOut_isSome hinst) fun hn =>
        passes_attr (hf.absent ?_)
      cases optional with
      | true => rfl
      | false => cases hn ▸ attrOut_isSome hinst rfl
    · rw [printS_attr] at hne
      cases h : attrOut op name isProp optional dflt with
      | none => rw [h] at hne; exact absurd rfl hne
      | some v => rfl
  | unitAttr name isProp u => exact ⟨true, rfl, fun _ => rfl⟩
  | attrDict withKw reserved expProps =>
    refine ⟨!(dictEntries D reserved expProps op).isEmpty,
      parseS_attrDict_print D _ _ _ _ rest st (dictEntries_not_reserved D reserved expProps op) fun _ => hf.absent rfl,
      fun hne => ?_⟩
    cases hes : dictEntries D reserved expProps op with
    | nil => exact absurd (by simp [printS, hes]) hne
    | cons e es => rfl
  | operandsAll =>
    exact ⟨_, optList_flat .operands .operandsAll _ rest rfl rfl rfl hf
      (splitByKinds_flatten _ _ hinst (Bool.and_eq_true .. |>.mp ha).2)
      fun s => { st with operands := setAll st.operands s }⟩
  | operandTysAll =>
    exact ⟨_, optList_flat .operandTys .operandTysAll _ rest rfl rfl rfl hf
      (setTyRef_get D op .operands st hinst ha) id⟩
  | resultTysAll =>
    exact ⟨_, optList_flat .resultTys .resultTysAll _ rest rfl rfl rfl hf
      (setTyRef_get D op .results st hinst ha) id⟩
  | funcTy ins outs =>
    simp only [okAgg, Bool.and_eq_true] at ha
    obtain ⟨hi, ho⟩ := hinst
    refine ⟨true, ?_, fun _ => rfl⟩
    have h1 := fun r' => parseTyRef_print D op ins r' st hi ha.1
    have h2 := fun r' => parseTyRef_print D op outs r' (replayTy op ins st) ho ha.2
    have hset := setTyRef_get D op outs (replayTy op ins st) ho ha.2
    simp only [printS, parseS, replayS, List.cons_append, List.nil_append, List.append_assoc, if_true]
    rw [h1]
    simp only [Option.bind_some, expectPunct, if_true]
    cases hrs : tyRefGet op outs with
    | nil =>
      have h2' := h2 rest
      rw [hrs] at h2'
      simp only [commaSep, List.nil_append] at h2'
      simp [commaSep, h2']
    | cons t tl =>
      cases tl with
      | nil =>
        by_cases hft : t ∈ D.funcTys
        · have h2' := h2 rest
          rw [hrs] at h2'
          simp only [commaSep, commaTail, List.cons_append, List.nil_append] at h2'
          simp [hft, h2']
        · rw [hrs] at hset
          simp [hft, reqOne, selTy, hset]
      | cons u tl' =>
        have h2' := h2 rest
        rw [hrs] at h2'
        simp [h2']

theorem parseS_printS (D : Defs) (op : OpInst) (d : SDir) (rest : List Tok) (st : PState)
    (hinst : okInst D op d) (ha : okAgg D d = true) (hf : FollowOK d rest) :
    ∃ b, parseS D d (printS D op d ++ rest) st = some (b, replayS D op d st, rest) :=
  (parseS_printS_ret D op d rest st hinst ha hf).imp fun _ h => h.1

end Xdsl.DeclFormat
