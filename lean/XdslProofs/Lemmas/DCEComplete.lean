import XdslProofs.Lemmas.DCEDel
import XdslProofs.C24PostOrder
/-!
Lemmas for C13: a block named by its position (`blockAt`, what `vcells bs (some k)` selects; a live
operation there keeps the block: `anyLive_blockAt`); the ids a pass can reach at all (`rIds`); with
unique ids, a block that holds a live operation is one the liveness pass visits (`kr_of_live`;
`kr_liveSet` for the computed live set), so a tree that `region_dce` leaves alone has only yielded
blocks (`fixpoint_spec`); the passage from "yielded by the post-order iteration" to graph
reachability (`mem_reachSet_iff`, `AllReachG`).
-/
namespace Xdsl.DCE
open Xdsl.Graph

/-- the operations of the `k`-th block of a block list -/
def blockAt : T → Nat → T
  | .block ops _, 0 => ops
  | .block _ next, k + 1 => blockAt next k
  | _, _ => .nil

theorem vcells_blockAt (bs : T) : ∀ k, ws bs .blocks = true → vcells bs (some k) = vcells (blockAt bs k) none := by
  induction bs with
  | nil => intro k _; rfl
  | op h rs next _ _ => intro k hw; cases (ws_op.mp hw).1
  | block ops next _ ihn =>
    intro k hw
    cases k with
    | zero => rfl
    | succ k => exact ihn k (ws_block.mp hw).2.2
  | region bs next _ _ => intro k hw; cases (ws_region.mp hw).1

theorem ws_blockAt (bs : T) : ∀ k, ws bs .blocks = true → ws (blockAt bs k) .ops = true := by
  induction bs with
  | nil => intro k _; rfl
  | op h rs next _ _ => intro k hw; cases (ws_op.mp hw).1
  | block ops next _ ihn =>
    intro k hw
    cases k with
    | zero => exact (ws_block.mp hw).2.1
    | succ k => exact ihn k (ws_block.mp hw).2.2
  | region bs next _ _ => intro k hw; cases (ws_region.mp hw).1

theorem anyLive_blockAt {live : List Nat} {bs : T} (hw : ws bs .blocks = true) {k : Nat} {h : Hdr} {rs : T}
    (hc : (h, rs) ∈ vcells bs (some k)) (hm : h.id ∈ live) : anyLive live (blockAt bs k) = true := by
  rw [vcells_blockAt bs k hw] at hc
  exact anyLive_of_vcell (ws_blockAt bs k hw) hc hm

/-- ids of the operations a pass can reach at all (whatever is live); on a block list: the blocks
with index `idx, idx+1, …` of a region whose iteration yields `reach` -/
def rIds : T → List Nat → Nat → List Nat
  | .nil, _, _ => []
  | .op h rs next, _, _ => h.id :: (rIds rs [] 0 ++ rIds next [] 0)
  | .block ops next, reach, idx =>
    (if reach.contains idx then rIds ops [] 0 else []) ++ rIds next reach (idx + 1)
  | .region bs next, _, _ => rIds bs (reachSet bs) 0 ++ rIds next [] 0

/-- every block except the entry block of a region is yielded by the post-order iteration from the
entry block of its region -/
def AllReach : T → Bool → List Nat → Nat → Prop
  | .nil, _, _, _ => True
  | .op _ rs next, _, _, _ => AllReach rs true [] 0 ∧ AllReach next false [] 0
  | .block ops next, first, reach, idx =>
    (first = true ∨ reach.contains idx = true) ∧ AllReach ops false [] 0
      ∧ AllReach next false reach (idx + 1)
  | .region bs next, _, _, _ => AllReach bs true (reachSet bs) 0 ∧ AllReach next true [] 0

theorem rIds_sublist (t : T) (reach : List Nat) (idx : Nat) : (rIds t reach idx).Sublist (allIds t) := by
  induction t generalizing reach idx with
  | nil => exact List.Sublist.refl _
  | op h rs next ihr ihn => rw [allIds_op]; exact ((ihr _ _).append (ihn _ _)).cons_cons _
  | block ops next iho ihn =>
    rw [allIds_block, rIds]
    refine List.Sublist.append ?_ (ihn _ _)
    split
    · exact iho _ _
    · exact List.nil_sublist _
  | region bs next ihb ihn => rw [allIds_region]; exact (ihb _ _).append (ihn _ _)

/-- what a pass visits from `t` (from block `k` of a block list starting at position `idx` if that
block is yielded) lies in `rIds` -/
theorem rIds_vcell {h : Hdr} {rs t : T} {sel : Option Nat} (hc : (h, rs) ∈ vcells t sel)
    (reach : List Nat) (idx : Nat) (hsel : (sel.all fun k => reach.contains (idx + k)) = true) :
    h.id :: rIds rs [] 0 ⊆ rIds t reach idx := by
  refine vcells_induct (c := (h, rs)) (M := fun t sel => ∀ reach idx,
    (sel.all fun k => reach.contains (idx + k)) = true → h.id :: rIds rs [] 0 ⊆ rIds t reach idx)
    ?_ ?_ ?_ ?_ ?_ ?_ t sel hc reach idx hsel
  · exact fun _ _ _ _ _ => List.cons_subset_cons _ (List.subset_append_left _ _)
  · exact fun _ _ _ _ ih _ _ _ =>
      (ih [] 0 rfl).trans ((List.subset_append_right _ _).trans (List.subset_cons_self _ _))
  · intro ops next _ ih reach idx hsel
    rw [rIds, if_pos (show reach.contains idx = true from hsel)]
    exact (ih [] 0 rfl).trans (List.subset_append_left _ _)
  · intro ops next k ih reach idx hsel
    refine (ih reach (idx + 1) ?_).trans (List.subset_append_right _ _)
    rw [← hsel]; exact congrArg reach.contains (by omega)
  · intro bs next _ b hb ih _ _ _
    refine (ih (reachSet bs) 0 ?_).trans (List.subset_append_left _ _)
    exact (congrArg _ (Nat.zero_add b)).trans (List.contains_iff_mem.mpr hb)
  · exact fun _ _ _ ih _ _ _ => (ih [] 0 rfl).trans (List.subset_append_right _ _)

theorem LV.mem_rIds {P : T} {h : Hdr} {rs : T} (hl : LV P h rs) : h.id ∈ rIds P [] 0 := by
  obtain ⟨t, ht, hc⟩ := hl.nested (R := fun t => rIds t [] 0 ⊆ rIds P [] 0)
    (List.Subset.refl _)
    (fun ht hc _ => ((List.subset_cons_self _ _).trans (rIds_vcell hc [] 0 rfl)).trans ht)
  exact ht (rIds_vcell hc [] 0 rfl List.mem_cons_self)

theorem anyLive_mem (live : List Nat) (t : T) : anyLive live t = true →
    ∃ i, i ∈ live ∧ i ∈ allIds t := by
  intro ha
  fun_induction anyLive live t with
  | case1 h rs next ih =>
    rw [allIds_op]
    rcases Bool.or_eq_true_iff.mp ha with ha | ha
    · exact ⟨h.id, List.contains_iff_mem.mp ha, List.mem_cons_self⟩
    · obtain ⟨i, h1, h2⟩ := ih ha
      exact ⟨i, h1, List.mem_cons_of_mem _ (List.mem_append_right _ h2)⟩
  | case2 t _ => cases ha

/-- along what `del` keeps: every kept block other than an entry block is one the post-order iteration
of its region yields -/
def KR (live : List Nat) : T → Bool → List Nat → Nat → Prop
  | .nil, _, _, _ => True
  | .op h rs next, _, _, _ => (h.id ∈ live → KR live rs true [] 0) ∧ KR live next false [] 0
  | .block ops next, first, reach, idx =>
    ((first = true ∨ anyLive live ops = true) →
        (first = true ∨ reach.contains idx = true) ∧ KR live ops false [] 0)
      ∧ KR live next false reach (idx + 1)
  | .region bs next, _, _, _ => KR live bs true (reachSet bs) 0 ∧ KR live next true [] 0

/-- "`live` meets the ids `a ++ b` only in `ra ++ rb`" passes to the two parts when the ids are unique
and `ra`, `rb` lie inside their parts: all the disjointness the induction below needs -/
theorem reached_parts {live a b ra rb : List Nat} (hnd : (a ++ b).Nodup) (hra : ra ⊆ a) (hrb : rb ⊆ b)
    (h : ∀ i ∈ live, i ∈ a ++ b → i ∈ ra ++ rb) :
    (a.Nodup ∧ ∀ i ∈ live, i ∈ a → i ∈ ra) ∧ b.Nodup ∧ ∀ i ∈ live, i ∈ b → i ∈ rb := by
  obtain ⟨na, nb, hd⟩ := List.nodup_append.mp hnd
  refine ⟨⟨na, fun i hi hin => ?_⟩, nb, fun i hi hin => ?_⟩
  · exact (List.mem_append.mp (h i hi (List.mem_append_left _ hin))).resolve_right
      fun hr => hd i hin i (hrb hr) rfl
  · exact (List.mem_append.mp (h i hi (List.mem_append_right _ hin))).resolve_left
      fun hr => hd i (hra hr) i hin rfl

/-- With unique ids, a live id that a pass can reach at all sits in a block the iteration yields: if
every live id of `t` is in `rIds`, every block that holds a live operation is yielded. -/
theorem kr_of_live (live : List Nat) (t : T) (reach : List Nat) (idx : Nat) (f : Bool)
    (hnd : (allIds t).Nodup) (hsub : ∀ i ∈ live, i ∈ allIds t → i ∈ rIds t reach idx) :
    KR live t f reach idx := by
  induction t generalizing reach idx f with
  | nil => trivial
  | op h rs next ihr ihn =>
    rw [allIds_op] at hnd hsub
    obtain ⟨hh, hnd⟩ := List.nodup_cons.mp hnd
    -- an id of `rs` or `next` is not `h.id`
    obtain ⟨⟨n1, s1⟩, n2, s2⟩ := reached_parts hnd (rIds_sublist rs [] 0).subset (rIds_sublist next [] 0).subset
      fun i hi hin => (List.mem_cons.mp (hsub i hi (List.mem_cons_of_mem _ hin))).resolve_left
        fun e => hh (e ▸ hin)
    exact ⟨fun _ => ihr [] 0 true n1 s1, ihn [] 0 false n2 s2⟩
  | block ops next iho ihn =>
    rw [allIds_block] at hnd hsub
    obtain ⟨⟨n1, s1⟩, n2, s2⟩ := reached_parts hnd
      (ra := if reach.contains idx then rIds ops [] 0 else [])
      (by split; exact (rIds_sublist ops [] 0).subset; exact List.nil_subset _)
      (rIds_sublist next reach (idx + 1)).subset hsub
    -- a live id among `ops` shows that the block is yielded
    have hops : ∀ i ∈ live, i ∈ allIds ops → reach.contains idx = true ∧ i ∈ rIds ops [] 0 := by
      intro i hi hin
      have h1 := s1 i hi hin
      split at h1
      · exact ⟨‹_›, h1⟩
      · cases h1
    refine ⟨fun hk => ⟨hk.imp_right fun ha => ?_, iho [] 0 false n1 fun i hi hin => (hops i hi hin).2⟩,
      ihn reach (idx + 1) false n2 s2⟩
    obtain ⟨i, hi, hin⟩ := anyLive_mem live ops ha
    exact (hops i hi hin).1
  | region bs next ihb ihn =>
    rw [allIds_region] at hnd hsub
    obtain ⟨⟨n1, s1⟩, n2, s2⟩ := reached_parts hnd (rIds_sublist bs (reachSet bs) 0).subset
      (rIds_sublist next [] 0).subset hsub
    exact ⟨ihb (reachSet bs) 0 true n1 s1, ihn [] 0 true n2 s2⟩

/-- for the computed live set: every block `region_dce` keeps is the entry block of its region or one the
post-order iteration yields -/
theorem kr_liveSet {P : T} (hnd : (allIds P).Nodup) : KR (liveSet P) P true [] 0 := by
  refine kr_of_live _ P [] 0 true hnd ?_
  intro i hi _
  obtain ⟨h, rs, hl, rfl⟩ := (live_iff hnd i).mp hi
  exact hl.mem_rIds

theorem KR.allReach {live : List Nat} {t : T} {f : Bool} {reach : List Nat} {idx : Nat}
    (hy : KR live t f reach idx) (hk : AllKept live t f) : AllReach t f reach idx := by
  induction t generalizing reach idx f with
  | nil => trivial
  | op h rs next ihr ihn => exact ⟨ihr (hy.1 hk.1) hk.2.1, ihn hy.2 hk.2.2⟩
  | block ops next iho ihn => exact ⟨(hy.1 hk.1).1, iho (hy.1 hk.1).2 hk.2.1, ihn hy.2 hk.2.2⟩
  | region bs next ihb ihn => exact ⟨ihb hy.1 hk.1, ihn hy.2 hk.2⟩

/-- What a tree looks like that `region_dce` leaves alone: every operation is in its least live set and
every block other than an entry block is yielded. -/
theorem fixpoint_spec {t : T} (hnd : (allIds t).Nodup)
    (hfix : size (del (liveSet t) t true []) = size t) :
    (∀ i ∈ allIds t, LiveId t i) ∧ AllReach t true [] 0 := by
  have hk := (size_del_le_and_kept _ _ true []).2 hfix
  exact ⟨fun i hi => (live_iff hnd i).mp (allKept_ids hk i hi), (kr_liveSet hnd).allReach hk⟩

/-- C24 read on a region: with successors inside the region, the blocks the iteration yields are the
blocks reachable from the entry block (`postorder_spec`) -/
theorem mem_reachSet_iff {bs : T} (hwf : Graph.wf (graphOf bs) = true) (hpos : 0 < (graphOf bs).length)
    {b : Nat} : b ∈ reachSet bs ↔ Reach (graphOf bs) 0 b :=
  (PostOrder.postorder_spec (graphOf bs) ((wf_iff _).mp hwf) hpos).2.1 b

/-- the forward half needs no block: without one the iteration yields nothing -/
theorem reach_of_mem_reachSet {bs : T} (hwf : Graph.wf (graphOf bs) = true) {b : Nat}
    (hb : b ∈ reachSet bs) : Reach (graphOf bs) 0 b := by
  by_cases hpos : 0 < (graphOf bs).length
  · exact (mem_reachSet_iff hwf hpos).mp hb
  · have hnil : graphOf bs = [] := List.eq_nil_of_length_eq_zero (Nat.eq_zero_of_not_pos hpos)
    have : reachSet bs = [] := by unfold reachSet; rw [hnil]; decide
    rw [this] at hb; cases hb

theorem zero_mem_reachSet (bs : T) (hwf : Graph.wf (graphOf bs) = true) (hpos : 0 < (graphOf bs).length) :
    0 ∈ reachSet bs :=
  (mem_reachSet_iff hwf hpos).mpr (Reach.refl _ _)

/-- every block of every region of the tree is reachable from the entry block of its region
(`g`: graph of the enclosing region, `idx`: position of the head of a block list in it) -/
def AllReachG : T → Graph → Nat → Prop
  | .nil, _, _ => True
  | .op _ rs next, _, _ => AllReachG rs [] 0 ∧ AllReachG next [] 0
  | .block ops next, g, idx => Reach g 0 idx ∧ AllReachG ops [] 0 ∧ AllReachG next g (idx + 1)
  | .region bs next, _, _ => AllReachG bs (graphOf bs) 0 ∧ AllReachG next [] 0

theorem allReachG_of (t : T) (f : Bool) (reach : List Nat) (idx : Nat) (g : Graph) (hw : wfT t = true)
    (hr : ∀ b, reach.contains b = true → Reach g 0 b) (hf : f = true → idx = 0)
    (ha : AllReach t f reach idx) : AllReachG t g idx := by
  have hnil : ∀ b, ([] : List Nat).contains b = true → Reach [] 0 b := fun _ hb => nomatch hb
  induction t generalizing f reach idx g with
  | nil => trivial
  | op h rs next ihr ihn =>
    rw [wfT, Bool.and_eq_true] at hw
    exact ⟨ihr true [] 0 [] hw.1 hnil (fun _ => rfl) ha.1, ihn false [] 0 [] hw.2 hnil (fun _ => rfl) ha.2⟩
  | block ops next iho ihn =>
    rw [wfT, Bool.and_eq_true] at hw
    exact ⟨ha.1.elim (fun h1 => hf h1 ▸ Reach.refl _ _) (hr idx),
      iho false [] 0 [] hw.1 hnil (fun _ => rfl) ha.2.1,
      ihn false reach (idx + 1) g hw.2 hr (fun h => nomatch h) ha.2.2⟩
  | region bs next ihb ihn =>
    simp only [wfT, Bool.and_eq_true, Bool.or_eq_true, beq_iff_eq] at hw
    refine ⟨?_, ihn true [] 0 [] hw.2 hnil (fun _ => rfl) ha.2⟩
    rcases hw.1.1 with rfl | hg
    · trivial
    · exact ihb true (reachSet bs) 0 (graphOf bs) hw.1.2
        (fun b hb => reach_of_mem_reachSet hg.1 (List.contains_iff_mem.mp hb)) (fun _ => rfl) ha.1

end Xdsl.DCE
