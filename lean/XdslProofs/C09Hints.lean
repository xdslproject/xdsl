import XdslProofs.C09Simplify
import XdslProofs.Lemmas.ConstraintHints
/-!
# C09 — type-hint part

"a constraint derived from a type hint agrees with the runtime type-hint check."

`convHint` models `irdl_to_attr_constraint` on the hint fragment {attribute class, union, generic
attribute class applied to hints, `Annotated`} (with `mapping_type_vars`, `ParamAttrConstraint.get`
and `AnyOf.get`), `isaHint` models `hints.isa` on the same fragment: `isinstance` for a class, `any`
over the members of a union, and — as in the Python — the converted constraint for a generic
attribute class.  `isa` raises for `Annotated` hints, so nothing is claimed for them.
Python's `typing` reflection (flattening/de-duplication of unions, `get_origin/get_args`) is the
harness adapter's job and is not modelled.
-/
namespace Xdsl.Constraint

/-- **`isa(attr, hint)` agrees with `irdl_to_attr_constraint(hint).verifies(attr)`** whenever both
are defined (the conversion does not raise `PyRDLError`, `isa` supports the hint) and the hint meets
the side conditions `HintOK` -/
theorem hint_agrees (U : Univ) (hU : UnivOK U) (a : Attr) : ∀ h, HintOK U h → ∀ c, convHint U h = .ok c →
    ∀ b, isaHint U h a = .ok b → b = accepts U c a := by
  intro h
  induction h using Hint.ind with
  | cls c r =>
    intro hok c' hc b hb
    cases hc; cases hb
    cases r with
    | true => exact hok rfl a.cls
    | false => show _ = (verify U (.base c) a []).isSome; rw [base_sem]; cases isSub U a.cls c <;> rfl
  | union hs ih =>
    intro hok c hc b hb
    unfold convHint at hc
    split at hc
    · rename_i cs h1
      have hoks := (HintOKL_iff U hs).1 hok
      obtain ⟨p, q⟩ := convHints_ok U hs cs h1
      have hgood : ∀ c' ∈ cs, Good U c' := fun c' hc' =>
        let ⟨h, hh, e⟩ := p c' hc'; convHint_good U h (hoks h hh) c' e
      have hacc := anyOfGet_accepts U hU (fun _ => .any) cs c hc (fun c' hc' => (hgood c' hc').1)
        (fun c' hc' => wellDeclared_of_novars _ c' (hgood c' hc').2) a
      cases b with
      | true =>
        -- the member that says yes converts to an alternative that accepts
        obtain ⟨h, hh, e⟩ := isaAny_ok U a hs true hb
        obtain ⟨c', hc', e'⟩ := q h hh
        exact (hacc.2 ⟨c', hc', (ih h hh (hoks h hh) c' e' true e).symm⟩).symm
      | false =>
        -- an accepting alternative is the conversion of a member, which says no
        cases hv : accepts U c a with
        | false => rfl
        | true =>
          obtain ⟨c', hc', hacc'⟩ := hacc.1 hv
          obtain ⟨h, hh, e⟩ := p c' hc'
          exact (ih h hh (hoks h hh) c' e false (isaAny_ok U a hs false hb h hh)).trans hacc'
    · cases hc
  | generic t tvs args _ =>
    intro _ c hc b hb
    simp only [isaHint, hc] at hb
    cases hb; rfl
  | annotated hs _ =>
    exact fun _ c _ b hb => nomatch hb

/-- the constraint obtained from a hint is again what the constructors enforce and has no variables -/
theorem hint_constraint_good (U : Univ) (h : Hint) (hok : HintOK U h) (c : C) (hc : convHint U h = .ok c) :
    WF U c ∧ vars c = [] := convHint_good U h hok c hc

/-! ### non-vacuity: a union of two instances of a generic class -/

/-- template of a generic two-parameter class `1`: first parameter a type variable bounded by
class 0 or class 2, second parameter any attribute -/
def T1 : C := .param 1 [.tvar 0 (.anyOf [.base 0, .base 2]), .any]

def isaIs (r : Except String Bool) (b : Bool) : Bool :=
  match r with | .ok x => x == b | .error _ => false

example : HintOK U0 (.union [.generic T1 [0] [.cls 0 false], .generic T1 [0] [.cls 2 false]]) := by
  simp only [HintOK, HintOKL, Good, WF, WFL, vars, varsL, T1, and_true]
  refine ⟨⟨⟨?_, rfl⟩, by simp⟩, ⟨?_, rfl⟩, by simp⟩ <;> decide

/-- `G[A] | G[B]` converts (through `relax_constraint`) to `G[A | B]`, and `isa` agrees with it -/
example : mergesTo (convHint U0 (.union [.generic T1 [0] [.cls 0 false], .generic T1 [0] [.cls 2 false]]))
    (.param 1 [.anyOf [.base 0, .base 2], .any]) = true := by decide
example : isaIs (isaHint U0 (.union [.generic T1 [0] [.cls 0 false], .generic T1 [0] [.cls 2 false]])
    (.param 1 [.data 2 5, .param 0 []])) true = true := by decide
example : isaIs (isaHint U0 (.union [.generic T1 [0] [.cls 0 false], .generic T1 [0] [.cls 2 false]])
    (.param 1 [.param 1 [], .param 0 []])) false = true := by decide

end Xdsl.Constraint
