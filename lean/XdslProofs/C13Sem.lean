import XdslProofs.C13
import XdslProofs.Lemmas.DCESem
/-!
# C13 — "program results are unchanged" (straight-line regions)

A small evaluation semantics over the IR of `XdslModel/DCE.lean` for a block of region-free
operations.  Every operation computes one value (the bundle of its results) from the values of its
operands and from the effects performed so far, by an ARBITRARY function `I i` chosen per operation
id (so reads from memory are covered: the memory is a function of the log); an operation that is
not would-be-trivially-dead (a write, a free, a call, a terminator, …) appends `(id, arguments)` to
the effect log.  Values defined outside the block (block arguments, outer values) come from the
initial environment.

`dce_preserves_sem_straightline`: evaluating what `region_dce` keeps of such a block yields the
same effect log and the same value for every operation that is kept (in particular for the operands
of the terminator, the results of the region) and for every outer value.

Restriction: one block of region-free operations only.  Control-flow graphs, loops, nested regions and
calls are the subject of `XdslProofs/C13SemCFG.lean`, on the reference semantics `Sem`.
-/
namespace Xdsl.DCE
open Xdsl.Graph

def entryOps : T → T
  | .region (.block ops _) _ => ops
  | _ => .nil

/-- **dce_preserves_sem_straightline.**  Let the region consist of one block of region-free
operations (`ops`).  Evaluating the operations `region_dce` keeps gives the same effect log as
evaluating all of them, and the same value for every operation that is live and for every value
defined outside the block. -/
theorem dce_preserves_sem_straightline (I : Interp) (ops : T) (hf : flat ops = true)
    (hnd : (allIds (T.region (.block ops .nil) .nil)).Nodup)
    (hwf : Graph.wf (graphOf (.block ops .nil)) = true) (ρ : Env) (log : Log) :
    let P := T.region (.block ops .nil) .nil
    (run I (entryOps (dceOnce P).1) ρ log).2 = (run I ops ρ log).2
      ∧ ∀ i, (i ∈ liveSet P ∨ i ∉ allIds P) →
          (run I (entryOps (dceOnce P).1) ρ log).1 i = (run I ops ρ log).1 i := by
  intro P
  have hcl : Closed P (liveSet P) P none := liveSet_closed hnd
  have h0 : 0 ∈ reachSet (.block ops .nil) := zero_mem_reachSet _ hwf (by simp [graphOf])
  have hclo : Closed P (liveSet P) ops none := by
    have := hcl.1 0 h0
    simpa [Closed] using this
  have hcell : ∀ c ∈ ocells ops, ((wbd c.1 c.2 = false ∨ hasLiveUser P (liveSet P) c.1.id = true)
      → c.1.id ∈ liveSet P) := by
    intro c hc
    have := closed_mem hclo (mem_vcells_of_ocells hf hc)
    exact this.1
  have hids : allIds P = allIds ops := by simp [P]
  -- the simulation with Dead = ids of the block that are not live
  have key := run_del I (liveSet P) (fun i => i ∈ allIds ops ∧ i ∉ liveSet P)
    (keepMask (liveSet P) (.block ops .nil) true) ops hf
    (fun c hc hn => ⟨by
      have := vcells_sub (mem_vcells_of_ocells hf hc)
      exact mem_allIds_of_cell (t := ops) (h := c.1) (rs := c.2) this, hn⟩)
    (fun c hc hm => ⟨fun hd => hd.2 hm, fun o ho hd => by
      obtain ⟨c2, hc2, hid⟩ := ocells_ids ops hf o hd.1
      have hcin : c.1 ∈ allHdrs P := by
        have := vcells_sub (mem_vcells_of_ocells hf hc)
        have := mem_allHdrs_of_cell (t := ops) (h := c.1) (rs := c.2) this
        simp [P, allHdrs, this]
      have := hcell c2 hc2 (Or.inr (hasLiveUser_iff.mpr ⟨c.1, hcin, by rw [hid]; exact ho, hm⟩))
      rw [hid] at this
      exact hd.2 this⟩)
    (fun c hc hwb => hcell c hc (Or.inl hwb))
    ρ ρ log (fun _ _ => rfl)
  have hentry : (run I (entryOps (dceOnce P).1) ρ log)
      = (run I (del (liveSet P) ops false (keepMask (liveSet P) (.block ops .nil) true)) ρ log)
        ∨ (run I (entryOps (dceOnce P).1) ρ log) = run I ops ρ log := by
    unfold dceOnce
    simp only
    split
    · exact Or.inr rfl
    · left; simp [P, del, entryOps]
  rcases hentry with he | he
  · rw [he]
    refine ⟨key.1, fun i hi => key.2 i ?_⟩
    rintro ⟨h1, h2⟩
    rcases hi with hi | hi
    · exact h2 hi
    · exact hi (hids ▸ h1)
  · rw [he]; exact ⟨rfl, fun _ _ => rfl⟩

/-- `%0 = pure; %1 = pure(%0) (dead); %2 = write(%0); term(%2)` with the interpretation "sum of the
operands + id": the kept run logs the same write with the same argument -/
example :
    let ops : T := .op ⟨0, [], false, false, some [], false, []⟩ .nil
      (.op ⟨1, [0], false, false, some [], false, []⟩ .nil
      (.op ⟨2, [0], false, false, some [.write], false, []⟩ .nil
      (.op ⟨3, [2], true, false, none, false, []⟩ .nil .nil)))
    let I : Interp := fun i args _ => args.sum + i
    (run I (entryOps (dceOnce (.region (.block ops .nil) .nil)).1) (fun _ => 0) []).2
      = [(2, [0]), (3, [2])]
    ∧ (allIds (dceOnce (.region (.block ops .nil) .nil)).1) = [0, 2, 3] := by decide +kernel

end Xdsl.DCE
