import XdslModel.Affine
/-!
The smart constructors of `XdslModel/Affine.lean` preserve values (C26, "building affine expressions
with addition, constant multiplication, floor division, ceiling division and modulo"): `eval ρd ρs e`
is the value of `e` under the assignment `ρd` of dimensions and `ρs` of symbols, for every assignment.
-/
namespace Xdsl.Affine

theorem except_map_bind {α β γ : Type} (x : R α) (f : α → R β) (g : β → γ) :
    (x >>= f).map g = x >>= fun a => (f a).map g := by
  cases x <;> rfl

theorem eval_addCore (a b : Expr) (ρd ρs : Nat → Int) :
    eval ρd ρs (addCore a b) = eval ρd ρs a + eval ρd ρs b := by
  fun_induction addCore a b with
  | case1 x y => rfl
  | case2 l c => exact (Int.add_zero _).symm
  | case3 c y _ x => exact Int.add_comm (c + y) x |>.trans (Int.add_assoc x c y).symm
  | case4 l c y _ _ ih => exact ih.trans (Int.add_assoc _ c y).symm
  | case5 self _ _ => exact (Int.add_zero _).symm
  | case6 self y _ _ _ => rfl
  | case7 self other _ _ _ => rfl

/-- "addition": `a + b` (with its constant folding, `+ 0` removal and `(e + c) + d` re-association)
evaluates to the sum. -/
theorem mkAdd_eval (a b : Expr) (ρd ρs : Nat → Int) :
    eval ρd ρs (mkAdd a b) = eval ρd ρs a + eval ρd ρs b := by
  unfold mkAdd
  split
  · rw [eval_addCore, Int.add_comm]
  · exact eval_addCore a b ρd ρs

theorem eval_mulC (e : Expr) (k : Int) (ρd ρs : Nat → Int) :
    eval ρd ρs (mulC e k) = eval ρd ρs e * k := by
  fun_induction mulC e k with
  | case1 x k => exact Int.mul_comm k x
  | case2 l d => exact (Int.mul_one _).symm
  | case3 l d k _ ih => exact ih.trans (Int.mul_assoc _ d k).symm
  | case4 l r => exact (Int.mul_one _).symm
  | case5 l r k _ ihl ihr => rw [mkAdd_eval, ihl, ihr]; exact (Int.add_mul _ _ k).symm
  | case6 e _ _ _ => exact (Int.mul_one _).symm
  | case7 e k _ _ _ _ => rfl

/-- "constant multiplication": `__mul__` returns (does not raise) as soon as one operand is a
constant … -/
theorem mkMul_const_ok (a : Expr) (c : Int) :
    (∃ e, mkMul a (.const c) = .ok e) ∧ (∃ e, mkMul (.const c) a = .ok e) :=
  ⟨by cases a <;> exact ⟨_, rfl⟩, _, rfl⟩

/-- … and whatever it returns (folding, `* 1` removal, `(e * c) * d` folding, distribution over a
sum) evaluates to the product. -/
theorem mkMul_eval {a b e : Expr} (h : mkMul a b = .ok e) (ρd ρs : Nat → Int) :
    eval ρd ρs e = eval ρd ρs a * eval ρd ρs b := by
  unfold mkMul at h
  split at h
  · cases h; rw [eval_mulC]; exact Int.mul_comm _ _
  · cases h; exact eval_mulC _ _ ρd ρs
  · cases h

theorem mkNeg_eval (a : Expr) (ρd ρs : Nat → Int) : eval ρd ρs (mkNeg a) = - eval ρd ρs a := by
  unfold mkNeg
  split
  · rfl
  · rw [eval_mulC, Int.mul_neg, Int.mul_one]

theorem mkSub_eval (a b : Expr) (ρd ρs : Nat → Int) :
    eval ρd ρs (mkSub a b) = eval ρd ρs a - eval ρd ρs b := by
  rw [mkSub, mkAdd_eval, eval_mulC, Int.mul_neg, Int.mul_one, Int.sub_eq_add_neg]

theorem foldConst_of_ne (k : Kind) (x : Int) {y : Int} (hy : y ≠ 0) :
    foldConst k x y = .ok (.const (evalBin k x y)) := by
  cases k <;> first | rfl | exact if_neg hy

/-- The three division-like constructors in one statement, for every constant divisor the code
accepts: whenever the call returns, the value is Python's `//`, `-(-a // c)`, `%` of the operand
values (`evalBin`). -/
theorem mkDiv_eval {k : Kind} {a b e : Expr} (h : mkDiv k a b = .ok e) (ρd ρs : Nat → Int) :
    eval ρd ρs e = evalBin k (eval ρd ρs a) (eval ρd ρs b) := by
  unfold mkDiv at h
  split at h
  · split at h
    · cases h; rfl
    · rw [foldConst_of_ne k _ ‹_›] at h; cases h; rfl
  · cases h; rfl
  · cases h

section
variable (ρd ρs : Nat → Int)

/-- `mkDiv_eval` with the assignment in front; DESIGN.md §13.4 refers to it under this name -/
theorem eval_mkDiv' {k : Kind} {a b e : Expr} (h : mkDiv k a b = .ok e) :
    eval ρd ρs e = evalBin k (eval ρd ρs a) (eval ρd ρs b) := mkDiv_eval h ρd ρs

end

/-- no condition on `y`: with the divisor 0 two constants are left unfolded (the node is kept), nothing is raised -/
theorem mkDiv_const_ok (k : Kind) (a : Expr) (y : Int) : ∃ e, mkDiv k a (.const y) = .ok e := by
  cases a with
  | const x =>
    rw [mkDiv]
    split
    · exact ⟨_, rfl⟩
    · exact ⟨_, foldConst_of_ne k x ‹_›⟩
  | _ => exact ⟨_, rfl⟩

theorem mkBin_of_isDivLike {k : Kind} (hk : k.isDivLike = true) (a b : Expr) : mkBin k a b = mkDiv k a b := by
  cases k
  case add | mul => cases hk
  all_goals rfl

/-- `AffineExpr.binary(kind, lhs, rhs)` (used by `replace_dims_and_symbols`) -/
theorem mkBin_eval {k : Kind} {a b e : Expr} (h : mkBin k a b = .ok e) (ρd ρs : Nat → Int) :
    eval ρd ρs e = evalBin k (eval ρd ρs a) (eval ρd ρs b) := by
  cases k
  case add => cases h; exact mkAdd_eval a b ρd ρs
  case mul => exact mkMul_eval h ρd ρs
  all_goals exact mkDiv_eval h ρd ρs

end Xdsl.Affine
