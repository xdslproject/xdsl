import XdslProofs.Lemmas.ParallelMovSym
/-!
Lemmas for C20: the move graph of a well-formed parallel move (edges, `pred`, `outIdx`, counting of
out-edges, and the unprocessed part of the graph, whose size is the measure of every loop).
-/
namespace Xdsl.ParallelMov

open Env

/-- What `ParallelMovOp.verify_` guarantees and what "designated free" means:
non-`zero` destinations are pairwise distinct; a designated free register is not `zero` and is
neither read nor written by the parallel move. -/
structure WF (e : Env) : Prop where
  dstDistinct : e.moves.Pairwise (fun a b => a.dst = b.dst → a.dst = Reg.zero)
  freeOk : ∀ f ∈ e.free, f ≠ Reg.zero ∧ ∀ m ∈ e.moves, m.src ≠ f ∧ m.dst ≠ f

/-- `s → d` is an edge of the move graph: an operand that is neither a self-move nor a move into `zero`. -/
def Edge (e : Env) (s d : Reg) : Prop :=
  ∃ m ∈ e.moves, m.src = s ∧ m.dst = d ∧ s ≠ d ∧ d ≠ Reg.zero

theorem isEdge_iff (m : Move) : isEdge m = true ↔ m.src ≠ m.dst ∧ m.dst ≠ Reg.zero := by
  simp [isEdge]

theorem edge_of_isEdge {e : Env} {m : Move} (hm : m ∈ e.moves) (he : isEdge m = true) :
    Edge e m.src m.dst :=
  ⟨m, hm, rfl, rfl, (isEdge_iff m).mp he⟩

theorem Edge.exists_isEdge {e : Env} {s d : Reg} (h : Edge e s d) :
    ∃ m ∈ e.moves, isEdge m = true ∧ m.src = s ∧ m.dst = d := by
  obtain ⟨m, hm, rfl, rfl, hne⟩ := h
  exact ⟨m, hm, (isEdge_iff m).mpr hne, rfl, rfl⟩

theorem Edge.ne {e : Env} {s d : Reg} (h : Edge e s d) : s ≠ d := by
  obtain ⟨m, _, _, _, h, _⟩ := h; exact h

theorem Edge.dst_ne_zero {e : Env} {s d : Reg} (h : Edge e s d) : d ≠ Reg.zero := by
  obtain ⟨m, _, _, _, _, h⟩ := h; exact h

theorem pairwise_idx_unique {l : List Move}
    (h : l.Pairwise (fun a b => a.dst = b.dst → a.dst = Reg.zero))
    {i j : Nat} {a b : Move} (ha : l[i]? = some a) (hb : l[j]? = some b) (hd : a.dst = b.dst)
    (hz : a.dst ≠ Reg.zero) : i = j := by
  induction l generalizing i j with
  | nil => simp at ha
  | cons x t ih =>
    rw [List.pairwise_cons] at h
    cases i with
    | zero =>
      cases j with
      | zero => rfl
      | succ j =>
        simp only [List.getElem?_cons_zero, Option.some.injEq] at ha
        simp only [List.getElem?_cons_succ] at hb
        subst ha
        exact absurd (h.1 b (List.mem_of_getElem? hb) hd) hz
    | succ i =>
      cases j with
      | zero =>
        simp only [List.getElem?_cons_zero, Option.some.injEq] at hb
        simp only [List.getElem?_cons_succ] at ha
        subst hb
        exact absurd (h.1 a (List.mem_of_getElem? ha) hd.symm) (by rw [← hd]; exact hz)
      | succ j =>
        simp only [List.getElem?_cons_succ] at ha hb
        rw [ih h.2 ha hb]

theorem WF.dst_unique {e : Env} (w : WF e) {a b : Move} (ha : a ∈ e.moves) (hb : b ∈ e.moves)
    (hd : a.dst = b.dst) (hz : a.dst ≠ Reg.zero) : a = b := by
  obtain ⟨i, hi⟩ := List.mem_iff_getElem?.mp ha
  obtain ⟨j, hj⟩ := List.mem_iff_getElem?.mp hb
  have hij := pairwise_idx_unique w.dstDistinct hi hj hd hz
  subst hij
  exact Option.some.inj (hi.symm.trans hj)

theorem Edge.src_unique {e : Env} (w : WF e) {s s' d : Reg} (h : Edge e s d) (h' : Edge e s' d) :
    s = s' := by
  obtain ⟨m, hm, rfl, rfl, _, hz⟩ := h
  obtain ⟨m', hm', rfl, hd, _, _⟩ := h'
  rw [w.dst_unique hm hm' hd.symm hz]

theorem pred_some_edge {e : Env} {d s : Reg} (h : e.pred d = some s) : Edge e s d := by
  obtain ⟨m, hf, rfl⟩ := Option.map_eq_some_iff.mp h
  have hp := List.find?_some hf
  simp only [Bool.and_eq_true, decide_eq_true_eq] at hp
  obtain ⟨he, rfl⟩ := hp
  exact edge_of_isEdge (List.mem_reverse.mp (List.mem_of_find?_eq_some hf)) he

theorem edge_pred {e : Env} (w : WF e) {d s : Reg} (h : Edge e s d) : e.pred d = some s := by
  cases hp : e.pred d with
  | none =>
    unfold Env.pred at hp
    simp only [Option.map_eq_none_iff, List.find?_eq_none] at hp
    obtain ⟨m, hm, he, _, hd⟩ := h.exists_isEdge
    exact absurd (by simp [he, hd]) (hp m (List.mem_reverse.mpr hm))
  | some s' => rw [Edge.src_unique w (pred_some_edge hp) h]

theorem pred_eq_some_iff {e : Env} (w : WF e) {d s : Reg} : e.pred d = some s ↔ Edge e s d :=
  ⟨pred_some_edge, edge_pred w⟩

theorem pred_none_iff {e : Env} (w : WF e) {d : Reg} : e.pred d = none ↔ ∀ s, ¬ Edge e s d := by
  constructor
  · intro h s hs; rw [edge_pred w hs] at h; cases h
  · intro h
    cases hp : e.pred d with
    | none => rfl
    | some s => exact absurd (pred_some_edge hp) (h s)

theorem outIdx_some {e : Env} {d : Reg} {i : Nat} (h : e.outIdx d = some i) :
    ∃ m, e.moves[i]? = some m ∧ m.dst = d := by
  obtain ⟨p, hf, rfl⟩ := Option.map_eq_some_iff.mp h
  have hm := List.mem_reverse.mp (List.mem_of_find?_eq_some hf)
  have hp := List.find?_some hf
  exact ⟨p.1, List.mem_zipIdx_iff_getElem?.mp hm, of_decide_eq_true hp⟩

theorem outIdx_isSome {e : Env} {d : Reg} {m : Move} (hm : m ∈ e.moves) (hd : m.dst = d) :
    ∃ i, e.outIdx d = some i := by
  cases h : e.outIdx d with
  | some i => exact ⟨i, rfl⟩
  | none =>
    unfold Env.outIdx at h
    simp only [Option.map_eq_none_iff, List.find?_eq_none] at h
    obtain ⟨i, hi⟩ := List.mem_iff_getElem?.mp hm
    have : (m, i) ∈ e.moves.zipIdx := by rw [List.mem_zipIdx_iff_getElem?]; exact hi
    exact absurd (by simp [hd]) (h (m, i) (List.mem_reverse.mpr this))

theorem WF.outIdx_eq {e : Env} (w : WF e) {i : Nat} {m : Move} (hm : e.moves[i]? = some m)
    (hz : m.dst ≠ Reg.zero) : e.outIdx m.dst = some i := by
  obtain ⟨j, hj⟩ := outIdx_isSome (List.mem_of_getElem? hm) rfl
  obtain ⟨m', hm', hd⟩ := outIdx_some hj
  rw [hj, pairwise_idx_unique w.dstDistinct hm' hm hd (by rw [hd]; exact hz)]

theorem Edge.exists_outIdx {e : Env} (w : WF e) {s d : Reg} (h : Edge e s d) :
    ∃ i m, e.moves[i]? = some m ∧ m.src = s ∧ m.dst = d ∧ e.outIdx d = some i := by
  obtain ⟨m, hm, hs, rfl, _, hz⟩ := h
  obtain ⟨i, hi⟩ := List.mem_iff_getElem?.mp hm
  exact ⟨i, m, hi, hs, rfl, w.outIdx_eq hi hz⟩

theorem Edge.src_not_free {e : Env} (w : WF e) {s d : Reg} (h : Edge e s d) : s ∉ e.free := by
  obtain ⟨m, hm, hs, _⟩ := h
  exact fun hf => ((w.freeOk s hf).2 m hm).1 hs

theorem Edge.dst_not_free {e : Env} (w : WF e) {s d : Reg} (h : Edge e s d) : d ∉ e.free := by
  obtain ⟨m, hm, _, hd, _⟩ := h
  exact fun hf => ((w.freeOk d hf).2 m hm).2 hd

theorem not_leaf_of_edge {e : Env} {s d : Reg} (h : Edge e s d) : e.isLeaf s = false := by
  obtain ⟨m, hm, he, hs, _⟩ := h.exists_isEdge
  unfold Env.isLeaf
  simp only [Bool.not_eq_false', List.any_eq_true, Bool.and_eq_true, decide_eq_true_eq,
    Bool.or_eq_true]
  exact ⟨m, hm, hs, Or.inr he⟩

theorem leaf_no_edge {e : Env} {s : Reg} (h : e.isLeaf s = true) (x : Reg) : ¬ Edge e s x := by
  intro hE
  rw [not_leaf_of_edge hE] at h
  cases h

theorem mem_enum {l : List Move} {i : Nat} {m : Move} : (i, m) ∈ enum l ↔ l[i]? = some m := by
  unfold enum
  simp only [List.mem_map, Prod.mk.injEq, Prod.exists]
  constructor
  · rintro ⟨a, b, hab, rfl, rfl⟩
    exact List.mem_zipIdx_iff_getElem?.mp hab
  · intro h
    exact ⟨m, i, List.mem_zipIdx_iff_getElem?.mpr h, rfl, rfl⟩

/-- number of edges out of `s` whose destination is not in `P` (`P` = destinations already written) -/
def cnt (e : Env) (P : List Reg) (s : Reg) : Nat :=
  e.moves.countP fun m => isEdge m && m.src = s && !P.contains m.dst

theorem cnt_pos_iff {e : Env} {P : List Reg} {s : Reg} :
    0 < cnt e P s ↔ ∃ x, Edge e s x ∧ x ∉ P := by
  unfold cnt
  rw [List.countP_pos_iff]
  simp only [Bool.and_eq_true, decide_eq_true_eq, Bool.not_eq_true', List.contains_eq_mem,
    decide_eq_false_iff_not]
  constructor
  · rintro ⟨m, hm, ⟨he, rfl⟩, hn⟩
    exact ⟨m.dst, edge_of_isEdge hm he, hn⟩
  · rintro ⟨x, hx, hn⟩
    obtain ⟨m, hm, he, hs, rfl⟩ := hx.exists_isEdge
    exact ⟨m, hm, ⟨he, hs⟩, hn⟩

theorem cnt_eq_zero_iff {e : Env} {P : List Reg} {s : Reg} :
    cnt e P s = 0 ↔ ∀ x, Edge e s x → x ∈ P := by
  constructor
  · intro h x hx
    exact Classical.byContradiction fun hn => absurd (cnt_pos_iff.mpr ⟨x, hx, hn⟩) (by omega)
  · intro h
    exact Nat.eq_zero_of_not_pos fun hp => by
      obtain ⟨x, hx, hn⟩ := cnt_pos_iff.mp hp
      exact hn (h x hx)

/-- Processing the edge `s → d` (adding `d` to `P`) decrements the count of `s` and of nothing else:
with the operand of the edge brought to the front, no other operand has destination `d`. -/
theorem cnt_add {e : Env} (w : WF e) {P : List Reg} {s d : Reg} (h : Edge e s d) (hP : d ∉ P)
    (s' : Reg) : cnt e P s' = cnt e (d :: P) s' + (if s' = s then 1 else 0) := by
  obtain ⟨m, hm, he, rfl, rfl⟩ := h.exists_isEdge
  have hperm := List.perm_cons_erase hm
  have hpw := (hperm.pairwise_iff fun {a b} (hab : a.dst = b.dst → a.dst = Reg.zero) hba =>
    hba.trans (hab hba.symm)).mp w.dstDistinct
  have hoth : ∀ y ∈ e.moves.erase m, y.dst ≠ m.dst := fun y hy hyd =>
    h.dst_ne_zero ((List.pairwise_cons.mp hpw).1 y hy hyd.symm)
  have htail : (e.moves.erase m).countP (fun y => isEdge y && y.src = s' && !P.contains y.dst)
      = (e.moves.erase m).countP (fun y => isEdge y && y.src = s' && !(m.dst :: P).contains y.dst) :=
    List.countP_congr fun y hy => by simp [hoth y hy]
  unfold cnt
  rw [hperm.countP_eq, hperm.countP_eq, List.countP_cons, List.countP_cons, htail]
  by_cases hs : s' = m.src
  · subst hs; simp [he, hP]
  · have hs' : ¬ m.src = s' := fun e => hs e.symm
    simp [hs, hs']

theorem cnt_mono {e : Env} {P Q : List Reg} (h : ∀ x ∈ P, x ∈ Q) (s : Reg) : cnt e Q s ≤ cnt e P s := by
  unfold cnt
  apply List.countP_mono_left
  intro m _
  simp only [Bool.and_eq_true, decide_eq_true_eq, Bool.not_eq_true', List.contains_eq_mem,
    decide_eq_false_iff_not, and_imp]
  intro he hs hq
  exact ⟨⟨he, hs⟩, fun hp => hq (h _ hp)⟩

/-- the destinations of the edges not yet performed -/
def unprocessed (e : Env) (P : List Reg) : List Reg :=
  (e.moves.filter fun m => isEdge m && !P.contains m.dst).map (·.dst)

theorem mem_unprocessed {e : Env} {P : List Reg} {x : Reg} :
    x ∈ unprocessed e P ↔ (∃ s, Edge e s x) ∧ x ∉ P := by
  unfold unprocessed
  simp only [List.mem_map, List.mem_filter, Bool.and_eq_true, Bool.not_eq_true',
    List.contains_eq_mem, decide_eq_false_iff_not]
  constructor
  · rintro ⟨m, ⟨hm, he, hp⟩, rfl⟩
    exact ⟨⟨m.src, edge_of_isEdge hm he⟩, hp⟩
  · rintro ⟨⟨s, hE⟩, hp⟩
    obtain ⟨m, hm, he, _, rfl⟩ := hE.exists_isEdge
    exact ⟨m, ⟨hm, he, hp⟩, rfl⟩

theorem unprocessed_nodup {e : Env} (w : WF e) (P : List Reg) : (unprocessed e P).Nodup := by
  unfold unprocessed List.Nodup
  rw [List.pairwise_map]
  refine (w.dstDistinct.filter fun m => isEdge m && !P.contains m.dst).imp_of_mem ?_
  intro a b ha _ hR hab
  simp only [List.mem_filter, Bool.and_eq_true] at ha
  exact ((isEdge_iff a).mp ha.2.1).2 (hR hab)

theorem unprocessed_length_le (e : Env) (P : List Reg) : (unprocessed e P).length ≤ e.moves.length := by
  unfold unprocessed
  rw [List.length_map]
  exact List.length_filter_le _ _

theorem unprocessed_cons_lt {e : Env} (w : WF e) {P : List Reg} {d : Reg}
    (hd : d ∈ unprocessed e P) : (unprocessed e (d :: P)).length < (unprocessed e P).length := by
  have hnd : (d :: unprocessed e (d :: P)).Nodup :=
    List.nodup_cons.mpr ⟨fun h => (mem_unprocessed.mp h).2 List.mem_cons_self, unprocessed_nodup w _⟩
  refine hnd.length_le_of_subset (l₂ := unprocessed e P) fun q hq => ?_
  rcases List.mem_cons.mp hq with rfl | hq
  · exact hd
  · rw [mem_unprocessed] at hq ⊢
    exact ⟨hq.1, fun h => hq.2 (List.mem_cons_of_mem _ h)⟩

end Xdsl.ParallelMov
