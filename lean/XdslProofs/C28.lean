import XdslProofs.Lemmas.EGraphOps
/-!
# C28 — equality saturation preserves program results

"Converting a program to e-classes, applying sound rewrite rules by equality saturation, assigning
costs and extracting yields a program that returns the same results for every input; with no rewrite
rules, creating e-classes and extracting gives back a program equivalent to the original."

Model: `XdslModel/EGraph.lean` (`createEclasses`, `addCosts`, `extract`, `mergeInto`/`eclassUnion`,
`addNode`), semantics in `Lemmas/EGraphSem.lean`.  This file: consistency is preserved by every step
and extraction is sound (`extract_sound_partial`, `pipeline_sound_partial`).  `C28Total.lean`: the no-rule round trip
succeeds, runs and returns the original results (`create_extract_id`).  `C28Union.lean`: merging
through the union-find with stale handles (`eclassUnion_preserves_consistency`).  `C28Reorder.lean`: the
re-ordering pass that ends `eqsat-extract` (`topoSort_perm`, `topoSort_ordered`).  Vocabulary:
* `Interp V` — operations are arbitrary functions of their operand values (abstract, total);
* `Consistent I g env ρ` — the valuation `ρ` gives the block arguments the input values `env`, every
  operation node the value of its function on its operands' values, and **every alternative of an
  e-class the class's value** (the meaning of `equivalence.class`);
* `evalSeq I g env` — ordinary sequential execution of the function body (what "running the program"
  means); `none` when a value is used before it is defined.
Theorems quantify over every interpretation `I`, every input `env`, every program / e-graph.
-/
namespace Xdsl.EGraph

variable {V : Type}

/-- A well-formed SSA function (plain operations, single assignment) that runs to completion is a
consistent graph under the valuation "value computed by the run", and the run returns that
valuation's values of the returned ids. -/
theorem evalSeq_consistent_run [Inhabited V] (I : Interp V) {p : Prog} {env rs : List V} (hw : WF p)
    (he : evalSeq I p env = some rs) : ∃ ρ, Consistent I p env ρ ∧ rs = p.ret.map ρ := by
  obtain ⟨hl, σ, hb, _⟩ := evalSeq_eq_some.1 he
  obtain ⟨hp, hs⟩ := evalNodes_sat I p.body (initEnv env) σ hw.noCls hw.nodup
    (fun n hn => List.getElem?_eq_none (hl ▸ hw.fresh n hn)) hb
  have hc : Consistent I p env (val σ) := ⟨hl, fun i hi => by
    simp [val, hp i _ (List.getElem?_eq_getElem hi : initEnv env i = some env[i])], hs⟩
  exact ⟨val σ, hc, evalSeq_of_consistent I hc he⟩

/-- `eqsat-create-eclasses`: the e-graph built from a consistent program is consistent (the class of
a value gets that value) and its roots have the values of the program's returned ids. -/
theorem createEclasses_consistent (I : Interp V) (env : List V) (p : Prog) :
    Refines I env p (createEclasses p) :=
  createEclassesFrom_refines I env (below_maxId p)

/-- **merge_preserves_consistency** — merging two e-classes that have the same value (which is what
a sound rule establishes for the matched root's class and the class of its replacement) keeps "every
alternative of a class has the class's value", whichever of the two classes is kept. -/
theorem merge_preserves_consistency (I : Interp V) {env : List V} {ρ : Nat → V} {g : Prog}
    {keep repl : Nat} (hc : Consistent I g env ρ) (h : ρ keep = ρ repl) :
    Consistent I (mergeInto g keep repl) env ρ ∧ (mergeInto g keep repl).ret.map ρ = g.ret.map ρ :=
  mergeInto_keeps I hc h

/-- adding the operation of a rewrite's right-hand side (fresh ids) extends the valuation -/
theorem insert_preserves_consistency (I : Interp V) {env : List V} {ρ : Nat → V} {g : Prog}
    {root r c : Nat} (name key : String) (args : List Nat) (hc : Consistent I g env ρ)
    (hb : Below g r) (hrc : r < c) (ha : ∀ a ∈ args, a < r) :
    ∃ ρ', Consistent I (addNode g root r c name key args) env ρ'
      ∧ (addNode g root r c name key args).ret.map ρ' = g.ret.map ρ ∧ ∀ x, x < r → ρ' x = ρ x :=
  addNode_extends I name key args hc hb hrc ha

/-- Saturation by sound rules, as far as the graph is concerned: any sequence of node additions and
of merges of two classes that have equal values **in every valuation consistent with the current
graph** (soundness of the applied rule instance). -/
inductive SatSteps (I : Interp V) (env : List V) : Prog → Prog → Prop
  | refl (g : Prog) : SatSteps I env g g
  | merge {g g' : Prog} (keep repl : Nat) : SatSteps I env g g' →
      (∀ ρ, Consistent I g' env ρ → ρ keep = ρ repl) → SatSteps I env g (mergeInto g' keep repl)
  | add {g g' : Prog} (root r c : Nat) (name key : String) (args : List Nat) : SatSteps I env g g' →
      Below g' r → r < c → (∀ a ∈ args, a < r) → SatSteps I env g (addNode g' root r c name key args)

theorem satSteps_refines {I : Interp V} {env : List V} {g g' : Prog} (h : SatSteps I env g g') :
    Refines I env g g' := by
  induction h with
  | refl => exact Refines.refl I env _
  | merge keep repl _ hs ih =>
    exact ih.trans fun ρ hc => ⟨ρ, mergeInto_keeps I hc (hs ρ hc)⟩
  | add root r c name key args _ hb hrc ha ih =>
    exact ih.trans fun _ hc =>
      (addNode_extends I (root := root) name key args hc hb hrc ha).imp fun _ h => ⟨h.1, h.2.1⟩

/-- `eqsat-add-costs` only writes `eqsat_cost` / `min_cost_index` -/
theorem addCosts_consistent (I : Interp V) {env : List V} {ρ : Nat → V} {g : Prog} (d : Option Nat)
    (dict : AL String Nat) (hc : Consistent I g env ρ) :
    Consistent I (addCosts d dict g) env ρ ∧ (addCosts d dict g).ret.map ρ = g.ret.map ρ :=
  addCosts_keeps I d dict hc

/-- **extract_sound_partial** — for a consistent e-graph, *whatever* `min_cost_index` each class
carries (any cost model; cyclic graphs; partially costed graphs included): if `eqsat-extract` succeeds
and the extracted function runs, it returns the values of the e-graph's roots.
Full statement aimed at: `Consistent I g env ρ → ∃ p' rs, extract g = some p' ∧ evalSeq I p' env = some rs
∧ rs = g.ret.map ρ` for graphs costed by `addCosts` with a default.  Missing: that the alternatives
chosen by the cost fixed point are acyclic and that no erase is refused on a saturated graph (that the
re-ordering pass then yields a def-before-use order is `extract_order` in `C28Reorder.lean`, not chained
into a total statement); these are validated on every run of the check (results on the reference
semantics), and proved for the no-rule graphs (`create_extract_id`). -/
theorem extract_sound_partial (I : Interp V) {env rs : List V} {ρ : Nat → V} {g p' : Prog}
    (hc : Consistent I g env ρ) (hx : extract g = some p') (he : evalSeq I p' env = some rs) :
    rs = g.ret.map ρ := by
  obtain ⟨c, r⟩ := extract_keeps I hc hx
  rw [← r]
  exact evalSeq_of_consistent I c he

/-- **pipeline_sound_partial** — create e-classes, saturate with sound rule applications, assign
costs (any default / cost table), extract: every successful run of the extracted function returns
exactly what the original function returns on the same input.  (Partial in the same sense as
`extract_sound_partial`: success of extraction and of the run is not part of the conclusion.) -/
theorem pipeline_sound_partial [Inhabited V] (I : Interp V) {p g p' : Prog} {env rs rs' : List V}
    (d : Option Nat) (dict : AL String Nat) (hw : WF p) (hrun : evalSeq I p env = some rs)
    (hsat : SatSteps I env (createEclasses p) g) (hx : extract (addCosts d dict g) = some p')
    (hrun' : evalSeq I p' env = some rs') : rs' = rs := by
  obtain ⟨ρ0, c0, r0⟩ := evalSeq_consistent_run I hw hrun
  obtain ⟨ρ1, c1, r1⟩ := ((createEclasses_consistent I env p).trans (satSteps_refines hsat)) ρ0 c0
  obtain ⟨c2, r2⟩ := addCosts_keeps I d dict c1
  rw [extract_sound_partial I c2 hx hrun', r2, r1, r0]

/-- **create_extract_id_partial** — no rules: whenever the round trip `create-eclasses ; add-costs ;
extract` succeeds and its output runs, the results are the original ones.  (Partial: the full
statement, including success of the extraction and of the run, is `create_extract_id` in
`C28Total.lean`, which uses this theorem for the values.) -/
theorem create_extract_id_partial [Inhabited V] (I : Interp V) {p p' : Prog} {env rs rs' : List V}
    (d : Option Nat) (dict : AL String Nat) (hw : WF p) (hrun : evalSeq I p env = some rs)
    (hx : extract (addCosts d dict (createEclasses p)) = some p')
    (hrun' : evalSeq I p' env = some rs') : rs' = rs :=
  pipeline_sound_partial I d dict hw hrun (SatSteps.refl _) hx hrun'

/-! ## non-vacuity: a concrete function, interpretation and rewrite

The test vectors are closed terms; `decide +kernel` hands the evaluation of the pipeline to the kernel. -/

def demoI : Interp Int := fun name _ vs =>
  match name, vs with
  | "two", [] => 2
  | "one", [] => 1
  | "mul", [a, b] => a * b
  | "shl", [a, b] => a * 2 ^ b.toNat
  | _, _ => 0

/-- `f(x) = x * 2` -/
def demoP : Prog :=
  { nargs := 1, body := [.op 1 "two" "" [] none, .op 2 "mul" "" [0, 1] none], ret := [2] }

example : WF demoP := ⟨by decide, by decide, by decide⟩
example : evalSeq demoI demoP [21] = some [42] := by decide +kernel

example : createEclasses demoP =
    { nargs := 1, ret := [4], body :=
      [.cls 5 [0] none, .op 1 "two" "" [] none, .cls 3 [1] none, .op 2 "mul" "" [5, 3] none, .cls 4 [2] none] } := by
  decide +kernel

/-- the e-graph of `demoP` after `x * 2 → x << 1` was applied: the constant `one` and `shl` were added
before the root `mul`, and the class 4 (of `mul`) absorbed the class 13 of `shl` -/
def demoSat : Prog :=
  mergeInto (addNode (addNode (createEclasses demoP) 2 10 11 "one" "" []) 2 12 13 "shl" "" [5, 11]) 4 13

example : demoSat.body =
    [.cls 5 [0] none, .op 1 "two" "" [] none, .cls 3 [1] none, .op 10 "one" "" [] none, .cls 11 [10] none,
     .op 12 "shl" "" [5, 11] none, .op 2 "mul" "" [5, 3] none, .cls 4 [2, 12] none] := by decide +kernel

/-- with `shl` cheaper than `mul` the extracted function is `x << 1` and returns the same result -/
example : (extract (addCosts (some 1) [("mul", 5)] demoSat)).map (fun p' => (p'.body, evalSeq demoI p' [21])) =
    some ([.op 10 "one" "" [] none, .op 12 "shl" "" [0, 10] none], some [42]) := by decide +kernel

/-- with the default costs `mul` stays -/
example : (extract (addCosts (some 1) [] demoSat)).map (fun p' => (p'.body, evalSeq demoI p' [21])) =
    some ([.op 1 "two" "" [] none, .op 2 "mul" "" [0, 1] none], some [42]) := by decide +kernel

end Xdsl.EGraph
