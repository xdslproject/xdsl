import XdslProofs.Lemmas.DCEMiniMain
import XdslProofs.Lemmas.DCEMiniTriv
/-!
# C13 — "program results are unchanged", on the reference semantics `Sem`, for nested regions, CFGs and calls

"Dead-code elimination … removes only operations whose results are unused and that are not terminators,
symbols or operations with possibly observable effects, plus blocks that are unreachable; **program
results are unchanged** …"

`XdslProofs/C13Sem.lean` proves the clause for one block of region-free operations with abstract
operation meanings.  This file proves it on the shared reference semantics `XdslModel/Sem.lean`
(`Sem.run`: MLIR integer semantics on `BitVec`, explicit `ub`, effect log, fuel) for whole modules:
structured operations with regions (`scf.if`, `scf.for` with iteration arguments, `scf.while`,
`affine.for`), CFG regions (`cf.br` / `cf.cond_br` with block arguments, unreachable blocks), and calls
between the functions of the module (`func.call`; external functions log an effect).

The object.  `a : AT` (`XdslModel/DCEMini.lean`) is a module in which every operation carries BOTH what
the pass looks at (`Hdr`: id, operand owners, `IsTerminator`, `SymbolOpInterface`, declared effects,
`RecursiveMemoryEffect`, successors) and what `Sem` looks at (`MHdr`: name, results, operands,
attributes, successors with block arguments).  `toT a` is the tree the model of the pass
(`XdslModel/DCE.lean`) works on, `toProg a` the MiniIR program `Sem.run` executes; `dceOnceA` / `dceA` are
`DCE.dceOnce` / `DCE.dce` carried over (`dce_tie`: `toT (dceOnceA a).1 = (dceOnce (toT a)).1`).  The
harness builds `a` from the two serialisations of one xDSL module, evaluates the decidable hypotheses
`cert a` (driver model `dcemini`) and checks that `toProg` of the result is the serialisation of what
the real pass leaves.

The statement is exactly as strong as is true: a run of the original program that ENDS WITH RESULTS is
reproduced — same results, same effect log — by the pruned program with the same (or any larger) fuel.
Nothing is claimed when the original run is undefined behaviour (the pass erases a dead `arith.divsi`
by zero: `dce_ub_not_preserved_counterexample`), or does not terminate (the pass erases a dead
`scf.while` that loops forever: `dce_divergence_not_reflected_counterexample`).

What is proved from the model of the pass and what is checked per program (`cert`):
* proved: an operation erased from a kept block has no live user (`liveSet_closed`, the fixpoint of
  `live_iff_least`), hence no kept operation reads a result of it (`no_live_use`); it is
  `would_be_trivially_dead`, hence — with trait flags that agree with the operation names on it and on
  everything nested in it (`hdrOk`, checked) — it cannot touch the effect log, the memory or the symref
  variables of `Sem` and is no terminator (`dce_preserves_sem_structured`); every block the pass keeps is
  the entry block of its region or one the post-order iteration yields (`kr_liveSet`); a kept operation
  branches only to kept blocks, i.e. erasing the unreachable blocks is safe (`region_succ`: the successors
  of a yielded block are yielded — `postorder_spec` of C24 —, a yielded block ends in a terminator, which is
  never `would_be_trivially_dead`, so the block has a live operation); the simulation itself, through
  loops, branches and calls, for every fuel (`sim_all`);
* checked (`cert`, decidable, evaluated on every generated program): the tree is a module, well-sorted,
  with unique operation ids and well-formed region graphs (`ws`, `wfT`: the `okTree` of the `dce` model);
  `linkedB` (the operand-owner lists of the tree cover the MiniIR uses); `cfgOkB` (per region: unique
  block ids, only the last operation of a block has successors and then is a terminator for the pass, its
  MiniIR successors are the blocks its `Hdr.succs` point at, non-entry blocks end in a terminator); SSA
  scoping of what disappears with an erased operation or block (`certB`: no kept operation reads a value
  defined INSIDE an erased operation or in an erased block — dominance, which the pass relies on too);
  `hdrOk` on erased operations and what they contain; every `func.func` is live and keeps a body.
The walker-based erasure (`DCE.triv`) is covered by `triv_preserves_sem`.
Left out: an erased operation whose names say that it changes the memory of `Sem` is outside `hdrOk`
(an operation that declares `ALLOC` on its own result may be erased by the pass; `Sem` numbers
allocations, so results would then agree only up to a renaming of allocation ids — in the pinned tree `memref.alloc`
declares an unattached `ALLOC` and is never erased, so no generated program is affected); SSA scoping
(dominance) is a checked hypothesis, not derived from a verifier model.
-/
namespace Xdsl.DCEM
open Xdsl.DCE Xdsl.MiniIR Xdsl.Sem

/-- the tree that `dceOnceA` / `dceA` leave is the one the model of the pass leaves (and so are the
returned flag, the number of calls, the convergence flag) -/
theorem dce_tie (a : AT) :
    toT (dceOnceA a).1 = (dceOnce (toT a)).1 ∧ (dceOnceA a).2 = (dceOnce (toT a)).2
      ∧ toT (dceA a).1 = (dce (toT a)).1 ∧ (dceA a).2 = (dce (toT a)).2 :=
  ⟨(toT_dceOnceA a).1, (toT_dceOnceA a).2, (toT_dceA a).1, (toT_dceA a).2⟩

/-- the two comparisons of the driver model `dcemini` are sound: when `eqFuncs` accepts, `toProg` of the
tree IS the parsed MiniIR program (so `cert ok` + `after ok` mean: the theorems below speak about the very
programs `Sem` is run on — the module before, and what the real pass left of it) -/
theorem tie_checker_sound (a : AT) (P : Prog) (h : eqFuncs (topOps a) P.funcs = true) : toProg a = P := by
  cases P
  simp only [toProg]
  congr 1
  exact eqFuncs_sound _ _ h

/-- **dce_preserves_sem_structured** — what `would_be_trivially_dead` accepts is unobservable in `Sem`,
whole region-operations included.  An operation (with everything nested in it: the
regions of `scf.if` / `scf.for` / `scf.while` / `affine.for`, to any depth) that
`would_be_trivially_dead` accepts, whose trait flags agree with the operation names (`hdrOk`,
`hdrOkAll`), is `Quiet` in every program: whenever `Sem.runOp` runs it to completion — with any fuel,
from any state — it does not end its block, and the state it leaves has the same effect log, memory
and symref variables, and the same value for every value id outside `D`, for any `D` containing the
values defined by the operation and inside it.  (It may still be undefined behaviour or loop forever;
then the original run has no results.) -/
theorem dce_preserves_sem_structured {h : Hdr} {m : MHdr} {rs : AT} (hw : wbd h (toT rs) = true)
    (hok : hdrOk h m = true) (hokr : hdrOkAll rs = true) (P : Prog) (D : Nat → Prop)
    (hDr : ∀ r ∈ m.results, D r.1) (hD : ∀ v ∈ defsA rs, D v) :
    ∀ (n : Nat) (st st1 : St) (t : Option Term), runOp n P st (mkOp m (regionsOf rs)) = .ok (st1, t) →
      t = none ∧ st1.eff = st.eff ∧ st1.mem = st.mem ∧ st1.sym = st.sym
        ∧ ∀ v, ¬ D v → AL.get st1.env v = AL.get st.env v := by
  intro n st st1 t hrun
  obtain ⟨hc, ht⟩ := calm_of_wbd hw hok hokr
  obtain ⟨h1, h2⟩ := quiet_of_calm (P := P) hc ht hDr hD n st st1 t hrun
  exact ⟨h1, h2.eff, h2.mem, h2.sym, h2.env⟩

/-- **dce_preserves_sem_cfg** — one call of `region_dce` on a module with nested regions, CFG regions
and calls.  If the decidable hypotheses `cert a` hold, every run of the original program that ends
with results and an effect log is reproduced by the program `region_dce` leaves, with the same fuel
and with every larger fuel: same results, same effect log. -/
theorem dce_preserves_sem_cfg (a : AT) (hc : cert a = true) (f : String) (args : List Val) (n : Nat)
    (r : List Val × List Effect) (h : Sem.run (toProg a) f args n = .ok r) :
    ∀ M, n ≤ M → Sem.run (toProg (dceOnceA a).1) f args M = .ok r :=
  fun M hM => dceOnceA_preserves a hc f args n M r hM h

/-- the same for `DeadCodeElimination.apply` (`while region_dce(op.body): pass`), with the hypotheses at
every call the loop makes (`certPass`) -/
theorem dce_pass_preserves_sem (a : AT) (hc : certPass a = true) (f : String) (args : List Val) (n : Nat)
    (r : List Val × List Effect) (h : Sem.run (toProg a) f args n = .ok r) :
    ∀ M, n ≤ M → Sem.run (toProg (dceA a).1) f args M = .ok r :=
  fun M hM => dceLoopA_preserves _ a 0 hc f args n M r hM h

/-- **triv_preserves_sem** — "…and the trivial-dead removal performed during greedy rewriting": the
erasure of trivially dead operations to its fixpoint (`DCE.triv`: what `dce()` / `RemoveUnusedOperations`
and the first step of `GreedyRewritePatternApplier.match_and_rewrite` reach) preserves every run that ends
with results, under the decidable hypotheses `certTrivAll` (at every sweep: module tree with unique ids,
`linkedB`, no non-entry block without a kept operation, kept operations branch to kept blocks, scoping and `hdrOk`
as in `cert`); `toT (trivAllA a).1 = (triv (toT a)).1`. -/
theorem triv_preserves_sem (a : AT) (hc : certTrivAll a = true) (f : String) (args : List Val) (n : Nat)
    (r : List Val × List Effect) (h : Sem.run (toProg a) f args n = .ok r) :
    (∀ M, n ≤ M → Sem.run (toProg (trivAllA a).1) f args M = .ok r)
      ∧ toT (trivAllA a).1 = (triv (toT a)).1 :=
  ⟨fun M hM => trivLoopA_preserves _ a hc f args n M r hM h, (toT_trivLoopA _ a).1⟩

/-- read from the pruned side: if the pruned program ends with results, then with any fuel the original
program gives the same results and effect log, or runs out of fuel, or is undefined behaviour, or is
outside the fragment of `Sem` (`err`) — the last three because the pass may erase an operation that
never finishes, traps, or that `Sem` does not know -/
theorem dce_sem_converse (a : AT) (hc : cert a = true) (f : String) (args : List Val) (M : Nat)
    (r : List Val × List Effect) (h : Sem.run (toProg (dceOnceA a).1) f args M = .ok r) (n : Nat) :
    Sem.run (toProg a) f args n = .ok r ∨ Sem.run (toProg a) f args n = .fuel
      ∨ (∃ w, Sem.run (toProg a) f args n = .ub w) ∨ ∃ e, Sem.run (toProg a) f args n = .err e :=
  (dceOnceA_preserves a hc).converse h n

namespace Demo

def hPure (i : Nat) (us : List Nat) : Hdr := ⟨i, us, false, false, some [], false, []⟩
def hRec (i : Nat) (us : List Nat) : Hdr := ⟨i, us, false, false, some [], true, []⟩
def hTermP (i : Nat) (us : List Nat) (ss : List Nat) : Hdr := ⟨i, us, true, false, some [], false, ss⟩
def hTermU (i : Nat) (us : List Nat) : Hdr := ⟨i, us, true, false, none, false, []⟩
def hUnk (i : Nat) (us : List Nat) : Hdr := ⟨i, us, false, false, none, false, []⟩
def hFunc (i : Nat) : Hdr := ⟨i, [], false, true, none, false, []⟩
def mFunc (n : String) : MHdr := ⟨"func.func", [], [], [("sym_name", .str n)], []⟩
def i32 : Ty := .int 32
def mConst (r : Nat) (v : Int) (t : Ty) : MHdr := ⟨"arith.constant", [(r, t)], [], [("value", .int v t)], []⟩
def mBin (n : String) (r a b : Nat) : MHdr := ⟨n, [(r, i32)], [a, b], [], []⟩
def mRet (vs : List Nat) : MHdr := ⟨"func.return", [], vs, [], []⟩
def mYield (vs : List Nat) : MHdr := ⟨"scf.yield", [], vs, [], []⟩
def modul (fs : AT) : AT := .region (.block 0 [] fs .nil) .nil
abbrev tt : Val := .int 1 1#1
abbrev ff : Val := .int 1 0#1

def isUb {α : Type} : Res α → Bool | .ub _ => true | _ => false
def isOk {α : Type} : Res α → Bool | .ok _ => true | _ => false
def okI32 : Res (List Val × List Effect) → Int → Nat → Bool
  | .ok ([.int 32 v], es), x, k => v.toInt == x && es.length == k
  | _, _, _ => false

theorem ub_of_isUb {α : Type} {x : Res α} (h : isUb x = true) : ∃ w, x = .ub w := by
  cases x <;> first | exact ⟨_, rfl⟩ | cases h
theorem ok_of_isOk {α : Type} {x : Res α} (h : isOk x = true) : ∃ r, x = .ok r := by
  cases x <;> first | exact ⟨_, rfl⟩ | cases h

/-- `dce_preserves_sem_cfg` on the test predicate: what `okI32` accepts of the original run it accepts of the
pruned run, so the runs of the pruned programs below need no evaluation of their own -/
theorem okI32_preserved {a : AT} (hc : cert a = true) {f : String} {args : List Val} {n : Nat} {x : Int} {k : Nat}
    (h : okI32 (Sem.run (toProg a) f args n) x k = true) :
    okI32 (Sem.run (toProg (dceOnceA a).1) f args n) x k = true := by
  cases hr : Sem.run (toProg a) f args n with
  | ok r => rw [dce_preserves_sem_cfg a hc f args n r hr n (Nat.le_refl n)]; rw [hr] at h; exact h
  | ub w => rw [hr] at h; cases h
  | fuel => rw [hr] at h; cases h
  | err e => rw [hr] at h; cases h

/-- `func @f(%0 : i32) -> i32 { %1 = constant 0; %2 = divsi %0, %1 (unused); return %0 }` -/
def divByZero : AT := modul
  (.op (hFunc 0) (mFunc "f")
    (.region (.block 0 [(0, i32)]
      (.op (hPure 1 []) (mConst 1 0 i32) .nil
      (.op (hPure 2 [1]) (mBin "arith.divsi" 2 0 1) .nil
      (.op (hTermU 3 []) (mRet [0]) .nil .nil))) .nil) .nil) .nil)

/-- **"undefined behaviour is preserved" is false**: the pass erases an unused `arith.divsi` by zero
(`NoMemoryEffect`; `is_speculatable` is not consulted by `would_be_trivially_dead`).  All hypotheses of
`dce_preserves_sem_cfg` hold, the original run is `ub`, the pruned run returns `5`. -/
theorem dce_ub_not_preserved_counterexample :
    cert divByZero = true ∧ allIds (toT (dceOnceA divByZero).1) = [0, 3]
      ∧ (∃ w, Sem.run (toProg divByZero) "f" [.int 32 5#32] 20 = .ub w)
      ∧ ∃ r, Sem.run (toProg (dceOnceA divByZero).1) "f" [.int 32 5#32] 20 = .ok r :=
  ⟨by decide +kernel, by decide +kernel, ub_of_isUb (by decide +kernel), ok_of_isOk (by decide +kernel)⟩

/-- `func @f(%0 : i1) { scf.while () { scf.condition(%0) } do { scf.yield }; return }` -/
def deadLoop : AT := modul
  (.op (hFunc 0) (mFunc "f")
    (.region (.block 0 [(0, .int 1)]
      (.op (hRec 1 []) ⟨"scf.while", [], [], [], []⟩
        (.region (.block 1 [] (.op (hTermP 2 [] []) ⟨"scf.condition", [], [0], [], []⟩ .nil .nil) .nil)
        (.region (.block 2 [] (.op (hTermP 3 [] []) (mYield []) .nil .nil) .nil) .nil))
      (.op (hTermU 4 []) (mRet []) .nil .nil)) .nil) .nil) .nil)

def regB : Region := .mk [.mk 1 [] [.mk "scf.condition" [] [0] [] [] []]]
def regA : Region := .mk [.mk 2 [] [.mk "scf.yield" [] [] [] [] []]]
def st0 : St := { env := [(0, tt)], eff := [], sym := [], mem := [] }
def progLoop : Prog := ⟨[⟨"f", some (.mk [.mk 0 [(0, .int 1)] [
    .mk "scf.while" [] [] [] [] [regB, regA],
    .mk "func.return" [] [] [] [] []]])⟩]⟩

theorem toProg_deadLoop : toProg deadLoop = progLoop := rfl

theorem before_run (P : Prog) : ∀ n,
    runRegion n P st0 regB [] = .fuel ∨ runRegion n P st0 regB [] = .ok (st0, .cond true []) := by
  intro n
  rcases n with _ | _ | _ | _ | n
  · left; rfl
  · left; rfl
  · left; rfl
  · left; rfl
  · right; rfl

theorem after_run (P : Prog) : ∀ n,
    runRegion n P st0 regA [] = .fuel ∨ runRegion n P st0 regA [] = .ok (st0, .yield []) := by
  intro n
  rcases n with _ | _ | _ | _ | n
  · left; rfl
  · left; rfl
  · left; rfl
  · left; rfl
  · right; rfl

theorem loop_diverges (P : Prog) : ∀ n x, runWhile n P st0 regB regA [] ≠ .ok x := by
  intro n
  induction n with
  | zero => intro x h; rw [runWhile] at h; cases h
  | succ n ih =>
    intro x h
    rw [runWhile] at h
    rcases before_run P n with hb | hb <;> rw [hb] at h
    · cases h
    · simp only [if_true] at h
      rcases after_run P n with ha | ha <;> rw [ha] at h
      · cases h
      · exact ih x h

theorem deadLoop_diverges : ∀ n r, Sem.run progLoop "f" [tt] n ≠ .ok r := by
  intro n r h
  obtain ⟨st, h, -⟩ := (SemMeta.run_ok_iff _ _ _ _ r.1 r.2).1 h
  rcases n with _ | n
  · rw [callFunc] at h; cases h
  rw [callFunc] at h
  simp only [findFunc, progLoop, List.find?_cons, decide_true] at h
  rcases n with _ | n
  · rw [runRegion] at h; cases h
  rw [runRegion] at h
  simp only [Region.blocks, Block.id] at h
  rcases n with _ | n
  · rw [runBlock] at h; cases h
  rw [runBlock] at h
  simp only [findBlock, Region.blocks, List.find?_cons, Block.id, decide_true, Block.args, Block.ops] at h
  have hb : St.bind { env := [], eff := ({} : St).eff, sym := [], mem := ({} : St).mem } [(0, Ty.int 1)] [tt]
      = .ok st0 := rfl
  rw [hb] at h
  simp only at h
  rcases n with _ | n
  · rw [runOps] at h; cases h
  rw [runOps] at h
  rcases n with _ | n
  · rw [runOp] at h; cases h
  rw [runOp] at h
  have hg : st0.gets (Op.mk "scf.while" [] [] [] [] [regB, regA]).operands = .ok [] := rfl
  rw [hg] at h
  simp only [Op.name, Op.regions] at h
  cases hw : runWhile n ⟨[⟨"f", some (.mk [.mk 0 [(0, .int 1)] [
    .mk "scf.while" [] [] [] [] [regB, regA],
    .mk "func.return" [] [] [] [] []]])⟩]⟩ st0 regB regA [] with
  | ok x => exact loop_diverges _ n x hw
  | ub w => rw [hw] at h; cases h
  | fuel => rw [hw] at h; cases h
  | err e => rw [hw] at h; cases h

/-- **"the pruned program ends with results only if the original does" is false**: the pass erases an
`scf.while` (`RecursiveMemoryEffect`, nothing observable inside, no results) that never terminates.
All hypotheses hold; the original never ends with results, with any fuel; the pruned program returns. -/
theorem dce_divergence_not_reflected_counterexample :
    cert deadLoop = true ∧ allIds (toT (dceOnceA deadLoop).1) = [0, 4]
      ∧ (∀ n r, Sem.run (toProg deadLoop) "f" [tt] n ≠ .ok r)
      ∧ ∃ r, Sem.run (toProg (dceOnceA deadLoop).1) "f" [tt] 10 = .ok r :=
  ⟨by decide +kernel, by decide +kernel, fun n r => by rw [toProg_deadLoop]; exact deadLoop_diverges n r,
    ok_of_isOk (by decide +kernel)⟩

/-- structured nesting and a call:
```
func @ext(i32)
func @g(%0 : i32, %1 : i1, %2 : index) -> i32 {
  %3 = constant 1
  %4 = scf.if %1 -> i32 { %5 = addi %0, %3; %6 = muli %5, %5 /*dead, inside a region*/; yield %5 } else { yield %0 }
  %7 = scf.if %1 -> i32 { %8 = muli %0, %0; yield %8 } else { yield %3 }      /* dead whole operation */
  %9 = constant 0 : index; %10 = constant 1 : index
  %11 = scf.for %12 = %9 to %2 step %10 iter_args(%13 = %4) -> i32 {
    %14 = addi %13, %3; %15 = xori %14, %14 /*dead*/; call @ext(%14); yield %14 }
  return %11 }
``` -/
def nested : AT := modul
  (.op (hFunc 0) (mFunc "ext") (.region .nil .nil)
  (.op (hFunc 1) (mFunc "g")
    (.region (.block 0 [(0, i32), (1, .int 1), (2, .index)]
      (.op (hPure 2 []) (mConst 3 1 i32) .nil
      (.op (hRec 3 []) ⟨"scf.if", [(4, i32)], [1], [], []⟩
        (.region (.block 1 []
            (.op (hPure 4 [2]) (mBin "arith.addi" 5 0 3) .nil
            (.op (hPure 5 [4, 4]) (mBin "arith.muli" 6 5 5) .nil
            (.op (hTermP 6 [4] []) (mYield [5]) .nil .nil))) .nil)
        (.region (.block 2 [] (.op (hTermP 7 [] []) (mYield [0]) .nil .nil) .nil) .nil))
      (.op (hRec 8 []) ⟨"scf.if", [(7, i32)], [1], [], []⟩
        (.region (.block 3 []
            (.op (hPure 9 []) (mBin "arith.muli" 8 0 0) .nil
            (.op (hTermP 10 [9] []) (mYield [8]) .nil .nil)) .nil)
        (.region (.block 4 [] (.op (hTermP 11 [2] []) (mYield [3]) .nil .nil) .nil) .nil))
      (.op (hPure 12 []) (mConst 9 0 .index) .nil
      (.op (hPure 13 []) (mConst 10 1 .index) .nil
      (.op (hRec 14 [12, 13, 3]) ⟨"scf.for", [(11, i32)], [9, 2, 10, 4], [], []⟩
        (.region (.block 5 [(12, .index), (13, i32)]
            (.op (hPure 15 [2]) (mBin "arith.addi" 14 13 3) .nil
            (.op (hPure 16 [15, 15]) (mBin "arith.xori" 15 14 14) .nil
            (.op (hUnk 17 [15]) ⟨"func.call", [], [14], [("callee", .str "ext")], []⟩ .nil
            (.op (hTermP 18 [15] []) (mYield [14]) .nil .nil)))) .nil) .nil)
      (.op (hTermU 19 [14]) (mRet [11]) .nil .nil))))))) .nil) .nil)
  .nil))

theorem cert_nested : cert nested = true := by decide +kernel
theorem run_nested : okI32 (Sem.run (toProg nested) "g" [.int 32 5#32, tt, .int 64 3#64] 100) 9 3 = true := by
  decide +kernel

example : cert nested = true := cert_nested
example : allIds (toT (dceOnceA nested).1) = [0, 1, 2, 3, 4, 6, 7, 12, 13, 14, 15, 17, 18, 19] := by decide +kernel
example : okI32 (Sem.run (toProg nested) "g" [.int 32 5#32, tt, .int 64 3#64] 100) 9 3 = true := run_nested
example : okI32 (Sem.run (toProg (dceOnceA nested).1) "g" [.int 32 5#32, tt, .int 64 3#64] 100) 9 3 = true :=
  okI32_preserved cert_nested run_nested

/-- a CFG region with block arguments and an unreachable block:
```
func @h(%0 : i32, %1 : i1) -> i32 {
  ^0: %2 = constant 7; cf.cond_br %1, ^1(%0), ^2
  ^1(%3 : i32): %4 = addi %3, %3 /*dead*/; return %3
  ^2: %5 = addi %2, %0; cf.br ^1(%5)
  ^3: %6 = muli %0, %0; cf.br ^1(%6)          /* unreachable */ }
``` -/
def cfg : AT := modul
  (.op (hFunc 0) (mFunc "h")
    (.region
      (.block 0 [(0, i32), (1, .int 1)]
        (.op (hPure 1 []) (mConst 2 7 i32) .nil
        (.op ⟨2, [], true, false, none, false, [1, 2]⟩ ⟨"cf.cond_br", [], [1], [], [(1, [0]), (2, [])]⟩ .nil .nil))
      (.block 1 [(3, i32)]
        (.op (hPure 3 []) (mBin "arith.addi" 4 3 3) .nil
        (.op (hTermU 4 []) (mRet [3]) .nil .nil))
      (.block 2 []
        (.op (hPure 5 [1]) (mBin "arith.addi" 5 2 0) .nil
        (.op ⟨6, [5], true, false, none, false, [1]⟩ ⟨"cf.br", [], [], [], [(1, [5])]⟩ .nil .nil))
      (.block 3 []
        (.op (hPure 7 []) (mBin "arith.muli" 6 0 0) .nil
        (.op ⟨8, [7], true, false, none, false, [1]⟩ ⟨"cf.br", [], [], [], [(1, [6])]⟩ .nil .nil))
      .nil)))) .nil) .nil)

theorem cert_cfg : cert cfg = true := by decide +kernel
theorem run_cfg_ff : okI32 (Sem.run (toProg cfg) "h" [.int 32 5#32, ff] 50) 12 0 = true := by decide +kernel
theorem run_cfg_tt : okI32 (Sem.run (toProg cfg) "h" [.int 32 5#32, tt] 50) 5 0 = true := by decide +kernel

example : cert cfg = true := cert_cfg
example : allIds (toT (dceOnceA cfg).1) = [0, 1, 2, 4, 5, 6] := by decide +kernel
example : okI32 (Sem.run (toProg cfg) "h" [.int 32 5#32, ff] 50) 12 0 = true := run_cfg_ff
example : okI32 (Sem.run (toProg (dceOnceA cfg).1) "h" [.int 32 5#32, ff] 50) 12 0 = true :=
  okI32_preserved cert_cfg run_cfg_ff
example : okI32 (Sem.run (toProg (dceOnceA cfg).1) "h" [.int 32 5#32, tt] 50) 5 0 = true :=
  okI32_preserved cert_cfg run_cfg_tt

/-- the hypotheses are not vacuous the other way either: a module whose `func.return` reads a value
defined in an unreachable block (invalid IR: the definition does not dominate the use) fails `cert` -/
def badScope : AT := modul
  (.op (hFunc 0) (mFunc "h")
    (.region
      (.block 0 [(0, i32)] (.op (hTermU 1 [2]) (mRet [1]) .nil .nil)
      (.block 1 [] (.op (hPure 2 []) (mConst 1 7 i32) .nil
        (.op ⟨3, [], true, false, none, false, [0]⟩ ⟨"cf.br", [], [], [], [(0, [1])]⟩ .nil .nil)) .nil)) .nil) .nil)

example : cert badScope = false := by decide +kernel

end Demo

end Xdsl.DCEM
