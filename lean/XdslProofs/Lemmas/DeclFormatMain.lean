import XdslProofs.Lemmas.DeclFormatDict
/-!
C05, `build` on the state after parsing: on `replayD fmt op {}` it returns the operation's own lists
(`build_replayD`); the dictionaries of that state are the operation's up to declared defaults
(`dicts_replayD`).  What the format compiler's binding checks give: `accD` implies `wfA` and the coverage
part of `CoversSlots`.
-/
namespace Xdsl.DeclFormat

theorem mapM_some_of_forall {α : Type} (l : List Nat) (f : Nat → Option α) (g : Nat → α)
    (h : ∀ i ∈ l, f i = some (g i)) : l.mapM f = some (l.map g) := by
  induction l with
  | nil => rfl
  | cons a l ih =>
    have h1 := h a (List.mem_cons_self ..)
    have h2 := ih (fun i hi => h i (List.mem_cons_of_mem _ hi))
    simp [List.mapM_cons, h1, h2]

theorem map_seg_range (l : List (List Nat)) : (List.range l.length).map (seg l) = l := by
  apply List.ext_getElem
  · simp
  · intro i h1 h2
    simp [seg, List.getD_eq_getElem?_getD, List.getElem?_eq_getElem (by simpa using h1)]

theorem mapM_range_seg {l : List (List Nat)} {n : Nat} {f : Nat → Option (List Nat)} (hl : l.length = n)
    (h : ∀ i, i < n → f i = some (seg l i)) : (List.range n).mapM f = some l := by
  rw [mapM_some_of_forall _ _ (seg l) (fun i hi => h i (List.mem_range.mp hi)), ← hl, map_seg_range]

/-- coverage of the structural slots by the format (what the format compiler checks: every operand,
region, successor has its variable; every type is given or inferable) -/
structure CoversSlots (D : Defs) (fmt : List Dir) (op : OpInst) : Prop where
  lenO : op.operands.length = D.operandKinds.length
  lenT : op.operandTys.length = D.operandKinds.length
  lenR : op.resultTys.length = D.resultKinds.length
  lenG : op.regions.length = D.regionKinds.length
  lenS : op.succs.length = D.succKinds.length
  operands : ∀ i, i < D.operandKinds.length → bindsD .operands i fmt = true
  tysLen : ∀ i, i < D.operandKinds.length → (seg op.operandTys i).length = (seg op.operands i).length
  operandTys : ∀ i, i < D.operandKinds.length → bindsD .operandTys i fmt = true ∨
    ∃ t, D.operandFixed.getD i none = some t ∧ seg op.operandTys i = List.replicate (seg op.operands i).length t
  resultTys : ∀ i, i < D.resultKinds.length → bindsD .resultTys i fmt = true ∨
    ∃ t, D.resultFixed.getD i none = some t ∧ D.resultKinds.getD i Kind.var = Kind.single ∧ seg op.resultTys i = [t]
  regions : ∀ i, i < D.regionKinds.length → bindsD .regions i fmt = true
  succs : ∀ i, i < D.succKinds.length → bindsD .succs i fmt = true

theorem build_replayD (D : Defs) (op : OpInst) (fmt : List Dir) (K : List Cls)
    (hwf : wfD fmt K = true) (hv : ValidD D op fmt) (hc : CoversSlots D fmt op) :
    build D (replayD D op fmt {}) =
      some { operands := op.operands, operandTys := op.operandTys, resultTys := op.resultTys,
             regions := op.regions, succs := op.succs,
             props := (replayD D op fmt {}).props, attrs := (replayD D op fmt {}).attrs } := by
  have slot := slot_replayD D op fmt K (hwf := hwf) (hv := hv)
  have hO : buildOperands (replayD D op fmt {}) D.operandKinds.length = some op.operands :=
    mapM_range_seg hc.lenO fun i hi => (slot .operands i (hc.lenO ▸ hi)).1 (hc.operands i hi)
  have hT : buildOperandTys D (replayD D op fmt {}) op.operands = some op.operandTys := by
    refine mapM_range_seg (hc.lenT.trans hc.lenO.symm) fun i hi => ?_
    rw [hc.lenO] at hi
    have hs := slot .operandTys i (hc.lenT ▸ hi)
    cases hg : AL.get (replayD D op fmt {}).operandTys i with
    | some tys => obtain rfl := hs.2 tys hg; exact if_pos (hc.tysLen i hi)
    | none =>
      -- not written by the format: the type is the one the definition fixes
      rcases hc.operandTys i hi with hb | ⟨t, ht1, ht2⟩
      · exact absurd ((hs.1 hb).symm.trans hg) (by simp)
      · simp only [ht1, ht2]
  have hR : buildResultTys D (replayD D op fmt {}) = some op.resultTys := by
    refine mapM_range_seg hc.lenR fun i hi => ?_
    have hs := slot .resultTys i (hc.lenR ▸ hi)
    cases hg : AL.get (replayD D op fmt {}).resultTys i with
    | some tys => obtain rfl := hs.2 tys hg; rfl
    | none =>
      rcases hc.resultTys i hi with hb | ⟨t, ht1, ht2, ht3⟩
      · exact absurd ((hs.1 hb).symm.trans hg) (by simp)
      · simp only [ht1, ht2, ht3]
  have hG : buildSlots (replayD D op fmt {}).regions D.regionKinds = some op.regions :=
    mapM_range_seg hc.lenG fun i hi => by
      show (match AL.get (getF .regions _) i with | some xs => some xs | none => _) = _
      rw [(slot .regions i (hc.lenG ▸ hi)).1 (hc.regions i hi)]; rfl
  have hS : buildSlots (replayD D op fmt {}).succs D.succKinds = some op.succs :=
    mapM_range_seg hc.lenS fun i hi => by
      show (match AL.get (getF .succs _) i with | some xs => some xs | none => _) = _
      rw [(slot .succs i (hc.lenS ▸ hi)).1 (hc.succs i hi)]; rfl
  simp [build, hO, hT, hR, hG, hS]

/-- `attr-dict` side condition on the instance -/
def attrDictDisj (op : OpInst) : SDir → Prop
  | .attrDict _ _ exp => ∀ n, n ∈ exp → AL.get op.attrs n = none
  | _ => True

/-- dictionaries of a verified operation: no duplicate keys, and no attribute named like a property
that the attr-dict carries (`AttrDictDirective.print` raises otherwise) -/
structure DictOK (op : OpInst) (fmt : List Dir) : Prop where
  nodupP : (op.props.map Prod.fst).Nodup
  nodupA : (op.attrs.map Prod.fst).Nodup
  disj : ∀ w res exp, Dir.s (.attrDict w res exp) ∈ fmt → ∀ n, n ∈ exp → AL.get op.attrs n = none

/-- the dictionaries of the instance are dictionaries (no duplicate keys), no attribute is named like
a property that the attr-dict carries (`AttrDictDirective.print` raises otherwise), and every entry
that is not at its default has a directive (or the attr-dict) responsible for it -/
structure CoversDicts (D : Defs) (fmt : List Dir) (op : OpInst) : Prop where
  nodupP : (op.props.map Prod.fst).Nodup
  nodupA : (op.attrs.map Prod.fst).Nodup
  disj : ∀ d ∈ allS fmt, attrDictDisj op d
  covered : ∀ isProp n v, dictGet isProp op n = some v → defaultOf D isProp n ≠ some v →
    ∃ d ∈ allS fmt, coversS D isProp n d = true

theorem soundDir_run {D : Defs} {op : OpInst} {fmt : List Dir} {K : List Cls}
    (hwf : wfD fmt K = true) (hv : ValidD D op fmt) (hc : CoversDicts D fmt op) {d : SDir}
    (h : Act.run d ∈ trace op fmt) : soundDir op d := by
  cases d with
  | unitAttr n p u => exact act_ok hwf hv h
  | attrDict w res exp => exact hc.disj _ (mem_trace_iff.mp (Or.inl h))
  | _ => trivial

theorem wrP_step {D : Defs} {op : OpInst} {fmt : List Dir} {K : List Cls}
    (hwf : wfD fmt K = true) (hv : ValidD D op fmt) (hc : CoversDicts D fmt op) {a : Act}
    (ha : a ∈ trace op fmt) (st : PState) : WrP op (dp st) (dp (step D op st a)) := by
  cases a with
  | run d => exact wrP_replayS D op d st hc.nodupP hc.nodupA (soundDir_run hwf hv hc ha)
  | skip d => exact dp_setEmptyS d st ▸ WrP.refl

theorem dicts_replayD (D : Defs) (op : OpInst) (fmt : List Dir) (K : List Cls)
    (hwf : wfD fmt K = true) (hv : ValidD D op fmt) (hc : CoversDicts D fmt op) (b : Bool) (n : String) :
    normGet (if b then D.propDefaults else D.attrDefaults) (dsel b (dp (replayD D op fmt {}))) n =
      normGet (if b then D.propDefaults else D.attrDefaults) (if b then op.props else op.attrs) n := by
  have hw := fun a ha => wrP_step (a := a) hwf hv hc ha
  rw [replayD_eq]
  refine normGet_eq (fun v h => ?_) (fun v hg hnd => ?_)
  · have := (foldl_rel (R := fun s s' => WrP op (dp s) (dp s')) (fun _ => WrP.refl) WrP.trans hw {}).sound b n v h
    cases b <;> exact this
  · have hg' : dictGet b op n = some v := by cases b <;> exact hg
    have hnd' : defaultOf D b n ≠ some v := by cases b <;> exact hnd
    obtain ⟨d, hd, hcv⟩ := hc.covered b n v hg' hnd'
    -- the covering directive is parsed (an emptied one covers nothing), and what it writes stays
    rcases mem_trace_iff.mpr hd with h | h
    · exact foldl_hit (P := fun s => HasP b n (dp s)) (fun a ha s => (hw a ha s).has) h
        (hasP_of_covers D op d b n v hcv hg' hnd') {}
    · exact (not_covers_of_empty (skip_ok (fragD_of_wfD fmt K hwf) hv h).1 (act_ok hwf hv h) hcv hg' hnd').elim

theorem sum_pos_any (l : List SDir) (g : SDir → Nat) (h : (l.map g).sum > 0) :
    l.any (fun d => decide (g d > 0)) = true := by
  induction l with
  | nil => simp at h
  | cons a l ih =>
    simp only [List.map_cons, List.sum_cons] at h
    simp only [List.any_cons, Bool.or_eq_true, decide_eq_true_eq]
    by_cases ha : g a > 0
    · exact Or.inl ha
    · exact Or.inr (ih (by omega))

theorem bindsD_of_count {fam : Fam} {i : Nat} {fmt : List Dir} (h : bindCount fam i fmt > 0) :
    bindsD fam i fmt = true := by
  rw [bindsD_eq_any]
  exact sum_pos_any (allS fmt) (bindN fam i) h

theorem wfA_of_all (D : Defs) (fmt : List Dir) (h : ∀ d ∈ allS fmt, okAgg D d = true) : wfA D fmt = true := by
  induction fmt with
  | nil => rfl
  | cons d ds ih =>
    cases d with
    | s d =>
      simp only [wfA, Bool.and_eq_true]
      exact ⟨h d (by simp [allS]), ih (fun x hx => h x (by simp [allS, hx]))⟩
    | group a f r e =>
      simp only [wfA]
      exact ih (fun x hx => h x (by simp [allS, hx]))

/-- the format compiler's binding checks make the aggregate directives unambiguous -/
theorem wfA_of_accD (D : Defs) (fmt : List Dir) (h : accD D fmt = true) : wfA D fmt = true := by
  simp only [accD, Bool.and_eq_true, List.all_eq_true] at h
  exact wfA_of_all D fmt h.2

/-- what "the instance verifies" says about lengths and inferred types -/
structure InstOK (D : Defs) (op : OpInst) : Prop where
  lenO : op.operands.length = D.operandKinds.length
  lenT : op.operandTys.length = D.operandKinds.length
  lenR : op.resultTys.length = D.resultKinds.length
  lenG : op.regions.length = D.regionKinds.length
  lenS : op.succs.length = D.succKinds.length
  tysLen : ∀ i, i < D.operandKinds.length → (seg op.operandTys i).length = (seg op.operands i).length
  fixedO : ∀ i t, i < D.operandKinds.length → D.operandFixed.getD i none = some t →
    seg op.operandTys i = List.replicate (seg op.operands i).length t
  fixedR : ∀ i t, i < D.resultKinds.length → D.resultFixed.getD i none = some t →
    D.resultKinds.getD i Kind.var = Kind.single → seg op.resultTys i = [t]

/-- `FormatParser.verify_operands/_results/_regions/_successors` deliver the coverage hypotheses -/
theorem coversSlots_of_accD (D : Defs) (fmt : List Dir) (op : OpInst)
    (h : accD D fmt = true) (hi : InstOK D op) : CoversSlots D fmt op := by
  simp only [accD, Bool.and_eq_true, List.all_eq_true, List.mem_range, beq_iff_eq, decide_eq_true_eq,
    Bool.or_eq_true, Option.isSome_iff_exists] at h
  obtain ⟨⟨⟨⟨⟨hO, hT⟩, hR⟩, hG⟩, hS⟩, _⟩ := h
  refine ⟨hi.lenO, hi.lenT, hi.lenR, hi.lenG, hi.lenS, ?_, hi.tysLen, ?_, ?_, ?_, ?_⟩
  · intro i hlt; exact bindsD_of_count (by rw [hO i hlt]; omega)
  · intro i hlt
    rcases (hT i hlt).2 with h1 | ⟨t, ht⟩
    · exact Or.inl (bindsD_of_count (by rw [h1]; omega))
    · exact Or.inr ⟨t, ht, hi.fixedO i t hlt ht⟩
  · intro i hlt
    rcases (hR i hlt).2 with h1 | ⟨⟨t, ht⟩, hk⟩
    · exact Or.inl (bindsD_of_count (by rw [h1]; omega))
    · exact Or.inr ⟨t, ht, hk, hi.fixedR i t hlt ht hk⟩
  · intro i hlt; exact bindsD_of_count (by rw [hG i hlt]; omega)
  · intro i hlt; exact bindsD_of_count (by rw [hS i hlt]; omega)

end Xdsl.DeclFormat
