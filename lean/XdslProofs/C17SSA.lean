import XdslModel.SSADom
import XdslProofs.C24
/-!
# C17 — validity of the generated input modules (SSA dominance), decided by the C24 model

The quantifier of C17 ranges over *valid* input modules.  For the generated families (random control-flow
graphs, near misses of corpus modules) validity includes "every definition dominates its uses", which
xDSL's verifier does not check.  The harness sends, per multi-block region, the CFG and the list of
cross-block def→use obligations to the driver model `ssa_dom`; a generated module is only used as an input
when every line is answered `ok`.  The theorems say what `ok` means, in terms of paths.
-/
namespace Xdsl.SSADom
open Xdsl.Graph Xdsl.Dominance

theorem oblOk_iff (g : Graph) (o : Obl) (hb : o.2 < g.length) :
    oblOk (dominance g).1 o = true ↔ o.1 ≠ o.2 ∧ o.1 < g.length ∧ ∀ l, Path g 0 o.2 l → o.1 ∈ l := by
  unfold oblOk
  exact strictlyDominates_iff g hb

/-- The obligations of a region are accepted exactly when, for each of them, the defining
block is a different block of the region than the using block and every CFG path from the entry block to
the using block passes through the defining block. -/
theorem check_iff (g : Graph) (obs : List Obl) (hb : ∀ o ∈ obs, o.2 < g.length) :
    check g obs = true ↔
      ∀ o ∈ obs, o.1 ≠ o.2 ∧ o.1 < g.length ∧ ∀ l, Path g 0 o.2 l → o.1 ∈ l := by
  rw [check, List.all_eq_true]
  exact forall₂_congr fun o ho => oblOk_iff g o (hb o ho)

/-- For a *reachable* using block the side condition `o.1 < g.length` is implied by the path condition. -/
theorem oblOk_reachable (g : Graph) (o : Obl) (hb : o.2 < g.length) (hr : Reach g 0 o.2) :
    oblOk (dominance g).1 o = true ↔ o.1 ≠ o.2 ∧ ∀ l, Path g 0 o.2 l → o.1 ∈ l := by
  unfold oblOk
  exact strict_iff g hb hr

/-- A use in an unreachable block is accepted from every other block of the region. -/
theorem oblOk_unreachable (g : Graph) (o : Obl) (hb : o.2 < g.length) (hr : ¬ Reach g 0 o.2) :
    oblOk (dominance g).1 o = true ↔ o.1 ≠ o.2 ∧ o.1 < g.length := by
  rw [oblOk_iff g o hb]
  exact and_congr_right fun _ => and_iff_left fun l hl => absurd ⟨l, hl⟩ hr

theorem firstBad_none_iff (d : Dom) (obs : List Obl) (i : Nat) :
    firstBad d obs i = none ↔ obs.all (oblOk d) = true := by
  induction obs generalizing i with
  | nil => simp [firstBad]
  | cons o os ih =>
    unfold firstBad
    by_cases h : oblOk d o = true
    · simp [h, ih]
    · simp [h]

/-- in `Xdsl`, not in `SSADom`: the snapshot checker of `C17.lean` answers `fail …` too and uses it -/
theorem _root_.Xdsl.fail_ne_ok (t : String) : "fail " ++ t ≠ "ok" := by
  intro h
  have := congrArg String.length h
  simp only [String.length_append] at this
  have h1 : "fail ".length = 5 := by decide
  have h2 : "ok".length = 2 := by decide
  omega

theorem verdict_ok_iff (g : Graph) (obs : List Obl) : verdict g obs = "ok" ↔ check g obs = true := by
  unfold verdict check
  rw [← firstBad_none_iff _ _ 0]
  cases h : firstBad (dominance g).1 obs 0 with
  | none => simp
  | some i => exact iff_of_false (fail_ne_ok _) nofun

/-- the diamond `0 → {1, 2} → 3`: a value of block 0 may be used in block 3, a value of block 1 may not
(the path through block 2 avoids it) -/
example : check [[1, 2], [3], [3], []] [(0, 3), (0, 1)] = true := by decide +kernel
example : check [[1, 2], [3], [3], []] [(1, 3)] = false := by decide +kernel
/-- the shape behind the pass-through rules: `0 → 1 → 2`, `0 → 3`; block 1 (a lone branch) dominates block 2 -/
example : check [[1, 3], [2], [], []] [(1, 2), (0, 2)] = true := by decide +kernel
example : verdict [[1, 3], [2], [], []] [(1, 2), (3, 2)] = "fail 1" := by decide +kernel

end Xdsl.SSADom
