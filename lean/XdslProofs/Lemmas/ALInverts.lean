import XdslProofs.Lemmas.AL
/-!
A dictionary kept as the inverse of a list: `m[x] = i` exactly when slot `i` of the list holds `x`
(slots may be blank).  `Worklist` keeps `_map` against `_stack` this way, `DisjointSet` keeps
`_index_by_value` against `_values`; both append a new item at the end and map it to its slot.
-/
namespace Xdsl.AL

def Inverts (m : AL Nat Nat) (l : List (Option Nat)) : Prop :=
  ∀ x i, m.get x = some i ↔ l[i]? = some (some x)

theorem getElem?_map_some {vals : List Nat} {i v : Nat} :
    (vals.map some)[i]? = some (some v) ↔ vals[i]? = some v := by
  rw [List.getElem?_map]; cases vals[i]? <;> simp

namespace Inverts
variable {m : AL Nat Nat} {l l' : List (Option Nat)} {x : Nat}

theorem nil : Inverts [] [] := fun _ _ => ⟨fun e => (nomatch e), fun e => (nomatch e)⟩

theorem inj (h : Inverts m l) {i j : Nat} (hi : l[i]? = some (some x)) (hj : l[j]? = some (some x)) :
    i = j :=
  Option.some.inj (((h x i).mpr hi).symm.trans ((h x j).mpr hj))

theorem get_none (h : Inverts m l) (hx : ∀ i : Nat, l[i]? ≠ some (some x)) : m.get x = none := by
  cases e : m.get x with
  | none => rfl
  | some i => exact absurd ((h x i).mp e) (hx i)

theorem not_live (h : Inverts m l) (hx : m.get x = none) (i : Nat) : l[i]? ≠ some (some x) :=
  fun e => nomatch ((h x i).mpr e).symm.trans hx

theorem push (h : Inverts m l) (hx : m.get x = none) : Inverts (m.set x l.length) (l ++ [some x]) := by
  intro y i
  rw [AL.get_set, List.getElem?_append]
  by_cases hy : y = x
  · subst hy
    rw [if_pos rfl]
    split
    · rename_i hlt
      exact ⟨fun e => absurd (Option.some.inj e) (Nat.ne_of_gt hlt), fun e => absurd e (h.not_live hx i)⟩
    · rename_i hge
      constructor
      · rintro ⟨⟩; rw [Nat.sub_self]; rfl
      · intro e
        have := (List.getElem?_eq_some_iff.mp e).1
        rw [show i = l.length by simp at this; omega]
  · rw [if_neg hy, h y i]
    split
    · rfl
    · rename_i hge
      rw [List.getElem?_eq_none (Nat.le_of_not_lt hge)]
      refine ⟨fun e => (nomatch e), fun e => ?_⟩
      have := List.mem_of_getElem? e
      exact absurd (Option.some.inj (List.mem_singleton.mp this)) hy

/-- an item leaves: its slot is blanked or cut off, every other live slot stays -/
theorem del (h : Inverts m l)
    (hl : ∀ (i y : Nat), l'[i]? = some (some y) ↔ l[i]? = some (some y) ∧ y ≠ x) : Inverts (m.del x) l' := by
  intro y i
  rw [AL.get_del, hl]
  by_cases hy : y = x
  · rw [if_pos hy]; exact ⟨fun e => (nomatch e), fun e => absurd hy e.2⟩
  · rw [if_neg hy, h y i]; exact ⟨fun e => ⟨e, hy⟩, And.left⟩

theorem pop (h : Inverts m (l ++ [some x])) : Inverts (m.del x) l := by
  have top : (l ++ [some x])[l.length]? = some (some x) := by
    rw [List.getElem?_append_right (Nat.le_refl _), Nat.sub_self]; rfl
  refine h.del fun i y => ⟨fun e => ?_, fun e => ?_⟩
  · have hlt := (List.getElem?_eq_some_iff.mp e).1
    have e' : (l ++ [some x])[i]? = some (some y) := by rw [List.getElem?_append_left hlt]; exact e
    exact ⟨e', fun hy => Nat.ne_of_lt hlt (h.inj (hy ▸ e') top)⟩
  · have hlt : i < l.length := by
      have := (List.getElem?_eq_some_iff.mp e.1).1
      rw [List.length_append] at this
      rcases Nat.lt_or_ge i l.length with hlt | hge
      · exact hlt
      · rw [show i = l.length from Nat.le_antisymm (Nat.le_of_lt_succ this) hge, top] at e
        exact absurd (Option.some.inj (Option.some.inj e.1)).symm e.2
    rw [← List.getElem?_append_left hlt]; exact e.1

theorem map_some {vals : List Nat} :
    Inverts m (vals.map some) ↔ ∀ v i, m.get v = some i ↔ vals[i]? = some v :=
  forall₂_congr fun _ _ => by rw [getElem?_map_some]

end Inverts
end Xdsl.AL
