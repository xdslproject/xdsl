import XdslProofs.Lemmas.RiscvPyInt
/-!
`BitVec.ofInt` vs. Python's bitwise operators on unbounded integers, under the names the C14/C15
proofs use (the proofs are those of `Lemmas/RiscvPyInt.lean`): with core's `BitVec.ofInt_add` /
`ofInt_mul` and `BV.ofInt_sub` (`Lemmas/OfInt.lean`) the six homomorphisms the wrap-around kernels and
folds rest on.
-/
namespace Xdsl.BV

theorem ofInt_land (w : Nat) (a b : Int) :
    BitVec.ofInt w (Py.land a b) = BitVec.ofInt w a &&& BitVec.ofInt w b :=
  RvK.ofInt_land w a b

theorem ofInt_lor (w : Nat) (a b : Int) :
    BitVec.ofInt w (Py.lor a b) = BitVec.ofInt w a ||| BitVec.ofInt w b :=
  RvK.ofInt_lor w a b

theorem ofInt_xor (w : Nat) (a b : Int) :
    BitVec.ofInt w (Py.xor a b) = BitVec.ofInt w a ^^^ BitVec.ofInt w b :=
  RvK.ofInt_xor w a b

end Xdsl.BV
