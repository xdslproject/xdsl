import XdslProofs.Lemmas.RegAllocLoopInv
/-!
C19 (loops): `allocate_values_same_reg` on one loop-carried group
(block argument, iter_arg, yield operand, result) — whichever of the four already has a register
(`group_step`) — and on all groups of a loop (`AtG.fold`).
-/
namespace Xdsl.RegAllocLoop
open Xdsl.RegMachine Xdsl.RegAlloc

section Group
variable {x : Ctx} {pre : AL ValId Reg} {A0 : List Reg} {Zc U : List ValId}
  {Tie : (ValId → Reg) → Prop} {a0 : ValId → Reg}

theorem linv_assign_tied {s : LSt} {V M P : List ValId} {n d : ValId} {r : Nat}
    (hinv : LInv x.c pre A0 Zc Tie x.zi a0 s V M P) (hnz : x.c.z = true → r ≠ 0)
    (hn : AL.get s.st.asg n = none) (hd : AL.get s.st.asg d = some r)
    (hforce : ∀ a, Tie a → a n = a d) :
    LInv x.c pre A0 Zc Tie x.zi a0 (setReg s n r) (n :: V) M P := by
  have hnM : n ∉ M := fun hm => by
    have := hinv.inv.assigned hm; rw [hn] at this; simp at this
  exact LInv.assign hinv (inv_assign_tied hinv.inv hnz hn hd hforce) hn rfl rfl (fun _ h => h)
    (fun w hw => List.mem_cons_of_mem _ hw) (fun w hw _ => hw) (fun hm => absurd hm hnM)
    (fun hz e => absurd e (hnz hz))

/-- every value of `vals` that has no register yet receives `r`, the register of the tied value `d` -/
theorem linv_extras {P : List ValId} {d : ValId} {r : Nat} (hnz : x.c.z = true → r ≠ 0)
    (vals : List ValId) (s : LSt) (V M : List ValId)
    (hinv : LInv x.c pre A0 Zc Tie x.zi a0 s V M P) (hd : AL.get s.st.asg d = some r)
    (hforce : ∀ n ∈ vals, ∀ a, Tie a → a n = a d) :
    LInv x.c pre A0 Zc Tie x.zi a0
      (vals.foldl (fun t v => if (AL.get t.st.asg v).isSome then t else setReg t v r) s)
      (vals.reverse ++ V) M P := by
  have := foldl_inv_done (f := fun t v => if (AL.get t.st.asg v).isSome then t else setReg t v r)
    (fun done t => LInv x.c pre A0 Zc Tie x.zi a0 t (done ++ V) M P ∧ AL.get t.st.asg d = some r)
    vals [] s ⟨hinv, hd⟩ fun n hn done t ⟨ht, hdt⟩ => by
      by_cases hs : (AL.get t.st.asg n).isSome = true
      · simp only [if_pos hs]
        exact ⟨{ ht with
          inv := ht.inv.addV hs
          prot := fun p hp => ⟨(ht.prot p hp).1, (ht.prot p hp).2.1, List.mem_cons_of_mem _ (ht.prot p hp).2.2⟩ }, hdt⟩
      · simp only [if_neg hs]
        have hn' := Option.not_isSome_iff_eq_none.1 hs
        have hdn : d ≠ n := fun e => by rw [e, hn'] at hdt; cases hdt
        exact ⟨linv_assign_tied ht hnz hn' hdt (hforce n hn), by rw [setReg_get, if_neg hdn]; exact hdt⟩
  simpa using this.1

/-- the values of the groups already processed: they have the register of a live yielded value, which
the witness ties to them, and of an iter_arg (so that `reserve_registers(iter_args.types)` reserves it:
`At.reserve`) -/
def Shadow (a0 : ValId → Reg) (s : LSt) (M S inits yields : List ValId) : Prop :=
  ∀ q ∈ S, (AL.get s.st.asg q).isSome = true ∧
    ∃ y ∈ M, y ∈ yields ∧ allocOf s.st.asg y = allocOf s.st.asg q ∧ a0 y = a0 q ∧
      ∃ i ∈ inits, (AL.get s.st.asg i).isSome = true ∧ allocOf s.st.asg i = allocOf s.st.asg q

/-- where an allocated value of the loop header can be: live, protected by an outer reservation, in
a group already processed, or pre-assigned -/
def Held (pre : AL ValId Reg) (U M P S : List ValId) (m : ValId) : Prop :=
  m ∈ M ∨ m ∈ P ∨ m ∈ S ∨ ((AL.get pre m).isSome = true ∧ m ∈ U)

theorem Shadow.ext {s s' : LSt} {M M' S inits yields : List ValId}
    (h : Shadow a0 s M S inits yields) (he : LExt s s')
    (hM : ∀ w ∈ M, w ∈ yields → (AL.get s.st.asg w).isSome = true ∧ w ∈ M') : Shadow a0 s' M' S inits yields := by
  intro q hq
  obtain ⟨h1, y, hyM, hyY, h2, h3, i, hiI, h4, h5⟩ := h q hq
  have sm : ∀ w, (AL.get s.st.asg w).isSome = true → (AL.get s'.st.asg w).isSome = true :=
    fun _ hw => Extends.isSome he hw
  exact ⟨sm q h1, y, (hM y hyM hyY).2, hyY, by rw [he.allocOf (hM y hyM hyY).1, he.allocOf h1]; exact h2, h3,
    i, hiI, sm i h4, by rw [he.allocOf h4, he.allocOf h1]; exact h5⟩

theorem Shadow.mono {s : LSt} {M M2 S inits yields : List ValId}
    (h : Shadow a0 s M S inits yields) (hM : ∀ w ∈ M, w ∈ yields → w ∈ M2) : Shadow a0 s M2 S inits yields := by
  intro q hq
  obtain ⟨h1, y, hyM, hyY, h2⟩ := h q hq
  exact ⟨h1, y, hM y hyM hyY, hyY, h2⟩

theorem held_notAvail {s : LSt} {V M P S inits yields : List ValId} {m : ValId}
    (hst : Static x.c pre A0 U) (hinv : LInv x.c pre A0 Zc Tie x.zi a0 s V M P)
    (hsh : Shadow a0 s M S inits yields) (hm : Held pre U M P S m) :
    allocOf s.st.asg m ∉ s.st.avail := by
  rcases hm with hm | hm | hm | ⟨hm, hmU⟩
  · exact hinv.inv.notAvail m hm
  · exact hinv.rdisj _ (hinv.prot m hm).2.1
  · obtain ⟨_, y, hyM, _, hyq, _⟩ := hsh m hm
    rw [← hyq]; exact hinv.inv.notAvail y hyM
  · obtain ⟨rp, hrp⟩ := Option.isSome_iff_exists.1 hm
    rw [allocOf_of_get (hinv.inv.ext m rp hrp)]
    intro hav
    rcases hinv.inv.availOk rp hav with h1 | h1
    · exact hst.usedOut m hmU rp hrp h1
    · have := hst.preLt m rp hrp; omega

/-- a live or protected value in the register of a held value is held together with it by the
feasibility witness too (or both sit in the zero register) -/
theorem held_coh {s : LSt} {V M P S inits yields : List ValId} {m w : ValId}
    (hst : Static x.c pre A0 U) (hext0 : ∀ v r, AL.get pre v = some r → a0 v = r) (hTie0 : Tie a0)
    (hinv : LInv x.c pre A0 Zc Tie x.zi a0 s V M P)
    (hsh : Shadow a0 s M S inits yields) (hm : Held pre U M P S m)
    (hw : w ∈ M ∨ w ∈ P) (heq : allocOf s.st.asg w = allocOf s.st.asg m) :
    w = m ∨ a0 w = a0 m ∨ (x.c.z = true ∧ allocOf s.st.asg m = 0) := by
  rcases hm with hm | hm | hm | ⟨hm, hmU⟩
  · rcases hw with hw | hw
    · by_cases e : w = m
      · exact Or.inl e
      · have := hinv.inv.pw w hw m hm e heq
        exact Or.inr (Or.inr ⟨this.1, heq ▸ this.2⟩)
    · rcases hinv.share w hw m (Or.inl hm) heq.symm with e | e
      · exact Or.inl e.symm
      · exact Or.inr (Or.inl e.symm)
  · rcases hinv.share m hm w hw heq with e | e
    · exact Or.inl e
    · exact Or.inr (Or.inl e)
  · obtain ⟨_, y, hyM, _, hyq, hya, _⟩ := hsh m hm
    rcases hw with hw | hw
    · by_cases e : w = y
      · exact Or.inr (Or.inl (e ▸ hya))
      · have := hinv.inv.pw w hw y hyM e (heq.trans hyq.symm)
        exact Or.inr (Or.inr ⟨this.1, by rw [← heq]; exact this.2⟩)
    · rcases hinv.share w hw y (Or.inl hyM) (hyq.trans heq.symm) with e | e
      · exact Or.inr (Or.inl (e ▸ hya))
      · exact Or.inr (Or.inl (e.symm.trans hya))
  · obtain ⟨rp, hrp⟩ := Option.isSome_iff_exists.1 hm
    have hgm := hinv.inv.ext m rp hrp
    rw [allocOf_of_get hgm] at heq ⊢
    have hwS : (AL.get s.st.asg w).isSome = true := by
      rcases hw with hw | hw
      · exact hinv.inv.assigned hw
      · exact (hinv.prot w hw).1
    have hgw := get_of_isSome hwS
    rw [heq] at hgw
    rw [hext0 m rp hrp]
    cases hpw : AL.get pre w with
    | some rw' =>
      have := hinv.inv.ext w rw' hpw
      rw [hgw] at this
      simp only [Option.some.injEq] at this
      exact Or.inr (Or.inl (by rw [hext0 w rw' hpw, this]))
    | none =>
      rcases hinv.inv.origin w rp hgw hpw with h1 | h1 | h1 | h1
      · exact absurd h1 (hst.usedOut m hmU rp hrp)
      · have := hst.preLt m rp hrp; omega
      · exact Or.inr (Or.inr ⟨h1.1, h1.2.1⟩)
      · exact Or.inr (Or.inl (h1 a0 hext0 hTie0))

/-- the liveness changes at a group: the result dies, the yielded value is live from here on (at the
end of the body), both in the register of the group -/
theorem linv_relive {s : LSt} {V M P : List ValId} {y r : ValId}
    (hinv : LInv x.c pre A0 Zc Tie x.zi a0 s V M P) (hyV : y ∈ V)
    (hna : allocOf s.st.asg y ∉ s.st.avail)
    (hpw : ∀ w ∈ M, w ≠ r → w ≠ y → allocOf s.st.asg w = allocOf s.st.asg y →
      (x.c.z = true ∧ allocOf s.st.asg y = 0))
    (hsh : ∀ p ∈ P, allocOf s.st.asg y = allocOf s.st.asg p → y = p ∨ a0 y = a0 p) :
    LInv x.c pre A0 Zc Tie x.zi a0 s V (y :: M.filter (· != r)) P := by
  have hI := hinv.inv
  have hmem : ∀ w ∈ M.filter (· != r), w ∈ M ∧ w ≠ r := fun w hw => by
    simpa using List.mem_filter.1 hw
  exact { hinv with
    inv := { hI with
      liveSub := fun w hw => by
        rcases List.mem_cons.1 hw with rfl | hw
        · exact hyV
        · exact hI.liveSub w (hmem w hw).1
      pw := fun a ha b hb hne heq => by
        rcases List.mem_cons.1 ha with ea | ha
        · rcases List.mem_cons.1 hb with eb | hb
          · exact absurd (ea.trans eb.symm) hne
          · rw [ea] at heq ⊢
            exact hpw b (hmem b hb).1 (hmem b hb).2 (fun e => hne (ea.trans e.symm)) heq.symm
        · rcases List.mem_cons.1 hb with eb | hb
          · rw [eb] at heq
            have := hpw a (hmem a ha).1 (hmem a ha).2 (fun e => hne (e.trans eb.symm)) heq
            exact ⟨this.1, heq ▸ this.2⟩
          · exact hI.pw a (hmem a ha).1 b (hmem b hb).1 hne heq
      notAvail := fun w hw => by
        rcases List.mem_cons.1 hw with rfl | hw
        · exact hna
        · exact hI.notAvail w (hmem w hw).1 }
    share := fun p hp w hw heq => by
      rcases hw with hw | hw
      · rcases List.mem_cons.1 hw with rfl | hw
        · exact hsh p hp heq
        · exact hinv.share p hp w (Or.inl (hmem w hw).1) heq
      · exact hinv.share p hp w (Or.inr hw) heq }

/-- a value that is no zero constant and that the witness keeps out of `zero` (`b`: a value tied to it of
which this is known, the block argument of its group) has a register other than `zero` -/
theorem nz_of_witness {s : LSt} {V M P : List ValId} {m b : ValId}
    (hst : Static x.c pre A0 U) (hext0 : ∀ v r, AL.get pre v = some r → a0 v = r) (hTie0 : Tie a0)
    (hinv : LInv x.c pre A0 Zc Tie x.zi a0 s V M P)
    (hmS : (AL.get s.st.asg m).isSome = true)
    (hmb : a0 m = a0 b) (hnz0 : x.c.z = true → a0 b ≠ 0) (hmZ : m ∉ Zc) :
    x.c.z = true → allocOf s.st.asg m ≠ 0 := by
  intro hz h0
  have hg := get_of_isSome hmS
  rw [h0] at hg
  have hpre0 : ∀ rp, AL.get pre m = some rp → False := by
    intro rp hrp
    have := hinv.inv.ext m rp hrp
    rw [hg] at this
    simp only [Option.some.injEq] at this
    exact hnz0 hz (by rw [← hmb, hext0 m rp hrp, ← this])
  have horig : AL.get pre m = none → False := by
    intro hp
    rcases hinv.inv.origin m 0 hg hp with h1 | h1 | h1 | h1
    · exact hst.zeroNotAlloc hz h1
    · have := hst.basePos hz; omega
    · exact hmZ h1.2.2
    · exact hnz0 hz (by rw [← hmb]; exact h1 a0 hext0 hTie0)
  cases hp : AL.get pre m with
  | some rp => exact hpre0 rp hp
  | none => exact horig hp

theorem tied_members {a : ValId → Reg} {b i y r : ValId} (h : a i = a b ∧ a y = a b ∧ a r = a b) :
    ∀ m ∈ [b, i, y, r], a m = a b := by
  intro m hm
  simp only [List.mem_cons, List.not_mem_nil, or_false] at hm
  rcases hm with rfl | rfl | rfl | rfl
  · rfl
  · exact h.1
  · exact h.2.1
  · exact h.2.2

/-- A group of which the member `m0` has the register `ρ`: every other member receives it, the result
dies and the yielded value is live from here on. -/
theorem group_finish {sA sB : LSt} {VA MA P S inits yields : List ValId} {b i y r m0 : ValId} {ρ : Nat}
    (hst : Static x.c pre A0 U) (hext0 : ∀ v r, AL.get pre v = some r → a0 v = r) (hTie0 : Tie a0)
    (hinvA : LInv x.c pre A0 Zc Tie x.zi a0 sA VA MA P) (hshA : Shadow a0 sA MA S inits yields)
    (hSnz : x.c.z = true → ∀ q ∈ S, allocOf sA.st.asg q ≠ 0)
    (htie : ∀ a, Tie a → a i = a b ∧ a y = a b ∧ a r = a b)
    (hm0 : m0 ∈ [b, i, y, r]) (hm0ρ : AL.get sA.st.asg m0 = some ρ) (hheld : Held pre U MA P S m0)
    (hρnz : x.c.z = true → ρ ≠ 0)
    (hall : ∀ m ∈ [b, i, y, r], ∀ ρ', AL.get sA.st.asg m = some ρ' → ρ' = ρ)
    (hsep : ∀ w ∈ MA, w ≠ y → w ≠ r → a0 w ≠ a0 y)
    (hiI : i ∈ inits) (hyY : y ∈ yields) (hrY : r ∉ yields)
    (hB : Same ([b, i, y, r].foldl (fun t v => if (AL.get t.st.asg v).isSome then t else setReg t v ρ) sA) sB) :
    LInv x.c pre A0 Zc Tie x.zi a0 sB (r :: y :: i :: b :: VA) (y :: MA.filter (· != r)) P
    ∧ Shadow a0 sB (y :: MA.filter (· != r)) (b :: i :: S) inits yields
    ∧ (x.c.z = true → ∀ q ∈ b :: i :: S, allocOf sB.st.asg q ≠ 0)
    ∧ LExt sA sB
    ∧ ∀ m ∈ [b, i, y, r], AL.get sB.st.asg m = some ρ := by
  have hab : ∀ a, Tie a → ∀ m ∈ [b, i, y, r], a m = a b := fun a ha => tied_members (htie a ha)
  have htm0 : ∀ a, Tie a → ∀ m ∈ [b, i, y, r], a m = a m0 := fun a ha m hm =>
    (hab a ha m hm).trans (hab a ha m0 hm0).symm
  have hyG : y ∈ [b, i, y, r] := by simp
  have hinvB : LInv x.c pre A0 Zc Tie x.zi a0 sB ([b, i, y, r].reverse ++ VA) MA P :=
    (linv_extras hρnz [b, i, y, r] sA VA MA hinvA hm0ρ (fun n hn a ha => htm0 a ha n hn)).same hB
  have hext : LExt sA sB := fun v r' hv => by
    rw [hB.asg]; exact (lext_rel x.c).setNew ρ [b, i, y, r] sA v r' hv
  have havB : sB.st.avail = sA.st.avail := hB.avail.trans (foldl_setRegIf_fields ρ [b, i, y, r] sA).avail
  have hgetB : ∀ m ∈ [b, i, y, r], AL.get sB.st.asg m = some ρ := by
    intro m hm
    rw [hB.asg, foldl_setRegIf_get]
    cases hg : AL.get sA.st.asg m with
    | some ρ' => simp only; rw [hall m hm ρ' hg]
    | none => simp only; rw [if_pos hm]
  have hallocB : ∀ m ∈ [b, i, y, r], allocOf sB.st.asg m = ρ := fun m hm => allocOf_of_get (hgetB m hm)
  have hsameB : ∀ w, (AL.get sA.st.asg w).isSome = true → allocOf sB.st.asg w = allocOf sA.st.asg w :=
    fun w hw => hext.allocOf hw
  have hm0A : allocOf sA.st.asg m0 = ρ := allocOf_of_get hm0ρ
  have hMA : ∀ w ∈ MA, (AL.get sA.st.asg w).isSome = true :=
    fun w hw => hinvA.inv.assigned hw
  have hPA : ∀ p ∈ P, (AL.get sA.st.asg p).isSome = true := fun p hp => (hinvA.prot p hp).1
  have ha0m0y : a0 m0 = a0 y := (htm0 a0 hTie0 y hyG).symm
  have hrel := linv_relive (y := y) (r := r) hinvB (by simp)
    (by
      rw [hallocB y hyG, havB, ← hm0A]
      exact held_notAvail hst hinvA hshA hheld)
    (by
      intro w hw hwr hwy heq
      rw [hallocB y hyG, hsameB w (hMA w hw), ← hm0A] at heq
      rw [hallocB y hyG]
      rcases held_coh hst hext0 hTie0 hinvA hshA hheld (Or.inl hw) heq with e | e | e
      · exact absurd (by rw [e, ha0m0y]) (hsep w hw hwy hwr)
      · exact absurd (e.trans ha0m0y) (hsep w hw hwy hwr)
      · exact ⟨e.1, by rw [← hm0A]; exact e.2⟩)
    (by
      intro p hp heq
      rw [hallocB y hyG, hsameB p (hPA p hp), ← hm0A] at heq
      rcases held_coh hst hext0 hTie0 hinvA hshA hheld (Or.inr hp) heq.symm with e | e | e
      · exact Or.inr (by rw [e, ha0m0y])
      · exact Or.inr (ha0m0y.symm.trans e.symm)
      · exact absurd (hm0A ▸ e.2) (hρnz e.1))
  refine ⟨hrel.mono (fun w => by simp [or_left_comm]) (fun _ h => h), ?_, ?_, hext, hgetB⟩
  · intro q hq
    simp only [List.mem_cons] at hq
    have hiG : i ∈ [b, i, y, r] := by simp
    have hnew : ∀ m ∈ [b, i, y, r], a0 y = a0 m → (AL.get sB.st.asg m).isSome = true ∧
        ∃ y' ∈ y :: MA.filter (· != r), y' ∈ yields ∧ allocOf sB.st.asg y' = allocOf sB.st.asg m ∧ a0 y' = a0 m ∧
          ∃ i' ∈ inits, (AL.get sB.st.asg i').isSome = true ∧ allocOf sB.st.asg i' = allocOf sB.st.asg m := by
      intro m hm ha
      refine ⟨by rw [hgetB m hm]; rfl, y, List.mem_cons_self .., hyY, ?_, ha, i, hiI, by rw [hgetB i hiG]; rfl, ?_⟩
      · rw [hallocB y hyG, hallocB m hm]
      · rw [hallocB i hiG, hallocB m hm]
    rcases hq with rfl | rfl | hq
    · exact hnew q (by simp) (hab a0 hTie0 y hyG)
    · exact hnew q (by simp) ((hab a0 hTie0 y hyG).trans (hab a0 hTie0 q (by simp)).symm)
    · exact hshA.ext hext (fun w hw hwY => ⟨hMA w hw, List.mem_cons_of_mem _
        (List.mem_filter.2 ⟨hw, by simpa using fun (e : w = r) => hrY (e ▸ hwY)⟩)⟩) q hq
  · intro hz q hq
    simp only [List.mem_cons] at hq
    rcases hq with rfl | rfl | hq
    · rw [hallocB q (by simp)]; exact hρnz hz
    · rw [hallocB q (by simp)]; exact hρnz hz
    · rw [hsameB q (hshA q hq).1]; exact hSnz hz q hq

/-- **`allocate_values_same_reg` on one loop-carried group.**  Either a member `m0` has a register
already (`hcls`: then it is `Held`) and `group_finish` does the rest; or none has, a register is popped,
the yielded value becomes live in it (`linv_pop_live`), and this is the first case with `m0 := y`. -/
theorem group_step {s s' : LSt} {V M P S inits yields : List ValId} {b i y r : ValId}
    (hst : Static x.c pre A0 U) (hext0 : ∀ v r, AL.get pre v = some r → a0 v = r) (hTie0 : Tie a0)
    (hinv : LInv x.c pre A0 Zc Tie x.zi a0 s V M P) (hsh : Shadow a0 s M S inits yields)
    (hSnz : x.c.z = true → ∀ q ∈ S, allocOf s.st.asg q ≠ 0)
    (h : sameRegN x s [b, i, y, r] = .ok s')
    (htie : ∀ a, Tie a → a i = a b ∧ a y = a b ∧ a r = a b)
    (hU : ∀ m ∈ [b, i, y, r], m ∈ U)
    (hcls : ∀ m ∈ [b, i, y, r], (AL.get s.st.asg m).isSome = true → Held pre U M P S m)
    (hsep : ∀ w ∈ M, w ≠ y → w ≠ r → a0 w ≠ a0 y)
    (hnz0 : x.c.z = true → a0 b ≠ 0)
    (hgz : ∀ m ∈ [b, i, y, r], m ∉ Zc)
    (hiI : i ∈ inits) (hyY : y ∈ yields) (hrY : r ∉ yields) :
    LInv x.c pre A0 Zc Tie x.zi a0 s' (r :: y :: i :: b :: V) (y :: M.filter (· != r)) P
    ∧ Shadow a0 s' (y :: M.filter (· != r)) (b :: i :: S) inits yields
    ∧ (x.c.z = true → ∀ q ∈ b :: i :: S, allocOf s'.st.asg q ≠ 0)
    ∧ LExt s s'
    ∧ ∃ ρ : Nat, ∀ m ∈ [b, i, y, r], AL.get s'.st.asg m = some ρ := by
  have hyG : y ∈ [b, i, y, r] := by simp
  have hab : ∀ a, Tie a → ∀ m ∈ [b, i, y, r], a m = a b := fun a ha => tied_members (htie a ha)
  rcases sameRegN_cases h with ⟨hnil, _⟩ | ⟨_, hnone, ρ, s1, hp, hs'⟩ | ⟨ρ, ⟨m0, hm0, hm0ρ⟩, hall, hs'⟩
  · exact absurd hnil (by simp)
  · obtain ⟨hinvA, hρnz, _⟩ := linv_pop_live hst hinv (hnone y hyG) hp
    obtain ⟨hp', hres1, _, _⟩ := popR_ok hp
    have hasg1 : s1.st.asg = s.st.asg := pop_asg hp'
    have hgetA : ∀ w, AL.get (setReg s1 y ρ).st.asg w = if w = y then some ρ else AL.get s.st.asg w := by
      intro w; simp only [setReg, AL.get_set, hasg1]
    have eA : LExt s (setReg s1 y ρ) := (lext_rel x.c).trans _ _ _ ((lext_rel x.c).pop _ _ _ hp)
      ((lext_rel x.c).set s1 y ρ fun r' hr' => by rw [hasg1, hnone y hyG] at hr'; cases hr')
    have hshA : Shadow a0 (setReg s1 y ρ) (y :: M) S inits yields :=
      hsh.ext eA fun w hw _ => ⟨hinv.inv.assigned hw, List.mem_cons_of_mem _ hw⟩
    have hSnzA : x.c.z = true → ∀ q ∈ S, allocOf (setReg s1 y ρ).st.asg q ≠ 0 := fun hz q hq => by
      rw [eA.allocOf (hsh q hq).1]; exact hSnz hz q hq
    -- the state that `allocate_values_same_reg` really builds has the same lookups
    have hpt : ∀ w, AL.get s'.st.asg w
        = AL.get ([b, i, y, r].foldl (fun t v => if (AL.get t.st.asg v).isSome then t else setReg t v ρ)
            (setReg s1 y ρ)).st.asg w := by
      intro w
      rw [hs', foldl_setReg_get, foldl_setRegIf_get, hgetA, hasg1]
      by_cases hwG : w ∈ [b, i, y, r]
      · rw [if_pos hwG]
        by_cases hwy : w = y
        · rw [if_pos hwy]
        · rw [if_neg hwy, hnone w hwG]; simp only; rw [if_pos hwG]
      · rw [if_neg hwG]
        have hwy : w ≠ y := fun e => hwG (e ▸ hyG)
        rw [if_neg hwy]
        cases AL.get s.st.asg w with
        | none => simp only; rw [if_neg hwG]
        | some _ => rfl
    have A := foldl_setReg_fields ρ [b, i, y, r] s1
    have B := foldl_setRegIf_fields ρ [b, i, y, r] (setReg s1 y ρ)
    obtain ⟨f1, f2, f3, _, f5⟩ := group_finish (m0 := y) hst hext0 hTie0
      hinvA hshA hSnzA htie hyG (by rw [hgetA, if_pos rfl]) (Or.inl (List.mem_cons_self ..)) hρnz
      (by
        intro m hm ρ' hg
        rw [hgetA] at hg
        split at hg
        · simpa using hg.symm
        · rw [hnone m hm] at hg; simp at hg)
      (fun w hw hwy hwr => hsep w ((List.mem_cons.1 hw).resolve_left hwy) hwy hwr)
      hiI hyY hrY (sB := s')
      { avail := by rw [hs', A.avail, B.avail]; rfl
        allocatable := by rw [hs', A.allocatable, B.allocatable]; rfl
        nextInf := by rw [hs', A.nextInf, B.nextInf]; rfl
        reserved := by rw [hs', A.reserved, B.reserved]; rfl
        log := by rw [hs', A.log, B.log]; rfl
        asg := hpt }
    -- `y` was made live first: it occurs twice in the seen and in the live list
    have hM : ∀ w, w ∈ y :: (y :: M).filter (· != r) ↔ w ∈ y :: M.filter (· != r) := fun w => by
      simp only [List.mem_cons, List.mem_filter]
      constructor
      · rintro (h' | ⟨h' | h', hp⟩)
        · exact Or.inl h'
        · exact Or.inl h'
        · exact Or.inr ⟨h', hp⟩
      · rintro (h' | ⟨h', hp⟩)
        · exact Or.inl h'
        · exact Or.inr ⟨Or.inr h', hp⟩
    refine ⟨f1.mono (fun w => ?_) fun w hw => (hM w).2 hw, f2.mono fun w hw _ => (hM w).1 hw, f3,
      sameRegN_ext h, ρ, f5⟩
    simp only [List.mem_cons]
    constructor
    · rintro (h' | h' | h' | h' | h' | h') <;> simp only [h', true_or, or_true]
    · rintro (h' | h' | h' | h' | h') <;> simp only [h', true_or, or_true]
  · have hm0S : (AL.get s.st.asg m0).isSome = true := by rw [hm0ρ]; rfl
    have hheld := hcls m0 hm0 hm0S
    have hρnz : x.c.z = true → ρ ≠ 0 := by
      intro hz
      have := nz_of_witness (b := b) hst hext0 hTie0 hinv hm0S (hab a0 hTie0 m0 hm0) hnz0 (hgz m0 hm0) hz
      rwa [allocOf_of_get hm0ρ] at this
    subst hs'
    obtain ⟨f1, f2, f3, f4, f5⟩ := group_finish (m0 := m0) hst hext0 hTie0
      hinv hsh hSnz htie hm0 hm0ρ hheld hρnz hall hsep hiI hyY hrY ⟨⟨rfl, rfl, rfl, rfl, rfl⟩, fun _ => rfl⟩
    exact ⟨f1, f2, f3, f4, ρ, f5⟩

end Group

/-- the allocator between two loop-carried groups: `S` are the block arguments and iter_args of the
groups processed so far; they wait for the reservation in the register of their yielded value -/
structure AtG (G : Given) (inits yields : List ValId) (s : LSt) (V M P S X : List ValId) : Prop where
  base : At G s V M P (S ++ X)
  sh : Shadow G.a0 s M S inits yields
  snz : G.x.c.z = true → ∀ q ∈ S, allocOf s.st.asg q ≠ 0

section Groups
variable {G : Given} {inits yields : List ValId} {s s' : LSt} {V M P S X : List ValId}

theorem AtG.step (hG : G.Ok) {b i y r : ValId} (h : AtG G inits yields s V M P S X)
    (hrun : sameRegN G.x s [b, i, y, r] = .ok s')
    (htie : ∀ a, G.Tie a → a i = a b ∧ a y = a b ∧ a r = a b)
    (hm : ∀ m ∈ [b, i, y, r], m ∈ G.U ∧ m ∉ G.Zc ∧ m ∉ X)
    (hsep : ∀ w ∈ M, w ≠ y → w ≠ r → G.a0 w ≠ G.a0 y) (hnz0 : G.x.c.z = true → G.a0 b ≠ 0)
    (hiI : i ∈ inits) (hyY : y ∈ yields) (hrY : r ∉ yields) :
    AtG G inits yields s' (r :: y :: i :: b :: V) (y :: M.filter (· != r)) P (b :: i :: S) (r :: X)
      ∧ LExt s s' ∧ ∃ ρ : Nat, ∀ m ∈ [b, i, y, r], AL.get s'.st.asg m = some ρ := by
  obtain ⟨i1, i2, i3, i4, i5⟩ := group_step hG.st hG.ext0 hG.tie0 h.base.inv h.sh h.snz hrun htie
    (fun m hm' => (hm m hm').1)
    (fun m hm' hS => by
      -- a member that has a register: pre-assigned, or seen and not gone
      rcases h.base.inv.inv.only m hS with hp | hmV
      · exact Or.inr (Or.inr (Or.inr ⟨hp, (hm m hm').1⟩))
      · rcases h.base.cov m hmV with h' | h' | h'
        · exact Or.inl h'
        · exact Or.inr (Or.inl h')
        · exact (List.mem_append.1 h').elim (fun h' => Or.inr (Or.inr (Or.inl h')))
            fun h' => absurd h' (hm m hm').2.2)
    hsep hnz0 (fun m hm' => (hm m hm').2.1) hiI hyY hrY
  refine ⟨⟨⟨i1, fun v hv => ?_, h.base.pa0⟩, i2, i3⟩, i4, i5⟩
  have old : v ∈ V → v ∈ y :: M.filter (· != r) ∨ v ∈ P ∨ v ∈ (b :: i :: S) ++ (r :: X) := fun hv => by
    rcases h.base.cov v hv with h' | h' | h'
    · by_cases e : v = r
      · exact Or.inr (Or.inr (List.mem_append_right _ (e ▸ List.mem_cons_self ..)))
      · exact Or.inl (List.mem_cons_of_mem _ (List.mem_filter.2 ⟨h', by simpa using e⟩))
    · exact Or.inr (Or.inl h')
    · refine Or.inr (Or.inr ?_)
      simp only [List.mem_append, List.mem_cons] at h' ⊢
      exact h'.elim (fun h' => Or.inl (Or.inr (Or.inr h'))) fun h' => Or.inr (Or.inr h')
  simp only [List.mem_cons] at hv
  rcases hv with e | e | e | e | hv
  · exact Or.inr (Or.inr (List.mem_append_right _ (e ▸ List.mem_cons_self ..)))
  · exact Or.inl (e ▸ List.mem_cons_self ..)
  · exact Or.inr (Or.inr (List.mem_append_left _ (e ▸ List.mem_cons_of_mem _ (List.mem_cons_self ..))))
  · exact Or.inr (Or.inr (List.mem_append_left _ (e ▸ List.mem_cons_self ..)))
  · exact old hv

/-- seen, live, waiting and gone values after the groups `d` (newest first) -/
def seenG (d : List (List ValId)) (V : List ValId) : List ValId :=
  d.foldr (fun g V => gR g :: gY g :: gI g :: gB g :: V) V
def liveG (d : List (List ValId)) (M : List ValId) : List ValId :=
  d.foldr (fun g M => gY g :: M.filter (· != gR g)) M
def waitG (d : List (List ValId)) (S : List ValId) : List ValId := d.foldr (fun g S => gB g :: gI g :: S) S
def goneG (d : List (List ValId)) (X : List ValId) : List ValId := d.foldr (fun g X => gR g :: X) X

theorem liveG_sub {d : List (List ValId)} {M : List ValId} : ∀ w ∈ liveG d M, w ∈ M ∨ w ∈ d.map gY := by
  induction d with
  | nil => exact fun w hw => Or.inl hw
  | cons g d ih =>
    intro w hw
    rcases List.mem_cons.1 hw with e | hw
    · exact Or.inr (e ▸ List.mem_cons_self ..)
    · exact (ih w (List.mem_filter.1 hw).1).imp_right (List.mem_cons_of_mem _)

theorem mem_goneG {d : List (List ValId)} {X : List ValId} {w : ValId} : w ∈ goneG d X ↔ w ∈ d.map gR ∨ w ∈ X := by
  induction d with
  | nil => simp [goneG]
  | cons g d ih => simp only [goneG, List.foldr_cons, List.mem_cons, List.map_cons, or_assoc] at ih ⊢; rw [ih]

theorem mem_seenG {d : List (List ValId)} {V : List ValId} {w : ValId}
    (hshape : ∀ g ∈ d, g = [gB g, gI g, gY g, gR g]) : w ∈ seenG d V ↔ (w ∈ V ∨ ∃ g ∈ d, w ∈ g) := by
  induction d with
  | nil => simp [seenG]
  | cons g d ih =>
    have e : w ∈ [gR g, gY g, gI g, gB g] ↔ w ∈ g := by
      conv => rhs; rw [hshape g (List.mem_cons_self ..)]
      simp only [List.mem_cons, List.not_mem_nil, or_false]
      constructor
      · rintro (h | h | h | h) <;> simp only [h, true_or, or_true]
      · rintro (h | h | h | h) <;> simp only [h, true_or, or_true]
    show w ∈ [gR g, gY g, gI g, gB g] ++ seenG d V ↔ _
    rw [List.mem_append, e, ih fun g' hg' => hshape g' (List.mem_cons_of_mem _ hg')]
    simp only [List.mem_cons, exists_eq_or_imp]
    exact or_left_comm

theorem mem_waitG {d : List (List ValId)} {S : List ValId} {w : ValId} :
    w ∈ waitG d S ↔ (w ∈ S ∨ w ∈ d.map gB ∨ w ∈ d.map gI) := by
  induction d with
  | nil => simp [waitG]
  | cons g d ih =>
    simp only [waitG, List.foldr_cons, List.mem_cons, List.map_cons] at ih ⊢
    rw [ih]
    constructor
    · rintro (h | h | h | h | h) <;> simp only [h, true_or, or_true]
    · rintro (h | (h | h) | h | h) <;> simp only [h, true_or, or_true]

theorem mem_liveG {d : List (List ValId)} {M : List ValId} {w : ValId}
    (hYR : ∀ g ∈ d, ∀ g' ∈ d, gY g' ≠ gR g) :
    w ∈ liveG d M ↔ (w ∈ d.map gY ∨ (w ∈ M ∧ w ∉ d.map gR)) := by
  induction d with
  | nil => simp [liveG]
  | cons g d ih =>
    have hw : w ∈ d.map gY → w ≠ gR g := fun h e => by
      obtain ⟨g', hg', rfl⟩ := List.mem_map.1 h
      exact hYR g (List.mem_cons_self ..) g' (List.mem_cons_of_mem _ hg') e
    simp only [liveG, List.foldr_cons, List.mem_cons, List.mem_filter, bne_iff_ne, ne_eq, List.map_cons,
      not_or] at ih ⊢
    rw [ih fun a ha b hb => hYR a (List.mem_cons_of_mem _ ha) b (List.mem_cons_of_mem _ hb)]
    constructor
    · rintro (h | ⟨h | ⟨h1, h2⟩, h3⟩)
      · exact Or.inl (Or.inl h)
      · exact Or.inl (Or.inr h)
      · exact Or.inr ⟨h1, h3, h2⟩
    · rintro ((h | h) | ⟨h1, h2, h3⟩)
      · exact Or.inl h
      · exact Or.inr ⟨Or.inl h, hw h⟩
      · exact Or.inr ⟨Or.inr ⟨h1, h3⟩, h2⟩

theorem AtG.fold (hG : G.Ok) {gs : List (List ValId)} {M0 : List ValId}
    (h : AtG G inits yields s V M P S X) (hrun : foldL (sameRegN G.x) s gs = .ok s')
    (hM0 : ∀ w ∈ M, w ∈ M0 ∨ w ∈ yields)
    (hshape : ∀ g ∈ gs, g = [gB g, gI g, gY g, gR g])
    (htie : ∀ g ∈ gs, ∀ a, G.Tie a → a (gI g) = a (gB g) ∧ a (gY g) = a (gB g) ∧ a (gR g) = a (gB g))
    (hm : ∀ g ∈ gs, ∀ m ∈ g, m ∈ G.U ∧ m ∉ G.Zc ∧ m ∉ X)
    (hnz0 : G.x.c.z = true → ∀ g ∈ gs, G.a0 (gB g) ≠ 0)
    (hmem : ∀ g ∈ gs, gI g ∈ inits ∧ gY g ∈ yields ∧ gR g ∉ yields)
    (hsep : ∀ g ∈ gs, ∀ w, (w ∈ M0 ∨ w ∈ yields) → w ≠ gY g → w ≠ gR g → G.a0 w ≠ G.a0 (gY g))
    (hpair : gs.Pairwise (fun g g' => gR g ∉ g')) :
    AtG G inits yields s' (seenG gs.reverse V) (liveG gs.reverse M) P (waitG gs.reverse S) (goneG gs.reverse X)
      ∧ LExt s s' ∧ ∀ g ∈ gs, ∃ ρ : Nat, ∀ m ∈ g, AL.get s'.st.asg m = some ρ := by
  have := Sat.foldlM_done (fun d t => (AtG G inits yields t (seenG d V) (liveG d M) P (waitG d S) (goneG d X)
      ∧ LExt s t ∧ ∀ g ∈ d, ∃ ρ : Nat, ∀ m ∈ g, AL.get t.st.asg m = some ρ))
    ⟨h, LExt.refl _, fun g hg => by cases hg⟩
    (fun d g r t e ⟨ht, hext, hρ⟩ t' hr => by
      have hg : g ∈ gs := by rw [e]; simp
      have hd : ∀ g' ∈ d, g' ∈ gs ∧ gR g' ∉ g := fun g' hg' => by
        rw [e] at hpair ⊢
        exact ⟨by simp [hg'], (List.pairwise_append.1 hpair).2.2 g' (List.mem_reverse.2 hg') g (List.mem_cons_self ..)⟩
      rw [hshape g hg] at hr
      have hgm : ∀ m, m ∈ [gB g, gI g, gY g, gR g] → m ∈ g := fun m hm' => by rw [hshape g hg]; exact hm'
      obtain ⟨k1, k2, ρ, k3⟩ := ht.step hG hr (htie g hg)
        (fun m hm' => ⟨(hm g hg m (hgm m hm')).1, (hm g hg m (hgm m hm')).2.1, fun hx =>
          (mem_goneG.1 hx).elim (fun h' => by
            obtain ⟨g', hg', e⟩ := List.mem_map.1 h'
            exact (hd g' hg').2 (e ▸ hgm m hm')) (hm g hg m (hgm m hm')).2.2⟩)
        (fun w hw => hsep g hg w ((liveG_sub w hw).elim (hM0 w) fun h' => by
          obtain ⟨g', hg', e⟩ := List.mem_map.1 h'
          exact Or.inr (e ▸ (hmem g' (hd g' hg').1).2.1)))
        (fun hz => hnz0 hz g hg) (hmem g hg).1 (hmem g hg).2.1 (hmem g hg).2.2
      refine ⟨k1, hext.trans k2, fun g' hg' => ?_⟩
      rcases List.mem_cons.1 hg' with e | hg'
      · exact ⟨ρ, fun m hm' => k3 m (by rw [e, hshape g hg] at hm'; exact hm')⟩
      · obtain ⟨ρ', h'⟩ := hρ g' hg'
        exact ⟨ρ', fun m hm' => k2 m ρ' (h' m hm')⟩) s' (foldL_eq_foldlM .. ▸ hrun)
  exact ⟨this.1, this.2.1, fun g hg => this.2.2 g (List.mem_reverse.2 hg)⟩

end Groups

end Xdsl.RegAllocLoop
