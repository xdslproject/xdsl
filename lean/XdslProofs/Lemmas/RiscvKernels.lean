import XdslProofs.Lemmas.RiscvPyInt
import XdslProofs.Lemmas.RiscV
/-!
Width-generic facts about the Python integer expressions that occur in the `py_operation` kernels of
the rv32/rv64 immediate-shift and single-bit operations (`xdsl/dialects/rv32.py`, `rv64.py`): each
expression, read at `w` bits, is the `BitVec w` operation the instruction performs.  `c` is an
arbitrary Python int unless a range is stated; `InS w c` is the range of the payload of an
`IntegerAttr` of the signless type `iw` (what `get_constant_value` hands to the kernels).
Core Lean only (the bridge lemmas are those of `Lemmas/RiscvPyInt.lean`).
-/
namespace Xdsl.RvK
open Xdsl

/-- payload range of `IntegerAttr[iw]` (signless, normalised): the signed range -/
def InS (w : Nat) (c : Int) : Prop := -(2 : Int) ^ (w - 1) ≤ c ∧ c < (2 : Int) ^ (w - 1)

theorem toInt_inS {w : Nat} (x : BitVec w) : InS w x.toInt := ⟨BitVec.le_toInt x, BitVec.toInt_lt⟩

theorem inS_signless {w : Nat} (hw : 1 ≤ w) {c : Int} (h : InS w c) :
    -(2 : Int) ^ (w - 1) ≤ c ∧ c < (2 : Int) ^ w := by
  have := BV.pow_split w hw
  have hp := BV.two_pow_pos (w - 1)
  exact ⟨h.1, by have := h.2; omega⟩

theorem nat_signless (w : Nat) (u : Nat) (hu : u < 2 ^ w) :
    -(2 : Int) ^ (w - 1) ≤ (u : Int) ∧ (u : Int) < (2 : Int) ^ w := by
  have hp := BV.two_pow_pos (w - 1)
  refine ⟨by omega, ?_⟩
  have : ((u : Nat) : Int) < ((2 ^ w : Nat) : Int) := by exact_mod_cast hu
  simpa using this

theorem toNat_signless {w : Nat} (A : BitVec w) :
    -(2 : Int) ^ (w - 1) ≤ (A.toNat : Int) ∧ (A.toNat : Int) < (2 : Int) ^ w :=
  nat_signless w A.toNat A.isLt

theorem ofInt_one_shl (w : Nat) (n : Nat) : BitVec.ofInt w (Py.shl 1 (n : Int)) = 1#w <<< n := by
  rw [ofInt_shl, BV.ofInt_one]

theorem land_two_pow (c : Int) (n : Nat) :
    Py.land c ((2 : Int) ^ n) = if tb c n then (2 : Int) ^ n else 0 := by
  rw [Py.land_bit (Nat.lt_succ_self n), getLsbD_ofInt, decide_eq_true (Nat.lt_succ_self n), Bool.true_and]

theorem lor_two_pow_range (w : Nat) (c : Int) (hc : InS w c) (n : Nat) (hn : n < w) :
    -(2 : Int) ^ (w - 1) ≤ Py.lor c ((2 : Int) ^ n) ∧ Py.lor c ((2 : Int) ^ n) < (2 : Int) ^ w := by
  have hw : 1 ≤ w := by omega
  have hp := BV.two_pow_pos (w - 1)
  have hsp := BV.pow_split w hw
  rw [BV.two_pow_cast n]
  cases c with
  | ofNat m =>
    -- `c ≥ 0`: the OR of two numbers below `2^w` is below `2^w`
    show _ ≤ Int.ofNat (m ||| 2 ^ n) ∧ Int.ofNat (m ||| 2 ^ n) < _
    have hm : m < 2 ^ w := by
      have h2 := hc.2
      have : ((m : Nat) : Int) < ((2 ^ w : Nat) : Int) := by
        rw [← BV.two_pow_cast]; simp only [Int.ofNat_eq_natCast] at h2; omega
      exact_mod_cast this
    have hk : 2 ^ n < 2 ^ w := Nat.pow_lt_pow_right (by omega) hn
    exact nat_signless w _ (Nat.or_lt_two_pow hm hk)
  | negSucc m =>
    -- `c = -(m + 1)` with `m < 2^(w-1)`: the OR is `-(m' + 1)`, `m'` = `m` with bit `n` cleared, still below `2^(w-1)`
    show _ ≤ Int.negSucc (Py.natLdiff m (2 ^ n)) ∧ Int.negSucc (Py.natLdiff m (2 ^ n)) < _
    have hm : m < 2 ^ (w - 1) := by
      have h1 := hc.1
      have : ((m : Nat) : Int) < ((2 ^ (w - 1) : Nat) : Int) := by
        rw [← BV.two_pow_cast]; simp only [Int.negSucc_eq] at h1; omega
      exact_mod_cast this
    have hl : Py.natLdiff m (2 ^ n) < 2 ^ (w - 1) := by
      apply Nat.lt_pow_two_of_testBit
      intro i hi
      rw [natLdiff_testBit]
      have : m < 2 ^ i := Nat.lt_of_lt_of_le hm (Nat.pow_le_pow_right (by omega) hi)
      rw [Nat.testBit_lt_two_pow this]; rfl
    have hl' : ((Py.natLdiff m (2 ^ n) : Nat) : Int) < (2 : Int) ^ (w - 1) := by
      rw [BV.two_pow_cast]; exact_mod_cast hl
    simp only [Int.negSucc_eq]
    omega

theorem bext_eq {w : Nat} (A : BitVec w) (n : Nat) :
    (A >>> n) &&& 1#w = if A.getLsbD n then 1#w else 0#w := by
  apply BitVec.eq_of_getLsbD_eq
  intro i hi
  rw [BitVec.getLsbD_and, BitVec.getLsbD_ushiftRight]
  by_cases h0 : i = 0
  · subst h0
    cases A.getLsbD n <;> simp
  · have : (1#w).getLsbD i = false := by
      simp [BitVec.getLsbD_one, h0]
    rw [this]
    cases A.getLsbD n <;> simp [BitVec.getLsbD_one, h0]

theorem ror_eq {w : Nat} (A : BitVec w) (n : Nat) (hn : n < w) :
    BitVec.ofInt w (Py.mod (Py.lor (Py.shr (A.toNat : Int) (n : Int)) (Py.shl (A.toNat : Int) ((w : Int) - (n : Int)))) ((2 : Int) ^ w))
      = A.rotateRight n := by
  have e : (w : Int) - (n : Int) = ((w - n : Nat) : Int) := by omega
  rw [umod_eq, BV.ofInt_toNat, ofInt_lor, e, ofInt_shl, shr_unsigned, BV.ofInt_toNat, BV.ofInt_toNat,
    BitVec.rotateRight_def, Nat.mod_eq_of_lt hn]

/-! ### the kernel bodies: `IntegerAttr(<expression>, iw[, truncate_bits=True]).value.data`

`normalized_value_signless w v t` below is `IntegerType.normalized_value` as translated from `xdsl/dialects/builtin.py`
(`none` = the `IntegerAttr` constructor raises).  `aluSW` is the instruction at width `w`
(`Xdsl.RiscV.aluS` is the instance `w = 32`). -/

open Xdsl.RiscV in
/-- the immediate-shift / single-bit instructions on `w`-bit registers -/
def aluSW {w : Nat} (op : SOp) (a : BitVec w) (n : Nat) : BitVec w :=
  match op with
  | .slli => a <<< n
  | .srli => a >>> n
  | .srai => a.sshiftRight n
  | .bclri => a &&& ~~~((1#w) <<< n)
  | .bexti => (a >>> n) &&& 1#w
  | .binvi => a ^^^ ((1#w) <<< n)
  | .bseti => a ||| ((1#w) <<< n)
  | .rori => a.rotateRight n

theorem aluS_eq (op : RiscV.SOp) (a : RiscV.W) (n : Nat) : RiscV.aluS op a n = aluSW op a n := by
  cases op <;> rfl

open Xdsl.Generated.BuiltinInt (normalized_value_signless)

theorem nv_toInt {w : Nat} (hw : 1 ≤ w) (X : BitVec w) (t : Bool) : normalized_value_signless (w : Int) X.toInt t = some X.toInt := by
  rw [normalized_eq w hw _ t (Or.inr (inS_signless hw (toInt_inS X))), BitVec.ofInt_toInt]

theorem nv_toNat {w : Nat} (hw : 1 ≤ w) (X : BitVec w) (t : Bool) : normalized_value_signless (w : Int) (X.toNat : Int) t = some X.toInt := by
  rw [normalized_eq w hw _ t (Or.inr (toNat_signless X)), BV.ofInt_toNat]

theorem slli_body (w : Nat) (hw : 1 ≤ w) (c : Int) (n : Nat) :
    normalized_value_signless (w : Int) (Py.shl c (n : Int)) true = some (aluSW .slli (BitVec.ofInt w c) n).toInt := by
  rw [normalized_eq w hw _ true (Or.inl rfl), ofInt_shl]; rfl

theorem srli_body (w : Nat) (hw : 1 ≤ w) (c : Int) (n : Nat) (m : Int) (hm : m = 2 ^ w) :
    normalized_value_signless (w : Int) (Py.shr (Py.mod c m) (n : Int)) false = some (aluSW .srli (BitVec.ofInt w c) n).toInt := by
  subst hm
  rw [umod_eq, shr_unsigned, nv_toNat hw]; rfl

theorem srai_body (w : Nat) (hw : 1 ≤ w) (c : Int) (hc : InS w c) (n : Nat) :
    normalized_value_signless (w : Int) (Py.shr c (n : Int)) false = some (aluSW .srai (BitVec.ofInt w c) n).toInt := by
  obtain ⟨A, rfl⟩ : ∃ A : BitVec w, c = A.toInt := ⟨BitVec.ofInt w c, (BitVec.toInt_ofInt_eq_self hw hc.1 hc.2).symm⟩
  rw [shr_signed, nv_toInt hw, BitVec.ofInt_toInt]; rfl

theorem bclri_body (w : Nat) (hw : 1 ≤ w) (c : Int) (n : Nat) :
    normalized_value_signless (w : Int) (Py.land c (Py.lnot (Py.shl 1 (n : Int)))) true = some (aluSW .bclri (BitVec.ofInt w c) n).toInt := by
  rw [normalized_eq w hw _ true (Or.inl rfl), ofInt_land, ofInt_lnot, ofInt_one_shl]; rfl

theorem binvi_body (w : Nat) (hw : 1 ≤ w) (c : Int) (n : Nat) :
    normalized_value_signless (w : Int) (Py.xor c (Py.shl 1 (n : Int))) true = some (aluSW .binvi (BitVec.ofInt w c) n).toInt := by
  rw [normalized_eq w hw _ true (Or.inl rfl), ofInt_xor, ofInt_one_shl]; rfl

theorem bseti_body (w : Nat) (c : Int) (hc : InS w c) (n : Nat) (hn : n < w) :
    normalized_value_signless (w : Int) (Py.lor c (Py.shl 1 (n : Int))) false = some (aluSW .bseti (BitVec.ofInt w c) n).toInt := by
  have hw : 1 ≤ w := by omega
  have hr := lor_two_pow_range w c hc n hn
  rw [← shl_one_nat n] at hr
  rw [normalized_eq w hw _ false (Or.inr hr), ofInt_lor, ofInt_one_shl]; rfl

theorem bexti_body (w : Nat) (c : Int) (n : Nat) (hn : n < w) :
    normalized_value_signless (w : Int) (if (Py.land c (Py.shl 1 (n : Int)) != 0) then 1 else 0) false
      = some (aluSW .bexti (BitVec.ofInt w c) n).toInt := by
  have hw : 1 ≤ w := by omega
  have hp : (2 : Int) ^ n ≠ 0 := Int.ne_of_gt (BV.two_pow_pos n)
  have e : (Py.land c (Py.shl 1 (n : Int)) != 0) = tb c n := by
    rw [shl_one_nat, land_two_pow]
    cases tb c n <;> simp [hp]
  have hv : aluSW .bexti (BitVec.ofInt w c) n = if tb c n then 1#w else 0#w := by
    show (BitVec.ofInt w c >>> n) &&& 1#w = _
    rw [bext_eq, getLsbD_ofInt_lt w c n hn]
  rw [e, hv]
  have h1 := BV.one_lt_two_pow w hw
  have hp1 := BV.two_pow_pos (w - 1)
  cases tb c n
  · rw [normalized_eq w hw _ false (Or.inr ⟨by simp; omega, by simp; omega⟩)]; simp
  · rw [normalized_eq w hw _ false (Or.inr ⟨by simp; omega, by simpa using h1⟩)]
    simp only [if_true]; rw [BV.ofInt_one]

theorem rori_body (w : Nat) (c : Int) (n : Nat) (hn : n < w) (m : Int) (hm : m = 2 ^ w) :
    normalized_value_signless (w : Int) (Py.mod (Py.lor (Py.shr (Py.mod c m) (n : Int)) (Py.shl (Py.mod c m) ((w : Int) - (n : Int)))) m) false
      = some (aluSW .rori (BitVec.ofInt w c) n).toInt := by
  have hw : 1 ≤ w := by omega
  subst hm
  have h := ror_eq (BitVec.ofInt w c) n hn
  rw [← umod_eq] at h
  generalize hX : Py.lor (Py.shr (Py.mod c (2 ^ w)) (n : Int)) (Py.shl (Py.mod c (2 ^ w)) ((w : Int) - (n : Int))) = X at h ⊢
  rw [umod_eq w X, nv_toNat hw]
  rw [umod_eq w X, BV.ofInt_toNat] at h
  rw [h]; rfl

end Xdsl.RvK
