import XdslProofs.Lemmas.SkeletonSyntax
import XdslProofs.Lemmas.SkeletonWalk
import XdslProofs.Lemmas.SkeletonNaming
import XdslProofs.C04
/-!
C04, token-level skeleton of the generic operation form (`XdslModel/Skeleton.lean`):
"printing [an IR] in the generic format and parsing the text in a fresh context yields equivalent
IR (same operations, wiring, types, attribute and property values, block structure)" — for the
skeleton of the syntax: operations with results, quoted name, operands, successors, properties,
regions of labelled blocks with typed arguments, attribute dictionary and function type, with
attributes and types as opaque token groups, values and blocks referred to by the names a name
assignment gives them, forward references to values and blocks included.
-/
namespace Xdsl.Skeleton

/-- the same tree up to an injective renaming of the identities of values and of blocks -/
def Iso (a b : IR) : Prop :=
  ∃ f g : Nat → Nat, Function.Injective f ∧ Function.Injective g ∧ b = mapT f g a

/-- **Syntax.**  Reading the printed token stream gives back the tree that was printed: for every
tree of names whose cells are of the right sort (`shape`), whose dictionaries are Python dicts
that the retro-compatibility move leaves alone, and which omits only the label of an entry block
without arguments that has operations (`labelsOK`).  Multi-block regions, successors, forward
references: no restriction (names are not interpreted here). -/
theorem skeleton_syntax_roundtrip (defs : Nat → List Nat) (t : NTree)
    (hs : shape defs .ops t = true) (hl : labelsOK false t = true) :
    parseT defs (pr t) = some t :=
  parseT_pr defs t hs hl

/-- **Wiring.**  On the names of an admissible IR the symbol tables of the parser do what the
scoping discipline does on the identities, and produce the same tree. -/
theorem skeleton_resolve (nv nb : Nat → Str) (ir ir' : IR) (gs : GS)
    (h : walk nv nb false {} ir = some (gs, ir')) :
    res {} (nameT nv nb false ir) = some (proj nv nb gs, ir') :=
  walk_sim (.refl nv) (.refl nb) ir false {} gs ir' h

theorem walk_is_iso {N : Type} [DecidableEq N] (nv nb : Nat → N) (ir ir' : IR) (gs : GS)
    (h : walk nv nb false {} ir = some (gs, ir')) : Iso ir ir' := by
  obtain ⟨i, -, e⟩ := walk_step nv nb ir false {} gs ir' inv_init h
  exact ⟨gs.vmap, gs.bmap, i.vmap_injective, i.bmap_injective, e gs (Frame.refl gs)⟩

/-- **Round trip under every naming that separates enough.**  `walk` looks at the naming only to
check that live values / blocks of a region have distinct names.  So if the IR is admissible for
some naming `nv₀`, `nb₀` (into any type), then printed with names `nv`, `nb` that tell apart
whatever `nv₀`, `nb₀` tell apart it parses back to an isomorphic IR. -/
theorem skeleton_roundtrip_refines {N : Type} [DecidableEq N] (defs : Nat → List Nat)
    {nv₀ nb₀ : Nat → N} {nv nb : Nat → Str} (ir : IR) (hv : Refines nv₀ nv) (hb : Refines nb₀ nb)
    (h : admissible defs nv₀ nb₀ ir = true) :
    ∃ ir', parseSk defs (printSk nv nb ir) = some ir' ∧ Iso ir ir' := by
  unfold admissible at h
  simp only [Bool.and_eq_true] at h
  obtain ⟨hs, hw⟩ := h
  cases hwk : walk nv₀ nb₀ false {} ir with
  | none => simp [hwk] at hw
  | some r =>
    obtain ⟨gs, ir'⟩ := r
    simp only [hwk] at hw
    refine ⟨ir', ?_, walk_is_iso nv₀ nb₀ ir ir' gs hwk⟩
    have h1 := skeleton_syntax_roundtrip defs (nameT nv nb false ir)
      (by rw [shape_nameT]; exact hs) (labelsOK_nameT nv nb ir false)
    have h2 : res {} (nameT nv nb false ir) = some (proj nv nb gs, ir') :=
      walk_sim hv hb ir false {} gs ir' hwk
    have h3 : (proj nv nb gs).v.pend.isEmpty = true := by
      simp only [proj, projV, pk_isEmpty]; exact hw
    simp only [parseSk, printSk, h1, h2, h3, if_true]

/-- **Round trip, names distinct where they have to be.**  `admissible defs nv nb ir`: the cells
are of the right sort and the dictionaries are dicts; every use refers to a value visible by
textual scoping, or to one defined later (forward reference; none is left at the end); every
value and block is defined once, blocks within their region; operand and result counts match the
function type and the types of uses and definitions agree; and `nv`/`nb` give different names to
different values that are live together / different blocks of one region.  Then parsing the
printed token stream succeeds and gives an IR isomorphic to the one printed.  Multi-block regions
and forward references to values and blocks are covered. -/
theorem skeleton_roundtrip_scoped (defs : Nat → List Nat) (nv nb : Nat → Str) (ir : IR)
    (h : admissible defs nv nb ir = true) :
    ∃ ir', parseSk defs (printSk nv nb ir) = some ir' ∧ Iso ir ir' :=
  skeleton_roundtrip_refines defs ir (.refl nv) (.refl nb) h

/-- Well-formedness of an IR for the textual form, independent of any naming: `admissible` with
every value and block named by its own identity. -/
def WF (defs : Nat → List Nat) (ir : IR) : Prop :=
  admissible defs (fun x : Nat => x) (fun x : Nat => x) ir = true

/-- **Round trip** (`skeleton_roundtrip`): a well-formed IR printed with any injective naming of
its values and blocks parses back to an isomorphic IR — same operations, operand/successor
wiring, types, attribute and property entries, region and block structure. -/
theorem skeleton_roundtrip (defs : Nat → List Nat) (nv nb : Nat → Str) (ir : IR)
    (hwf : WF defs ir) (hv : Function.Injective nv) (hb : Function.Injective nb) :
    ∃ ir', parseSk defs (printSk nv nb ir) = some ir' ∧ Iso ir ir' :=
  skeleton_roundtrip_refines defs ir (.of_injective hv) (.of_injective hb) hwf

/-- Only the names of the values and blocks that occur matter: a naming injective on the values of
the IR (`vals`: definitions and uses) and on its blocks (`blks`) is enough.  This is the form in
which `Names.allocate_injective` delivers distinctness for the values of one printer scope
(`skeleton_roundtrip_allocated`); names that repeat in disjoint scopes, and labels that repeat in
different regions, are within `admissible` (`skeleton_roundtrip_scoped`), not within this form. -/
theorem skeleton_roundtrip_on (defs : Nat → List Nat) (nv nb : Nat → Str) (ir : IR)
    (hwf : WF defs ir)
    (hv : ∀ x ∈ vals ir, ∀ y ∈ vals ir, nv x = nv y → x = y)
    (hb : ∀ x ∈ blks ir, ∀ y ∈ blks ir, nb x = nb y → x = y) :
    ∃ ir', parseSk defs (printSk nv nb ir) = some ir' ∧ Iso ir ir' := by
  have e : printSk nv nb ir = printSk (extend nv (vals ir)) (extend nb (blks ir)) ir := by
    unfold printSk
    rw [nameT_congr nv nb (extend nv (vals ir)) (extend nb (blks ir)) ir false
      (fun x hx => (extend_on nv _ x hx).symm) (fun x hx => (extend_on nb _ x hx).symm)]
  rw [e]
  exact skeleton_roundtrip defs _ _ ir hwf (extend_injective nv _ hv) (extend_injective nb _ hb)

/-- "Printing the parsed IR reproduces the same text", skeleton part: an isomorphic copy whose
values and blocks carry the corresponding names prints the same token stream (that the re-parsed
IR is given the same names by the allocator is `Names.print_idempotent` / `scoped_idempotent` /
`region_idempotent` in `XdslProofs/C04.lean`).  Printing is a function of the IR and the naming,
so "printing the same IR twice gives identical text" holds by construction; for the clone take
`f`, `g` the clone's value and block maps. -/
theorem skeleton_reprint (nv nb nv' nb' : Nat → Str) (ir : IR) (f g : Nat → Nat)
    (hg : Function.Injective g) (hv : ∀ x, nv' (f x) = nv x) (hb : ∀ x, nb' (g x) = nb x) :
    printSk nv' nb' (mapT f g ir) = printSk nv nb ir := by
  unfold printSk
  rw [nameT_mapT nv' nb' f g hg]
  have e1 : (fun x => nv' (f x)) = nv := funext hv
  have e2 : (fun x => nb' (g x)) = nb := funext hb
  rw [e1, e2]

/-- Round trip and fixed point in one statement: the parsed IR is the printed one renamed by
injective `f`, `g`, and printed with the names carried along it gives the same tokens again. -/
theorem skeleton_roundtrip_text (defs : Nat → List Nat) (nv nb : Nat → Str) (ir : IR)
    (h : admissible defs nv nb ir = true) :
    ∃ (ir' : IR) (f g : Nat → Nat), Function.Injective f ∧ Function.Injective g ∧
      ir' = mapT f g ir ∧ parseSk defs (printSk nv nb ir) = some ir' ∧
      ∀ nv' nb' : Nat → Str, (∀ x, nv' (f x) = nv x) → (∀ x, nb' (g x) = nb x) →
        printSk nv' nb' ir' = printSk nv nb ir := by
  obtain ⟨ir', hp, f, g, hf, hg, rfl⟩ := skeleton_roundtrip_scoped defs nv nb ir h
  exact ⟨_, f, g, hf, hg, rfl, hp, fun nv' nb' hv hb => skeleton_reprint nv nb nv' nb' ir f g hg hv hb⟩

/-- Block 0 (the entry block, label omitted) and block 1 branch forward to block 2; value 7 is used
in block 0 before the operation of block 2 that defines it, value 6 (the argument of block 2) in
the text of block 1; a unit property, an attribute with a value, an empty region and a region of
one empty labelled block. -/
def exIR : IR :=
  .op ⟨[], 0, [], [], [], [], [], []⟩
    (.region
      (.block 0 []
        (.op ⟨[], 1, [7], [2], [], [], [⟨0, false⟩], []⟩ .nil .nil)
        (.block 1 []
          (.op ⟨[5], 2, [6], [2], [(⟨3, true⟩, none)], [], [⟨0, false⟩], [⟨0, false⟩]⟩ .nil .nil)
          (.block 2 [(6, ⟨0, false⟩)]
            (.op ⟨[7], 3, [5, 6], [], [], [(⟨4, false⟩, some ⟨9, false⟩)], [⟨0, false⟩, ⟨0, false⟩],
                 [⟨0, false⟩]⟩
              (.region .nil (.region (.block 3 [] .nil .nil) .nil)) .nil)
            .nil)))
      .nil)
    .nil

example : WF (fun _ => []) exIR := by unfold WF; decide

example : ∃ ir', parseSk (fun _ => []) (printSk (fun n => List.replicate (n + 1) 'a')
    (fun n => List.replicate (n + 1) 'b') exIR) = some ir' ∧ Iso exIR ir' :=
  skeleton_roundtrip_scoped _ _ _ exIR (by decide)

/-- names may be shared by values that are never live together (two sibling regions) -/
example : admissible (fun _ => []) (fun _ => ['x']) (fun _ => ['b'])
    (.op ⟨[], 0, [], [], [], [], [], []⟩
      (.region (.block 0 [(1, ⟨0, false⟩)] .nil .nil)
        (.region (.block 2 [(3, ⟨0, false⟩)] .nil .nil) .nil)) .nil) = true := by decide

/-- the hypothesis cannot be dropped: two live values with one name do not parse back -/
theorem skeleton_roundtrip_needs_distinct_names :
    parseSk (fun _ => []) (printSk (fun _ => ['a']) (fun _ => ['b'])
      (.op ⟨[0], 0, [], [], [], [], [], [⟨0, false⟩]⟩ .nil
        (.op ⟨[1], 0, [], [], [], [], [], [⟨0, false⟩]⟩ .nil .nil))) = none := by decide

open Names in
/-- **Names ∘ Skeleton, one scope.**  Let `order` list the values of a well-formed IR (each once,
e.g. in the order of their first printing) with name hints the IR API accepts.  Printed with the
names `Names.allocate` gives them — whatever the hints: equal, empty, looking like generated
names — and with distinct block labels, the IR parses back to an isomorphic IR. -/
theorem skeleton_roundtrip_allocated (defs : Nat → List Nat) (ir : IR) (order : List Nat)
    (hint : Nat → Option Str) (nb : Nat → Str) (hwf : WF defs ir)
    (hcov : ∀ x ∈ vals ir, x ∈ order) (hacc : AllAccepted (order.map hint))
    (hb : ∀ x ∈ blks ir, ∀ y ∈ blks ir, nb x = nb y → x = y) :
    ∃ ir', parseSk defs (printSk (namingOf order (allocate (order.map hint))) nb ir) = some ir' ∧
      Iso ir ir' := by
  refine skeleton_roundtrip_on defs _ nb ir hwf ?_ hb
  intro x hx y hy h
  have hl : order.length = (allocate (order.map hint)).length := by
    simp [allocate, allocFrom_length]
  obtain ⟨n, hn⟩ := get_zip_some order _ x hl (hcov x hx)
  obtain ⟨m, hm⟩ := get_zip_some order _ y hl (hcov y hy)
  simp only [namingOf, hn, hm, Option.getD_some] at h
  subst h
  exact get_zip_inj order _ x y n (allocate_injective _ hacc) hn hm

end Xdsl.Skeleton
