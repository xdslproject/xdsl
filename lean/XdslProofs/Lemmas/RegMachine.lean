import XdslModel.RegAlloc
import XdslProofs.Lemmas.Bool
/-!
C19: writes and reads of the two executions of `XdslModel.RegMachine`, the logical reading of the
validator's per-operation check (`opOk_iff`, `mem_newZero_iff`, `checkOps_cons`), and the simulation
behind `validator_sound`: the registers hold the SSA values of everything live at a point (`Agree`) and
what the validator takes to be zero is zero (`ZeroInv`) — `step_sim` for one operation, `sim_ops` for the
block, `init_agree` for the arguments.
-/
namespace Xdsl.RegAlloc
open Xdsl.RegMachine

theorem writeVals_not_mem (g : Nat → Word) (ds : List ValId) (i : Nat) (e : ValId → Word) (v : ValId)
    (h : v ∉ ds) : writeVals g i ds e v = e v := by
  induction ds generalizing i e with
  | nil => rfl
  | cons d ds ih =>
    simp only [List.mem_cons, not_or] at h
    simp only [writeVals]
    rw [ih _ _ h.2]
    simp [upd, h.1]

theorem writeVals_at (g : Nat → Word) (pre post : List ValId) (d : ValId) (i : Nat) (e : ValId → Word)
    (h : d ∉ post) : writeVals g i (pre ++ d :: post) e d = g (i + pre.length) := by
  induction pre generalizing i e with
  | nil =>
    simp only [List.nil_append, writeVals, List.length_nil, Nat.add_zero]
    rw [writeVals_not_mem _ _ _ _ _ h]
    simp [upd]
  | cons p pre ih =>
    simp only [List.cons_append, writeVals, List.length_cons]
    rw [ih]
    congr 1; omega

theorem readReg_writeReg_same (z : Bool) (rf : Reg → Word) (r : Reg) (x : Word)
    (h : ¬ (z = true ∧ r = 0)) : readReg z (writeReg z rf r x) r = x := by
  unfold readReg writeReg
  by_cases hz : z = true
  · have hr : r ≠ 0 := fun e => h ⟨hz, e⟩
    simp [hz, hr, upd]
  · simp [hz, upd]

theorem readReg_writeReg_other (z : Bool) (rf : Reg → Word) (r r' : Reg) (x : Word)
    (h : r' ≠ r) : readReg z (writeReg z rf r x) r' = readReg z rf r' := by
  unfold readReg writeReg
  by_cases hc : (z && r == 0) = true
  · simp [hc]
  · simp only [hc]
    by_cases hc' : (z && r' == 0) = true
    · simp [hc']
    · simp [hc', upd, h]

theorem readReg_zero (rf : Reg → Word) : readReg true rf 0 = 0 := by
  simp [readReg]

theorem readReg_writeRegs_other (z : Bool) (alloc : ValId → Reg) (g : Nat → Word) (ds : List ValId)
    (i : Nat) (rf : Reg → Word) (r : Reg) (h : ∀ d ∈ ds, alloc d ≠ r) :
    readReg z (writeRegs z alloc g i ds rf) r = readReg z rf r := by
  induction ds generalizing i rf with
  | nil => rfl
  | cons d ds ih =>
    simp only [writeRegs]
    rw [ih _ _ (fun d' hd' => h d' (List.mem_cons_of_mem _ hd'))]
    exact readReg_writeReg_other z rf (alloc d) r _ (fun e => h d (List.mem_cons_self ..) e.symm)

theorem readReg_writeRegs_at (z : Bool) (alloc : ValId → Reg) (g : Nat → Word) (pre post : List ValId)
    (d : ValId) (i : Nat) (rf : Reg → Word)
    (hpost : ∀ d' ∈ post, alloc d' ≠ alloc d) (hz : ¬ (z = true ∧ alloc d = 0)) :
    readReg z (writeRegs z alloc g i (pre ++ d :: post) rf) (alloc d) = g (i + pre.length) := by
  induction pre generalizing i rf with
  | nil =>
    simp only [List.nil_append, writeRegs, List.length_nil, Nat.add_zero]
    rw [readReg_writeRegs_other _ _ _ _ _ _ _ hpost]
    exact readReg_writeReg_same z rf _ _ hz
  | cons p pre ih =>
    simp only [List.cons_append, writeRegs, List.length_cons]
    rw [ih]
    congr 1; omega

theorem split_of_getElem? {ds : List ValId} {d : ValId} {k : Nat} (hn : ds.Nodup) (h : ds[k]? = some d) :
    ∃ pre post, ds = pre ++ d :: post ∧ pre.length = k ∧ d ∉ post := by
  obtain ⟨hk, rfl⟩ := List.getElem?_eq_some_iff.1 h
  have hsplit : ds = ds.take k ++ ds[k] :: ds.drop (k + 1) := by
    rw [List.getElem_cons_drop]; exact (List.take_append_drop k ds).symm
  refine ⟨_, _, hsplit, by simp [Nat.min_eq_left (Nat.le_of_lt hk)], fun hp => ?_⟩
  rw [hsplit] at hn
  exact (List.nodup_cons.1 (List.nodup_append.1 hn).2.1).1 hp

theorem writeVals_getElem {g : Nat → Word} {ds : List ValId} {d : ValId} {k : Nat} (i : Nat)
    (e : ValId → Word) (hn : ds.Nodup) (h : ds[k]? = some d) : writeVals g i ds e d = g (i + k) := by
  obtain ⟨pre, post, rfl, rfl, hpost⟩ := split_of_getElem? hn h
  exact writeVals_at g pre post d i e hpost

theorem readReg_writeRegs_getElem {z : Bool} {alloc : ValId → Reg} {g : Nat → Word} {ds : List ValId}
    {d : ValId} {k : Nat} (i : Nat) (rf : Reg → Word) (hn : ds.Nodup) (h : ds[k]? = some d)
    (hother : ∀ d' ∈ ds, d' ≠ d → alloc d' ≠ alloc d) (hz : ¬ (z = true ∧ alloc d = 0)) :
    readReg z (writeRegs z alloc g i ds rf) (alloc d) = g (i + k) := by
  obtain ⟨pre, post, rfl, rfl, hpost⟩ := split_of_getElem? hn h
  refine readReg_writeRegs_at z alloc g pre post d i rf (fun d' hd' => ?_) hz
  exact hother d' (by simp [hd']) (fun e => hpost (e ▸ hd'))

def Agree (z : Bool) (alloc : ValId → Reg) (rf : Reg → Word) (env : ValId → Word) (L : List ValId) : Prop :=
  ∀ v ∈ L, readReg z rf (alloc v) = env v

def ZeroInv (env : ValId → Word) (Z : List ValId) : Prop := ∀ v ∈ Z, env v = 0

theorem mem_filter_not_contains {L ds : List ValId} {v : ValId} :
    v ∈ L.filter (fun w => !ds.contains w) ↔ v ∈ L ∧ v ∉ ds := by
  simp

theorem mem_filter_append {L ds M : List ValId} {v : ValId} :
    v ∈ (L.filter fun w => !ds.contains w) ++ M ↔ (v ∈ L ∧ v ∉ ds) ∨ v ∈ M := by
  rw [List.mem_append, mem_filter_not_contains]

theorem mem_liveIn {o : Op} {L : List ValId} {v : ValId} :
    v ∈ liveIn o L ↔ v ∈ o.reads ∨ (v ∈ L ∧ v ∉ o.defs) := by
  rw [liveIn, List.mem_append, mem_filter_not_contains]

theorem mem_liveIn_reads {o : Op} {L : List ValId} {v : ValId} (h : v ∈ o.reads) : v ∈ liveIn o L :=
  mem_liveIn.2 (Or.inl h)

theorem mem_liveIn_of_live {o : Op} {L : List ValId} {v : ValId} (h : v ∈ L) (hd : v ∉ o.defs) :
    v ∈ liveIn o L := mem_liveIn.2 (Or.inr ⟨h, hd⟩)

theorem reads_agree {z : Bool} {alloc : ValId → Reg} {rf : Reg → Word} {env : ValId → Word} {o : Op}
    {L : List ValId} (h : Agree z alloc rf env (liveIn o L)) :
    (o.reads.map fun v => readReg z rf (alloc v)) = o.reads.map env := by
  apply List.map_congr_left
  intro v hv
  exact h v (mem_liveIn_reads hv)

theorem opOk_iff {z : Bool} {alloc : ValId → Reg} {Z Z' : List ValId} {o : Op} {L : List ValId} :
    opOk z alloc Z Z' o L = true ↔
      o.defs.Nodup ∧ (∀ d ∈ o.defs, d ∉ Z)
      ∧ (∀ d ∈ o.defs, ∀ w ∈ o.defs ++ L, w ≠ d → alloc w = alloc d → (z = true ∧ alloc d = 0))
      ∧ (z = true → ∀ d ∈ o.defs, alloc d = 0 → d ∈ Z')
      ∧ (∀ p ∈ o.ios, alloc p.1 = alloc p.2) := by
  unfold opOk clashFree
  simp only [Bool.and_eq_true, decide_eq_true_eq, List.all_eq_true, Bool.or_assoc, not_or_imp, beq_or_imp,
    bne_or_imp, Bool.not_eq_true', List.contains_eq_mem, decide_eq_false_iff_not, beq_iff_eq, and_assoc]

theorem mem_newZero_iff {b : Bool} {Z : List ValId} {o : Op} {v : ValId} :
    v ∈ newZero b Z o ↔
      (o.zk = 1 ∧ v ∈ o.defs)
      ∨ (o.zk ≠ 1 ∧ (o.zk = 2 ∨ (b = true ∧ o.zk = 3)) ∧ ∃ r ∈ Z, (r, v) ∈ o.reads.zip o.defs) := by
  unfold newZero
  by_cases h1 : o.zk = 1
  · simp [h1]
  by_cases h2 : o.zk = 2 ∨ (b = true ∧ o.zk = 3)
  · simp only [h1, h2, if_true, if_false, List.mem_filterMap, false_and, false_or, ne_eq,
      not_false_eq_true, true_and]
    constructor
    · rintro ⟨⟨r, d⟩, hmem, hsome⟩
      split at hsome
      · rename_i hr
        cases hsome
        exact ⟨r, by simpa using hr, hmem⟩
      · cases hsome
    · rintro ⟨r, hr, hmem⟩
      exact ⟨(r, v), hmem, by simp [hr]⟩
  · simp [h1, h2]

theorem newZero_subset_defs {b : Bool} {Z : List ValId} {o : Op} {v : ValId}
    (h : v ∈ newZero b Z o) : v ∈ o.defs := by
  rcases mem_newZero_iff.1 h with h | ⟨_, _, r, _, hm⟩
  · exact h.2
  · exact (List.of_mem_zip hm).2

theorem newZero_mono {b b' : Bool} {Z1 Z2 : List ValId} {o : Op} {v : ValId} (hb : b = true → b' = true)
    (hsub : ∀ x ∈ Z1, x ∈ Z2) (h : v ∈ newZero b Z1 o) : v ∈ newZero b' Z2 o := by
  rw [mem_newZero_iff] at h ⊢
  rcases h with h | ⟨h1, h2, r, hr, hm⟩
  · exact Or.inl h
  · exact Or.inr ⟨h1, h2.imp_right fun h => ⟨hb h.1, h.2⟩, r, hsub r hr, hm⟩

theorem step_sim {z : Bool} {alloc : ValId → Reg} {f : Sem} {Z : List ValId} {o : Op} {L : List ValId}
    {rf : Reg → Word} {env : ValId → Word}
    (hok : opOk z alloc Z (Z ++ newZero true Z o) o L = true)
    (hag : Agree z alloc rf env (liveIn o L)) (hz : ZeroInv env Z) :
    Agree z alloc (stepRegs z alloc f rf o) (stepSSA f env o) L
    ∧ ZeroInv (stepSSA f env o) (Z ++ newZero true Z o) := by
  obtain ⟨hnd, hdz, hclash, hzero, _⟩ := opOk_iff.1 hok
  have hdef : ∀ {k d}, o.defs[k]? = some d → stepSSA f env o d = opOut f o (o.reads.map env) k :=
    fun hd => (writeVals_getElem 0 env hnd hd).trans (by rw [Nat.zero_add])
  have hZ' : ZeroInv (stepSSA f env o) (Z ++ newZero true Z o) := by
    intro v hv
    rcases List.mem_append.1 hv with hv | hv
    · exact (writeVals_not_mem _ _ _ _ _ fun hd => hdz v hd hv).trans (hz v hv)
    · rcases mem_newZero_iff.1 hv with ⟨h1, hd⟩ | ⟨h1, h23, r, hrZ, hm⟩
      · obtain ⟨k, hk⟩ := List.mem_iff_getElem?.1 hd
        rw [hdef hk]; simp [opOut, h1]
      · obtain ⟨k, hk⟩ := List.mem_iff_getElem?.1 hm
        obtain ⟨hr, hd⟩ := List.getElem?_zip_eq_some.1 hk
        have h23' : o.zk = 2 ∨ o.zk = 3 := h23.imp_right And.right
        rw [hdef hd]
        simp [opOut, h1, h23', List.getD, hr, hz r hrZ]
  refine ⟨fun w hw => ?_, hZ'⟩
  have hother : ¬ (z = true ∧ alloc w = 0) → ∀ d ∈ o.defs, d ≠ w → alloc d ≠ alloc w :=
    fun hz0 d hd hne heq =>
      have := hclash d hd w (List.mem_append_right _ hw) (Ne.symm hne) heq.symm
      hz0 ⟨this.1, heq ▸ this.2⟩
  unfold stepRegs
  rw [reads_agree hag]
  by_cases hwd : w ∈ o.defs
  · obtain ⟨k, hk⟩ := List.mem_iff_getElem?.1 hwd
    by_cases hz0 : z = true ∧ alloc w = 0
    · -- in the zero register: known to be zero
      rw [hZ' w (hzero hz0.1 w hwd hz0.2), hz0.2, hz0.1]
      exact readReg_zero _
    · rw [hdef hk, readReg_writeRegs_getElem 0 rf hnd hk (hother hz0) hz0, Nat.zero_add]
  · have hlive := hag w (mem_liveIn_of_live hw hwd)
    unfold stepSSA
    rw [writeVals_not_mem _ _ _ _ _ hwd, ← hlive]
    by_cases hz0 : z = true ∧ alloc w = 0
    · simp [readReg, hz0.1, hz0.2]
    · exact readReg_writeRegs_other _ _ _ _ _ _ _ fun d hd => hother hz0 d hd fun e => hwd (e ▸ hd)

theorem checkOps_cons {z : Bool} {a : ValId → Reg} {Z L Lin : List ValId} {o : Op} {os : List Op} :
    checkOps z a Z (o :: os) L = some Lin ↔
      ∃ L', checkOps z a (Z ++ newZero true Z o) os L = some L'
        ∧ opOk z a Z (Z ++ newZero true Z o) o L' = true ∧ liveIn o L' = Lin := by
  rw [checkOps]
  cases checkOps z a (Z ++ newZero true Z o) os L with
  | none => simp
  | some L' => by_cases hok : opOk z a Z (Z ++ newZero true Z o) o L' = true <;> simp [hok]

theorem sim_ops {z : Bool} {alloc : ValId → Reg} {f : Sem} (os : List Op) :
    ∀ (Z L Lin : List ValId) (rf : Reg → Word) (env : ValId → Word),
      checkOps z alloc Z os L = some Lin → Agree z alloc rf env Lin → ZeroInv env Z →
      Agree z alloc (runRegs z alloc f rf os) (runSSA f env os) L := by
  induction os with
  | nil =>
    intro Z L Lin rf env h hag _
    cases h
    exact hag
  | cons o os ih =>
    intro Z L Lin rf env h hag hz
    obtain ⟨L', hL', hok, rfl⟩ := checkOps_cons.1 h
    obtain ⟨hag', hz'⟩ := step_sim (f := f) hok hag hz
    exact ih _ _ _ _ _ hL' hag' hz'

theorem init_agree {z : Bool} {alloc : ValId → Reg} (args : List ValId) :
    ∀ (inputs : List Word) (rf0 : Reg → Word), inputs.length = args.length →
      (args.map alloc).Nodup → (z = true → ∀ a ∈ args, alloc a ≠ 0) →
      Agree z alloc (initRegs z alloc args inputs rf0) (initEnv args inputs) args := by
  induction args with
  | nil => intro _ _ _ _ _ v hv; simp at hv
  | cons a as ih =>
    intro inputs rf0 hlen hnd hzero
    cases inputs with
    | nil => simp at hlen
    | cons x xs =>
      simp only [List.length_cons, Nat.add_right_cancel_iff] at hlen
      simp only [List.map_cons, List.nodup_cons, List.mem_map, not_exists, not_and] at hnd
      have ih' := ih xs rf0 hlen hnd.2 (fun hz b hb => hzero hz b (List.mem_cons_of_mem _ hb))
      intro v hv
      simp only [initRegs, initEnv]
      rcases List.mem_cons.1 hv with rfl | hv
      · rw [readReg_writeReg_same]
        · simp [upd]
        · rintro ⟨hz, h0⟩
          exact hzero hz v (List.mem_cons_self ..) h0
      · have hne : alloc v ≠ alloc a := fun e => hnd.1 v hv e
        have hva : v ≠ a := fun e => hne (e ▸ rfl)
        rw [readReg_writeReg_other _ _ _ _ _ hne]
        simp only [upd, hva, if_false]
        exact ih' v hv

end Xdsl.RegAlloc
