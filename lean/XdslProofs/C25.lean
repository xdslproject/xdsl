import XdslProofs.Lemmas.Liveness
/-!
# C25 — the liveness dataflow analysis computes its specified fixpoint under any schedule

"For supported (branch-free) IR, the sparse backward liveness analysis marks a value live exactly when
it is, directly or through a chain of operands, used by an operation that is not trivially removable
or returned from a public function, and the result does not depend on the order in which the solver
processes its worklist."

Model: `XdslModel/Liveness.lean` (`init` = `analysis.initialize`, `run` = the `while self._worklist`
loop with scheduler `pick`, `mark` = `propagate_if_changed(lat, lat.mark_live())`), including the
`Executable` gating of `dead_code_analysis.py`: ops of a block that is not (yet) executable are
skipped; a block marked executable before the liveness initialisation (`pre`: `DeadCodeAnalysis`
loaded first, or the test-suite idiom) is handled by the initial walk, one marked afterwards (`post`:
`DeadCodeAnalysis` loaded second) has all its ops enqueued by `Executable.on_update` and is handled by
the worklist loop; other blocks are never looked at.
Specification: `Xdsl.Liveness.Live` / `Root` / `Feeds` / `Chain` / `F` in `Lemmas/Liveness.lean`; only
ops of blocks in `pre ∪ post` (`ExecP`) demand or forward liveness.  `LiveAll` is the same without
the gating; the two coincide when every block is executable at some time (`AllExec`).
`func.return` is a terminator, hence `wbd = false`: "returned from a (public) function" is an
instance of `Root`; explicit boundary values (`seeds`, `exits`) are roots as well.
The solver theorems hold for every program `p` (the chain form `liveness_correct` for those whose ids
all have lattices, `WF`: an operand id `≥ nvals` of a not-removable op is a root and has no bit) and every
scheduler `pick : Nat → List Nat → Nat` (iteration number and current worklist ↦ position to pop); the
shipped solver is `fun _ _ => 0`.
-/
namespace Xdsl.Liveness

theorem solveSt_ready (p : Prog) (pick : Sched) : Ready p (solveSt p pick) :=
  run_ready p pick _ 0 _ (init_ready p)

/-- **Termination**, "…under any schedule": within `fuel` iterations the worklist is empty, whatever
the scheduler picks.  (Potential: `|worklist| + #ops · #dead values` drops by ≥ 1 per iteration.) -/
theorem solver_terminates (p : Prog) (pick : Sched) : (solveSt p pick).wl = [] :=
  run_wl p pick _ 0 _ (pot_le_fuel p _ (init_ready p).len)

/-- The fuel of the model is not a truncation: any larger iteration budget gives the same state. -/
theorem solver_fuel_irrelevant (p : Prog) (pick : Sched) (extra : Nat) :
    run p pick (fuel p (init p) + extra) 0 (init p) = solveSt p pick :=
  run_extra p pick _ extra 0 _ (solver_terminates p pick)

/-- Every schedule pops at most `|initial worklist| + #ops · #values` work items. -/
theorem solver_pop_bound (p : Prog) (pick : Sched) :
    (solveSt p pick).trace.length ≤ (init p).wl.length + p.ops.length * p.nvals := by
  have := run_trace p pick (fuel p (init p)) 0 (init p)
  rw [init_trace] at this
  simpa [solveSt, fuel] using this

theorem solve_length (p : Prog) (pick : Sched) : (solve p pick).length = p.nvals :=
  (solveSt_ready p pick).len

/-- "marks a value live **exactly when** …": the computed bit of `v` is set iff `v` is in the
specified least set `Live p` (roots + closure under operand-of-op-with-live-result). -/
theorem solve_spec (p : Prog) (pick : Sched) (v : Nat) :
    (solve p pick).getD v false = true ↔ Live p v :=
  (solveSt_ready p pick).live_iff (solver_terminates p pick) v

/-- **All blocks executable ⇒ the ungated statement.** If every op sits in a block that is marked
executable at some time — before *or* after the liveness analysis is initialised, i.e. whatever the
load order of `DeadCodeAnalysis` and `LivenessAnalysis` — the computed set is exactly the ungated
specification `LiveAll` (every not-trivially-removable op demands its operands, every op forwards
liveness from results to operands), under every schedule. -/
theorem solve_spec_all_exec (p : Prog) (hall : AllExec p) (pick : Sched) (v : Nat) :
    (solve p pick).getD v false = true ↔ LiveAll p v :=
  (solve_spec p pick v).trans ⟨Live.toAll, LiveAll.toLive hall⟩

/-- **Never-executable blocks are not analysed**: a live value is a boundary value (seed / exit) or
an operand of an op in an executable block, so nothing in a never-executable block is marked live
unless it is used from an executable one. -/
theorem live_only_via_exec (p : Prog) (pick : Sched) (v : Nat)
    (h : (solve p pick).getD v false = true) :
    v ∈ p.seeds ∨ v ∈ p.exits ∨ ∃ op ∈ p.ops, ExecP p op ∧ v ∈ op.operands :=
  ((solve_spec p pick v).1 h).used

/-- contrapositive form: a value that is no boundary value and is used only by ops of blocks that
never become executable stays dead, whatever those ops are -/
theorem never_exec_dead (p : Prog) (pick : Sched) (v : Nat) (hs : v ∉ p.seeds) (he : v ∉ p.exits)
    (hu : ∀ op ∈ p.ops, v ∈ op.operands → ¬ ExecP p op) :
    (solve p pick).getD v false = false := by
  cases h : (solve p pick).getD v false with
  | false => rfl
  | true =>
    rcases live_only_via_exec p pick v h with h1 | h1 | ⟨op, hop, hex, hv⟩
    · exact absurd h1 hs
    · exact absurd h1 he
    · exact absurd hex (hu op hop hv)

/-- with no executable block at all (e.g. a function body below a module analysed with
`DeadCodeAnalysis`) exactly the boundary values are live -/
theorem nothing_executable (p : Prog) (hpre : p.pre = []) (hpost : p.post = []) (pick : Sched)
    (v : Nat) :
    (solve p pick).getD v false = true ↔ v < p.nvals ∧ (v ∈ p.seeds ∨ v ∈ p.exits) := by
  rw [solve_spec]
  refine ⟨fun h => ⟨h.lt, ?_⟩, fun ⟨hlt, h⟩ => Live.root hlt (h.elim Or.inl (Or.inr ∘ Or.inl))⟩
  rcases h.used with h | h | ⟨op, _, hex, _⟩
  · exact Or.inl h
  · exact Or.inr h
  · unfold ExecP at hex; rw [hpre, hpost] at hex; simp at hex

theorem solve_eq_of_live_iff {p q : Prog} (hn : q.nvals = p.nvals) (h : ∀ v, Live p v ↔ Live q v)
    (pick₁ pick₂ : Sched) : solve p pick₁ = solve q pick₂ := by
  apply List.ext_getElem (by rw [solve_length, solve_length, hn])
  intro i h1 h2
  have e1 := solve_spec p pick₁ i
  have e2 := solve_spec q pick₂ i
  rw [List.getD_eq_getElem?_getD, List.getElem?_eq_getElem h1] at e1
  rw [List.getD_eq_getElem?_getD, List.getElem?_eq_getElem h2] at e2
  exact Bool.eq_iff_iff.2 (e1.trans ((h i).trans e2.symm))

/-- **Load order of the two analyses is irrelevant**: two programs that differ only in *when* their
blocks are marked executable (`pre` = `DeadCodeAnalysis` loaded before `LivenessAnalysis`, `post` =
after) — same set of eventually executable blocks — get the same liveness, under any two schedules. -/
theorem load_order_independent (p q : Prog) (hn : q.nvals = p.nvals) (ho : q.ops = p.ops)
    (hs : q.seeds = p.seeds) (he : q.exits = p.exits)
    (hx : ∀ b, (b ∈ p.pre ∨ b ∈ p.post) ↔ (b ∈ q.pre ∨ b ∈ q.post)) (pick₁ pick₂ : Sched) :
    solve p pick₁ = solve q pick₂ :=
  solve_eq_of_live_iff hn (fun _ =>
    ⟨Live.mono_exec hn ho hs he (fun b => (hx b).1),
     Live.mono_exec hn.symm ho.symm hs.symm he.symm (fun b => (hx b).2)⟩) _ _

theorem live_fixpoint (p : Prog) (v : Nat) : Live p v ↔ F p (Live p) v := by
  constructor
  · intro h
    cases h with
    | root hlt hr => exact ⟨hlt, Or.inl hr⟩
    | step hlt hf hl => exact ⟨hlt, Or.inr ⟨_, hf, hl⟩⟩
  · rintro ⟨hlt, hr | ⟨r, hf, hl⟩⟩
    · exact Live.root hlt hr
    · exact Live.step hlt hf hl

theorem live_least (p : Prog) (S : Nat → Prop) (hS : ∀ v, F p S v → S v) (v : Nat) (h : Live p v) :
    S v := by
  induction h with
  | root hlt hr => exact hS _ ⟨hlt, Or.inl hr⟩
  | step hlt hf _ ih => exact hS _ ⟨hlt, Or.inr ⟨_, hf, ih⟩⟩

/-- **result = least fixpoint of the specified closure** (`solver_lfp` of DESIGN §5): the set computed
under any scheduler is a fixpoint of `F p` and is contained in every set closed under `F p`. -/
theorem solver_lfp (p : Prog) (pick : Sched) :
    (∀ v, (solve p pick).getD v false = true ↔ F p (fun u => (solve p pick).getD u false = true) v) ∧
    (∀ S : Nat → Prop, (∀ v, F p S v → S v) → ∀ v, (solve p pick).getD v false = true → S v) := by
  refine ⟨fun v => ?_, fun S hS v hv => live_least p S hS v ((solve_spec p pick v).1 hv)⟩
  rw [F_congr p (fun u => solve_spec p pick u) v, solve_spec]
  exact live_fixpoint p v

/-- **"the result does not depend on the order in which the solver processes its worklist"**:
any two schedulers (arbitrary functions of iteration number and current worklist) give the same
liveness for every value. -/
theorem schedule_independent (p : Prog) (pick₁ pick₂ : Sched) : solve p pick₁ = solve p pick₂ :=
  solve_eq_of_live_iff rfl (fun _ => Iff.rfl) _ _

/-- the form sketched in DESIGN Appendix A: schedulers that only look at the worklist, together with the
fixpoint -/
theorem schedule_independent_design (p : Prog) (pick₁ pick₂ : List Nat → Nat) :
    solve p (fun _ => pick₁) = solve p (fun _ => pick₂) ∧
    ∀ v, (solve p (fun _ => pick₁)).getD v false = true ↔ Live p v :=
  ⟨schedule_independent p _ _, solve_spec p _⟩

/-- in particular every schedule agrees with the shipped FIFO order (`deque.popleft`) -/
theorem agrees_with_fifo (p : Prog) (pick : Sched) : solve p pick = solve p (fun _ _ => 0) :=
  schedule_independent p _ _

/-- "directly or through a chain of operands, used by an operation that is not trivially removable
or returned from a public function": on programs whose ids all have lattices, `Live` is reachability
of a root along operand→result edges. -/
theorem live_iff_chain (p : Prog) (hwf : WF p) (v : Nat) :
    Live p v ↔ ∃ u, Chain p v u ∧ Root p u := by
  constructor
  · intro h
    induction h with
    | root _ hr => exact ⟨_, Chain.refl _, hr⟩
    | step _ hf _ ih =>
      obtain ⟨u, hc, hr⟩ := ih
      exact ⟨u, Chain.cons hf hc, hr⟩
  · rintro ⟨u, hc, hr⟩
    induction hc with
    | refl v => exact Live.root (hr.lt hwf) hr
    | cons hf _ ih => exact Live.step (hf.lt hwf) hf (ih hr)

/-- **The property sentence**: for every well-formed program and every schedule, the analysis marks
`v` live exactly when an operand chain leads from `v` to a value demanded by a not-trivially-removable
op (incl. `func.return`) or a boundary. -/
theorem liveness_correct (p : Prog) (hwf : WF p) (pick : Sched) (v : Nat) :
    (solve p pick).getD v false = true ↔ ∃ u, Chain p v u ∧ Root p u :=
  (solve_spec p pick v).trans (live_iff_chain p hwf v)

/-! ## Removability is a property of the op *instance*, not of its class

`visit_operation_impl` asks `would_be_trivially_dead(op)` for the op it visits.  The answer depends on
the instance (`XdslModel/Liveness.lean`, `Inst` / `instWbd`: `RegisterAllocatedMemoryEffect` reports a
`WRITE` for every result whose type is an allocated register), so it may not be remembered per op
class.  The solver theorems above hold for arbitrary per-op flags; the theorems below say what the flag
of an instance is and that it cannot be replaced by a constant of the class. -/

/-- **`would_be_trivially_dead` of an instance**, for the effect traits of the model: the op is no
terminator, no symbol op, has at least one `MemoryEffect` trait, every such trait is `NoMemoryEffect`,
`MemoryReadEffect` or `RegisterAllocatedMemoryEffect`, and in the last case no *result* of this
instance has an allocated register type. -/
theorem instWbd_iff (i : Inst) :
    instWbd i = true ↔
      i.term = false ∧ i.sym = false ∧ i.traits ≠ [] ∧
      (∀ t ∈ i.traits, t = Trait.noEffect ∨ t = Trait.read ∨ t = Trait.regAlloc) ∧
      (Trait.regAlloc ∈ i.traits → ∀ b ∈ i.outAlloc, b = false) := by
  unfold instWbd resultOnlyEffects getEffects
  by_cases hnil : i.traits = []
  · simp [hnil]
  · have hne : i.traits.isEmpty = false := by
      cases h : i.traits with
      | nil => exact absurd h hnil
      | cons _ _ => rfl
    simp only [hne, Bool.false_eq_true, if_false, Bool.and_eq_true, Bool.not_eq_true',
      List.all_eq_true, List.mem_flatMap, beq_iff_eq, forall_exists_index, and_imp]
    constructor
    · rintro ⟨⟨ht, hs⟩, hall⟩
      refine ⟨ht, hs, hnil, fun t htm => ?_, fun hG b hb => ?_⟩
      · cases t with
        | noEffect => exact Or.inl rfl
        | read => exact Or.inr (Or.inl rfl)
        | regAlloc => exact Or.inr (Or.inr rfl)
        | write => exact absurd (hall EffKind.write Trait.write htm (by simp [traitEffects])) (by decide)
        | alloc => exact absurd (hall EffKind.alloc Trait.alloc htm (by simp [traitEffects])) (by decide)
        | free => exact absurd (hall EffKind.free Trait.free htm (by simp [traitEffects])) (by decide)
      · cases b with
        | false => rfl
        | true =>
          have : EffKind.write ∈ traitEffects i Trait.regAlloc := by
            unfold traitEffects
            exact List.mem_append_left _ (List.mem_map.2 ⟨true, List.mem_filter.2 ⟨hb, rfl⟩, rfl⟩)
          exact absurd (hall EffKind.write Trait.regAlloc hG this) (by decide)
    · rintro ⟨ht, hs, _, hk, hG⟩
      refine ⟨⟨ht, hs⟩, fun e t htm he => ?_⟩
      rcases hk t htm with rfl | rfl | rfl
      · simp [traitEffects] at he
      · simpa [traitEffects] using he
      · unfold traitEffects at he
        rcases List.mem_append.1 he with h | h
        · obtain ⟨b, hb, _⟩ := List.mem_map.1 h
          obtain ⟨hb1, hb2⟩ := List.mem_filter.1 hb
          have := hG htm b hb1
          subst this
          simp at hb2
        · obtain ⟨_, _, rfl⟩ := List.mem_map.1 h
          rfl

/-- an assembly-style op (`RegisterAllocatedMemoryEffect` alone: `riscv.add`, `x86.ds.mov`,
`test.allocatable`, …) is removable exactly when none of its results is an allocated register -/
theorem instWbd_regAlloc (ia oa : List Bool) :
    instWbd { traits := [Trait.regAlloc], inAlloc := ia, outAlloc := oa } = true ↔ ∀ b ∈ oa, b = false := by
  rw [instWbd_iff]
  simp

/-- allocated *operand* registers only add `READ` effects: they never decide removability -/
theorem instWbd_operands_irrelevant (i : Inst) (ia : List Bool) :
    instWbd { i with inAlloc := ia } = instWbd i := by
  apply Bool.eq_iff_iff.2
  rw [instWbd_iff, instWbd_iff]

/-- a terminator (or symbol op) is never trivially removable, **whatever effects it declares** — also a
`Pure` / `NoMemoryEffect` one (`scf.yield`, `affine.yield`, `llvm.return`): its operands are live.
Looking at the memory effects alone (`result_only_effects`) is not the flag of the analysis. -/
theorem instWbd_terminator_or_symbol (i : Inst) (h : i.term = true ∨ i.sym = true) : instWbd i = false := by
  cases hw : instWbd i with
  | false => rfl
  | true =>
    obtain ⟨ht, hs, _⟩ := (instWbd_iff i).1 hw
    rcases h with h | h <;> simp_all

/-- `resultOnlyEffects` and `instWbd` differ: a `Pure` terminator.  (By the definition of `instWbd` they
differ on terminators / symbol ops with harmless effects and nowhere else.) -/
theorem resultOnlyEffects_ne_instWbd :
    ∃ i : Inst, resultOnlyEffects i = true ∧ instWbd i = false :=
  ⟨{ term := true, traits := [Trait.noEffect] }, by decide, by decide⟩

/-- an op declaring a plain `MemoryAllocEffect`, `MemoryFreeEffect` or `MemoryWriteEffect` (the `ALLOC`
effect of the trait names no value, so it is not an allocation of the op's own results: `memref.alloc`,
`memref.alloca`; `memref.dealloc`) is not removable: the values feeding its operands are live -/
theorem instWbd_alloc_free_write (i : Inst)
    (h : Trait.alloc ∈ i.traits ∨ Trait.free ∈ i.traits ∨ Trait.write ∈ i.traits) : instWbd i = false := by
  cases hw : instWbd i with
  | false => rfl
  | true =>
    obtain ⟨_, _, _, hk, _⟩ := (instWbd_iff i).1 hw
    rcases h with h | h | h <;> · have := hk _ h; simp at this

/-- two instances of one class (same traits, same terminator/symbol status) with different answers:
a class-level memo of `would_be_trivially_dead` is wrong for one of them whichever it stores -/
theorem instWbd_not_class_constant :
    ∃ i j : Inst, i.term = j.term ∧ i.sym = j.sym ∧ i.traits = j.traits ∧ instWbd i ≠ instWbd j :=
  ⟨{ traits := [Trait.regAlloc], inAlloc := [false], outAlloc := [false] },
   { traits := [Trait.regAlloc], inAlloc := [false], outAlloc := [true] }, rfl, rfl, rfl, by decide⟩

/-- the same program with the flag of some ops lowered to "not removable" (`f op = false`) -/
def lowerWbd (p : Prog) (f : Op → Bool) : Prog :=
  { p with ops := p.ops.map fun o => { o with wbd := o.wbd && f o } }

/-- **The flag of every instance matters, monotonically**: treating more op instances as not
removable can only add live values (so a wrong "not removable" for one instance over-approximates,
a wrong "removable" under-approximates — neither is the specified set in general, see
`class_constant_flag_counterexample`). -/
theorem live_mono_wbd (p : Prog) (f : Op → Bool) (v : Nat) (h : Live p v) : Live (lowerWbd p f) v :=
  Live.mono (p := p) (q := lowerWbd p f) rfl
    (fun _ hr => hr.imp id (Or.imp id fun ⟨op, hop, hx, hw, hv⟩ =>
      ⟨{ op with wbd := op.wbd && f op }, List.mem_map.2 ⟨op, hop, rfl⟩, hx, by simp [hw], hv⟩))
    (fun _ _ ⟨op, hop, hx, ha, hb⟩ =>
      ⟨{ op with wbd := op.wbd && f op }, List.mem_map.2 ⟨op, hop, rfl⟩, hx, ha, hb⟩) h

/-- the computed form: under any two schedules, every value live in `p` is live in `lowerWbd p f` -/
theorem solve_mono_wbd (p : Prog) (f : Op → Bool) (pick₁ pick₂ : Sched) (v : Nat)
    (h : (solve p pick₁).getD v false = true) : (solve (lowerWbd p f) pick₂).getD v false = true :=
  (solve_spec _ pick₂ v).2 (live_mono_wbd p f v ((solve_spec p pick₁ v).1 h))

/-- two `test.allocatable`-style ops of one class in one block: `A : 2 := op(0)` with an unallocated
result register (removable instance), `B : 3 := op(1)` with an allocated one (not removable) -/
def exInstA : Inst := { traits := [Trait.regAlloc], inAlloc := [false], outAlloc := [false] }
def exInstB : Inst := { traits := [Trait.regAlloc], inAlloc := [false], outAlloc := [true] }

def exInstProg (flagA flagB : Bool) : Prog :=
  { nvals := 4, ops := [⟨[0], [2], flagA, 0⟩, ⟨[1], [3], flagB, 0⟩], pre := [0] }

/-- the specified result for the per-instance flags: only the operand of `B` is live -/
example : solve (exInstProg (instWbd exInstA) (instWbd exInstB)) (fun _ _ => 0)
    = [false, true, false, false] := by decide

/-- **No class-level flag reproduces it**: whichever single answer is used for both instances (the
one of the instance visited first, whatever the visiting order is), the result differs from the
specified one — with the removable instance's answer the operand of `B` is lost, with the other one
the operand of `A` is marked. -/
theorem class_constant_flag_counterexample (c : Bool) (pick : Sched) :
    solve (exInstProg c c) pick ≠ solve (exInstProg (instWbd exInstA) (instWbd exInstB)) pick := by
  rw [schedule_independent _ pick (fun _ _ => 0),
    schedule_independent (exInstProg (instWbd exInstA) (instWbd exInstB)) pick (fun _ _ => 0)]
  cases c <;> decide

/-! ## Non-vacuity: a graph-region body where schedules really differ

values 0…5; program order `A: effectful(0,1)`, `B: 0 := pure(2)`, `C: 1 := pure(3)`, `D: 4 := pure(2)`.
Initialisation visits D, C, B, A; A makes 0 and 1 live and enqueues B, C.  -/
def exProg : Prog :=
  { nvals := 6
    ops := [⟨[0, 1], [], false, 0⟩, ⟨[2], [0], true, 0⟩, ⟨[3], [1], true, 0⟩, ⟨[2], [4], true, 0⟩]
    pre := [0] }

/-- the same body with the block marked executable only after the liveness initialisation
(`DeadCodeAnalysis` loaded second): the walk skips everything, `on_update` enqueues all four ops -/
def exProgPost : Prog := { exProg with pre := [], post := [0] }

/-- a second block (1) that never becomes executable: its effectful op demands nothing -/
def exProgDead : Prog :=
  { exProg with
    nvals := 8, ops := exProg.ops ++ [⟨[6], [], false, 1⟩, ⟨[7], [6], true, 1⟩] }

example : (init exProg).wl = [1, 2] := by decide +kernel
example : solve exProg (fun _ _ => 0) = [true, true, true, true, false, false] := by decide +kernel
example : (solveSt exProg (fun _ _ => 0)).trace.reverse = [1, 2] := by decide +kernel
example : (solveSt exProg (fun _ _ => 1)).trace.reverse = [2, 1] := by decide +kernel
example : WF exProg := by
  refine ⟨?_, ?_, ?_⟩ <;> decide
example : Live exProg 2 := (solve_spec exProg (fun _ _ => 0) 2).1 (by decide)
example : (init exProgPost).wl = [0, 1, 2, 3] := by decide +kernel
example : solve exProgPost (fun _ _ => 0) = [true, true, true, true, false, false] := by decide +kernel
example : (solveSt exProgPost (fun _ _ => 0)).trace.reverse = [0, 1, 2, 3] := by decide +kernel
/-- LIFO on the enqueued block: D, C, B are visited (and registered) before A makes 0 and 1 live,
which re-enqueues B and C -/
example : (solveSt exProgPost (fun _ wl => wl.length - 1)).trace.reverse = [3, 2, 1, 0, 2, 1] := by
  decide +kernel
example : solve exProgPost (fun _ _ => 3) = solve exProg (fun _ _ => 0) :=
  load_order_independent exProgPost exProg rfl rfl rfl rfl (by intro b; simp [exProg, exProgPost]) _ _
example : AllExec exProg ∧ AllExec exProgPost := by
  constructor <;> (intro op hop; simp [exProg, exProgPost] at hop; rcases hop with rfl | rfl | rfl | rfl <;> simp [ExecP, exProg, exProgPost])
example : solve exProgDead (fun _ _ => 0)
    = [true, true, true, true, false, false, false, false] := by decide +kernel
example : ¬ Live exProg 4 := fun h => by
  have := (solve_spec exProg (fun _ _ => 0) 4).2 h
  revert this; decide

end Xdsl.Liveness
