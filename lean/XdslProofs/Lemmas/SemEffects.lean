import XdslProofs.Lemmas.DCEMiniOp
/-!
# The effect log of the reference semantics is append-only

`St.eff` holds the external calls made so far, most recent first.  Every function of the mutual block
of `XdslModel/Sem.lean` that returns a state returns one whose log has the initial log as a suffix
(`EffAt P n` for every fuel `n`, `eff_all`), i.e. in chronological order (`.reverse`, what `Sem.run`
reports) the log after extends the log before.  The case of a single operation is `DCEM.runOp_rel` (the arms of
`runOp` walked once for any relation between states) on the diagonal.  No Mathlib.
-/
namespace Xdsl.SemMeta
open Xdsl.Sem Xdsl.MiniIR

theorem bind_eff {st st' : St} {names : List (Nat × Ty)} {vals : List Val}
    (h : st.bind names vals = .ok st') : st'.eff = st.eff := by
  unfold St.bind at h
  split at h
  · cases h
  · cases h; rfl

theorem stateOp_suffix {st st1 : St} {o : Op} {args rs : List Val}
    (h : stateOp st o args = some (.ok (st1, rs))) : st.eff <:+ st1.eff := by
  rw [(DCEM.stateOp_keeps h).2]; exact List.suffix_refl _

structure EffAt (P : Prog) (n : Nat) : Prop where
  ops : ∀ st ops st' t, runOps n P st ops = .ok (st', t) → st.eff <:+ st'.eff
  op : ∀ st o st' t, runOp n P st o = .ok (st', t) → st.eff <:+ st'.eff
  region : ∀ st r args st' t, runRegion n P st r args = .ok (st', t) → st.eff <:+ st'.eff
  block : ∀ st r b args st' t, runBlock n P st r b args = .ok (st', t) → st.eff <:+ st'.eff
  for_ : ∀ st body w i ub step iters st' vs,
    runFor n P st body w i ub step iters = .ok (st', vs) → st.eff <:+ st'.eff
  while_ : ∀ st b a args st' vs, runWhile n P st b a args = .ok (st', vs) → st.eff <:+ st'.eff
  call : ∀ st name args st' vs, callFunc n P st name args = .ok (st', vs) → st.eff <:+ st'.eff

theorem eff_ops_step {P : Prog} {n : Nat} (ih : EffAt P n) (st : St) (ops : List Op) (st' : St) (t : Term)
    (h : runOps (n + 1) P st ops = .ok (st', t)) : st.eff <:+ st'.eff := by
  cases ops with
  | nil => rw [runOps_nil] at h; cases h
  | cons o rest =>
    rw [runOps] at h
    split at h
    · exact (ih.op _ _ _ _ (by assumption)).trans (ih.ops _ _ _ _ h)
    · cases h; exact ih.op _ _ _ _ (by assumption)
    all_goals cases h

/-- `DCEM.runOp_rel` with both runs the same run and `R s s' := s' = s ∧ st.eff <:+ s.eff`: every arm of `runOp`
keeps the log (`bind_eff`, `stateOp_suffix`) or hands on what a sub-run (`ih`) returns -/
theorem eff_op_step {P : Prog} {n : Nat} (ih : EffAt P n) (st : St) (o : Op) (st' : St) (t : Option Term)
    (h : runOp (n + 1) P st o = .ok (st', t)) : st.eff <:+ st'.eff := by
  have key := DCEM.runOp_rel (R := fun s s' => s' = s ∧ st.eff <:+ s.eff) (P := P) (P' := P) (n := n) (M := n)
    (m := ⟨o.name, o.results, o.operands, o.attrs, o.succs⟩) (l := o.regions) (f := id) (g := id)
    (K := fun _ => True) (st := st) (st' := st)
    ⟨rfl, List.suffix_refl _⟩ rfl (fun _ _ => rfl) (fun _ _ => trivial)
    (fun {s s' s1 vs} hr hb => by
      obtain ⟨rfl, hs⟩ := hr
      exact ⟨s1, hb, rfl, by rw [bind_eff hb]; exact hs⟩)
    (fun args => by
      cases hs : DCEM.stateM st ⟨o.name, o.results, o.operands, o.attrs, o.succs⟩ args with
      | none => rfl
      | some r =>
        cases r with
        | ok p => exact ⟨p.1, rfl, rfl, stateOp_suffix hs⟩
        | _ => trivial)
    (fun _ c args => DCEM.RelRes.diag fun a ha => ⟨rfl, rfl, ih.call st c args a.1 a.2 ha⟩)
    (fun _ p _ args => DCEM.RelRes.diag fun a ha => ⟨rfl, rfl, ih.region st p args a.1 a.2 ha⟩)
    (fun _ p _ w i ub step iters =>
      DCEM.RelRes.diag fun a ha => ⟨rfl, rfl, ih.for_ st p w i ub step iters a.1 a.2 ha⟩)
    (fun _ p _ q _ args => DCEM.RelRes.diag fun a ha => ⟨rfl, rfl, ih.while_ st p q args a.1 a.2 ha⟩)
  rw [List.map_id, show DCEM.mkOp ⟨o.name, o.results, o.operands, o.attrs, o.succs⟩ o.regions = o from by
    cases o; rfl, h] at key
  obtain ⟨b, _, _, ⟨_, hs⟩, _⟩ := key
  exact hs

theorem eff_region_step {P : Prog} {n : Nat} (ih : EffAt P n) (st : St) (r : Region) (args : List Val)
    (st' : St) (t : Term) (h : runRegion (n + 1) P st r args = .ok (st', t)) : st.eff <:+ st'.eff := by
  rw [runRegion] at h
  split at h
  · cases h
  · exact ih.block _ _ _ _ _ _ h

theorem eff_block_step {P : Prog} {n : Nat} (ih : EffAt P n) (st : St) (r : Region) (b : Nat)
    (args : List Val) (st' : St) (t : Term) (h : runBlock (n + 1) P st r b args = .ok (st', t)) :
    st.eff <:+ st'.eff := by
  rw [runBlock] at h
  split at h
  · cases h
  · split at h
    · rename_i hb
      have e := bind_eff hb
      split at h
      · have h1 := ih.ops _ _ _ _ (by assumption)
        have h2 := ih.block _ _ _ _ _ _ h
        rw [e] at h1; exact h1.trans h2
      · have h1 := ih.ops _ _ _ _ h
        rw [e] at h1; exact h1
    · cases h

theorem eff_for_step {P : Prog} {n : Nat} (ih : EffAt P n) (st : St) (body : Region) (w : Nat)
    (i ub step : Int) (iters : List Val) (st' : St) (vs : List Val)
    (h : runFor (n + 1) P st body w i ub step iters = .ok (st', vs)) : st.eff <:+ st'.eff := by
  rw [runFor] at h
  split at h
  · split at h
    · exact (ih.region _ _ _ _ _ (by assumption)).trans (ih.for_ _ _ _ _ _ _ _ _ _ h)
    all_goals cases h
  · cases h; exact List.suffix_refl _

theorem eff_while_step {P : Prog} {n : Nat} (ih : EffAt P n) (st : St) (before after : Region)
    (args : List Val) (st' : St) (vs : List Val)
    (h : runWhile (n + 1) P st before after args = .ok (st', vs)) : st.eff <:+ st'.eff := by
  rw [runWhile] at h
  split at h
  · have h1 := ih.region _ _ _ _ _ (by assumption)
    split at h
    · split at h
      · have h2 := ih.region _ _ _ _ _ (by assumption)
        exact (h1.trans h2).trans (ih.while_ _ _ _ _ _ _ h)
      all_goals cases h
    · cases h; exact h1
  all_goals cases h

theorem eff_call_step {P : Prog} {n : Nat} (ih : EffAt P n) (st : St) (name : String) (args : List Val)
    (st' : St) (vs : List Val) (h : callFunc (n + 1) P st name args = .ok (st', vs)) :
    st.eff <:+ st'.eff := by
  rw [callFunc] at h
  split at h
  · cases h
  · split at h
    · cases h; exact List.suffix_cons _ _
    · split at h
      · rename_i hr
        have hs := ih.region _ _ _ _ _ hr
        cases h; exact hs
      all_goals cases h

theorem eff_all (P : Prog) : ∀ n : Nat, EffAt P n := by
  intro n
  induction n with
  | zero =>
    exact {
      ops := fun _ _ _ _ h => by rw [runOps] at h; cases h
      op := fun _ _ _ _ h => by rw [runOp] at h; cases h
      region := fun _ _ _ _ _ h => by rw [runRegion] at h; cases h
      block := fun _ _ _ _ _ _ h => by rw [runBlock] at h; cases h
      for_ := fun _ _ _ _ _ _ _ _ _ h => by rw [runFor] at h; cases h
      while_ := fun _ _ _ _ _ _ h => by rw [runWhile] at h; cases h
      call := fun _ _ _ _ _ h => by rw [callFunc] at h; cases h }
  | succ n ih =>
    exact {
      ops := eff_ops_step ih
      op := eff_op_step ih
      region := eff_region_step ih
      block := eff_block_step ih
      for_ := eff_for_step ih
      while_ := eff_while_step ih
      call := eff_call_step ih }

end Xdsl.SemMeta
