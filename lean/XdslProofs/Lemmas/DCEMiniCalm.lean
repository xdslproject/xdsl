import XdslProofs.Lemmas.DCEMiniOp
/-!
Operations that are calm by their names are quiet on `Sem` (C13).

`calm` (`XdslModel/DCEMini.lean`) is a check on operation NAMES only: every operation of the tree is a
region-free operation outside the list of state-changing ones (`leafQuiet`), one of the terminators
`Sem` knows, or a structured operation (`scf.if/for/while`, `affine.for`) over calm operations.
`calm_all`: running calm operations with any fuel leaves a related state (same effect log, memory,
symref variables; the environment changes only at the values the operations define).
`quiet_of_calm`: hence an erased calm operation that is no terminator is `Quiet`.  One-sided fuel
induction as in `Lemmas/SemEffects.lean`.
-/
namespace Xdsl.DCEM
open Xdsl.DCE Xdsl.MiniIR Xdsl.Sem

variable {D : Nat → Prop} {P : Prog}

theorem stateOp_same {st st1 : St} {o : Op} {args rs : List Val} (hn : mutNames.contains o.name = false)
    (h : stateOp st o args = some (.ok (st1, rs))) : st1 = st := by
  simp only [mutNames, List.contains_eq_mem, List.mem_cons, List.not_mem_nil, or_false, decide_eq_false_iff_not,
    not_or] at hn
  unfold stateOp at h
  split at h
  all_goals first
    | exact absurd (by assumption) hn.1
    | exact absurd (by assumption) hn.2.1
    | exact absurd (by assumption) hn.2.2.1
    | exact absurd (by assumption) hn.2.2.2.1
    | exact absurd (by assumption) hn.2.2.2.2
    | skip
  all_goals repeat' split at h
  all_goals first | (cases h; rfl) | (cases h; done)

structure CalmAt (D : Nat → Prop) (P : Prog) (n : Nat) : Prop where
  ops : ∀ a st s1 t, calm a = true → (∀ v ∈ defsA a, D v) →
    runOps n P st (opsOf a) = .ok (s1, t) → Rel D st s1
  op : ∀ m rs st s1 t, calmCell m rs = true → (∀ r ∈ m.results, D r.1) → (∀ v ∈ defsA rs, D v) →
    runOp n P st (mkOp m (regionsOf rs)) = .ok (s1, t) →
    Rel D st s1 ∧ (termNames.contains m.name = false → t = none)
  region : ∀ bs st args s1 t, calm bs = true → (∀ v ∈ defsA bs, D v) →
    runRegion n P st (.mk (blocksOf bs)) args = .ok (s1, t) → Rel D st s1
  block : ∀ bs st bid args s1 t, calm bs = true → (∀ v ∈ defsA bs, D v) →
    runBlock n P st (.mk (blocksOf bs)) bid args = .ok (s1, t) → Rel D st s1
  for_ : ∀ bs st w i ub step iters s1 vs, calm bs = true → (∀ v ∈ defsA bs, D v) →
    runFor n P st (.mk (blocksOf bs)) w i ub step iters = .ok (s1, vs) → Rel D st s1
  while_ : ∀ bb ba st args s1 vs, calm bb = true → calm ba = true → (∀ v ∈ defsA bb, D v) →
    (∀ v ∈ defsA ba, D v) →
    runWhile n P st (.mk (blocksOf bb)) (.mk (blocksOf ba)) args = .ok (s1, vs) → Rel D st s1

theorem calmAt_zero : CalmAt D P 0 where
  ops := fun _ _ _ _ _ _ h => by rw [runOps] at h; cases h
  op := fun _ _ _ _ _ _ _ _ h => by rw [runOp] at h; cases h
  region := fun _ _ _ _ _ _ _ h => by rw [runRegion] at h; cases h
  block := fun _ _ _ _ _ _ _ _ h => by rw [runBlock] at h; cases h
  for_ := fun _ _ _ _ _ _ _ _ _ _ _ h => by rw [runFor] at h; cases h
  while_ := fun _ _ _ _ _ _ _ _ _ _ h => by rw [runWhile] at h; cases h

theorem calm_ops_step {n : Nat} (ih : CalmAt D P n) (a : AT) (st s1 : St) (t : Term) (hc : calm a = true)
    (hD : ∀ v ∈ defsA a, D v) (h : runOps (n + 1) P st (opsOf a) = .ok (s1, t)) : Rel D st s1 := by
  cases a with
  | nil => rw [opsOf_nil, runOps_nil] at h; cases h
  | block _ _ _ _ => rw [opsOf_block, runOps_nil] at h; cases h
  | region _ _ => rw [opsOf_region, runOps_nil] at h; cases h
  | op hd m rs next =>
    simp only [calm, Bool.and_eq_true] at hc
    simp only [defsA, List.mem_append, List.mem_map] at hD
    rw [opsOf_op, runOps] at h
    have hop := fun s1 t => ih.op m rs st s1 t hc.1 (fun r hr => hD _ (Or.inl ⟨r, hr, rfl⟩))
      (fun v hv => hD v (Or.inr (Or.inl hv)))
    split at h
    · rename_i s2 hL
      exact (hop _ _ hL).1.trans (ih.ops next s2 s1 t hc.2 (fun v hv => hD v (Or.inr (Or.inr hv))) h)
    · rename_i s2 t2 hL
      cases h
      exact (hop _ _ hL).1
    all_goals cases h

theorem regions_calm (rs : AT) (hc : calm rs = true) :
    ∀ r ∈ regionsOf rs, ∃ bs, r = .mk (blocksOf bs) ∧ calm bs = true ∧ ∀ v ∈ defsA bs, v ∈ defsA rs := by
  induction rs with
  | nil => intro r hr; simp at hr
  | op _ _ _ _ _ _ => intro r hr; simp at hr
  | block _ _ _ _ _ _ => intro r hr; simp at hr
  | region bs next _ ihn =>
    intro r hr
    simp only [calm, Bool.and_eq_true] at hc
    simp only [regionsOf_region, List.mem_cons] at hr
    rcases hr with rfl | hr
    · exact ⟨bs, rfl, hc.1, fun v hv => by simp [defsA, hv]⟩
    · obtain ⟨b, e1, e2, e3⟩ := ihn hc.2 r hr
      exact ⟨b, e1, e2, fun v hv => by simp [defsA, e3 v hv]⟩

theorem struct_not_term : ∀ n ∈ structNames, termNames.contains n = false := by decide +kernel
theorem struct_not_mut : ∀ n ∈ structNames, mutNames.contains n = false := by decide +kernel
theorem term_not_mut : ∀ n ∈ termNames, mutNames.contains n = false := by decide +kernel

theorem calm_struct {m : MHdr} {rs : AT} (hs : structNames.contains m.name = true) (hc : calmCell m rs = true) :
    calm rs = true ∧ termNames.contains m.name = false := by
  have ht := struct_not_term _ (List.contains_iff_mem.mp hs)
  simp only [calmCell, leafQuiet, hs, ht, Bool.not_true, Bool.and_false, Bool.false_and, Bool.false_or,
    Bool.true_and] at hc
  exact ⟨hc, ht⟩

theorem calm_op_step {n : Nat} (ih : CalmAt D P n) (m : MHdr) (rs : AT) (st s1 : St) (t : Option Term)
    (hc : calmCell m rs = true) (hDr : ∀ r ∈ m.results, D r.1) (hD : ∀ v ∈ defsA rs, D v)
    (h : runOp (n + 1) P st (mkOp m (regionsOf rs)) = .ok (s1, t)) :
    Rel D st s1 ∧ (termNames.contains m.name = false → t = none) := by
  have hm : mutNames.contains m.name = false := by
    unfold calmCell at hc
    simp only [Bool.or_eq_true, Bool.and_eq_true] at hc
    rcases hc with (hq | ht) | hs
    · simp only [leafQuiet, Bool.and_eq_true, Bool.not_eq_true'] at hq
      exact hq.2
    · exact term_not_mut _ (List.contains_iff_mem.mp ht)
    · exact struct_not_mut _ (List.contains_iff_mem.mp hs.1)
  have hcall : m.name ≠ "func.call" := by
    intro h1
    unfold calmCell at hc
    rw [h1] at hc
    rw [show leafQuiet "func.call" = false by decide +kernel, show termNames.contains "func.call" = false by decide +kernel,
      show structNames.contains "func.call" = false by decide +kernel] at hc
    simp at hc
  have hcl : structNames.contains m.name = true → ∀ r ∈ regionsOf rs,
      ∃ bs, r = .mk (blocksOf bs) ∧ calm bs = true ∧ ∀ v ∈ defsA bs, D v := by
    intro hs r hr
    obtain ⟨bs, e1, e2, e3⟩ := regions_calm rs (calm_struct hs hc).1 r hr
    exact ⟨bs, e1, e2, fun v hv => hD v (e3 v hv)⟩
  -- `runOp_rel` on the diagonal: the two runs are this run, and states are related when they are equal and
  -- `Rel D`-related to `st`
  have key := runOp_rel (R := fun s s' => s' = s ∧ Rel D st s) (P := P) (P' := P) (n := n) (M := n) (m := m)
    (l := regionsOf rs) (f := id) (g := id) (K := fun _ => True) (st := st) (st' := st) ⟨rfl, Rel.refl st⟩ rfl
    (fun _ _ => rfl) (fun _ _ => trivial)
    (by rintro s _ s1 vs ⟨rfl, hr⟩ hbd; exact ⟨_, hbd, rfl, hr.trans (bind_keep hDr hbd)⟩)
    (fun args => ?_) (fun h1 => absurd h1 hcall)
    (fun hs p hp args => .diag fun a ha => by
      obtain ⟨bs, rfl, e2, e3⟩ := hcl hs p hp
      exact ⟨rfl, rfl, ih.region bs st args a.1 a.2 e2 e3 ha⟩)
    (fun hs p hp w i ub step iters => .diag fun a ha => by
      obtain ⟨bs, rfl, e2, e3⟩ := hcl hs p hp
      exact ⟨rfl, rfl, ih.for_ bs st w i ub step iters a.1 a.2 e2 e3 ha⟩)
    (fun hs p hp q hq args => .diag fun a ha => by
      obtain ⟨b1, rfl, e2, e3⟩ := hcl hs p hp
      obtain ⟨b2, rfl, f2, f3⟩ := hcl hs q hq
      exact ⟨rfl, rfl, ih.while_ b1 b2 st args a.1 a.2 e2 f2 e3 f3 ha⟩)
  · rw [List.map_id, h] at key
    obtain ⟨b, _, _, ⟨_, h2⟩, _, h4⟩ := key
    exact ⟨h2, h4⟩
  · cases hs : stateM st m args with
    | none => rfl
    | some r =>
      cases r with
      | ok p =>
        obtain ⟨s1, vs⟩ := p
        exact ⟨s1, rfl, rfl, by rw [stateOp_same (o := mkOp m []) hm hs]; exact Rel.refl _⟩
      | ub w => trivial
      | fuel => trivial
      | err x => trivial

theorem calm_region_step {n : Nat} (ih : CalmAt D P n) (bs : AT) (st : St) (args : List Val) (s1 : St) (t : Term)
    (hc : calm bs = true) (hD : ∀ v ∈ defsA bs, D v)
    (h : runRegion (n + 1) P st (.mk (blocksOf bs)) args = .ok (s1, t)) : Rel D st s1 := by
  rw [runRegion] at h
  split at h
  · cases h
  · exact ih.block bs st _ args s1 t hc hD h

theorem find_block_calm (b : Nat) (bs : AT) (hc : calm bs = true) :
    ∀ B, findBlock (.mk (blocksOf bs)) b = some B →
      ∃ i a ops, B = .mk i a (opsOf ops) ∧ calm ops = true
        ∧ (∀ p ∈ a, p.1 ∈ defsA bs) ∧ ∀ v ∈ defsA ops, v ∈ defsA bs := by
  induction bs with
  | nil => intro B h; simp [findBlock] at h
  | op _ _ _ _ _ _ => intro B h; simp [findBlock] at h
  | region _ _ _ _ => intro B h; simp [findBlock] at h
  | block i a ops next _ ihn =>
    intro B hB
    simp only [calm, Bool.and_eq_true] at hc
    simp only [findBlock, region_blocks_mk, blocksOf_block, List.find?_cons, block_id_mk] at hB
    by_cases hib : i = b
    · subst hib
      simp only [decide_true] at hB
      cases hB
      exact ⟨i, a, ops, rfl, hc.1, fun p hp => by simp only [defsA, List.mem_append, List.mem_map]; exact Or.inl ⟨p, hp, rfl⟩,
        fun v hv => by simp [defsA, hv]⟩
    · simp only [hib, decide_false] at hB
      obtain ⟨i', a', ops', e1, e2, e3, e4⟩ := ihn hc.2 B (by simpa [findBlock] using hB)
      exact ⟨i', a', ops', e1, e2, fun p hp => by simp [defsA, e3 p hp], fun v hv => by simp [defsA, e4 v hv]⟩

theorem calm_block_step {n : Nat} (ih : CalmAt D P n) (bs : AT) (st : St) (bid : Nat) (args : List Val) (s1 : St)
    (t : Term) (hc : calm bs = true) (hD : ∀ v ∈ defsA bs, D v)
    (h : runBlock (n + 1) P st (.mk (blocksOf bs)) bid args = .ok (s1, t)) : Rel D st s1 := by
  rw [runBlock] at h
  split at h
  · cases h
  · rename_i B hf
    obtain ⟨i, a, ops, rfl, hco, ha, ho⟩ := find_block_calm bid bs hc B hf
    simp only [Block.args, Block.ops] at h
    split at h
    · rename_i s0 hb
      have r0 : Rel D st s0 := bind_keep (fun p hp => hD _ (ha p hp)) hb
      split at h
      · rename_i s2 b' as hL
        exact (r0.trans (ih.ops ops s0 s2 _ hco (fun v hv => hD v (ho v hv)) hL)).trans
          (ih.block bs s2 b' as s1 t hc hD h)
      · exact r0.trans (ih.ops ops s0 s1 t hco (fun v hv => hD v (ho v hv)) h)
    · cases h

theorem calm_for_step {n : Nat} (ih : CalmAt D P n) (bs : AT) (st : St) (w : Nat) (i ub step : Int)
    (iters : List Val) (s1 : St) (vs : List Val) (hc : calm bs = true) (hD : ∀ v ∈ defsA bs, D v)
    (h : runFor (n + 1) P st (.mk (blocksOf bs)) w i ub step iters = .ok (s1, vs)) : Rel D st s1 := by
  rw [runFor] at h
  split at h
  · split at h
    · exact (ih.region bs st _ _ _ hc hD (by assumption)).trans (ih.for_ bs _ w _ ub step _ s1 vs hc hD h)
    all_goals cases h
  · cases h; exact Rel.refl _

theorem calm_while_step {n : Nat} (ih : CalmAt D P n) (bb ba : AT) (st : St) (args : List Val) (s1 : St)
    (vs : List Val) (hcb : calm bb = true) (hca : calm ba = true) (hDb : ∀ v ∈ defsA bb, D v)
    (hDa : ∀ v ∈ defsA ba, D v)
    (h : runWhile (n + 1) P st (.mk (blocksOf bb)) (.mk (blocksOf ba)) args = .ok (s1, vs)) : Rel D st s1 := by
  rw [runWhile] at h
  split at h
  · have r1 := ih.region bb st _ _ _ hcb hDb (by assumption)
    split at h
    · split at h
      · have r2 := ih.region ba _ _ _ _ hca hDa (by assumption)
        exact (r1.trans r2).trans (ih.while_ bb ba _ _ s1 vs hcb hca hDb hDa h)
      all_goals cases h
    · cases h; exact r1
  all_goals cases h

theorem calm_all : ∀ n, CalmAt D P n := by
  intro n
  induction n with
  | zero => exact calmAt_zero
  | succ n ih =>
    exact {
      ops := calm_ops_step ih
      op := calm_op_step ih
      region := calm_region_step ih
      block := calm_block_step ih
      for_ := calm_for_step ih
      while_ := calm_while_step ih }

theorem quiet_of_calm {m : MHdr} {rs : AT} (hc : calmCell m rs = true) (ht : termNames.contains m.name = false)
    (hDr : ∀ r ∈ m.results, D r.1) (hD : ∀ v ∈ defsA rs, D v) : Quiet P D (mkOp m (regionsOf rs)) := by
  intro n st s1 t h
  have := (calm_all n).op m rs st s1 t hc hDr hD h
  exact ⟨this.2 ht, this.1⟩

end Xdsl.DCEM
