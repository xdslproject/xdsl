import XdslModel.RiscVRules
import XdslProofs.Lemmas.OfInt
/-!
Helper lemmas for C22: register-file algebra, the value identities behind every canonicalization
rule, fact lookup; and the predicates the C22 statements are written in (`St.EqExcept` / `OEqExcept`,
`inS32`, `Fact.Holds`, `Fact.WF`).  Core Lean only (no Mathlib).
-/
namespace Xdsl.RiscV

theorem St.ext {a b : St} (hr : a.regs = b.regs) (hm : a.mem = b.mem) : a = b := by
  cases a; cases b; simp_all

/-! the all-zero machine state of the concrete counterexamples (under the two names they use) -/

def st0 : St := { regs := fun _ => 0#32, mem := fun _ => 0#32 }

def st1 : St := { regs := fun _ => 0#32, mem := fun _ => 0#32 }

@[simp] theorem get_zero (s : St) : s.get 0 = 0#32 := by simp [St.get]

@[simp] theorem set_zero (s : St) (v : W) : s.set 0 v = s := by simp [St.set]

theorem get_set (s : St) (r x : Reg) (v : W) :
    (s.set r v).get x = if x = 0 then 0#32 else if x = r then v else s.get x := by
  unfold St.get St.set
  by_cases hr : r = 0
  · subst hr; by_cases hx : x = 0 <;> simp [hx]
  · by_cases hx : x = 0
    · simp [hx]
    · by_cases hxr : x = r <;> simp [hr, hx, hxr]

theorem get_set_same (s : St) (r : Reg) (v : W) (h : r ≠ 0) : (s.set r v).get r = v := by
  simp [get_set, h]

theorem get_set_ne (s : St) (r x : Reg) (v : W) (h : x ≠ r) : (s.set r v).get x = s.get x := by
  rw [get_set]
  by_cases hx : x = 0
  · simp [hx]
  · simp [hx, h]

@[simp] theorem set_mem (s : St) (r : Reg) (v : W) : (s.set r v).mem = s.mem := by
  unfold St.set; split <;> rfl

theorem set_get_self (s : St) (r : Reg) : s.set r (s.get r) = s := by
  unfold St.set St.get
  by_cases hr : r = 0
  · simp [hr]
  · simp only [hr, if_false]
    apply St.ext
    · funext x
      by_cases hx : x = r <;> simp [hx]
    · rfl

theorem set_congr (s : St) (r : Reg) {v w : W} (h : v = w) : s.set r v = s.set r w := by rw [h]

/-! ### observational equality (all registers but one, and memory) -/

def St.EqExcept (t : Reg) (a b : St) : Prop := (∀ r, r ≠ t → a.get r = b.get r) ∧ a.mem = b.mem

def OEqExcept (t : Reg) : Option St → Option St → Prop
  | some a, some b => a.EqExcept t b
  | none, none => True
  | _, _ => False

theorem eqExcept_set (s : St) (t : Reg) (v : W) : (s.set t v).EqExcept t s :=
  ⟨fun r hr => get_set_ne s t r v hr, set_mem s t v⟩

theorem St.EqExcept.set {t : Reg} {a b : St} (h : a.EqExcept t b) (r : Reg) (v : W) :
    (a.set r v).EqExcept t (b.set r v) :=
  ⟨fun x hx => by rw [get_set, get_set, h.1 x hx], by rw [set_mem, set_mem, h.2]⟩

theorem OEqExcept.of_eq (t : Reg) {a b : Option St} (h : a = b) : OEqExcept t a b := by
  subst h
  cases a with
  | none => trivial
  | some a => exact ⟨fun _ _ => rfl, rfl⟩

/-- every register an instruction names -/
def Instr.regs : Instr → List Reg
  | .r _ rd a b => [rd, a, b]
  | .i _ rd a _ => [rd, a]
  | .sh _ rd a _ => [rd, a]
  | .li rd _ => [rd]
  | .mv rd a => [rd, a]
  | .lw rd b _ => [rd, b]
  | .sw v b _ => [v, b]
  | .br _ a b _ => [a, b]
  | _ => []

@[simp] theorem imm32_zero : imm32 0 = 0#32 := by simp [imm32]

theorem imm32_wrap32 (v : Int) : imm32 (wrap32 v) = imm32 v := by
  unfold wrap32 imm32
  exact BitVec.ofInt_toInt

theorem imm32_toInt (x : W) : imm32 x.toInt = x := by simp [imm32, BitVec.ofInt_toInt]

theorem imm32_add (a b : Int) : imm32 (a + b) = imm32 a + imm32 b := by simp [imm32, BitVec.ofInt_add]

theorem imm32_mul (a b : Int) : imm32 (a * b) = imm32 a * imm32 b := by simp [imm32, BitVec.ofInt_mul]

theorem imm32_neg (a : Int) : imm32 (-a) = -imm32 a := by simp [imm32, BitVec.ofInt_neg]

theorem imm32_sub (a b : Int) : imm32 (a - b) = imm32 a - imm32 b := by
  rw [Int.sub_eq_add_neg, imm32_add, imm32_neg, BitVec.sub_eq_add_neg]

theorem imm32_one : imm32 1 = 1#32 := by decide

theorem imm32_two : imm32 2 = 2#32 := by decide

theorem div_one (a : W) : aluR .div a (imm32 1) = a := by
  have h1 : (1#32).toInt = 1 := by decide
  have h2 : ¬ (1#32 = 0#32) := by decide
  simp [aluR, imm32_one, h1, h2, Int.tdiv_one, BitVec.ofInt_toInt]

/-! `imm32` is `BitVec.ofInt 32`; the literals `4294967296`, `2147483648` of the rule model are `2 ^ 32`,
`2 ^ 32 / 2` by evaluation, so the width-generic facts of `Lemmas/OfInt.lean` apply as they stand. -/

theorem toNat_imm32 (k : Int) : ((imm32 k).toNat : Int) = k % 4294967296 :=
  BV.toNat_ofInt 32 k

theorem imm32_emod (k : Int) : imm32 (k % 4294967296) = imm32 k :=
  BV.ofInt_emod 32 k

theorem add_imm32_inj (sp : W) {k j : Int} (hk0 : 0 ≤ k) (hk1 : k < 4294967296) (hj0 : 0 ≤ j)
    (hj1 : j < 4294967296) (h : sp + imm32 k = sp + imm32 j) : k = j := by
  have h' := congrArg (fun x : W => (x.toNat : Int)) ((BitVec.add_right_inj sp).mp h)
  simp only [toNat_imm32] at h'
  omega

/-! ### alignment: 4 divides 2^32, so it survives wrapping -/

theorem aligned_imm32 {k : Int} (hk : k % 4 = 0) : aligned (imm32 k) = true := by
  have := toNat_imm32 k
  simp only [aligned, beq_iff_eq]
  omega

theorem aligned_add {a b : W} (ha : aligned a = true) (hb : aligned b = true) : aligned (a + b) = true := by
  simp only [aligned, beq_iff_eq, BitVec.toNat_add] at *
  omega

/-- signed range of an i32 `IntegerAttr` payload -/
def inS32 (c : Int) : Prop := -2147483648 ≤ c ∧ c < 2147483648

theorem toInt_imm32 (c : Int) (h : inS32 c) : (imm32 c).toInt = c :=
  BitVec.toInt_ofInt_eq_self (by decide) h.1 h.2

theorem toInt_range (x : W) : inS32 x.toInt := ⟨BitVec.le_toInt x, BitVec.toInt_lt⟩

theorem wrap32_range (v : Int) : inS32 (wrap32 v) := toInt_range _

theorem pyShift_slli (c : Int) (n : Nat) : imm32 (pyShift .slli c n) = aluS .slli (imm32 c) n :=
  (imm32_wrap32 _).trans (BV.ofInt_mul_two_pow 32 c n)

/-- `c` is the signed reading of the register; floor-dividing it is the arithmetic shift -/
theorem pyShift_srai (c : Int) (n : Nat) (hc : inS32 c) :
    imm32 (pyShift .srai c n) = aluS .srai (imm32 c) n := by
  rw [pyShift, Int.fdiv_eq_ediv_of_nonneg _ (Int.le_of_lt (BV.two_pow_pos n)),
    ← toInt_imm32 c hc, BV.toInt_sshiftRight, toInt_imm32 c hc]
  exact imm32_toInt _

/-- `c % 2^32` is the unsigned reading of the register; dividing it is the logical shift -/
theorem pyShift_srli (c : Int) (n : Nat) : imm32 (pyShift .srli c n) = aluS .srli (imm32 c) n := by
  refine (imm32_wrap32 _).trans ?_
  rw [← toNat_imm32, BV.toNat_ushiftRight]
  exact BV.ofInt_toNat _

theorem pyShift_sound (op : SOp) (c : Int) (n : Nat) (hc : inS32 c) :
    imm32 (pyShift op c n) = aluS op (imm32 c) n := by
  cases op
  · exact pyShift_slli c n
  · exact pyShift_srli c n
  · exact pyShift_srai c n hc
  all_goals simp only [pyShift, imm32_toInt]

theorem fdiv_range (c : Int) (n : Nat) (hc : inS32 c) : inS32 (Int.fdiv c (2 ^ n)) := by
  have hp : (0:Int) < 2 ^ n := Int.pow_pos (by omega)
  rw [Int.fdiv_eq_ediv_of_nonneg _ (Int.le_of_lt hp)]
  unfold inS32 at *
  generalize (2:Int)^n = p at *
  constructor
  · rw [Int.le_ediv_iff_mul_le hp]
    have : -2147483648 * p ≤ -2147483648 := by omega
    omega
  · rw [Int.ediv_lt_iff_lt_mul hp]
    have : 2147483648 ≤ 2147483648 * p := by omega
    omega

theorem pyShift_inS32 (op : SOp) (c : Int) (n : Nat) (hc : inS32 c) : inS32 (pyShift op c n) := by
  cases op
  · exact wrap32_range _
  · exact wrap32_range _
  · exact fdiv_range c n hc
  all_goals exact toInt_range _

/-- what a fact says about a machine state (this is what SSA form guarantees at the rewritten
operation: the operand registers still hold the values their definitions computed) -/
def Fact.Holds (s : St) : Fact → Prop
  | .const r c => inS32 c ∧ s.get r = imm32 c
  | .addi r s' i => fitsSI12 i = true ∧ s.get r = s.get s' + imm32 i
  | .xori r s' i => fitsSI12 i = true ∧ s.get r = s.get s' ^^^ imm32 i

/-- static well-formedness of a fact (ranges of the attribute payloads) -/
def Fact.WF : Fact → Prop
  | .const _ c => inS32 c
  | .addi _ _ i => fitsSI12 i = true
  | .xori _ _ i => fitsSI12 i = true

/-! A lookup returns a member of the list, so whatever holds of every fact holds of what it returns. -/

theorem constOf_mem {fs : List Fact} {r : Reg} {c : Int} (h : constOf fs r = some c) : Fact.const r c ∈ fs := by
  fun_induction constOf fs r with
  | case1 => cases h
  | case2 => cases h; exact List.mem_cons_self
  | case3 _ _ _ _ _ ih => exact List.mem_cons_of_mem _ (ih h)
  | case4 _ _ _ _ ih => exact List.mem_cons_of_mem _ (ih h)

theorem addiOf_mem {fs : List Fact} {r s' : Reg} {i : Int} (h : addiOf fs r = some (s', i)) :
    Fact.addi r s' i ∈ fs := by
  fun_induction addiOf fs r with
  | case1 => cases h
  | case2 => cases h; exact List.mem_cons_self
  | case3 _ _ _ _ _ _ ih => exact List.mem_cons_of_mem _ (ih h)
  | case4 _ _ _ _ ih => exact List.mem_cons_of_mem _ (ih h)

theorem xoriOf_mem {fs : List Fact} {r s' : Reg} {i : Int} (h : xoriOf fs r = some (s', i)) :
    Fact.xori r s' i ∈ fs := by
  fun_induction xoriOf fs r with
  | case1 => cases h
  | case2 => cases h; exact List.mem_cons_self
  | case3 _ _ _ _ _ _ ih => exact List.mem_cons_of_mem _ (ih h)
  | case4 _ _ _ _ ih => exact List.mem_cons_of_mem _ (ih h)

theorem lookupRule_mem {name : String} {tbl : List (String × (List Fact → Reg → Instr → Option (List Instr)))}
    {f : List Fact → Reg → Instr → Option (List Instr)} (h : lookupRule name tbl = some f) :
    (name, f) ∈ tbl := by
  fun_induction lookupRule name tbl with
  | case1 => cases h
  | case2 => cases h; exact List.mem_cons_self
  | case3 _ _ _ _ ih => exact List.mem_cons_of_mem _ (ih h)

theorem constOf_holds {fs : List Fact} {s : St} (hf : ∀ f ∈ fs, f.Holds s) {r : Reg} {c : Int}
    (h : constOf fs r = some c) : inS32 c ∧ s.get r = imm32 c :=
  hf _ (constOf_mem h)

theorem addiOf_holds {fs : List Fact} {s : St} (hf : ∀ f ∈ fs, f.Holds s) {r s' : Reg} {i : Int}
    (h : addiOf fs r = some (s', i)) : fitsSI12 i = true ∧ s.get r = s.get s' + imm32 i :=
  hf _ (addiOf_mem h)

theorem xoriOf_holds {fs : List Fact} {s : St} (hf : ∀ f ∈ fs, f.Holds s) {r s' : Reg} {i : Int}
    (h : xoriOf fs r = some (s', i)) : fitsSI12 i = true ∧ s.get r = s.get s' ^^^ imm32 i :=
  hf _ (xoriOf_mem h)

/-! ### the identities behind the rows of the `arith.cmpi` lowering table -/

theorem xor_toNat_ne (a b : W) (h : a ≠ b) : (a ^^^ b).toNat ≠ 0 := by
  intro h0
  apply h
  apply BitVec.xor_eq_zero_iff.mp
  apply BitVec.eq_of_toNat_eq
  simpa using h0

theorem cmp_eq (a b : W) : b2w ((a ^^^ b).ult (imm32 1)) = b2w (a == b) := by
  congr 1
  rw [imm32_one]
  by_cases h : a = b
  · subst h; simp [BitVec.ult]
  · have := xor_toNat_ne a b h
    have h1 : (a == b) = false := by simp [h]
    rw [h1]
    simp only [BitVec.ult, BitVec.toNat_ofNat]
    simp at this ⊢
    omega

theorem cmp_ne (a b : W) : b2w ((0#32).ult (a ^^^ b)) = b2w (a != b) := by
  congr 1
  by_cases h : a = b
  · subst h; simp [BitVec.ult]
  · have := xor_toNat_ne a b h
    have h1 : (a != b) = true := by simp [h]
    rw [h1]
    simp only [BitVec.ult, BitVec.toNat_ofNat]
    simp at this ⊢
    omega

theorem not_b2w (c : Bool) : b2w c ^^^ imm32 1 = b2w (!c) := by
  rw [imm32_one]; cases c <;> decide

theorem fits_iff (i : Int) : fitsSI12 i = true ↔ (-2048 ≤ i ∧ i ≤ 2047) := by
  simp [fitsSI12]

theorem imm32_eq_signExtend (i : Int) (h : fitsSI12 i = true) :
    imm32 i = BitVec.signExtend 32 (BitVec.ofInt 12 i) := by
  rw [fits_iff] at h
  apply BitVec.eq_of_toInt_eq
  rw [BitVec.toInt_signExtend_of_le (by decide), imm32,
    BitVec.toInt_ofInt_eq_self (by decide) (by omega) (by omega),
    BitVec.toInt_ofInt_eq_self (by decide) (by omega) (by omega)]

theorem xor_fits (i j : Int) (hi : fitsSI12 i = true) (hj : fitsSI12 j = true) :
    fitsSI12 (imm32 i ^^^ imm32 j).toInt = true := by
  rw [imm32_eq_signExtend i hi, imm32_eq_signExtend j hj, ← BitVec.signExtend_xor,
    BitVec.toInt_signExtend_of_le (by decide), fits_iff]
  have h1 := BitVec.le_toInt (BitVec.ofInt 12 i ^^^ BitVec.ofInt 12 j)
  have h2 := @BitVec.toInt_lt 12 (BitVec.ofInt 12 i ^^^ BitVec.ofInt 12 j)
  omega

theorem fits_inS32 {i : Int} (h : fitsSI12 i = true) : inS32 i := by
  rw [fits_iff] at h; unfold inS32; omega

theorem li_enc (rd : Reg) {v : Int} (h : inS32 v) : (Instr.li rd v).encodable = true := by
  have := h.1; have := h.2
  simp only [Instr.encodable, Bool.and_eq_true, decide_eq_true_eq]; omega

theorem encodable_one {o : Instr} (h : o.encodable = true) : ∀ x ∈ [o], x.encodable = true := by
  intro x hx; rw [List.mem_singleton.mp hx]; exact h

@[simp] theorem exec_nil (s : St) : exec [] s = some s := rfl

theorem exec_one (i : Instr) (s : St) : exec [i] s = exec1 i s := by
  simp [exec]

theorem exec_two (i j : Instr) (s : St) : exec [i, j] s = (exec1 i s).bind (exec1 j) := by
  simp [exec]

theorem exec_cons (i : Instr) (is : List Instr) (s : St) : exec (i :: is) s = (exec1 i s).bind (exec is) := rfl

theorem exec_append (a b : List Instr) (s : St) : exec (a ++ b) s = (exec a s).bind (exec b) := by
  induction a generalizing s with
  | nil => simp [exec]
  | cons i a ih =>
    simp only [List.cons_append, exec_cons]
    cases exec1 i s with
    | none => rfl
    | some s' => simp [Option.bind, ih]

theorem toUnsigned32_eq (a : Int) : toUnsigned32 a = ((imm32 a).toNat : Int) := by
  rw [toNat_imm32, toUnsigned32, Int.add_emod_right]

theorem toSigned32_eq (a : Int) : toSigned32 a = (imm32 a).toInt :=
  (BV.toInt_ofInt_wrap 32 a).symm

theorem toSigned32_id (a : Int) (h : inS32 a) : toSigned32 a = a :=
  (toSigned32_eq a).trans (toInt_imm32 a h)

theorem slt_imm32 (a b : Int) : (imm32 a).slt (imm32 b) = decide (toSigned32 a < toSigned32 b) := by
  rw [BitVec.slt_eq_decide, toSigned32_eq, toSigned32_eq]

theorem ult_imm32 (a b : Int) : (imm32 a).ult (imm32 b) = decide (toUnsigned32 a < toUnsigned32 b) := by
  simp only [BitVec.ult, toUnsigned32_eq]
  congr 1
  simp

theorem eq_imm32 (a b : Int) : (imm32 a == imm32 b) = decide (toUnsigned32 a = toUnsigned32 b) := by
  rw [toUnsigned32_eq a, toUnsigned32_eq b, Bool.eq_iff_iff]
  simp only [beq_iff_eq, decide_eq_true_eq]
  exact BV.toNat_cast_inj.symm

/-- `const_evaluate` decides what the branch instruction does on the 32-bit images, for all integers
(it normalises its operands itself) -/
theorem constEvaluate_taken (op : BOp) (a b : Int) : constEvaluate op a b = taken op (imm32 a) (imm32 b) := by
  cases op <;> simp only [constEvaluate, taken, slt_imm32, ult_imm32 a b, eq_imm32 a b]
  · rw [← eq_imm32 a b]; rfl
  · by_cases h : toSigned32 a < toSigned32 b <;> simp [h] <;> omega
  · by_cases h : toUnsigned32 a < toUnsigned32 b <;> simp [h] <;> omega

end Xdsl.RiscV
