import XdslProofs.Lemmas.DCEMiniOp
/-!
The simulation between a MiniIR program and what `delA` leaves of it, on the reference semantics
`Sem` (C13).  `SimOK` collects, cell by cell, what the simulation needs:

* a kept operation reads no dead value (`D`), its successors are blocks that stay (`K`);
* an erased operation is `Quiet`: whenever it runs to completion it is no terminator and leaves a
  related state (same effect log, memory, symref variables; environment changed only inside `D`);
* in every region, the first block carrying a given id that a kept operation branches to is kept.

`sim_all`: for every fuel `n` and every `M ≥ n`, every function of the mutual block of `Sem`, run with
fuel `M` on the pruned program from a related state, reproduces an `ok` outcome of the run with fuel
`n` on the original program (same terminator / values, related final state).  One `*_step` lemma per
function, as in `Lemmas/SemMono.lean`; the step for `runOp` (`op_step`) is an instance of `runOp_rel`
(`Lemmas/DCEMiniOp.lean`), stated over any relation between states.
-/
namespace Xdsl.DCEM
open Xdsl.DCE Xdsl.MiniIR Xdsl.Sem

/-- the first block of the list that carries id `b` is kept by `delA` -/
def FirstKept (live : List Nat) (b : Nat) : AT → Bool → Prop
  | .block i _ ops next, first =>
    if i = b then (first = true ∨ anyLiveA live ops = true) else FirstKept live b next false
  | _, _ => True

theorem firstKeptB_iff {live : List Nat} (b : Nat) (bs : AT) : ∀ first, firstKeptB live b bs first = true ↔ FirstKept live b bs first := by
  induction bs with
  | nil => intro f; simp [firstKeptB, FirstKept]
  | op _ _ _ _ _ _ => intro f; simp [firstKeptB, FirstKept]
  | region _ _ _ _ => intro f; simp [firstKeptB, FirstKept]
  | block i a ops next _ ihn =>
    intro f
    simp only [firstKeptB, FirstKept]
    split
    · simp
    · exact ihn false

/-- `s` is the sort of the list of cells (`Srt.ops` / `.blocks` / `.regions`): the tree is well-sorted
along what `delA` keeps.  The recursion is that of `certB` and `succB` (`XdslModel/DCEMini.lean`), with `Quiet` where
`certB` has `hdrOk`; `simOK_of_cert` (`Lemmas/DCEMiniTie.lean`) is the bridge. -/
def SimOK (P : Prog) (D : Nat → Prop) (live : List Nat) : AT → Srt → (Nat → Prop) → Bool → Prop
  | .nil, _, _, _ => True
  | .op h m rs next, .ops, K, _ =>
    (if live.contains h.id then
        (∀ v ∈ uses m, ¬ D v) ∧ (∀ s ∈ m.succs, K s.1) ∧ SimOK P D live rs .regions (fun _ => True) true
      else Quiet P D (mkOp m (regionsOf rs)))
      ∧ SimOK P D live next .ops K false
  | .block _ _ ops next, .blocks, K, first =>
    ((first = true ∨ anyLiveA live ops = true) → SimOK P D live ops .ops K false)
      ∧ SimOK P D live next .blocks K false
  | .region bs next, .regions, _, _ =>
    SimOK P D live bs .blocks (fun b => FirstKept live b bs true) true
      ∧ SimOK P D live next .regions (fun _ => True) true
  | _, _, _, _ => False

variable {D : Nat → Prop} {live : List Nat}

/-- what `SimAt` puts into `RelRes`: same payload, `Rel D`-related states; for `runOps` / `runOp` (`QOps`, `QOp`) also: a
branch goes to a block of `K` -/
def QSt (D : Nat → Prop) {β : Type} (a b : St × β) : Prop := b.2 = a.2 ∧ Rel D a.1 b.1

def QOps (D : Nat → Prop) (K : Nat → Prop) (a b : St × Term) : Prop :=
  b.2 = a.2 ∧ Rel D a.1 b.1 ∧ ∀ bb vs, a.2 = .br bb vs → K bb

def QOp (D : Nat → Prop) (K : Nat → Prop) (a b : St × Option Term) : Prop :=
  b.2 = a.2 ∧ Rel D a.1 b.1 ∧ ∀ bb vs, a.2 = some (.br bb vs) → K bb

theorem QOpR.toQOp {K : Nat → Prop} {name : String} {a b : St × Option Term} (h : QOpR (Rel D) K name a b) :
    QOp D K a b := ⟨h.1, h.2.1, h.2.2.1⟩

/-- case analysis on a sub-run `X` of the original program whose simulation `hq` is known: closes the
goals where `X` is not `ok`, and in the `ok` case rewrites both runs -/
local macro "subrun " X:term " using " hq:ident : tactic =>
  `(tactic| (
    cases hL : $X
    case ub => trivial
    case fuel => trivial
    case err => trivial
    rename_i x
    rw [hL] at $hq:ident
    obtain ⟨a, b⟩ := x
    obtain ⟨⟨a', b'⟩, hR, ht, hr⟩ := $hq
    simp only at ht hr
    subst ht
    rw [hR]
    ))

/-- what the simulation of a call needs of the two programs -/
def CallOK (D : Nat → Prop) (live : List Nat) (P P' : Prog) : Prop :=
  ∀ name fn, findFunc P name = some fn → ∃ fn', findFunc P' name = some fn' ∧
    ((fn.body = none ∧ fn'.body = none) ∨
     ∃ bs mask, fn.body = some (.mk (blocksOf bs)) ∧ fn'.body = some (.mk (blocksOf (delA live bs true mask)))
        ∧ SimOK P D live bs .blocks (fun b => FirstKept live b bs true) true)

structure SimAt (D : Nat → Prop) (live : List Nat) (P P' : Prog) (n : Nat) : Prop where
  ops : ∀ M, n ≤ M → ∀ a K f mask st st', SimOK P D live a .ops K f → Rel D st st' →
    RelRes (QOps D K) (runOps n P st (opsOf a)) (runOps M P' st' (opsOf (delA live a false mask)))
  op : ∀ M, n ≤ M → ∀ m rs K st st', (∀ v ∈ uses m, ¬ D v) → (∀ s ∈ m.succs, K s.1) →
    SimOK P D live rs .regions (fun _ => True) true → Rel D st st' →
    RelRes (QOp D K) (runOp n P st (mkOp m (regionsOf rs)))
      (runOp M P' st' (mkOp m (regionsOf (delA live rs true []))))
  region : ∀ M, n ≤ M → ∀ bs mask st st' args, SimOK P D live bs .blocks (fun b => FirstKept live b bs true) true →
    Rel D st st' →
    RelRes (QSt D) (runRegion n P st (.mk (blocksOf bs)) args)
      (runRegion M P' st' (.mk (blocksOf (delA live bs true mask))) args)
  block : ∀ M, n ≤ M → ∀ bs mask st st' bid args, SimOK P D live bs .blocks (fun b => FirstKept live b bs true) true →
    FirstKept live bid bs true → Rel D st st' →
    RelRes (QSt D) (runBlock n P st (.mk (blocksOf bs)) bid args)
      (runBlock M P' st' (.mk (blocksOf (delA live bs true mask))) bid args)
  for_ : ∀ M, n ≤ M → ∀ bs mask st st' w i ub step iters,
    SimOK P D live bs .blocks (fun b => FirstKept live b bs true) true → Rel D st st' →
    RelRes (QSt D) (runFor n P st (.mk (blocksOf bs)) w i ub step iters)
      (runFor M P' st' (.mk (blocksOf (delA live bs true mask))) w i ub step iters)
  while_ : ∀ M, n ≤ M → ∀ bb ba maskb maska st st' args,
    SimOK P D live bb .blocks (fun b => FirstKept live b bb true) true →
    SimOK P D live ba .blocks (fun b => FirstKept live b ba true) true → Rel D st st' →
    RelRes (QSt D) (runWhile n P st (.mk (blocksOf bb)) (.mk (blocksOf ba)) args)
      (runWhile M P' st' (.mk (blocksOf (delA live bb true maskb))) (.mk (blocksOf (delA live ba true maska))) args)
  call : ∀ M, n ≤ M → ∀ st st' name args, Rel D st st' →
    RelRes (QSt D) (callFunc n P st name args) (callFunc M P' st' name args)

variable {P P' : Prog}

theorem simAt_zero : SimAt D live P P' 0 where
  ops := fun _ _ _ _ _ _ _ _ _ _ => by rw [runOps]; trivial
  op := fun _ _ _ _ _ _ _ _ _ _ _ => by rw [runOp]; trivial
  region := fun _ _ _ _ _ _ _ _ _ => by rw [runRegion]; trivial
  block := fun _ _ _ _ _ _ _ _ _ _ _ => by rw [runBlock]; trivial
  for_ := fun _ _ _ _ _ _ _ _ _ _ _ _ _ => by rw [runFor]; trivial
  while_ := fun _ _ _ _ _ _ _ _ _ _ _ _ => by rw [runWhile]; trivial
  call := fun _ _ _ _ _ _ _ => by rw [callFunc]; trivial

theorem ops_step {n : Nat} (ih : SimAt D live P P' n) (M : Nat) (hM : n ≤ M) (a : AT) (K : Nat → Prop)
    (f : Bool) (mask : List Bool) (st st' : St) (hok : SimOK P D live a .ops K f) (hr : Rel D st st') :
    RelRes (QOps D K) (runOps (n + 1) P st (opsOf a)) (runOps (M + 1) P' st' (opsOf (delA live a false mask))) := by
  cases a with
  | nil => rw [opsOf_nil, runOps_nil]; trivial
  | block _ _ _ _ => exact hok.elim
  | region _ _ => exact hok.elim
  | op h m rs next =>
    obtain ⟨hhead, hnext⟩ := hok
    rw [opsOf_op, runOps]
    cases hc : live.contains h.id with
    | true =>
      simp only [hc, if_true] at hhead
      obtain ⟨hu, hk, hrs⟩ := hhead
      simp only [delA, hc, if_true, opsOf_op]
      rw [runOps]
      refine (ih.op M hM m rs K st st' hu hk hrs hr).elim ?_ (fun _ _ => trivial) (fun _ => trivial) (fun _ _ => trivial)
      rintro ⟨s1, t⟩ ⟨s1', t'⟩ ⟨ht, hr1, hkk⟩
      simp only at ht hr1 hkk
      subst ht
      cases t' with
      | none => exact ih.ops M hM next K false mask s1 s1' hnext hr1
      | some t => exact .of_ok ⟨rfl, hr1, fun bb vs h => hkk bb vs (by simp only at h; rw [h])⟩
    | false =>
      simp only [hc, Bool.false_eq_true, if_false] at hhead
      simp only [delA, hc, Bool.false_eq_true, if_false]
      cases hL : runOp n P st (mkOp m (regionsOf rs)) with
      | ok p =>
        obtain ⟨s1, t⟩ := p
        obtain ⟨ht, hq⟩ := hhead n st s1 t hL
        subst ht
        exact ih.ops (M + 1) (by omega) next K false mask s1 st' hnext (hq.symm.trans hr)
      | ub w => trivial
      | fuel => trivial
      | err x => trivial

theorem regions_sim {rs : AT} {K : Nat → Prop} {f : Bool} (h : SimOK P D live rs .regions K f) (f' : Bool) (mk : List Bool) :
    ∃ l : List (AT × List Bool),
      regionsOf rs = l.map (fun p => Region.mk (blocksOf p.1))
      ∧ regionsOf (delA live rs f' mk) = l.map (fun p => Region.mk (blocksOf (delA live p.1 true p.2)))
      ∧ ∀ p ∈ l, SimOK P D live p.1 .blocks (fun b => FirstKept live b p.1 true) true := by
  induction rs generalizing K f f' mk with
  | nil => exact ⟨[], rfl, rfl, fun _ hp => by cases hp⟩
  | op _ _ _ _ _ _ => exact h.elim
  | block _ _ _ _ _ _ => exact h.elim
  | region bs next _ ihn =>
    obtain ⟨h1, h2⟩ := h
    obtain ⟨l, e1, e2, e3⟩ := ihn h2 true []
    refine ⟨(bs, keepMaskA live bs true) :: l, by simp [e1], by simp [delA, e2], ?_⟩
    intro p hp
    rcases List.mem_cons.mp hp with rfl | hp
    · exact h1
    · exact e3 p hp

theorem op_step {n : Nat} (ih : SimAt D live P P' n) (M : Nat) (hM : n ≤ M) (m : MHdr) (rs : AT) (K : Nat → Prop)
    (st st' : St) (hu : ∀ v ∈ uses m, ¬ D v) (hk : ∀ s ∈ m.succs, K s.1)
    (hrs : SimOK P D live rs .regions (fun _ => True) true) (hr : Rel D st st') :
    RelRes (QOp D K) (runOp (n + 1) P st (mkOp m (regionsOf rs)))
      (runOp (M + 1) P' st' (mkOp m (regionsOf (delA live rs true [])))) := by
  obtain ⟨l, e1, e2, e3⟩ := regions_sim hrs true []
  rw [e1, e2]
  refine (runOp_rel (R := Rel D) (l := l) (f := fun p => .mk (blocksOf p.1))
    (g := fun p => .mk (blocksOf (delA live p.1 true p.2))) hr (gets_rel hr fun v hv => hu v (by simp [uses, hv]))
    (fun s hs => gets_rel hr fun v hv => hu v (by
      simp only [uses, List.mem_append, List.mem_flatMap]; exact Or.inr ⟨s, hs, hv⟩))
    hk (fun h hb => bind_rel h hb) (fun args => ?_)
    (fun _ c args => ih.call M hM st st' c args hr)
    (fun _ p hp args => ih.region M hM p.1 p.2 st st' args (e3 p hp) hr)
    (fun _ p hp w i ub step iters => ih.for_ M hM p.1 p.2 st st' w i ub step iters (e3 p hp) hr)
    (fun _ p hp q hq args => ih.while_ M hM p.1 q.1 p.2 q.2 st st' args (e3 p hp) (e3 q hq) hr)).imp
    fun _ _ h => h.toQOp
  -- the region-free state operations neither read nor change the environment or the effect log
  have e : stateM st' m args = (stateM st m args).map (frameMap st'.env st.eff) := by
    conv => lhs; rw [hr.eq_with]
    exact stateOp_frame st st'.env st.eff (mkOp m []) args
  cases hs : stateM st m args with
  | none => rw [e, hs]; rfl
  | some r =>
    cases r with
    | ok p =>
      obtain ⟨s1, vs⟩ := p
      exact ⟨{ s1 with env := st'.env, eff := st.eff }, by rw [e, hs]; rfl,
        (stateOp_keeps hs).2.symm, rfl, rfl, fun v hv => by rw [(stateOp_keeps hs).1]; exact hr.env v hv⟩
    | ub w => trivial
    | fuel => trivial
    | err x => trivial

theorem region_step {n : Nat} (ih : SimAt D live P P' n) (M : Nat) (hM : n ≤ M) (bs : AT) (mask : List Bool)
    (st st' : St) (args : List Val) (hok : SimOK P D live bs .blocks (fun b => FirstKept live b bs true) true)
    (hr : Rel D st st') :
    RelRes (QSt D) (runRegion (n + 1) P st (.mk (blocksOf bs)) args)
      (runRegion (M + 1) P' st' (.mk (blocksOf (delA live bs true mask))) args) := by
  cases bs with
  | nil => rw [runRegion]; trivial
  | op _ _ _ _ => exact hok.elim
  | region _ _ => exact hok.elim
  | block i a ops next =>
    rw [runRegion, runRegion]
    simp only [delA, Bool.not_true, Bool.false_and, Bool.false_eq_true, if_false, blocksOf_block, region_blocks_mk,
      block_id_mk]
    refine ih.block M hM _ mask st st' i args hok ?_ hr
    simp [FirstKept]

theorem find_block {K : Nat → Prop} (b : Nat) (mask : List Bool) (bs : AT) : ∀ (first : Bool),
    SimOK P D live bs .blocks K first → FirstKept live b bs first →
    ∀ B, findBlock (.mk (blocksOf bs)) b = some B →
      ∃ i args ops, B = .mk i args (opsOf ops) ∧ SimOK P D live ops .ops K false
        ∧ findBlock (.mk (blocksOf (delA live bs first mask))) b = some (.mk i args (opsOf (delA live ops false mask))) := by
  induction bs with
  | nil => intro _ _ _ B h; simp [findBlock, Region.blocks] at h
  | op _ _ _ _ _ _ => intro _ h; exact h.elim
  | region _ _ _ _ => intro _ h; exact h.elim
  | block i a ops next _ ihn =>
    intro first hs hk B hB
    obtain ⟨hs1, hs2⟩ := hs
    simp only [FirstKept] at hk
    simp only [findBlock, region_blocks_mk, blocksOf_block, List.find?_cons, block_id_mk] at hB
    by_cases hib : i = b
    · subst hib
      simp only [decide_true] at hB
      simp only [if_true] at hk
      cases hB
      have hkeep : (!first && !anyLiveA live ops) = false := by
        rcases hk with h | h <;> simp [h]
      refine ⟨i, a, ops, rfl, hs1 hk, ?_⟩
      simp [delA, hkeep, findBlock]
    · simp only [hib, decide_false] at hB
      simp only [hib, if_false] at hk
      obtain ⟨i', a', ops', e1, e2, e3⟩ := ihn false hs2 hk B (by simpa [findBlock] using hB)
      refine ⟨i', a', ops', e1, e2, ?_⟩
      simp only [delA]
      split
      · exact e3
      · simp only [findBlock, region_blocks_mk, blocksOf_block, List.find?_cons, block_id_mk, hib, decide_false]
        simpa [findBlock] using e3

theorem block_step {n : Nat} (ih : SimAt D live P P' n) (M : Nat) (hM : n ≤ M) (bs : AT) (mask : List Bool)
    (st st' : St) (bid : Nat) (args : List Val)
    (hok : SimOK P D live bs .blocks (fun b => FirstKept live b bs true) true)
    (hk : FirstKept live bid bs true) (hr : Rel D st st') :
    RelRes (QSt D) (runBlock (n + 1) P st (.mk (blocksOf bs)) bid args)
      (runBlock (M + 1) P' st' (.mk (blocksOf (delA live bs true mask))) bid args) := by
  rw [runBlock, runBlock]
  cases hf : findBlock (.mk (blocksOf bs)) bid with
  | none => trivial
  | some B =>
    obtain ⟨i, a, ops, rfl, hops, hf'⟩ := find_block bid mask bs true hok hk B hf
    rw [hf']
    simp only [Block.args, Block.ops]
    cases hb : st.bind a args with
    | ok s0 =>
      obtain ⟨s0', hb', hr0⟩ := bind_rel hr hb
      rw [hb']
      simp only
      refine (ih.ops M hM ops _ false mask s0 s0' hops hr0).elim ?_ (fun _ _ => trivial) (fun _ => trivial) (fun _ _ => trivial)
      rintro ⟨s1, t⟩ ⟨s1', t'⟩ ⟨ht, hr1, hkk⟩
      simp only at ht hr1 hkk
      subst ht
      cases t' with
      | br b' as => exact ih.block M hM bs mask s1 s1' b' as hok (hkk b' as rfl) hr1
      | ret vs => exact .of_ok ⟨rfl, hr1⟩
      | yield vs => exact .of_ok ⟨rfl, hr1⟩
      | cond c vs => exact .of_ok ⟨rfl, hr1⟩
    | ub w => trivial
    | fuel => trivial
    | err x => trivial

theorem for_step {n : Nat} (ih : SimAt D live P P' n) (M : Nat) (hM : n ≤ M) (bs : AT) (mask : List Bool)
    (st st' : St) (w : Nat) (i ub step : Int) (iters : List Val)
    (hok : SimOK P D live bs .blocks (fun b => FirstKept live b bs true) true) (hr : Rel D st st') :
    RelRes (QSt D) (runFor (n + 1) P st (.mk (blocksOf bs)) w i ub step iters)
      (runFor (M + 1) P' st' (.mk (blocksOf (delA live bs true mask))) w i ub step iters) := by
  rw [runFor, runFor]
  split
  · have hq := ih.region M hM bs mask st st' (.int w (BitVec.ofInt w i) :: iters) hok hr
    subrun (runRegion n P st (.mk (blocksOf bs)) (.int w (BitVec.ofInt w i) :: iters)) using hq
    rename_i s1 s1' t _ hr1 _
    cases t with
    | yield vs => exact ih.for_ M hM bs mask s1 s1' w (i + step) ub step vs hok hr1
    | ret vs => trivial
    | br b as => trivial
    | cond c vs => trivial
  · exact .of_ok ⟨rfl, hr⟩

theorem while_step {n : Nat} (ih : SimAt D live P P' n) (M : Nat) (hM : n ≤ M) (bb ba : AT)
    (maskb maska : List Bool) (st st' : St) (args : List Val)
    (hb : SimOK P D live bb .blocks (fun b => FirstKept live b bb true) true)
    (ha : SimOK P D live ba .blocks (fun b => FirstKept live b ba true) true) (hr : Rel D st st') :
    RelRes (QSt D) (runWhile (n + 1) P st (.mk (blocksOf bb)) (.mk (blocksOf ba)) args)
      (runWhile (M + 1) P' st' (.mk (blocksOf (delA live bb true maskb))) (.mk (blocksOf (delA live ba true maska))) args) := by
  rw [runWhile, runWhile]
  have hq := ih.region M hM bb maskb st st' args hb hr
  subrun (runRegion n P st (.mk (blocksOf bb)) args) using hq
  rename_i s1 s1' t _ hr1 _
  cases t with
  | cond c vs =>
    cases c with
    | false => exact .of_ok ⟨rfl, hr1⟩
    | true =>
      simp only [if_true]
      have hq2 := ih.region M hM ba maska s1 s1' vs ha hr1
      subrun (runRegion n P s1 (.mk (blocksOf ba)) vs) using hq2
      rename_i s2 s2' t2 _ hr2 _
      cases t2 with
      | yield ws => exact ih.while_ M hM bb ba maskb maska s2 s2' ws hb ha hr2
      | ret vs => trivial
      | br b as => trivial
      | cond c vs => trivial
  | ret vs => trivial
  | br b as => trivial
  | yield vs => trivial

theorem call_step {n : Nat} (hc : CallOK D live P P') (ih : SimAt D live P P' n) (M : Nat) (hM : n ≤ M)
    (st st' : St) (name : String) (args : List Val) (hr : Rel D st st') :
    RelRes (QSt D) (callFunc (n + 1) P st name args) (callFunc (M + 1) P' st' name args) := by
  rw [callFunc, callFunc]
  cases hf : findFunc P name with
  | none => trivial
  | some fn =>
    obtain ⟨fn', hf', hbody⟩ := hc name fn hf
    rw [hf']
    simp only
    rcases hbody with ⟨h1, h2⟩ | ⟨bs, mask, h1, h2, hok⟩
    · rw [h1, h2]
      refine .of_ok ⟨rfl, ⟨?_, hr.sym, hr.mem, hr.env⟩⟩
      simp only [hr.eff]
    · rw [h1, h2]
      simp only
      have hr0 : Rel D { env := [], eff := st.eff, sym := [], mem := st.mem }
          { env := [], eff := st'.eff, sym := [], mem := st'.mem } :=
        ⟨hr.eff, rfl, hr.mem, fun _ _ => rfl⟩
      have hq := ih.region M hM bs mask _ _ args hok hr0
      subrun (runRegion n P { env := [], eff := st.eff, sym := [], mem := st.mem } (.mk (blocksOf bs)) args) using hq
      rename_i s1 s1' t _ hr1 _
      cases t with
      | ret vs => exact .of_ok ⟨rfl, ⟨hr1.eff, hr.sym, hr1.mem, hr.env⟩⟩
      | yield vs => trivial
      | br b as => trivial
      | cond c vs => trivial

theorem simAt_succ (hc : CallOK D live P P') {n : Nat} (ih : SimAt D live P P' n) : SimAt D live P P' (n + 1) := by
  have lift : ∀ {Q : Nat → Prop}, (∀ M, n ≤ M → Q (M + 1)) → ∀ M, n + 1 ≤ M → Q M := fun h M hM =>
    match M, hM with
    | M + 1, hM => h M (Nat.le_of_succ_le_succ hM)
  exact {
    ops := lift (ops_step ih)
    op := lift (op_step ih)
    region := lift (region_step ih)
    block := lift (block_step ih)
    for_ := lift (for_step ih)
    while_ := lift (while_step ih)
    call := lift (call_step hc ih) }

theorem sim_all (hc : CallOK D live P P') : ∀ n, SimAt D live P P' n := by
  intro n
  induction n with
  | zero => exact simAt_zero
  | succ n ih => exact simAt_succ hc ih

theorem run_sim (hc : CallOK D live P P') {f : String} {args : List Val} {n M : Nat} (hM : n ≤ M)
    {r : List Val × List Effect} (h : run P f args n = .ok r) : run P' f args M = .ok r := by
  unfold run at h ⊢
  have hq := (sim_all hc n).call M hM {} {} f args (Rel.refl _)
  cases hL : callFunc n P {} f args with
  | ok x =>
    rw [hL] at hq h
    obtain ⟨s1, vs⟩ := x
    obtain ⟨⟨s1', vs'⟩, hR, hv, hr1⟩ := hq
    simp only at hv hr1 h
    subst hv
    rw [hR]
    simp only [hr1.eff]
    exact h
  | ub w => rw [hL] at h; cases h
  | fuel => rw [hL] at h; cases h
  | err x => rw [hL] at h; cases h

end Xdsl.DCEM
