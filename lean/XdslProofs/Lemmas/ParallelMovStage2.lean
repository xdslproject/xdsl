import XdslProofs.Lemmas.ParallelMovStage1
import XdslProofs.Lemmas.ParallelMovCycle
/-!
Lemmas for C20: the cycle stage (`stage2`): breaking a cycle through a designated free register
(`tempWalk`) and by a chain of xor swaps (`xorChain`).  Both walk backwards around the cycle from a
register `s₀` whose old content is parked elsewhere.
-/
namespace Xdsl.ParallelMov

open Env

variable {n : Nat} {e : Env} {ρ₀ : RegFile n} {s₀ loc : Reg} {P : List Reg} {x : Reg} {st : St}

/-- Position `x` of a walk around a cycle: `x` is the register about to be overwritten (all its
children are done, or it is `s₀`, whose old content is parked in `loc`). -/
structure Walk (e : Env) (ρ₀ : RegFile n) (s₀ loc : Reg) (P : List Reg) (x : Reg) (st : St) :
    Prop where
  book : Book e s₀ P st.results
  regs : Regs e ρ₀ s₀ loc P (exec st.ops ρ₀)
  cyc : OnlyCycles e P
  hx : x ∉ P
  par : ∃ p, Edge e p x
  hch : ∀ y, Edge e x y → y ∈ P ∨ x = s₀

theorem Walk.start (w : WF e) (inv : Inv e ρ₀ P st) (cyc : OnlyCycles e P) {d₀ : Reg} (hE : Edge e s₀ d₀)
    (hd : d₀ ∉ P) : Walk e ρ₀ s₀ s₀ P s₀ st :=
  have hs := inv.parent_unprocessed hE hd
  have h := inv.split hs (hE.src_not_free w)
  ⟨h.1, h.2, cyc, hs, cyc.par d₀ s₀ hd hE, fun _ _ => Or.inr rfl⟩

theorem Walk.save (w : WF e) (wk : Walk e ρ₀ s₀ s₀ P x st) {t : Reg} (ht : t ∈ e.free) {ins : Instr}
    (hmv : IsMove ins t s₀) : Walk e ρ₀ s₀ t P x { st with ops := st.ops ++ [ins] } := by
  refine ⟨wk.book, ?_, wk.cyc, wk.hx, wk.par, wk.hch⟩
  show Regs e ρ₀ s₀ t P (exec (st.ops ++ [ins]) ρ₀)
  rw [exec_emit hmv]
  exact wk.regs.save (fun h => (wk.book.sub t h).elim fun s hs => hs.dst_not_free w ht)
    (w.freeOk t ht).1

theorem Walk.parent_unprocessed (wk : Walk e ρ₀ s₀ loc P x st) {p : Reg} (hE : Edge e p x)
    (hp : p ≠ s₀) : p ∉ P :=
  fun h => (wk.book.closed p h x hE).elim wk.hx hp

/-- Once the edge `p → x` has been performed, the walk stands at `p`: the only unprocessed child of `p`
was `x`. -/
theorem Walk.next (wk : Walk e ρ₀ s₀ loc P x st) {p : Reg} (hE : Edge e p x) (hp : p ≠ s₀)
    {loc' : Reg} {st' : St} (hb : Book e s₀ (x :: P) st'.results)
    (hr : Regs e ρ₀ s₀ loc' (x :: P) (exec st'.ops ρ₀)) : Walk e ρ₀ s₀ loc' (x :: P) p st' := by
  refine ⟨hb, hr, wk.cyc.mono fun y hy => List.mem_cons_of_mem _ hy, ?_, wk.cyc.par x p wk.hx hE, ?_⟩
  · exact fun h => (List.mem_cons.mp h).elim hE.ne (wk.parent_unprocessed hE hp)
  · intro y hy
    by_cases hyP : y ∈ P
    · exact Or.inl (List.mem_cons_of_mem _ hyP)
    · rw [wk.cyc.inj y x p hyP wk.hx hy hE]
      exact Or.inl List.mem_cons_self

theorem Walk.copy (w : WF e) {t : Reg} (wk : Walk e ρ₀ s₀ t P x st) (ht : t ∈ e.free) {p : Reg}
    (hE : Edge e p x) (hp : p ≠ s₀) {ins : Instr} (hmv : IsMove ins x p) {i : Nat}
    (ho : e.outIdx x = some i) (v : Val) :
    Walk e ρ₀ s₀ t (x :: P) p (setResult { st with ops := st.ops ++ [ins] } i v) := by
  refine wk.next hE hp (wk.book.cons w hE wk.hch ho v) ?_
  show Regs e ρ₀ s₀ t (x :: P) (exec (st.ops ++ [ins]) ρ₀)
  rw [exec_emit hmv]
  exact wk.regs.copy w hE wk.hx (fun h : x = t => hE.dst_not_free w (h ▸ ht))
    (wk.regs.keep p (wk.parent_unprocessed hE hp) (fun h : p = t => hE.src_not_free w (h ▸ ht))
      (hE.src_not_free w))

theorem Walk.swap (w : WF e) {out inp : Reg} (wk : Walk e ρ₀ s₀ out P out st) (hE : Edge e inp out)
    (hp : inp ≠ s₀) (hiz : inp ≠ Reg.zero) {i : Nat} (ho : e.outIdx out = some i) (v : Val) :
    Walk e ρ₀ s₀ inp (out :: P) inp
      (setResult { st with ops := st.ops ++ [.xor inp inp out, .xor out inp out, .xor inp inp out] }
        i v) := by
  refine wk.next hE hp (wk.book.cons w hE wk.hch ho v) ?_
  show Regs e ρ₀ s₀ inp (out :: P) (exec (st.ops ++ _) ρ₀)
  rw [exec_append]
  exact wk.regs.swap w hE wk.hx (wk.parent_unprocessed hE hp) hiz

/-- Closing the cycle: the walk is back at the child `d` of `s₀` and `d` has received the parked
content; `d` was the only unprocessed child of `s₀`. -/
theorem Walk.close {d : Reg} (wk : Walk e ρ₀ s₀ loc P d st) (hE : Edge e s₀ d) {st' : St}
    (hb : Book e s₀ (d :: P) st'.results) (hr : Regs e ρ₀ s₀ loc (d :: P) (exec st'.ops ρ₀))
    (hloc : loc = d ∨ loc ∈ e.free) : Inv e ρ₀ (d :: P) st' := by
  refine Inv.join hb hr (fun _ y hy => ?_) ?_
  · by_cases hyP : y ∈ P
    · exact List.mem_cons_of_mem _ hyP
    · rw [wk.cyc.inj y d s₀ hyP wk.hx hy hE]
      exact List.mem_cons_self
  · rcases hloc with h | h
    · exact Or.inl (h ▸ List.mem_cons_self)
    · exact Or.inr (Or.inl h)

theorem tempWalk_spec (w : WF e) {d₀ t : Reg} (hE₀ : Edge e s₀ d₀) (ht : t ∈ e.free) :
    ∀ (fuel : Nat) (x : Reg) (P : List Reg) (st : St),
      Walk e ρ₀ s₀ t P x st → d₀ ∉ P → (unprocessed e P).length < fuel →
      Ends (tempWalk e d₀ fuel x st) (WidthErr e) fun st' =>
        ∃ P', Walk e ρ₀ s₀ t P' d₀ st' ∧ ∀ y ∈ P, y ∈ P' := by
  intro fuel
  induction fuel with
  | zero => intro x P st _ _ h; exact absurd h (Nat.not_lt_zero _)
  | succ fuel ih =>
    intro x P st wk hd hfuel
    unfold tempWalk
    by_cases hxd : x = d₀
    · rw [if_pos hxd]
      exact Ends.ok ⟨P, hxd ▸ wk, fun y hy => hy⟩
    · rw [if_neg hxd]
      obtain ⟨p, hE⟩ := wk.par
      -- `s₀` has one unprocessed child, `d₀`
      have hp : p ≠ s₀ := fun h => hxd (wk.cyc.inj x d₀ s₀ wk.hx hd (h ▸ hE) hE₀)
      simp only [edge_pred w hE]
      rcases emitMv_cases st ⟨.src, p⟩ x (e.widthOf p) with ⟨hem, hw⟩ | ⟨ins, hem, hmv⟩
      · simp only [hem]
        exact Ends.error ⟨rfl, fun h => hw (widthOf_ok h hE)⟩
      · simp only [hem]
        obtain ⟨i, _, _, _, _, ho⟩ := hE.exists_outIdx w
        simp only [ho]
        have hlt := unprocessed_cons_lt w (mem_unprocessed.mpr ⟨⟨p, hE⟩, wk.hx⟩)
        refine (ih p (x :: P) _ (wk.copy w ht hE hp hmv ho _) ?_ (by omega)).mono (fun _ h => h) ?_
        · exact fun h => (List.mem_cons.mp h).elim (fun h' => hxd h'.symm) hd
        · rintro st' ⟨P', wk', hsub⟩
          exact ⟨P', wk', fun y hy => hsub y (List.mem_cons_of_mem _ hy)⟩

/-- `out` holds the travelling value (the old content of `s₀`), `inp` is its parent.  The chain never
fails. -/
theorem xorChain_spec (w : WF e) {E : Err → Prop} :
    ∀ (fuel : Nat) (out inp : Val) (P : List Reg) (st : St),
      Walk e ρ₀ s₀ out.reg P out.reg st → Edge e inp.reg out.reg →
      (unprocessed e P).length < fuel →
      Ends (xorChain e s₀ fuel out inp st) E fun st' =>
        ∃ P', Inv e ρ₀ P' st' ∧ ∀ y ∈ out.reg :: P, y ∈ P' := by
  intro fuel
  induction fuel with
  | zero => intro out inp P st _ _ h; exact absurd h (Nat.not_lt_zero _)
  | succ fuel ih =>
    intro out inp P st wk hE hfuel
    unfold xorChain
    obtain ⟨i, _, _, _, _, ho⟩ := hE.exists_outIdx w
    by_cases hstart : inp.reg = s₀
    · -- the travelling value has arrived at the child of `s₀`
      rw [if_pos hstart]
      simp only [ho]
      rw [hstart] at hE
      exact Ends.ok ⟨out.reg :: P,
        wk.close hE (wk.book.cons w hE wk.hch ho out) (wk.regs.arrive w hE) (Or.inl rfl),
        fun y hy => hy⟩
    · rw [if_neg hstart]
      obtain ⟨p, hEp⟩ := wk.cyc.par _ _ wk.hx hE
      simp only [emitSwap, ho]
      simp only [edge_pred w hEp]
      have hlt := unprocessed_cons_lt w (mem_unprocessed.mpr ⟨⟨_, hE⟩, wk.hx⟩)
      refine (ih ⟨.op (st.ops.length + 2), inp.reg⟩ ⟨.src, p⟩ (out.reg :: P) _
        (wk.swap w hE hstart hEp.dst_ne_zero ho _) hEp (by omega)).mono (fun _ h => h) ?_
      rintro st' ⟨P', inv', hsub⟩
      exact ⟨P', inv', fun y hy => hsub y (List.mem_cons_of_mem _ hy)⟩

/-- What the tree stage leaves behind is a union of cycles: every unprocessed register lies on a cycle of
the move graph.  Taking the parent maps the unprocessed registers into themselves (`par`, and `P` is
closed) and no register is the parent of two of them (`inj`). -/
theorem OnlyCycles.on_cycle (cyc : OnlyCycles e P) (hcl : ∀ d ∈ P, ∀ x, Edge e d x → x ∈ P) {d : Reg}
    (hd : d ∈ unprocessed e P) : Relation.TransGen (Edge e) d d :=
  cycle_of_parents (U := unprocessed e P)
    (fun u hu => by
      obtain ⟨⟨s, hE⟩, huP⟩ := mem_unprocessed.mp hu
      exact ⟨s, mem_unprocessed.mpr ⟨cyc.par u s huP hE, fun h => huP (hcl s h u hE)⟩, hE⟩)
    (fun p u hu u' hu' h h' =>
      cyc.inj u u' p (mem_unprocessed.mp hu).2 (mem_unprocessed.mp hu').2 h h')
    hd

/-- What a failure of the cycle stage means: an unsupported width, or `Float cyclic move without
free register` — then no float register is designated free, and a float register lies on a cycle of
the move graph. -/
def CycleErr (e : Env) (x : Err) : Prop :=
  WidthErr e x ∨
    (x = .floatCycle ∧ e.freeOf .flt = [] ∧ ∃ d, d.kind = .flt ∧ Relation.TransGen (Edge e) d d)

/-- Every operand whose result is still unset is an unprocessed edge; the cycle through it is
processed, by either method.  At the end every operand is accounted for. -/
theorem stage2_spec (w : WF e) :
    ∀ (l : List (Nat × Move)) (st : St) (P : List Reg),
      (∀ p ∈ l, e.moves[p.1]? = some p.2) → Inv e ρ₀ P st → OnlyCycles e P →
      Ends (stage2 e l st) (CycleErr e) fun st' =>
        ∃ P', Inv e ρ₀ P' st' ∧ (∀ x ∈ P, x ∈ P') ∧
          ∀ p ∈ l, p.2.src = p.2.dst ∨ p.2.dst = Reg.zero ∨ p.2.dst ∈ P' := by
  intro l
  induction l with
  | nil =>
    intro st P _ inv _
    exact Ends.ok ⟨P, inv, fun x hx => hx, fun p hp => absurd hp List.not_mem_nil⟩
  | cons hd rest ih =>
    obtain ⟨i, m⟩ := hd
    intro st P hl inv cyc
    have hm : e.moves[i]? = some m := hl (i, m) List.mem_cons_self
    have hl' : ∀ p ∈ rest, e.moves[p.1]? = some p.2 := fun p hp => hl p (List.mem_cons_of_mem _ hp)
    -- the rest of the loop, once `m` is accounted for
    have cont : ∀ (st1 : St) (P1 : List Reg), Inv e ρ₀ P1 st1 → (∀ x ∈ P, x ∈ P1) →
        (m.src = m.dst ∨ m.dst = Reg.zero ∨ m.dst ∈ P1) →
        Ends (stage2 e rest st1) (CycleErr e) fun st' =>
          ∃ P', Inv e ρ₀ P' st' ∧ (∀ x ∈ P, x ∈ P') ∧
            ∀ p ∈ (i, m) :: rest, p.2.src = p.2.dst ∨ p.2.dst = Reg.zero ∨ p.2.dst ∈ P' := by
      intro st1 P1 inv1 hsub1 hd1
      refine (ih st1 P1 hl' inv1 (cyc.mono hsub1)).mono (fun _ h => h) ?_
      rintro st' ⟨P', inv', hsub, hall⟩
      refine ⟨P', inv', fun x hx => hsub x (hsub1 x hx), fun p hp => ?_⟩
      rcases List.mem_cons.mp hp with rfl | hp
      · exact hd1.imp_right (Or.imp_right (hsub _))
      · exact hall p hp
    unfold stage2
    by_cases hsome : (st.results.getD i none).isSome = true
    · rw [if_pos hsome]
      exact cont st P inv (fun x hx => hx) ((inv.res i m hm).mp hsome)
    · rw [if_neg hsome]
      have hnot := fun hc => hsome ((inv.res i m hm).mpr hc)
      have hmem := List.mem_of_getElem? hm
      have hE : Edge e m.src m.dst :=
        ⟨m, hmem, rfl, rfl, fun h => hnot (Or.inl h), fun h => hnot (Or.inr (Or.inl h))⟩
      have hdP : m.dst ∉ P := fun h => hnot (Or.inr (Or.inr h))
      have wk := Walk.start w inv cyc hE hdP
      have hfuel := Nat.lt_succ_of_le (unprocessed_length_le e P)
      cases hfree : e.freeOf m.dst.kind with
      | nil =>
        simp only
        by_cases hk : m.dst.kind ≠ Kind.int
        · rw [if_pos hk]
          have hflt : m.dst.kind = .flt := by
            cases hkk : m.dst.kind with
            | int => exact absurd hkk hk
            | flt => rfl
          exact Ends.error (Or.inr ⟨rfl, hflt ▸ hfree, m.dst, hflt,
            cyc.on_cycle inv.closed (mem_unprocessed.mpr ⟨⟨_, hE⟩, hdP⟩)⟩)
        · rw [if_neg hk]
          obtain ⟨p, hEp⟩ := wk.par
          simp only [edge_pred w hEp]
          have hx := xorChain_spec w (E := CycleErr e) (e.moves.length + 1) ⟨.src, m.src⟩ ⟨.src, p⟩
            P st wk hEp hfuel
          generalize xorChain e m.src (e.moves.length + 1) ⟨.src, m.src⟩ ⟨.src, p⟩ st = r at hx ⊢
          cases r with
          | error x => exact hx
          | ok st1 =>
            obtain ⟨P1, inv1, hsub1⟩ := hx
            exact cont st1 P1 inv1 (fun x hx => hsub1 x (List.mem_cons_of_mem _ hx))
              (Or.inr (Or.inr (inv1.closed _ (hsub1 _ List.mem_cons_self) _ hE)))
      | cons t tl =>
        simp only
        have ht : t ∈ e.free :=
          (List.mem_filter.mp (hfree ▸ List.mem_cons_self : t ∈ e.freeOf m.dst.kind)).1
        have hbad : ¬ (m.w = 32 ∨ m.w = 64) → CycleErr e .width :=
          fun hw => Or.inl ⟨rfl, fun h => hw (h m hmem)⟩
        rcases emitMv_cases st ⟨.src, m.src⟩ t m.w with ⟨hem, hw⟩ | ⟨ins, hem, hmv⟩
        · simp only [hem]
          exact Ends.error (hbad hw)
        · simp only [hem]
          have htw := tempWalk_spec w hE ht (e.moves.length + 1) m.src P _ (wk.save w ht hmv) hdP
            hfuel
          generalize tempWalk e m.dst (e.moves.length + 1) m.src
            { st with ops := st.ops ++ [ins] } = r at htw ⊢
          cases r with
          | error x => exact Ends.error (Or.inl htw)
          | ok st2 =>
            obtain ⟨P2, wk2, hsub2⟩ := htw
            rcases emitMv_cases st2 ⟨.op st.ops.length, t⟩ m.dst m.w with
              ⟨hem2, hw⟩ | ⟨ins2, hem2, hmv2⟩
            · simp only [hem2]
              exact Ends.error (hbad hw)
            · simp only [hem2]
              -- `m.dst ← t` closes the cycle
              refine cont _ (m.dst :: P2) ?_ (fun x hx => List.mem_cons_of_mem _ (hsub2 x hx))
                (Or.inr (Or.inr List.mem_cons_self))
              refine wk2.close hE
                (wk2.book.cons w hE wk2.hch (w.outIdx_eq hm hE.dst_ne_zero) _) ?_ (Or.inr ht)
              show Regs e ρ₀ m.src t (m.dst :: P2) (exec (st2.ops ++ [ins2]) ρ₀)
              rw [exec_emit hmv2]
              exact wk2.regs.copy w hE wk2.hx (fun h : m.dst = t => hE.dst_not_free w (h ▸ ht))
                wk2.regs.saved

end Xdsl.ParallelMov
