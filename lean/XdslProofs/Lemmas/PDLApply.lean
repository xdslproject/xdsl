import XdslModel.PDL
/-!
The PDL rewrite section keeps the payload free of dangling uses (`IR.closed`).  Insertion and the substitution of
uses keep every (operation id, number of results) on offer (`Offers`), so a value that was available stays available
(`validIn_mono`) and only the values newly put to use need checking: `evalVal` has done it, and the results of a
replacing operation are those of an operation of the block.  Erasure takes an operation away only when `usesOp` finds
no use of it.
-/
namespace Xdsl.PDL
open Xdsl

/-- Prop form of `IR.closed` on the operation list -/
def Closed (nargs : Nat) (ops : List Op) : Prop :=
  ∀ x ∈ ops, ∀ v ∈ x.operands, validIn nargs ops v = true

theorem closed_iff (ir : IR) : ir.closed = true ↔ Closed ir.argTys.length ir.ops := by
  simp [IR.closed, IR.valid, Closed, List.all_eq_true]

variable {nargs : Nat} {ops ops' : List Op} {st st' : RState} {b : Binding}

theorem validIn_res {o i : Nat} :
    validIn nargs ops (.res o i) = true ↔ ∃ x ∈ ops, x.id = o ∧ i < x.resTys.length := by
  simp [validIn, List.any_eq_true]

def Offers (ops ops' : List Op) : Prop :=
  ∀ x ∈ ops, ∃ y ∈ ops', y.id = x.id ∧ y.resTys.length = x.resTys.length

theorem validIn_mono (h : Offers ops ops') {v : Val}
    (hv : validIn nargs ops v = true) : validIn nargs ops' v = true := by
  cases v with
  | arg k => simpa [validIn] using hv
  | res o i =>
    rw [validIn_res] at hv ⊢
    obtain ⟨x, hx, e1, e2⟩ := hv
    obtain ⟨y, hy, f1, f2⟩ := h x hx
    exact ⟨y, hy, by rw [f1, e1], by rw [f2]; exact e2⟩

theorem mem_insertBefore {a : OpId} {new : Op} (h : insertBefore ops a new = some ops') :
    ∀ y, y ∈ ops' ↔ y = new ∨ y ∈ ops := by
  fun_induction insertBefore ops a new generalizing ops' with
  | case1 => cases h
  | case2 x r _ => cases h; intro y; simp
  | case3 x r _ ih =>
    obtain ⟨r', hr, rfl⟩ := Option.map_eq_some_iff.1 h
    intro y
    simp only [List.mem_cons, ih hr y, or_left_comm]

theorem closed_insertBefore {a : OpId} {new : Op}
    (h : insertBefore ops a new = some ops') (hc : Closed nargs ops)
    (hnew : ∀ v ∈ new.operands, validIn nargs ops v = true) : Closed nargs ops' := by
  have hm := mem_insertBefore h
  have hoff : Offers ops ops' := fun x hx => ⟨x, (hm x).2 (Or.inr hx), rfl, rfl⟩
  intro x hx v hv
  rcases (hm x).1 hx with e | hx'
  · subst e; exact validIn_mono hoff (hnew v hv)
  · exact validIn_mono hoff (hc x hx' v hv)

theorem offers_substOps (src dst : Val) (ops : List Op) : Offers ops (substOps src dst ops) := by
  intro x hx
  exact ⟨{ x with operands := x.operands.map (substVal src dst) }, by
    simp only [substOps, List.mem_map]; exact ⟨x, hx, rfl⟩, rfl, rfl⟩

theorem closed_substOps (src dst : Val) (hc : Closed nargs ops)
    (hd : validIn nargs ops dst = true) : Closed nargs (substOps src dst ops) := by
  intro y hy v hv
  simp only [substOps, List.mem_map] at hy
  obtain ⟨x, hx, e⟩ := hy
  subst e
  simp only [List.mem_map] at hv
  obtain ⟨w, hw, e⟩ := hv
  subst e
  apply validIn_mono (offers_substOps src dst ops)
  unfold substVal
  split
  · exact hd
  · exact hc x hx w hw

theorem closed_replaceSeq (o : OpId) (k : Nat) (vs : List Val) (hc : Closed nargs ops)
    (hv : ∀ v ∈ vs, validIn nargs ops v = true) :
    Closed nargs (replaceSeq o k vs ops) := by
  fun_induction replaceSeq o k vs ops with
  | case1 => exact hc
  | case2 k v vs ops ih =>
    exact ih (closed_substOps (Val.res o k) v hc (hv v (List.mem_cons_self ..)))
      (fun w hw => validIn_mono (offers_substOps (Val.res o k) v ops) (hv w (List.mem_cons_of_mem _ hw)))

theorem closed_eraseOp {o : OpId} (h : eraseOp ops o = some ops')
    (hc : Closed nargs ops) : Closed nargs ops' := by
  unfold eraseOp at h
  split at h
  · cases h
  · rename_i hu
    cases h
    intro x hx v hv
    simp only [List.mem_filter] at hx
    have hval := hc x hx.1 v hv
    cases v with
    | arg k => simpa [validIn] using hval
    | res o' i =>
      rw [validIn_res] at hval ⊢
      obtain ⟨y, hy, e1, e2⟩ := hval
      refine ⟨y, ?_, e1, e2⟩
      simp only [List.mem_filter]
      refine ⟨hy, ?_⟩
      have hne : o' ≠ o := by
        intro e
        apply hu
        simp only [usesOp, List.any_eq_true]
        exact ⟨x, hx.1, Val.res o' i, hv, by simp [e]⟩
      simp [e1, hne]

theorem findOp_mem {o : OpId} {x : Op} (h : findOp ops o = some x) : x ∈ ops ∧ x.id = o := by
  fun_induction findOp ops o with
  | case1 => cases h
  | case2 y r => cases h; exact ⟨List.mem_cons_self .., rfl⟩
  | case3 y r o _ ih => exact ⟨List.mem_cons_of_mem _ (ih h).1, (ih h).2⟩

theorem evalVal_valid {r : RVal} {v : Val} (h : evalVal st b r = some v) :
    st.ir.valid v = true := by
  unfold evalVal at h
  split at h
  · cases h
  · split at h
    · rename_i hv; cases h; exact hv
    · cases h

theorem evalVals_valid {rs : List RVal} {vs : List Val} (h : evalVals st b rs = some vs) :
    ∀ v ∈ vs, st.ir.valid v = true := by
  fun_induction evalVals st b rs generalizing vs with
  | case1 => cases h; nofun
  | case2 r rs v vs' hvs hv ih =>
    cases h
    exact List.forall_mem_cons.2 ⟨evalVal_valid hv, ih hvs⟩
  | case3 => cases h

theorem evalOp_mem {r : ROp} {x : Op} (h : evalOp st b r = some x) : x ∈ st.ir.ops := by
  unfold evalOp at h
  split at h
  · cases h
  · exact (findOp_mem h).1

theorem closed_doReplace {x : Op} {vs : List Val} (h : doReplace st x vs = some st')
    (hc : Closed st.ir.argTys.length st.ir.ops) (hv : ∀ v ∈ vs, st.ir.valid v = true) :
    Closed st'.ir.argTys.length st'.ir.ops := by
  unfold doReplace at h
  split at h
  · split at h
    · rename_i ops hops
      cases h
      exact closed_eraseOp hops (closed_replaceSeq x.id 0 vs hc hv)
    · cases h
  · cases h

theorem closed_step {rootId : OpId} {a : Action} (h : step rootId b st a = some st')
    (hc : Closed st.ir.argTys.length st.ir.ops) : Closed st'.ir.argTys.length st'.ir.ops := by
  cases a with
  | create name operands attrs tys =>
    simp only [step] at h
    split at h
    · rename_i vs as ts hvs _ _
      split at h
      · rename_i ops hops
        cases h
        exact closed_insertBefore hops hc (fun v hv => evalVals_valid hvs v hv)
      · cases h
    · cases h
  | replaceVals t rs =>
    simp only [step] at h
    split at h
    · rename_i x vs _ hvs
      exact closed_doReplace h hc (evalVals_valid hvs)
    · cases h
  | replaceOp t w =>
    simp only [step] at h
    split at h
    · rename_i x y _ hy
      refine closed_doReplace h hc ?_
      intro v hv
      simp only [List.mem_map, List.mem_range] at hv
      obtain ⟨k, hk, e⟩ := hv
      subst e
      have := evalOp_mem hy
      simp only [IR.valid]
      rw [validIn_res]
      exact ⟨y, this, rfl, hk⟩
    · cases h
  | erase t =>
    simp only [step] at h
    split at h
    · split at h
      · rename_i ops hops
        cases h
        exact closed_eraseOp hops hc
      · cases h
    · cases h

theorem closed_steps {rootId : OpId} {rw : List Action} (h : steps rootId b st rw = some st')
    (hc : Closed st.ir.argTys.length st.ir.ops) : Closed st'.ir.argTys.length st'.ir.ops := by
  fun_induction steps rootId b st rw with
  | case1 => cases h; exact hc
  | case2 => cases h
  | case3 st a r st1 h1 ih => exact ih h (closed_step h1 hc)

end Xdsl.PDL
