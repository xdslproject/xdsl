import XdslProofs.Lemmas.AffineFlat
import XdslProofs.Lemmas.AffineSubst
import XdslProofs.Lemmas.AffineScope
/-!
# C26 — affine expression algebra preserves values (property theorems)

"Building affine expressions with addition, constant multiplication, floor division, ceiling
division and modulo by positive constants, simplifying them, composing them with affine maps,
replacing dimensions and symbols, and printing and re-parsing them all preserve the value the
expression evaluates to for every assignment of its dimensions and symbols."

All theorems are about the model `XdslModel/Affine.lean`; `eval ρd ρs e` is the value of `e` under
the assignment `ρd` of dimensions and `ρs` of symbols, *for every* assignment (functions
`Nat → Int`, so no box).  Python's `//`, `%` are `Int.fdiv`, `Int.fmod`; for a positive divisor they
are characterised below against the mathematical floor / ceiling / remainder, so that the statements
do not depend on reading `Int.fdiv` correctly.  The print/parse clause is in `C26Parse.lean`.  The theorems
about the single constructors (`mkAdd_eval`, `mkMul_eval`, `mkDiv_eval`, …) are in `Lemmas/AffineCtor.lean`
(the flattener proofs need them), `replace_eval` and `evalPy_sound` in `Lemmas/AffineSubst.lean` (the parser
proofs need `replace_eval`: re-parsing rebuilds the tree with `replace [] []`).
-/
namespace Xdsl.Affine

/-- "floor division … by positive constants": `a // c` returns an expression whose value `q` is
the floor of `a / c`: `c*q ≤ a < c*q + c`. -/
theorem mkFloorDiv_eval (a : Expr) {c : Int} (hc : 0 < c) :
    ∃ e, mkDiv .floordiv a (.const c) = .ok e ∧
      ∀ ρd ρs, c * eval ρd ρs e ≤ eval ρd ρs a ∧ eval ρd ρs a < c * eval ρd ρs e + c := by
  obtain ⟨e, he⟩ := mkDiv_const_ok .floordiv a c
  refine ⟨e, he, fun ρd ρs => ?_⟩
  exact (pyFloorDiv_spec hc _).1 (mkDiv_eval he ρd ρs).symm

/-- "ceiling division … by positive constants": the value `q` of `a.ceil_div(c)` is the ceiling of
`a / c`: `c*(q-1) < a ≤ c*q`. -/
theorem mkCeilDiv_eval (a : Expr) {c : Int} (hc : 0 < c) :
    ∃ e, mkDiv .ceildiv a (.const c) = .ok e ∧
      ∀ ρd ρs, c * eval ρd ρs e - c < eval ρd ρs a ∧ eval ρd ρs a ≤ c * eval ρd ρs e := by
  obtain ⟨e, he⟩ := mkDiv_const_ok .ceildiv a c
  refine ⟨e, he, fun ρd ρs => ?_⟩
  exact (pyCeilDiv_spec hc _).1 (mkDiv_eval he ρd ρs).symm

/-- "modulo by positive constants": the value `r` of `a % c` is the remainder of the floor
division: `0 ≤ r < c` and `a = c*q + r` for the floor quotient `q`. -/
theorem mkMod_eval (a : Expr) {c : Int} (hc : 0 < c) :
    ∃ e, mkDiv .mod a (.const c) = .ok e ∧
      ∀ ρd ρs, 0 ≤ eval ρd ρs e ∧ eval ρd ρs e < c ∧
        ∃ q, (c * q ≤ eval ρd ρs a ∧ eval ρd ρs a < c * q + c) ∧ eval ρd ρs a = c * q + eval ρd ρs e := by
  obtain ⟨e, he⟩ := mkDiv_const_ok .mod a c
  refine ⟨e, he, fun ρd ρs => ?_⟩
  rw [mkDiv_eval he ρd ρs]
  obtain ⟨h1, h2, h3⟩ := pyMod_spec (a := eval ρd ρs a) hc
  exact ⟨h1, h2, _, (pyFloorDiv_spec hc _).1 rfl, h3⟩

/-- arithmetic meaning of a build program (what the harness' reference evaluator computes) -/
def Prog.sem (ρd ρs : Nat → Int) : Prog → Int
  | .leaf e => eval ρd ρs e
  | .raw k l r => evalBin k (l.sem ρd ρs) (r.sem ρd ρs)
  | .op k l r => evalBin k (l.sem ρd ρs) (r.sem ρd ρs)
  | .sub l r => l.sem ρd ρs - r.sem ρd ρs
  | .neg a => - a.sem ρd ρs

/-- Building: any tree of operator applications that returns an expression returns one whose value
is the arithmetic meaning of the tree, at every assignment. -/
theorem build_eval {p : Prog} {e : Expr} (h : p.build = .ok e) (ρd ρs : Nat → Int) :
    eval ρd ρs e = p.sem ρd ρs := by
  induction p generalizing e with
  | leaf x => cases h; rfl
  | raw k l r ihl ihr =>
    rw [Prog.build] at h
    obtain ⟨a, hl, h⟩ := bind_eq_ok.1 h
    obtain ⟨b, hr, h⟩ := bind_eq_ok.1 h
    cases h
    rw [eval, ihl hl, ihr hr]; rfl
  | op k l r ihl ihr =>
    rw [Prog.build] at h
    obtain ⟨a, hl, h⟩ := bind_eq_ok.1 h
    obtain ⟨b, hr, h⟩ := bind_eq_ok.1 h
    rw [mkBin_eval h, ihl hl, ihr hr]; rfl
  | sub l r ihl ihr =>
    rw [Prog.build] at h
    obtain ⟨a, hl, h⟩ := bind_eq_ok.1 h
    obtain ⟨b, hr, h⟩ := bind_eq_ok.1 h
    cases h
    rw [mkSub_eval, ihl hl, ihr hr]; rfl
  | neg a iha =>
    rw [Prog.build] at h
    obtain ⟨a', ha, h⟩ := bind_eq_ok.1 h
    cases h
    rw [mkNeg_eval, iha ha]; rfl

/-- The flattener invariant (`flat_denotes`) as an equation: the row the flattener leaves for `e` —
coefficients of the dimensions, the symbols and the local (floordiv/ceildiv) expressions, and a
constant — denotes the value of `e` at every assignment: `row · (dims, syms, eval locals, 1) = eval e`. -/
theorem flatten_denotes {nd ns : Nat} {e : Expr} {L0 L1 : List Expr} {row : Row}
    (h : flat nd ns e L0 = .ok (row, L1)) (ρd ρs : Nat → Int) :
    dot row.co (colVals ρd ρs nd ns L1) + row.k = eval ρd ρs e :=
  (flat_denotes e h).2.val ρd ρs

/-- "simplifying them": whenever `simplify(nd, ns)` returns, the result has the value of the
original expression at every assignment. -/
theorem simplify_eval {nd ns : Nat} {e e' : Expr} (h : simplify nd ns e = .ok e')
    (ρd ρs : Nat → Int) : eval ρd ρs e' = eval ρd ρs e := by
  unfold simplify at h
  split at h
  · cases h
  obtain ⟨⟨row, L⟩, hf, h⟩ := bind_eq_ok.1 h
  -- the row left for `e` denotes both `e` and the expression rebuilt from it
  exact ((fromFlat_denotes h).val ρd ρs).symm.trans ((flat_denotes e hf).2.val ρd ρs)

/-- … and it does return on every expression inside the statement (positions below `nd` / `ns`,
multiplication by a constant on the right, floordiv/ceildiv/mod by a positive constant). -/
theorem simplify_total {nd ns : Nat} {e : Expr} (h : InScope nd ns e) :
    ∃ e', simplify nd ns e = .ok e' := by
  obtain ⟨⟨row, L⟩, hf⟩ := flat_total h []
  obtain ⟨e', he'⟩ := fromFlat_ok nd ns L (flat_denotes e hf).2.len
  refine ⟨e', ?_⟩
  rw [simplify, h.pureAffine]
  exact bind_eq_ok.2 ⟨_, hf, he'⟩

/-- `InScope` also holds of raw trees, e.g. `(d0 * 4 + s1) mod 8` over 3 dimensions and 2 symbols; that
everything the smart constructors build is in it is `build_inScope` below.  The statement covering *every*
tree for which `simplify` returns, in scope or not, is `simplify_eval`. -/
example : InScope 3 2 (.bin .mod (.bin .add (.bin .mul (.dim 0) (.const 4)) (.sym 1)) (.const 8)) :=
  .div rfl (.add (.mul 4 (.dim (by omega))) (.sym (by omega))) (by omega)

/-- Build programs of the statement: leaves with positions below `nd` / `ns` (or any expression
already in scope), `+`, `-`, unary `-`, multiplication with a constant operand on either side,
floordiv / ceildiv / mod by a positive constant. -/
inductive Prog.InStatement (nd ns : Nat) : Prog → Prop
  | leaf {e : Expr} : InScope nd ns e → Prog.InStatement nd ns (.leaf e)
  | add {l r : Prog} : Prog.InStatement nd ns l → Prog.InStatement nd ns r →
      Prog.InStatement nd ns (.op .add l r)
  | sub {l r : Prog} : Prog.InStatement nd ns l → Prog.InStatement nd ns r →
      Prog.InStatement nd ns (.sub l r)
  | neg {a : Prog} : Prog.InStatement nd ns a → Prog.InStatement nd ns (.neg a)
  | mulR {l : Prog} (c : Int) : Prog.InStatement nd ns l →
      Prog.InStatement nd ns (.op .mul l (.leaf (.const c)))
  | mulL {r : Prog} (c : Int) : Prog.InStatement nd ns r →
      Prog.InStatement nd ns (.op .mul (.leaf (.const c)) r)
  | div {k : Kind} {l : Prog} {c : Int} : k.isDivLike = true → Prog.InStatement nd ns l → 0 < c →
      Prog.InStatement nd ns (.op k l (.leaf (.const c)))

/-- every such program builds (no exception) an expression `simplify` accepts … -/
theorem build_inScope {nd ns : Nat} {p : Prog} (h : Prog.InStatement nd ns p) :
    ∃ e, p.build = .ok e ∧ InScope nd ns e := by
  induction h with
  | leaf he => exact ⟨_, rfl, he⟩
  | add _ _ ihl ihr =>
    obtain ⟨a, ha, sa⟩ := ihl
    obtain ⟨b, hb, sb⟩ := ihr
    exact ⟨_, bind_eq_ok.2 ⟨a, ha, bind_eq_ok.2 ⟨b, hb, rfl⟩⟩, inScope_mkAdd sa sb⟩
  | sub _ _ ihl ihr =>
    obtain ⟨a, ha, sa⟩ := ihl
    obtain ⟨b, hb, sb⟩ := ihr
    exact ⟨_, bind_eq_ok.2 ⟨a, ha, bind_eq_ok.2 ⟨b, hb, rfl⟩⟩, inScope_mkSub sa sb⟩
  | neg _ ih =>
    obtain ⟨a, ha, sa⟩ := ih
    exact ⟨_, bind_eq_ok.2 ⟨a, ha, rfl⟩, inScope_mkNeg sa⟩
  | mulR c _ ih =>
    obtain ⟨a, ha, sa⟩ := ih
    obtain ⟨m, hm⟩ := (mkMul_const_ok a c).1
    exact ⟨m, bind_eq_ok.2 ⟨a, ha, hm⟩, inScope_mkMul sa (.const c) hm⟩
  | mulL c _ ih =>
    obtain ⟨a, ha, sa⟩ := ih
    obtain ⟨m, hm⟩ := (mkMul_const_ok a c).2
    exact ⟨m, bind_eq_ok.2 ⟨_, rfl, bind_eq_ok.2 ⟨a, ha, hm⟩⟩, inScope_mkMul (.const c) sa hm⟩
  | @div k l c hk _ hc ih =>
    obtain ⟨a, ha, sa⟩ := ih
    obtain ⟨m, hm⟩ := mkDiv_const_ok k a c
    exact ⟨m, bind_eq_ok.2 ⟨a, ha, (mkBin_of_isDivLike hk a _).trans hm⟩, inScope_mkDiv hk sa hc hm⟩

/-- … so building with the operations of the statement and then simplifying never raises, and the
simplified expression has the arithmetic meaning of the program at every assignment. -/
theorem build_simplify_eval {nd ns : Nat} {p : Prog} (h : Prog.InStatement nd ns p) :
    ∃ e s, p.build = .ok e ∧ simplify nd ns e = .ok s ∧
      ∀ ρd ρs, eval ρd ρs e = p.sem ρd ρs ∧ eval ρd ρs s = p.sem ρd ρs := by
  obtain ⟨e, he, hs⟩ := build_inScope h
  obtain ⟨s, hsim⟩ := simplify_total hs
  exact ⟨e, s, he, hsim, fun ρd ρs => ⟨build_eval he ρd ρs, by rw [simplify_eval hsim, build_eval he]⟩⟩

/-- "composing them with affine maps" (`AffineExpr.compose`): the composed expression at a point is
the expression at the image of the point under the map (symbols unchanged). -/
theorem compose_eval {e e' : Expr} {m : Map} (h : compose e m = .ok e') (ρd ρs : Nat → Int) :
    eval ρd ρs e' = eval (substEnv ρd ρs m.results ρd) ρs e := by
  have := replace_eval h ρd ρs
  rwa [substEnv_nil] at this

/-- the symbols of `other` are renumbered behind those of `self` in `AffineMap.compose` -/
def shiftSyms (n k : Nat) (ρs : Nat → Int) : Nat → Int :=
  fun s => if s < k then ρs (n + s) else ρs s

/-- `AffineMap.compose`: result `i` of `self.compose(other)` at `(dims, syms)` is result `i` of
`self` at `(other(dims, syms[self.num_symbols:]), syms)`; the dimension/symbol counts are those the
docstring states. -/
theorem map_compose_eval {self other m : Map} (h : Map.compose self other = .ok m)
    (ρd ρs : Nat → Int) :
    m.numDims = other.numDims ∧ m.numSyms = self.numSyms + other.numSyms ∧
    m.results.length = self.results.length ∧
    ∀ (i : Nat) (e' : Expr), m.results[i]? = some e' →
      ∃ e, self.results[i]? = some e ∧
        eval ρd ρs e' =
          eval (fun p => match other.results[p]? with
                  | some x => eval ρd (shiftSyms self.numSyms other.numSyms ρs) x
                  | none => ρd p) ρs e := by
  unfold Map.compose at h
  split at h
  · cases h
  obtain ⟨newMap, hm, h⟩ := bind_eq_ok.1 h
  obtain ⟨res, hr, h⟩ := bind_eq_ok.1 h
  cases h
  obtain ⟨newRes, hn, hnm⟩ := bind_eq_ok.1 hm
  cases hnm
  obtain ⟨hlen1, hall1⟩ := mapM'_ok hn
  obtain ⟨hlen2, hall2⟩ := mapM'_ok hr
  refine ⟨rfl, rfl, hlen2, fun i e' hi => ?_⟩
  obtain ⟨e, he, hc⟩ := hall2 i e' hi
  refine ⟨e, he, ?_⟩
  rw [compose_eval hc]
  congr 1
  funext p
  show (match newRes[p]? with | some x => eval ρd ρs x | none => ρd p) = _
  cases hp : newRes[p]? with
  | none => rw [List.getElem?_eq_none (by rw [← hlen1]; exact List.getElem?_eq_none_iff.1 hp)]
  | some y =>
    obtain ⟨x, hx, hxy⟩ := hall1 p y hp
    -- result `p` of `other` with its dimensions kept and its symbols renumbered behind those of `self`
    rw [hx]
    show eval ρd ρs y = eval ρd (shiftSyms self.numSyms other.numSyms ρs) x
    rw [replace_eval hxy, substEnv_map_range, substEnv_map_range]
    exact congrArg (eval · _ x) (funext fun q => ite_self _)

/-- the second example in the docstring of `SimpleAffineExprFlattener`, `(d0 - d0 mod 4 + 4) mod 4` (which it
folds to `0`), is in `InScope`, so `simplify` returns on it -/
example : ∃ e, simplify 3 2
    (.bin .mod (.bin .add (.bin .add (.dim 0) (.bin .mul (.bin .mod (.dim 0) (.const 4)) (.const (-1))))
      (.const 4)) (.const 4)) = .ok e :=
  simplify_total (.div rfl (.add (.add (.dim (by omega)) (.mul _ (.div rfl (.dim (by omega)) (by omega))))
    (.const 4)) (by omega))

example : mkAdd (.bin .add (.dim 0) (.const 3)) (.const (-3)) = .dim 0 := by decide +kernel
example : mkMul (.const 2) (.bin .add (.dim 0) (.const 3))
    = .ok (.bin .add (.bin .mul (.dim 0) (.const 2)) (.const 6)) := by rfl
example : mkMul (.dim 0) (.dim 1) = .error .notImplemented := by rfl
example : eval (fun _ => -7) (fun _ => 0) (.bin .floordiv (.dim 0) (.const 2)) = -4
    ∧ eval (fun _ => -7) (fun _ => 0) (.bin .ceildiv (.dim 0) (.const 2)) = -3
    ∧ eval (fun _ => -7) (fun _ => 0) (.bin .mod (.dim 0) (.const 2)) = 1 := by decide +kernel

end Xdsl.Affine
