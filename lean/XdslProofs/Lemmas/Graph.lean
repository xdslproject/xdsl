import XdslModel.Graph
/-!
Paths and reachability in a region CFG, and `Relabel` (one region with its blocks listed in two orders): the graph
notions in which the statements of C24, of C17SSA and of the reachability part of C13 are written.
-/
namespace Xdsl.Graph

def Edge (g : Graph) (u v : Nat) : Prop := v ∈ succ g u

/-- `Path g r b l`: `l` is the sequence of blocks of a path from `r` to `b` along CFG edges
(`r` first, `b` last; the one-block path `[r]` included). -/
inductive Path (g : Graph) (r : Nat) : Nat → List Nat → Prop
  | root : Path g r r [r]
  | snoc {u v : Nat} {l : List Nat} : Path g r u l → Edge g u v → Path g r v (l ++ [v])

def Reach (g : Graph) (r b : Nat) : Prop := ∃ l, Path g r b l

def WF (g : Graph) : Prop := ∀ u v, Edge g u v → v < g.length

theorem edge_src_lt {g : Graph} {u v : Nat} (h : Edge g u v) : u < g.length := by
  unfold Edge succ at h
  apply Classical.byContradiction
  intro hn
  have : g.getD u [] = [] := by
    rw [List.getD_eq_getElem?_getD, List.getElem?_eq_none (by omega)]; rfl
  rw [this] at h; cases h

theorem wf_iff (g : Graph) : wf g = true ↔ WF g := by
  unfold wf WF
  simp only [List.all_eq_true, decide_eq_true_eq]
  constructor
  · intro h u v e
    have hu := edge_src_lt e
    unfold Edge succ at e; rw [← List.getElem_eq_getD (h := hu)] at e
    exact h _ (List.getElem_mem hu) v e
  · intro h ss hss v hv
    obtain ⟨u, hu, rfl⟩ := List.getElem_of_mem hss
    apply h u v
    unfold Edge succ; rw [← List.getElem_eq_getD (h := hu)]; exact hv

theorem mem_preds {g : Graph} {p b : Nat} : p ∈ preds g b ↔ Edge g p b := by
  unfold preds
  simp only [List.mem_filter, List.mem_range, List.contains_iff_mem]
  constructor
  · exact fun h => h.2
  · exact fun h => ⟨edge_src_lt h, h⟩

theorem Path.last_mem {g : Graph} {r b : Nat} {l : List Nat} (h : Path g r b l) : b ∈ l := by
  cases h <;> simp

theorem Path.root_mem {g : Graph} {r b : Nat} {l : List Nat} (h : Path g r b l) : r ∈ l := by
  induction h with
  | root => simp
  | snoc _ _ ih => simp [ih]

theorem Path.lt {g : Graph} {r b : Nat} {l : List Nat} (h : Path g r b l)
    (hb : b < g.length) : ∀ a ∈ l, a < g.length := by
  induction h with
  | root => intro a ha; simp at ha; omega
  | snoc hp e ih =>
    intro a ha
    rcases List.mem_append.mp ha with h1 | h1
    · exact ih (edge_src_lt e) a h1
    · simp at h1; omega

theorem Reach.lt {g : Graph} (hwf : WF g) {r b : Nat} (hr : r < g.length) (h : Reach g r b) :
    b < g.length := by
  obtain ⟨l, hl⟩ := h
  cases hl with
  | root => exact hr
  | snoc _ e => exact hwf _ _ e

theorem Reach.refl (g : Graph) (r : Nat) : Reach g r r := ⟨_, .root⟩

theorem Reach.step {g : Graph} {r u v : Nat} (h : Reach g r u) (e : Edge g u v) : Reach g r v := by
  obtain ⟨l, hl⟩ := h; exact ⟨_, .snoc hl e⟩

/-- `g'` is `g` with the blocks listed in another order: block `u` of `g` is block `π u` of `g'`
(`σ` is the inverse renumbering). -/
structure Relabel (g g' : Graph) (π σ : Nat → Nat) : Prop where
  len : g'.length = g.length
  lt : ∀ u, u < g.length → π u < g.length
  lt' : ∀ u, u < g.length → σ u < g.length
  left : ∀ u, u < g.length → σ (π u) = u
  right : ∀ u, u < g.length → π (σ u) = u
  succ : ∀ u, u < g.length → succ g' (π u) = (succ g u).map π

theorem Relabel.symm {g g' : Graph} {π σ : Nat → Nat} (h : Relabel g g' π σ) (hwf : WF g) :
    Relabel g' g σ π where
  len := h.len.symm
  lt := by intro u hu; rw [h.len] at *; exact h.lt' u hu
  lt' := by intro u hu; rw [h.len] at *; exact h.lt u hu
  left := by intro u hu; rw [h.len] at hu; exact h.right u hu
  right := by intro u hu; rw [h.len] at hu; exact h.left u hu
  succ := by
    intro u hu
    rw [h.len] at hu
    have h1 := h.succ (σ u) (h.lt' u hu)
    rw [h.right u hu] at h1
    rw [h1, List.map_map]
    symm
    calc (Graph.succ g (σ u)).map (σ ∘ π) = (Graph.succ g (σ u)).map id := by
          apply List.map_congr_left
          intro v hv
          exact h.left v (hwf (σ u) v hv)
      _ = Graph.succ g (σ u) := List.map_id _

theorem Relabel.path {g g' : Graph} {π σ : Nat → Nat} (h : Relabel g g' π σ) {r b : Nat}
    {l : List Nat} (hp : Path g r b l) : Path g' (π r) (π b) (l.map π) := by
  induction hp with
  | root => exact .root
  | @snoc u v l hp e ih =>
    rw [List.map_append]
    refine .snoc ih ?_
    unfold Edge
    rw [h.succ u (edge_src_lt e)]
    exact List.mem_map_of_mem e

end Xdsl.Graph
