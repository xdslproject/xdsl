import XdslProofs.Lemmas.ArithFold
import XdslProofs.Lemmas.SemInt
/-!
# C14 (B) — the fold kernels of `xdsl/dialects/arith.py` compute the bit-exact MLIR result

(B) is the second leg of the C14 check as `harness/props/c14.py` describes it: (A) runs the passes on
generated programs, (B) is this file, (C) the rewrite rules and CSE (`C14Rules.lean`, `C14CSE.lean`).

`Xdsl.Generated.ArithPyOps.*` (`py_operation`, `is_right_unit`, `is_right_zero` of every
`SignlessIntegerBinaryOperation`) and `Xdsl.Generated.BuiltinInt.normalized_value_signless`
(`IntegerType.normalized_value`, the `truncate_bits=True` path of
`IntegerAttr(result, type, truncate_bits=True)` in `SignlessIntegerBinaryOperation.fold` and of
`ConstantOp.from_int_and_width(…, truncate_bits=True)` in `SignlessIntegerBinaryOperationConstantProp`)
are *regenerated from /repo on every check run*.  `w ≥ 1` is the width of the type, `a b c` are
arbitrary Python ints (the data of the constant attributes).  The reference semantics is
`Xdsl.Sem.intBin`, the same function that evaluates programs in the translation validation.

This is the clause "folded constants equal the bit-exact result" of the property (two's-complement
wrap-around), for every width.

Each theorem combines the equation of `intBin` for the operation's name (`Lemmas/SemInt.lean`), what
the kernel says about the constant (`c == 0`, `c == normalized_one w`: the hypotheses `h` below unfold
to these) and one `BitVec` identity.
-/
namespace Xdsl.C14
open Xdsl Xdsl.Generated Xdsl.Generated.BuiltinInt Xdsl.Generated.ArithPyOps Xdsl.Sem Xdsl.SemMeta
open Xdsl.C15 (InSignedRange toInt_inRange)

/-- shape shared by the six folds: the folded attribute's data `d` -/
def FoldsTo (w : Nat) (r : Int) (expected : BitVec w) : Prop :=
  ∃ d, normalized_value_signless (w : Int) r true = some d
    ∧ BitVec.ofInt w d = expected ∧ InSignedRange w d

/-- the attribute built by `IntegerAttr(r, iw, truncate_bits=True)`: always succeeds, denotes the
`w`-bit pattern of `r`, and its data lies in the signed (hence the signless) range. -/
theorem foldsTo_of (w : Nat) (hw : 1 ≤ w) (r : Int) (e : BitVec w) (h : BitVec.ofInt w r = e) :
    FoldsTo w r e :=
  ⟨_, RvK.normalized_eq w hw r true (Or.inl rfl), BitVec.ofInt_toInt.trans h, toInt_inRange _⟩

section
variable {w : Nat} {op : String} {f : Int → Int → Int} {bv : BitVec w → BitVec w → BitVec w}
  (eqn : ∀ x y : BitVec w, intBin op x y = .val (bv x y))
  (hom : ∀ a b : Int, BitVec.ofInt w (f a b) = bv (BitVec.ofInt w a) (BitVec.ofInt w b))
include eqn hom

/-- What makes a constant fold with the Python operator `f` right for the operation `op`: `Sem.intBin`
computes `bv` for that name, and `f` commutes with taking the `w`-bit pattern. -/
theorem pyOp_sound (a b : Int) :
    intBin op (BitVec.ofInt w a) (BitVec.ofInt w b) = .val (BitVec.ofInt w (f a b)) := by
  rw [eqn, hom]

/-- … and then the attribute the fold builds denotes the result of `bv` on the patterns. -/
theorem fold_sound (hw : 1 ≤ w) (a b : Int) :
    FoldsTo w (f a b) (bv (BitVec.ofInt w a) (BitVec.ofInt w b))
    ∧ intBin op (BitVec.ofInt w a) (BitVec.ofInt w b) = .val (bv (BitVec.ofInt w a) (BitVec.ofInt w b)) :=
  ⟨foldsTo_of w hw _ _ (hom a b), eqn _ _⟩

end

/-- `arith.addi` constant fold: `IntegerAttr(lhs + rhs, type, truncate_bits=True)` is the wrapped sum. -/
theorem addi_fold (w : Nat) (hw : 1 ≤ w) (a b : Int) :
    FoldsTo w (AddiOp_py_operation a b) (BitVec.ofInt w a + BitVec.ofInt w b)
    ∧ intBin "arith.addi" (BitVec.ofInt w a) (BitVec.ofInt w b) = .val (BitVec.ofInt w a + BitVec.ofInt w b) :=
  fold_sound intBin_addi BitVec.ofInt_add hw a b

theorem subi_fold (w : Nat) (hw : 1 ≤ w) (a b : Int) :
    FoldsTo w (SubiOp_py_operation a b) (BitVec.ofInt w a - BitVec.ofInt w b)
    ∧ intBin "arith.subi" (BitVec.ofInt w a) (BitVec.ofInt w b) = .val (BitVec.ofInt w a - BitVec.ofInt w b) :=
  fold_sound intBin_subi (BV.ofInt_sub w) hw a b

theorem muli_fold (w : Nat) (hw : 1 ≤ w) (a b : Int) :
    FoldsTo w (MuliOp_py_operation a b) (BitVec.ofInt w a * BitVec.ofInt w b)
    ∧ intBin "arith.muli" (BitVec.ofInt w a) (BitVec.ofInt w b) = .val (BitVec.ofInt w a * BitVec.ofInt w b) :=
  fold_sound intBin_muli BitVec.ofInt_mul hw a b

/-- `arith.andi` constant fold (Python `&` on unbounded ints vs. bitwise and of the patterns). -/
theorem andi_fold (w : Nat) (hw : 1 ≤ w) (a b : Int) :
    FoldsTo w (AndIOp_py_operation a b) (BitVec.ofInt w a &&& BitVec.ofInt w b)
    ∧ intBin "arith.andi" (BitVec.ofInt w a) (BitVec.ofInt w b) = .val (BitVec.ofInt w a &&& BitVec.ofInt w b) :=
  fold_sound intBin_andi (BV.ofInt_land w) hw a b

theorem ori_fold (w : Nat) (hw : 1 ≤ w) (a b : Int) :
    FoldsTo w (OrIOp_py_operation a b) (BitVec.ofInt w a ||| BitVec.ofInt w b)
    ∧ intBin "arith.ori" (BitVec.ofInt w a) (BitVec.ofInt w b) = .val (BitVec.ofInt w a ||| BitVec.ofInt w b) :=
  fold_sound intBin_ori (BV.ofInt_lor w) hw a b

theorem xori_fold (w : Nat) (hw : 1 ≤ w) (a b : Int) :
    FoldsTo w (XOrIOp_py_operation a b) (BitVec.ofInt w a ^^^ BitVec.ofInt w b)
    ∧ intBin "arith.xori" (BitVec.ofInt w a) (BitVec.ofInt w b) = .val (BitVec.ofInt w a ^^^ BitVec.ofInt w b) :=
  fold_sound intBin_xori (BV.ofInt_xor w) hw a b

/-! ## right units (`x op c = x`) — `SignlessIntegerBinaryOperationZeroOrUnitRight` and `fold` -/

theorem ofInt_zero' (w : Nat) : BitVec.ofInt w 0 = 0#w := rfl

/-- `attr.value.data == 0` -/
theorem ofInt_of_eq_zero (w : Nat) (c : Int) (h : (c == 0) = true) : BitVec.ofInt w c = 0#w := by
  rw [eq_of_beq h, ofInt_zero']

/-- `attr == IntegerAttr(1, attr.type)`; at `i1` the stored datum is `-1`, still the pattern `1`. -/
theorem ofInt_of_eq_one (w : Nat) (hw : 1 ≤ w) (c : Int) (h : (c == normalized_one (w : Int)) = true) :
    BitVec.ofInt w c = 1#w := by
  rw [eq_of_beq h, ofInt_normalized_one w hw]

theorem one_beq_zero (w : Nat) (hw : 1 ≤ w) : (1#w == 0#w) = false :=
  beq_eq_false_iff_ne.mpr fun h => by have := BitVec.one_eq_zero_iff.mp h; omega

theorem addi_right_unit (w : Nat) (c : Int) (h : AddiOp_is_right_unit w c = true) (x : BitVec w) :
    intBin "arith.addi" x (BitVec.ofInt w c) = .val x := by
  rw [ofInt_of_eq_zero w c h, intBin_addi, BitVec.add_zero]

theorem subi_right_unit (w : Nat) (c : Int) (h : SubiOp_is_right_unit w c = true) (x : BitVec w) :
    intBin "arith.subi" x (BitVec.ofInt w c) = .val x := by
  rw [ofInt_of_eq_zero w c h, intBin_subi, BitVec.sub_zero]

theorem ori_right_unit (w : Nat) (c : Int) (h : OrIOp_is_right_unit w c = true) (x : BitVec w) :
    intBin "arith.ori" x (BitVec.ofInt w c) = .val x := by
  rw [ofInt_of_eq_zero w c h, intBin_ori, BitVec.or_zero]

theorem xori_right_unit (w : Nat) (c : Int) (h : XOrIOp_is_right_unit w c = true) (x : BitVec w) :
    intBin "arith.xori" x (BitVec.ofInt w c) = .val x := by
  rw [ofInt_of_eq_zero w c h, intBin_xori, BitVec.xor_zero]

theorem shli_right_unit (w : Nat) (hw : 1 ≤ w) (c : Int) (h : ShLIOp_is_right_unit w c = true) (x : BitVec w) :
    intBin "arith.shli" x (BitVec.ofInt w c) = .val x := by
  rw [ofInt_of_eq_zero w c h, intBin_shli, BitVec.toNat_zero, if_neg (by omega), BitVec.shiftLeft_zero]

theorem shrui_right_unit (w : Nat) (hw : 1 ≤ w) (c : Int) (h : ShRUIOp_is_right_unit w c = true) (x : BitVec w) :
    intBin "arith.shrui" x (BitVec.ofInt w c) = .val x := by
  rw [ofInt_of_eq_zero w c h, intBin_shrui, BitVec.toNat_zero, if_neg (by omega), BitVec.ushiftRight_zero]

theorem shrsi_right_unit (w : Nat) (hw : 1 ≤ w) (c : Int) (h : ShRSIOp_is_right_unit w c = true) (x : BitVec w) :
    intBin "arith.shrsi" x (BitVec.ofInt w c) = .val x := by
  rw [ofInt_of_eq_zero w c h, intBin_shrsi, BitVec.toNat_zero, if_neg (by omega), BitVec.sshiftRight_zero]

theorem muli_right_unit (w : Nat) (hw : 1 ≤ w) (c : Int) (h : MuliOp_is_right_unit w c = true) (x : BitVec w) :
    intBin "arith.muli" x (BitVec.ofInt w c) = .val x := by
  rw [ofInt_of_eq_one w hw c h, intBin_muli, BitVec.mul_one]

theorem divui_right_unit (w : Nat) (hw : 1 ≤ w) (c : Int) (h : DivUIOp_is_right_unit w c = true) (x : BitVec w) :
    intBin "arith.divui" x (BitVec.ofInt w c) = .val x := by
  rw [ofInt_of_eq_one w hw c h, intBin_divui, one_beq_zero w hw, if_neg Bool.false_ne_true, BitVec.udiv_one]

theorem ceildivui_right_unit (w : Nat) (hw : 1 ≤ w) (c : Int) (h : CeilDivUIOp_is_right_unit w c = true) (x : BitVec w) :
    intBin "arith.ceildivui" x (BitVec.ofInt w c) = .val x := by
  rw [ofInt_of_eq_one w hw c h, intBin_ceildivui, one_beq_zero w hw, if_neg Bool.false_ne_true,
    BitVec.toNat_one hw, Nat.add_sub_cancel, Nat.div_one, BitVec.ofNat_toNat, BitVec.setWidth_eq]

/-- signed divisions by the unit: the result is `x` wherever MLIR defines it; the only undefined
case is `i1` (`1 : i1` is `-1`, and `-1 / -1` overflows). -/
theorem divsi_right_unit (w : Nat) (hw : 1 ≤ w) (c : Int) (h : DivSIOp_is_right_unit w c = true) (x : BitVec w) :
    intBin "arith.divsi" x (BitVec.ofInt w c) = .val x ∨ intBin "arith.divsi" x (BitVec.ofInt w c) = .ub := by
  rw [ofInt_of_eq_one w hw c h, intBin_divsi]
  split
  · exact Or.inr rfl
  · rw [BitVec.sdiv_one]; exact Or.inl rfl

/-- The divisor of a signed division by the pattern `1`: from `i2` on it is the integer `1`; at `i1`
it is `-1`, the division of `1 = intMin` is undefined and the only other dividend is `0`. -/
theorem sdiv_one_defined (w : Nat) (hw : 1 ≤ w) (x : BitVec w) (h : ¬ sdivUB x 1#w = true) :
    (1#w).toInt = 1 ∨ x.toInt = 0 := by
  rcases Nat.lt_or_ge 1 w with h2 | h1
  · exact Or.inl (BitVec.toInt_one h2)
  · obtain rfl : w = 1 := by omega
    rcases BitVec.eq_zero_or_eq_one x with rfl | rfl
    · exact Or.inr rfl
    · exact absurd rfl h

theorem floordivsi_right_unit (w : Nat) (hw : 1 ≤ w) (c : Int) (h : FloorDivSIOp_is_right_unit w c = true)
    (x : BitVec w) :
    intBin "arith.floordivsi" x (BitVec.ofInt w c) = .val x
      ∨ intBin "arith.floordivsi" x (BitVec.ofInt w c) = .ub := by
  rw [ofInt_of_eq_one w hw c h, intBin_floordivsi]
  split
  · exact Or.inr rfl
  · rename_i hub
    left; congr 1
    rcases sdiv_one_defined w hw x hub with h1 | h0
    · rw [h1, Int.fdiv_one, BitVec.ofInt_toInt]
    · rw [h0, Int.zero_fdiv, ← h0, BitVec.ofInt_toInt]

theorem ceildivsi_right_unit (w : Nat) (hw : 1 ≤ w) (c : Int) (h : CeilDivSIOp_is_right_unit w c = true)
    (x : BitVec w) :
    intBin "arith.ceildivsi" x (BitVec.ofInt w c) = .val x
      ∨ intBin "arith.ceildivsi" x (BitVec.ofInt w c) = .ub := by
  rw [ofInt_of_eq_one w hw c h, intBin_ceildivsi]
  split
  · exact Or.inr rfl
  · rename_i hub
    left; congr 1
    rcases sdiv_one_defined w hw x hub with h1 | h0
    · rw [h1, Int.fdiv_one, Int.neg_neg, BitVec.ofInt_toInt]
    · rw [h0, Int.neg_zero, Int.zero_fdiv, Int.neg_zero, ← h0, BitVec.ofInt_toInt]

/-! ## left units of the commutative operations (`fold`: `is_right_unit(lhs)` ⇒ result is `rhs`) -/

theorem addi_left_unit (w : Nat) (c : Int) (h : AddiOp_is_right_unit w c = true) (x : BitVec w) :
    intBin "arith.addi" (BitVec.ofInt w c) x = .val x := by
  rw [ofInt_of_eq_zero w c h, intBin_addi, BitVec.zero_add]

theorem muli_left_unit (w : Nat) (hw : 1 ≤ w) (c : Int) (h : MuliOp_is_right_unit w c = true) (x : BitVec w) :
    intBin "arith.muli" (BitVec.ofInt w c) x = .val x := by
  rw [ofInt_of_eq_one w hw c h, intBin_muli, BitVec.one_mul]

theorem ori_left_unit (w : Nat) (c : Int) (h : OrIOp_is_right_unit w c = true) (x : BitVec w) :
    intBin "arith.ori" (BitVec.ofInt w c) x = .val x := by
  rw [ofInt_of_eq_zero w c h, intBin_ori, BitVec.zero_or]

theorem xori_left_unit (w : Nat) (c : Int) (h : XOrIOp_is_right_unit w c = true) (x : BitVec w) :
    intBin "arith.xori" (BitVec.ofInt w c) x = .val x := by
  rw [ofInt_of_eq_zero w c h, intBin_xori, BitVec.zero_xor]

/-! ## right zeros (`x op c = c`) -/

theorem muli_right_zero (w : Nat) (c : Int) (h : MuliOp_is_right_zero w c = true) (x : BitVec w) :
    intBin "arith.muli" x (BitVec.ofInt w c) = .val (BitVec.ofInt w c) := by
  rw [ofInt_of_eq_zero w c h, intBin_muli, BitVec.mul_zero]

theorem andi_right_zero (w : Nat) (c : Int) (h : AndIOp_is_right_zero w c = true) (x : BitVec w) :
    intBin "arith.andi" x (BitVec.ofInt w c) = .val (BitVec.ofInt w c) := by
  rw [ofInt_of_eq_zero w c h, intBin_andi, BitVec.and_zero]

/-! ## non-vacuity -/
example : AddiOp_py_operation 127 1 = 128 := by decide
example : normalized_value_signless 8 128 true = some (-128) := by decide
example : normalized_one 1 = -1 := by decide
example : MuliOp_is_right_unit 1 (-1) = true := by decide
example : MuliOp_is_right_unit 8 1 = true := by decide
example : intBin "arith.divsi" (1#1) (BitVec.ofInt 1 (-1)) = .ub := by
  rw [intBin_divsi, if_pos (by decide)]

end Xdsl.C14
