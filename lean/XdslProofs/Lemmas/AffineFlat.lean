import XdslProofs.Lemmas.AffineArith
import XdslProofs.Lemmas.AffineCtor
import XdslProofs.Lemmas.Except
/-!
Invariants of the flattener model (`flat`, `visitDiv`, `visitMod`, `fromFlat`) for C26.
A row `(co, k)` over the locals `L` denotes `Σ coᵢ·xᵢ + k`, where `x` lists the values of the
dimensions, the symbols and the local expressions (`Denotes`); every row the flattener builds has its
lemma, and the visitors and `flat` only compose them.  The second part: the flattener raises nothing on
the expressions of `InScope`.
-/
namespace Xdsl.Affine

variable (ρd ρs : Nat → Int)

/-- values of the columns `[dims, symbols, locals]` -/
def colVals (nd ns : Nat) (L : List Expr) : List Int := (colExprs nd ns L).map (eval ρd ρs)

theorem colVals_eq (nd ns : Nat) (L : List Expr) :
    colVals ρd ρs nd ns L = ((List.range nd).map ρd ++ (List.range ns).map ρs) ++ L.map (eval ρd ρs) := by
  simp only [colVals, colExprs, List.map_append, List.map_map]
  rfl

theorem length_colVals (nd ns : Nat) (L : List Expr) :
    (colVals ρd ρs nd ns L).length = nd + ns + L.length := by
  simp only [colVals_eq, List.length_append, List.length_map, List.length_range]

theorem colVals_append (nd ns : Nat) (L ext : List Expr) :
    colVals ρd ρs nd ns (L ++ ext) = colVals ρd ρs nd ns L ++ ext.map (eval ρd ρs) := by
  simp only [colVals_eq, List.map_append, List.append_assoc]

theorem colVals_getD_local (nd ns : Nat) (L : List Expr) {i : Nat} (h : i < L.length) :
    (colVals ρd ρs nd ns L).getD (nd + ns + i) 0 = eval ρd ρs L[i] := by
  rw [colVals_eq, List.getD_eq_getElem?_getD, List.getElem?_append_right (by simp)]
  simp [h]

/-- `r` is a row over the locals `L` (one coefficient per dimension, symbol and local) whose value at
every assignment is that of `e` -/
structure Denotes (nd ns : Nat) (L : List Expr) (r : Row) (e : Expr) : Prop where
  len : r.co.length = nd + ns + L.length
  val : ∀ ρd ρs, dot r.co (colVals ρd ρs nd ns L) + r.k = eval ρd ρs e

namespace Denotes
variable {nd ns : Nat} {L L' : List Expr} {r a b : Row} {e e' l l' : Expr}

theorem congr (h : Denotes nd ns L r e) (hv : ∀ ρd ρs, eval ρd ρs e = eval ρd ρs e') : Denotes nd ns L r e' :=
  ⟨h.len, fun ρd ρs => (h.val ρd ρs).trans (hv ρd ρs)⟩

/-- `Denotes.mk` for a row written out, so that the goals speak of `co` and `k` and not of projections -/
theorem of {co : List Int} {k : Int} (hlen : co.length = nd + ns + L.length)
    (hval : ∀ ρd ρs, dot co (colVals ρd ρs nd ns L) + k = eval ρd ρs e) : Denotes nd ns L ⟨co, k⟩ e :=
  ⟨hlen, hval⟩

theorem const (c : Int) : Denotes nd ns L ⟨List.replicate (nd + ns + L.length) 0, c⟩ (.const c) :=
  ⟨List.length_replicate, fun ρd ρs => by rw [dot_replicate_zero, Int.zero_add]; rfl⟩

/-- the row selecting column `p` denotes what that column stands for -/
theorem unit (p : Nat) (hv : ∀ ρd ρs, (colVals ρd ρs nd ns L).getD p 0 = eval ρd ρs e) :
    Denotes nd ns L ⟨unitCo (nd + ns + L.length) p, 0⟩ e :=
  ⟨length_unitCo _ _, fun ρd ρs => by
    rw [dot_unitCo _ _ _ (length_colVals ρd ρs nd ns L), Int.add_zero, hv]⟩

theorem dim {p : Nat} (hp : p < nd) : Denotes nd ns L ⟨unitCo (nd + ns + L.length) p, 0⟩ (.dim p) :=
  unit p fun ρd ρs => by
    rw [colVals_eq, List.getD_eq_getElem?_getD, List.append_assoc, List.getElem?_append_left (by simpa using hp)]
    simp [hp]; rfl

theorem sym {p : Nat} (hp : p < ns) : Denotes nd ns L ⟨unitCo (nd + ns + L.length) (nd + p), 0⟩ (.sym p) :=
  unit _ fun ρd ρs => by
    rw [colVals_eq, List.getD_eq_getElem?_getD, List.append_assoc, List.getElem?_append_right (by simp),
      List.getElem?_append_left (by simpa using hp)]
    simp [hp]; rfl

theorem loc {i : Nat} (hi : i < L.length) :
    Denotes nd ns L ⟨unitCo (nd + ns + L.length) (nd + ns + i), 0⟩ L[i] :=
  unit _ fun ρd ρs => colVals_getD_local ρd ρs nd ns L hi

theorem last (q : Expr) :
    Denotes nd ns (L ++ [q]) ⟨unitCo (nd + ns + L.length + 1) (nd + ns + L.length), 0⟩ q :=
  .of (by rw [length_unitCo, List.length_append, List.length_singleton, Nat.add_assoc]) fun ρd ρs => by
    rw [dot_unitCo _ _ _ (by rw [length_colVals, List.length_append]; rfl),
      colVals_getD_local ρd ρs nd ns (L ++ [q]) (i := L.length) (by simp), List.getElem_concat_length rfl,
      Int.add_zero]

theorem extend (h : Denotes nd ns L r e) (hp : L <+: L') :
    Denotes nd ns L' (r.extend (L'.length - L.length)) e := by
  obtain ⟨ext, rfl⟩ := hp
  rw [List.length_append, Nat.add_sub_cancel_left]
  refine ⟨by rw [Row.extend, List.length_append, List.length_replicate, h.len, List.length_append,
    Nat.add_assoc], fun ρd ρs => ?_⟩
  rw [colVals_append, Row.extend, dot_append _ _ (by rw [h.len, length_colVals]), dot_replicate_zero,
    Int.add_zero]
  exact h.val ρd ρs

theorem add (ha : Denotes nd ns L a l) (hb : Denotes nd ns L b l') :
    Denotes nd ns L ⟨List.zipWith (· + ·) a.co b.co, a.k + b.k⟩ (.bin .add l l') :=
  .of (by rw [List.length_zipWith, ha.len, hb.len, Nat.min_self]) fun ρd ρs => by
    rw [dot_zipWith_add _ (by rw [ha.len, hb.len]), eval, evalBin, ← ha.val, ← hb.val]; omega

theorem mul (ha : Denotes nd ns L a l) (c : Int) :
    Denotes nd ns L ⟨a.co.map (fun x => x * c), a.k * c⟩ (.bin .mul l (.const c)) :=
  ⟨by rw [List.length_map]; exact ha.len, fun ρd ρs => by rw [dot_map_mul, ← Int.add_mul, ha.val]; rfl⟩

/-- the two rows `visit_mod_expr` pushes for `l mod c`: `l - c * q` for a further local `q` … -/
theorem sub_last (ha : Denotes nd ns L a l) (q : Expr) (c : Int)
    (hv : ∀ ρd ρs, eval ρd ρs l - c * eval ρd ρs q = eval ρd ρs e) :
    Denotes nd ns (L ++ [q]) ⟨a.co ++ [-c], a.k⟩ e :=
  .of (by rw [List.length_append, List.length_append, ha.len, Nat.add_assoc]; rfl) fun ρd ρs => by
    rw [← hv, colVals_append, dot_append _ _ (by rw [ha.len, length_colVals]), List.map_cons, List.map_nil,
      dot_cons, dot_nil_left, ← ha.val, Int.neg_mul]
    omega

/-- … and for the local `L[i]` -/
theorem sub_loc (ha : Denotes nd ns L a l) {i : Nat} (hi : i < L.length) (c : Int)
    (hv : ∀ ρd ρs, eval ρd ρs l - c * eval ρd ρs L[i] = eval ρd ρs e) :
    Denotes nd ns L ⟨a.co.modify (nd + ns + i) (fun x => x - c), a.k⟩ e :=
  .of (by rw [List.length_modify]; exact ha.len) fun ρd ρs => by
    rw [← hv, dot_modify _ _ _ (by rw [ha.len, length_colVals]) (by rw [ha.len]; omega),
      colVals_getD_local ρd ρs nd ns L hi, ← ha.val]
    omega

end Denotes

section
variable {nd ns : Nat} {L L' : List Expr}

theorem eval_foldl_terms (es : List Expr) (cs : List Int) (acc : Expr) :
    eval ρd ρs (((es.zip cs).filter (fun p => !decide (p.2 = 0))).foldl
        (fun acc p => mkAdd acc (mulC p.1 p.2)) acc)
      = eval ρd ρs acc + dot cs (es.map (eval ρd ρs)) := by
  induction es generalizing cs acc with
  | nil => rw [List.map_nil, dot_nil_right, Int.add_zero]; rfl
  | cons e es ih =>
    cases cs with
    | nil => exact (Int.add_zero _).symm
    | cons c cs =>
      rw [List.zip_cons_cons, List.map_cons, dot_cons]
      by_cases hc : c = 0
      · rw [List.filter_cons_of_neg (by simpa using hc), ih, hc, Int.zero_mul, Int.zero_add]
      · rw [List.filter_cons_of_pos (by simpa using hc), List.foldl_cons, ih, mkAdd_eval, eval_mulC,
          Int.mul_comm c, Int.add_assoc]

theorem fromFlat_denotes {r : Row} {e : Expr} (h : fromFlat nd ns L r = .ok e) : Denotes nd ns L r e := by
  unfold fromFlat at h
  split at h
  · cases h
  rename_i hlen
  cases h
  refine ⟨Classical.not_not.1 hlen, fun ρd ρs => ?_⟩
  simp only [ne_eq, decide_not]
  split
  · rw [mkAdd_eval, eval_foldl_terms]
    exact (congrArg (· + r.k) (Int.zero_add _)).symm
  · rename_i hk
    rw [eval_foldl_terms, Classical.not_not.1 hk, Int.add_zero]
    exact (Int.zero_add _).symm

theorem fromFlat_ok (nd ns : Nat) (L : List Expr) {row : Row}
    (h : row.co.length = nd + ns + L.length) : ∃ e, fromFlat nd ns L row = .ok e :=
  ⟨_, if_neg (Classical.not_not.2 h)⟩

theorem Row.length_divBy (r : Row) (g : Int) : (r.divBy g).co.length = r.co.length := by
  unfold Row.divBy
  split
  · exact List.length_map _
  · rfl

theorem Row.val_divBy (r : Row) (vs : List Int) {g : Int} (hg : 0 < g)
    (hco : ∀ l ∈ r.co, g ∣ l) (hk : g ∣ r.k) :
    g * (dot (r.divBy g).co vs + (r.divBy g).k) = dot r.co vs + r.k := by
  unfold Row.divBy
  split
  · rw [Int.mul_add, dot_map_div vs hg hco, mul_pyFloorDiv_of_dvd hg hk]
  · rename_i h
    rw [Classical.not_not.1 h, Int.one_mul]

theorem isConst_eq {e : Expr} (h : isConst e = true) : ∃ v, e = .const v := by
  cases e with
  | const v => exact ⟨v, rfl⟩
  | _ => cases h

theorem flat_const_k {nd ns : Nat} {v : Int} {L L' : List Expr} {row : Row}
    (h : flat nd ns (.const v) L = .ok (row, L')) : row.k = v := by
  cases h; rfl

theorem evalBin_one {isCeil : Bool} (v : Int) :
    evalBin (if isCeil then .ceildiv else .floordiv) v 1 = v := by
  cases isCeil
  · exact (pyFloorDiv_spec (a := v) (c := 1) (by omega) v).2 (by omega)
  · exact (pyCeilDiv_spec (a := v) (c := 1) (by omega) v).2 (by omega)

theorem evalBin_cancel {isCeil : Bool} {g v c : Int} (hg : 0 < g) (hc : 0 < c) :
    evalBin (if isCeil then .ceildiv else .floordiv) (g * v) (g * c)
      = evalBin (if isCeil then .ceildiv else .floordiv) v c := by
  cases isCeil
  · exact pyFloorDiv_cancel hg hc
  · exact pyCeilDiv_cancel hg hc

theorem divisor_facts (row : Row) {c : Int} (hc : 0 < c) :
    let g : Int := (rowGcd row c : Nat)
    0 < g ∧ c = g * pyFloorDiv c g ∧ 0 < pyFloorDiv c g := by
  intro g
  have hg : 0 < g := rowGcd_pos row hc
  have h1 : g * pyFloorDiv c g = c := mul_pyFloorDiv_of_dvd hg (rowGcd_dvd_c row c)
  exact ⟨hg, h1.symm, Int.pos_of_mul_pos_right (by rw [h1]; exact hc) hg⟩

/-- both visitors cancel the gcd `g` of the row and the divisor `c`: the cancelled row divided by `c // g`
is the row divided by `c` -/
theorem Denotes.divBy_cancel {a : Row} {e l : Expr} (hl : Denotes nd ns L a l) {c : Int} (hc : 0 < c) (isCeil : Bool) :
    Denotes nd ns L (a.divBy (rowGcd a c : Nat)) e →
      ∀ ρd ρs, evalBin (if isCeil then .ceildiv else .floordiv) (eval ρd ρs e) (pyFloorDiv c (rowGcd a c : Nat))
        = evalBin (if isCeil then .ceildiv else .floordiv) (eval ρd ρs l) c := by
  intro he ρd ρs
  obtain ⟨hg, hcg, hpos⟩ := divisor_facts a hc
  rw [← he.val, ← hl.val, ← Row.val_divBy a _ hg (fun x hx => rowGcd_dvd_co hx) (rowGcd_dvd_k a c)]
  conv => rhs; arg 3; rw [hcg]
  exact (evalBin_cancel hg hpos).symm

/-- … so the quotient expression both visitors build from the cancelled row has the value of the quotient -/
theorem Denotes.quotient_eval {lhs : Row} {l : Expr} (hl : Denotes nd ns L lhs l)
    {c : Int} (hc : 0 < c) (isCeil : Bool) {a q : Expr}
    (ha : fromFlat nd ns L (lhs.divBy (rowGcd lhs c : Nat)) = .ok a)
    (hq : mkDiv (if isCeil then .ceildiv else .floordiv) a (.const (pyFloorDiv c (rowGcd lhs c : Nat))) = .ok q)
    (ρd ρs : Nat → Int) :
    eval ρd ρs q = eval ρd ρs (.bin (if isCeil then .ceildiv else .floordiv) l (.const c)) :=
  (mkDiv_eval hq ρd ρs).trans (hl.divBy_cancel hc isCeil (fromFlat_denotes ha) ρd ρs)

theorem visitDiv_denotes {isCeil : Bool} {lhs rhs row : Row} {rhsExpr l : Expr}
    (h : visitDiv nd ns isCeil lhs rhs rhsExpr L = .ok (row, L')) (hl : Denotes nd ns L lhs l) :
    (∃ c, rhsExpr = .const c) ∧ 0 < rhs.k ∧ L <+: L' ∧
      Denotes nd ns L' row (.bin (if isCeil then .ceildiv else .floordiv) l (.const rhs.k)) := by
  unfold visitDiv at h
  by_cases hk : (!isConst rhsExpr) = true
  · rw [if_pos hk] at h; cases h
  by_cases hc0 : rhs.k ≤ 0
  · rw [if_neg hk, if_pos hc0] at h; cases h
  rw [if_neg hk, if_neg hc0] at h
  have hc : 0 < rhs.k := Int.not_le.1 hc0
  refine ⟨isConst_eq (by simpa using hk), hc, ?_⟩
  by_cases h1 : pyFloorDiv rhs.k (rowGcd lhs rhs.k : Nat) = 1
  · -- the cancelled divisor is 1: the cancelled row is the quotient
    rw [if_pos h1] at h
    cases h
    obtain ⟨a, ha⟩ := fromFlat_ok nd ns L ((Row.length_divBy lhs _).trans hl.len)
    refine ⟨List.prefix_rfl, (fromFlat_denotes ha).congr fun ρd ρs => ?_⟩
    show _ = evalBin _ (eval ρd ρs l) rhs.k
    rw [← hl.divBy_cancel hc isCeil (fromFlat_denotes ha), h1, evalBin_one]
  · rw [if_neg h1] at h
    obtain ⟨a, ha, h⟩ := bind_eq_ok.1 h
    obtain ⟨q, hq, h⟩ := bind_eq_ok.1 h
    have hqv := hl.quotient_eval hc isCeil ha hq
    split at h
    · -- the quotient is a local already
      rename_i loc hloc
      cases h
      obtain ⟨hi, hLi, -⟩ := List.idxOf?_eq_some_iff.1 hloc
      exact ⟨List.prefix_rfl, (Denotes.loc hi).congr (hLi ▸ hqv)⟩
    · -- the quotient becomes a new local
      cases h
      exact ⟨List.prefix_append _ _, (Denotes.last q).congr hqv⟩

theorem visitMod_denotes {lhs rhs row : Row} {rhsExpr l : Expr}
    (h : visitMod nd ns lhs rhs rhsExpr L = .ok (row, L')) (hl : Denotes nd ns L lhs l) :
    (∃ c, rhsExpr = .const c) ∧ 0 < rhs.k ∧ L <+: L' ∧
      Denotes nd ns L' row (.bin .mod l (.const rhs.k)) := by
  unfold visitMod at h
  by_cases hk : (!isConst rhsExpr) = true
  · rw [if_pos hk] at h; cases h
  by_cases hc0 : rhs.k ≤ 0
  · rw [if_neg hk, if_pos hc0] at h; cases h
  rw [if_neg hk, if_neg hc0] at h
  have hc : 0 < rhs.k := Int.not_le.1 hc0
  refine ⟨isConst_eq (by simpa using hk), hc, ?_⟩
  by_cases hall : (lhs.co.all (fun x => pyMod x rhs.k == 0) && pyMod lhs.k rhs.k == 0) = true
  · -- every coefficient and the constant are multiples of the divisor
    rw [if_pos hall] at h
    cases h
    simp only [Bool.and_eq_true, List.all_eq_true, beq_iff_eq] at hall
    refine ⟨List.prefix_rfl, .of (by rw [List.length_map]; exact hl.len) fun ρd ρs => ?_⟩
    rw [dot_map_zero, eval, evalBin, ← hl.val]
    exact (pyMod_eq_zero_of_dvd hc (Int.dvd_add (dot_dvd _ hc fun x hx => dvd_of_pyMod_eq_zero hc (hall.1 x hx))
      (dvd_of_pyMod_eq_zero hc hall.2))).symm
  · rw [if_neg hall] at h
    obtain ⟨a, ha, h⟩ := bind_eq_ok.1 h
    obtain ⟨q, hq, h⟩ := bind_eq_ok.1 h
    -- `lhs mod c = lhs - c * q` for the floor quotient `q`
    have hqv : ∀ ρd ρs, eval ρd ρs l - rhs.k * eval ρd ρs q = eval ρd ρs (.bin .mod l (.const rhs.k)) :=
      fun ρd ρs => by rw [hl.quotient_eval hc false ha hq]; exact (pyMod_def ..).symm
    split at h
    · -- the quotient becomes a new local
      cases h
      exact ⟨List.prefix_append _ _, hl.sub_last q _ hqv⟩
    · -- the quotient is a local already
      rename_i loc hloc
      cases h
      obtain ⟨hi, hLi, -⟩ := List.idxOf?_eq_some_iff.1 hloc
      exact ⟨List.prefix_rfl, hl.sub_loc hi _ (hLi ▸ hqv)⟩

theorem flat_denotes (e : Expr) {L0 L1 : List Expr} {row : Row} (h : flat nd ns e L0 = .ok (row, L1)) :
    L0 <+: L1 ∧ Denotes nd ns L1 row e := by
  induction e generalizing L0 L1 row with
  | const v => cases h; exact ⟨List.prefix_rfl, .const v⟩
  | dim p =>
    rw [flat] at h
    split at h <;> cases h
    exact ⟨List.prefix_rfl, .dim ‹_›⟩
  | sym p =>
    rw [flat] at h
    split at h <;> cases h
    exact ⟨List.prefix_rfl, .sym ‹_›⟩
  | bin k l r ihl ihr =>
    rw [flat] at h
    obtain ⟨⟨lr, La⟩, hl, h⟩ := bind_eq_ok.1 h
    obtain ⟨⟨rr, Lb⟩, hr, h⟩ := bind_eq_ok.1 h
    obtain ⟨p1, d1⟩ := ihl hl
    obtain ⟨p2, d2⟩ := ihr hr
    -- the row of `l`, padded with a zero column for every local that `r` added
    have d1 := d1.extend p2
    cases k with
    | add => cases h; exact ⟨p1.trans p2, d1.add d2⟩
    | mul =>
      dsimp only at h
      split at h
      · cases h
      rename_i hk
      cases h
      obtain ⟨c, rfl⟩ := isConst_eq (by simpa using hk)
      exact ⟨p1.trans p2, flat_const_k hr ▸ d1.mul rr.k⟩
    | floordiv =>
      obtain ⟨⟨c, rfl⟩, -, p3, d3⟩ := visitDiv_denotes h d1
      exact ⟨(p1.trans p2).trans p3, flat_const_k hr ▸ d3⟩
    | ceildiv =>
      obtain ⟨⟨c, rfl⟩, -, p3, d3⟩ := visitDiv_denotes h d1
      exact ⟨(p1.trans p2).trans p3, flat_const_k hr ▸ d3⟩
    | mod =>
      obtain ⟨⟨c, rfl⟩, -, p3, d3⟩ := visitMod_denotes h d1
      exact ⟨(p1.trans p2).trans p3, flat_const_k hr ▸ d3⟩

end

/-- Expressions inside the statement for `simplify(nd, ns)`: positions in range, multiplication by a
constant on the right (what `__mul__` builds), division-like operators by a positive constant. -/
inductive InScope (nd ns : Nat) : Expr → Prop
  | const (v : Int) : InScope nd ns (.const v)
  | dim {p : Nat} : p < nd → InScope nd ns (.dim p)
  | sym {p : Nat} : p < ns → InScope nd ns (.sym p)
  | add {l r : Expr} : InScope nd ns l → InScope nd ns r → InScope nd ns (.bin .add l r)
  | mul {l : Expr} (c : Int) : InScope nd ns l → InScope nd ns (.bin .mul l (.const c))
  | div {k : Kind} {l : Expr} {c : Int} :
      k.isDivLike = true → InScope nd ns l → 0 < c → InScope nd ns (.bin k l (.const c))

theorem InScope.pureAffine {nd ns : Nat} {e : Expr} (h : InScope nd ns e) : pureAffine e = true := by
  induction h with
  | const v => rfl
  | dim _ => rfl
  | sym _ => rfl
  | add _ _ ihl ihr => simp only [Affine.pureAffine, ihl, ihr, Bool.and_self]
  | mul c _ ih => simp only [Affine.pureAffine, ih, Bool.or_true, Bool.and_self]
  | @div k l c hk _ _ ih =>
    cases k
    case add | mul => cases hk
    all_goals simp only [Affine.pureAffine, ih, Bool.and_self]

theorem quotient_ok {nd ns : Nat} {L : List Expr} {row : Row} (c : Int)
    (hlen : row.co.length = nd + ns + L.length) (isCeil : Bool) :
    ∃ a q, fromFlat nd ns L (row.divBy (rowGcd row c : Nat)) = .ok a ∧
      mkDiv (if isCeil then .ceildiv else .floordiv) a (.const (pyFloorDiv c (rowGcd row c : Nat))) = .ok q := by
  obtain ⟨a, ha⟩ := fromFlat_ok nd ns L (row := row.divBy (rowGcd row c : Nat))
    (by rw [Row.length_divBy]; exact hlen)
  obtain ⟨q, hq⟩ := mkDiv_const_ok (if isCeil then .ceildiv else .floordiv) a
    (pyFloorDiv c (rowGcd row c : Nat))
  exact ⟨a, q, ha, hq⟩

theorem visitDiv_ok {nd ns : Nat} (isCeil : Bool) {lhs rhs : Row} {L : List Expr} (v : Int)
    (hlen : lhs.co.length = nd + ns + L.length) (hc : 0 < rhs.k) :
    ∃ out, visitDiv nd ns isCeil lhs rhs (.const v) L = .ok out := by
  unfold visitDiv
  rw [if_neg (show ¬ (!isConst (.const v)) = true from Bool.false_ne_true), if_neg (Int.not_le.2 hc)]
  by_cases h1 : pyFloorDiv rhs.k (rowGcd lhs rhs.k : Nat) = 1
  · rw [if_pos h1]; exact ⟨_, rfl⟩
  · rw [if_neg h1]
    obtain ⟨a, q, ha, hq⟩ := quotient_ok rhs.k hlen isCeil
    refine Exists.imp (fun out h => bind_eq_ok.2 ⟨a, ha, bind_eq_ok.2 ⟨q, hq, h⟩⟩) ?_
    cases List.idxOf? q L <;> exact ⟨_, rfl⟩

theorem visitMod_ok {nd ns : Nat} {lhs rhs : Row} {L : List Expr} (v : Int)
    (hlen : lhs.co.length = nd + ns + L.length) (hc : 0 < rhs.k) :
    ∃ out, visitMod nd ns lhs rhs (.const v) L = .ok out := by
  unfold visitMod
  rw [if_neg (show ¬ (!isConst (.const v)) = true from Bool.false_ne_true), if_neg (Int.not_le.2 hc)]
  split
  · exact ⟨_, rfl⟩
  · obtain ⟨a, q, ha, hq⟩ := quotient_ok rhs.k hlen false
    refine Exists.imp (fun out h => bind_eq_ok.2 ⟨a, ha, bind_eq_ok.2 ⟨q, hq, h⟩⟩) ?_
    cases List.idxOf? q L <;> exact ⟨_, rfl⟩

theorem flat_total {nd ns : Nat} {e : Expr} (h : InScope nd ns e) (L0 : List Expr) :
    ∃ out, flat nd ns e L0 = .ok out := by
  induction h generalizing L0 with
  | const v => exact ⟨_, rfl⟩
  | dim hp => exact ⟨_, if_pos hp⟩
  | sym hp => exact ⟨_, if_pos hp⟩
  | add _ _ ihl ihr =>
    obtain ⟨⟨lr, La⟩, hl⟩ := ihl L0
    obtain ⟨⟨rr, Lb⟩, hr⟩ := ihr La
    exact ⟨_, bind_eq_ok.2 ⟨_, hl, bind_eq_ok.2 ⟨_, hr, rfl⟩⟩⟩
  | mul c _ ih =>
    obtain ⟨⟨lr, La⟩, hl⟩ := ih L0
    exact ⟨_, bind_eq_ok.2 ⟨_, hl, rfl⟩⟩
  | @div k l c hk _ hc ih =>
    obtain ⟨⟨lr, La⟩, hl⟩ := ih L0
    have hlen := ((flat_denotes l hl).2.extend List.prefix_rfl).len
    -- the divisor is the row of the constant `c`
    refine Exists.imp (fun out h => bind_eq_ok.2 ⟨_, hl, bind_eq_ok.2 ⟨_, rfl, h⟩⟩) ?_
    cases k
    case add | mul => cases hk
    case floordiv => exact visitDiv_ok false c hlen hc
    case ceildiv => exact visitDiv_ok true c hlen hc
    case mod => exact visitMod_ok c hlen hc

end Xdsl.Affine
