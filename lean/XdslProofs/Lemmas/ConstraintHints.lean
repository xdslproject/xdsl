import XdslProofs.Lemmas.ConstraintSimplify
/-!
Type hints (C09): the constraint that `irdl_to_attr_constraint` makes of a hint — through
`mapping_type_vars`, `ParamAttrConstraint.get` and `AnyOf.get` — satisfies what the constructors
enforce and has no constraint variables (`Good`), so that the characterisation of `verify` applies;
and what the loop of `isa` over the members of a union returns (`isaAny_ok`).
-/
namespace Xdsl.Constraint

theorem varsL_nil_iff : ∀ cs : List C, varsL cs = [] ↔ ∀ c ∈ cs, vars c = []
  | [] => ⟨fun _ => nofun, fun _ => rfl⟩
  | _ :: cs =>
    (List.append_eq_nil_iff.trans (and_congr_right' (varsL_nil_iff cs))).trans
      (List.forall_mem_cons (p := (vars · = []))).symm

theorem wellDeclared_of_novars (decl : Nat → C) : ∀ c, vars c = [] → WellDeclared decl c := by
  intro c
  induction c using C.ind with
  | any | eq _ | set _ | base _ => exact fun _ => trivial
  | anyOf cs ih | allOf cs ih | param d cs ih =>
    exact fun h => (WDL_iff decl cs).2 fun c hc => ih c hc ((varsL_nil_iff cs).1 h c hc)
  | var n c _ => exact nofun
  | msg n c ih | tvar n c ih | arrayOf k c ih => exact ih

/-- what conversion of hints produces: constructor-well-formed constraints without variables -/
def Good (U : Univ) (c : C) : Prop := WF U c ∧ vars c = []

theorem good_list (U : Univ) {cs : List C} : (WFL U cs ∧ varsL cs = []) ↔ ∀ c ∈ cs, Good U c := by
  rw [WFL_iff, varsL_nil_iff]
  exact ⟨fun h c hc => ⟨h.1 c hc, h.2 c hc⟩, fun h => ⟨fun c hc => (h c hc).1, fun c hc => (h c hc).2⟩⟩

theorem Good_compositional (U : Univ) : Compositional U (Good U) where
  eq _ := ⟨trivial, rfl⟩
  set _ := ⟨trivial, rfl⟩
  param _ _ := good_list U
  anyOf_intro _ h1 h2 := let ⟨w, v⟩ := (good_list U).2 h2; ⟨⟨h1, w⟩, v⟩
  anyOf_elim _ h := (good_list U).1 ⟨h.1.2, h.2⟩

section
variable (U : Univ)

theorem paramGet_good (d : Nat) (cs : List C) (h : ∀ c ∈ cs, Good U c) : Good U (paramGet U d cs) := by
  unfold paramGet
  split
  · exact ⟨trivial, rfl⟩
  · split
    · exact ⟨trivial, rfl⟩
    · exact ((Good_compositional U).param d cs).2 h

theorem mapTVL_mem (m : AL Nat C) (cs rs : List C) (h : mapTVL U m cs = .ok rs) :
    ∀ r ∈ rs, ∃ c ∈ cs, mapTV U m c = .ok r := by
  induction cs generalizing rs with
  | nil => cases h; exact nofun
  | cons c cs ih =>
    unfold mapTVL at h
    split at h
    · rename_i c' h1
      split at h
      · rename_i cs' h2; cases h
        intro r hr
        rcases List.mem_cons.1 hr with e | hr
        · exact ⟨c, List.mem_cons_self .., e ▸ h1⟩
        · exact let ⟨c0, hc0, h0⟩ := ih cs' h2 r hr; ⟨c0, List.mem_cons_of_mem _ hc0, h0⟩
      · cases h
    · cases h

theorem mapTV_good (m : AL Nat C) (hm : ∀ i c, AL.get m i = some c → Good U c) :
    ∀ t, Good U t → ∀ r, mapTV U m t = .ok r → Good U r := by
  intro t
  -- the members of a mapped list are good: each is the image of a good member
  have list : ∀ cs : List C, (∀ c ∈ cs, Good U c → ∀ r, mapTV U m c = .ok r → Good U r) →
      (∀ c ∈ cs, Good U c) → ∀ cs', mapTVL U m cs = .ok cs' → ∀ r ∈ cs', Good U r :=
    fun cs ih hg cs' h r hr => let ⟨c, hc, hr⟩ := mapTVL_mem U m cs cs' h r hr; ih c hc (hg c hc) r hr
  induction t using C.ind <;> intro hg r h <;> unfold mapTV at h
  case any | eq | set | base => cases h; exact hg
  case var => exact nomatch hg.2
  case anyOf cs ih =>
    split at h
    · rename_i cs' h1
      exact (anyOfGet_joins h).keeps _ (Good_compositional U)
        (list cs ih ((Good_compositional U).anyOf_elim cs hg) cs' h1)
    · cases h
  case allOf cs ih =>
    split at h
    · rename_i cs' h1; cases h
      exact (good_list U).2 (list cs ih ((good_list U).1 hg) cs' h1)
    · cases h
  case param d ps ih =>
    split at h
    · rename_i ps' h1; cases h
      exact paramGet_good U d ps' (list ps ih (((Good_compositional U).param d ps).1 hg) ps' h1)
    · cases h
  case msg k c ih =>
    split at h
    · rename_i c' h1; cases h; exact ih hg c' h1
    · cases h
  case tvar i b _ =>
    split at h
    · rename_i c h1; cases h; exact hm i _ h1
    · cases h
  case arrayOf k c ih =>
    split at h
    · rename_i c' h1; cases h
      have := ih ⟨hg.1.2, hg.2⟩ c' h1
      exact ⟨⟨hg.1.1, this.1⟩, this.2⟩
    · cases h

theorem get_zipTV_mem (tvs : List Nat) (cs : List C) (i : Nat) (c : C)
    (h : AL.get (zipTV tvs cs) i = some c) : c ∈ cs := by
  fun_induction zipTV tvs cs with
  | case1 n ns c0 cs ih =>
    rw [AL.get_cons] at h
    split at h
    · cases h; exact List.mem_cons_self ..
    · exact List.mem_cons_of_mem _ (ih h)
  | case2 => cases h

end

section
variable {P : Hint → Prop}
    (cls : ∀ c r, P (.cls c r))
    (union : ∀ hs, (∀ h ∈ hs, P h) → P (.union hs))
    (generic : ∀ t tvs args, (∀ h ∈ args, P h) → P (.generic t tvs args))
    (annotated : ∀ hs, (∀ h ∈ hs, P h) → P (.annotated hs))
include cls union generic annotated

theorem Hint.ind : ∀ h, P h := fun h =>
  Hint.rec (motive_1 := P) (motive_2 := fun hs => ∀ h ∈ hs, P h) cls union generic annotated
    (fun _ h => nomatch h) (fun _ _ hc hcs _ h => (List.mem_cons.1 h).elim (· ▸ hc) (hcs _)) h

theorem Hint.indL : ∀ hs : List Hint, ∀ h ∈ hs, P h :=
  fun _ h _ => Hint.ind cls union generic annotated h
end

mutual
/-- side conditions on a hint: the class marked as root really is the root (`Attribute`), and the
class templates of generic attribute classes are good constraints -/
def HintOK (U : Univ) : Hint → Prop
  | .cls c root => root = true → ∀ x, isSub U x c = true
  | .union hs => HintOKL U hs
  | .generic t _ args => Good U t ∧ HintOKL U args
  | .annotated hs => HintOKL U hs
def HintOKL (U : Univ) : List Hint → Prop
  | [] => True
  | h :: hs => HintOK U h ∧ HintOKL U hs
end

theorem HintOKL_iff (U : Univ) : ∀ hs, HintOKL U hs ↔ ∀ h ∈ hs, HintOK U h
  | [] => ⟨fun _ => nofun, fun _ => trivial⟩
  | _ :: hs => (and_congr_right' (HintOKL_iff U hs)).trans List.forall_mem_cons.symm

section
variable (U : Univ)

theorem convHints_ok (hs : List Hint) (cs : List C) (e : convHints U hs = .ok cs) :
    (∀ c ∈ cs, ∃ h ∈ hs, convHint U h = .ok c) ∧ ∀ h ∈ hs, ∃ c ∈ cs, convHint U h = .ok c := by
  induction hs generalizing cs with
  | nil => cases e; exact ⟨nofun, nofun⟩
  | cons h0 hs ih =>
    unfold convHints at e
    split at e
    · rename_i c0 h1
      split at e
      · rename_i cs' h2; cases e
        obtain ⟨p, q⟩ := ih cs' h2
        refine ⟨fun c hc => ?_, fun h hh => ?_⟩
        · rcases List.mem_cons.1 hc with e | hc
          · exact ⟨h0, List.mem_cons_self .., e ▸ h1⟩
          · exact let ⟨h, hh, hc⟩ := p c hc; ⟨h, List.mem_cons_of_mem _ hh, hc⟩
        · rcases List.mem_cons.1 hh with e | hh
          · exact ⟨c0, List.mem_cons_self .., e ▸ h1⟩
          · exact let ⟨c, hc, hh⟩ := q h hh; ⟨c, List.mem_cons_of_mem _ hc, hh⟩
      · cases e
    · cases e

theorem isaAny_ok (a : Attr) (hs : List Hint) (b : Bool) (e : isaAny U hs a = .ok b) :
    if b then ∃ h ∈ hs, isaHint U h a = .ok true else ∀ h ∈ hs, isaHint U h a = .ok false := by
  induction hs with
  | nil => cases e; exact nofun
  | cons h0 hs ih =>
    unfold isaAny at e
    split at e
    · rename_i h1; cases e; exact ⟨h0, List.mem_cons_self .., h1⟩
    · rename_i h1
      cases b with
      | true => exact let ⟨h, hh, h2⟩ := ih e; ⟨h, List.mem_cons_of_mem _ hh, h2⟩
      | false => exact List.forall_mem_cons.2 ⟨h1, ih e⟩
    · cases e

theorem convHint_good : ∀ h, HintOK U h → ∀ c, convHint U h = .ok c → Good U c := by
  intro h
  -- converted lists: each member is the conversion of a member
  have list : ∀ hs : List Hint, (∀ h ∈ hs, HintOK U h → ∀ c, convHint U h = .ok c → Good U c) →
      HintOKL U hs → ∀ cs, convHints U hs = .ok cs → ∀ c ∈ cs, Good U c :=
    fun hs ih hok cs e c hc =>
      let ⟨h, hh, hc⟩ := (convHints_ok U hs cs e).1 c hc; ih h hh ((HintOKL_iff U hs).1 hok h hh) c hc
  induction h using Hint.ind <;> intro hok c hc <;> unfold convHint at hc
  case cls => cases hc; split <;> exact ⟨trivial, rfl⟩
  case union hs ih =>
    split at hc
    · rename_i cs h1; exact (anyOfGet_joins hc).keeps _ (Good_compositional U) (list hs ih hok cs h1)
    · cases hc
  case generic t tvs args ih =>
    split at hc
    · rename_i cs h1
      split at hc
      · exact mapTV_good U _ (fun i c' hi => list args ih hok.2 cs h1 c' (get_zipTV_mem tvs cs i c' hi)) t hok.1 c hc
      · cases hc
    · cases hc
  case annotated hs ih =>
    split at hc
    · cases hc; exact ⟨trivial, rfl⟩
    · rename_i c1 h1; cases hc; exact list hs ih hok _ h1 c (List.mem_cons_self ..)
    · rename_i cs _ _ h1; cases hc; exact (good_list U).2 (list hs ih hok cs h1)
    · cases hc

end

end Xdsl.Constraint
