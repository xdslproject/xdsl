import XdslProofs.Lemmas.AffineFlat
/-!
Closure of `InScope` (the expressions `simplify` is guaranteed to accept) under the smart
constructors of the statement (C26).
-/
namespace Xdsl.Affine

variable {nd ns : Nat}

theorem InScope.add_inv {l r : Expr} (h : InScope nd ns (.bin .add l r)) :
    InScope nd ns l ∧ InScope nd ns r := by
  cases h with
  | add hl hr => exact ⟨hl, hr⟩
  | div hk _ _ => cases hk

theorem InScope.mul_inv {l r : Expr} (h : InScope nd ns (.bin .mul l r)) :
    InScope nd ns l ∧ ∃ c, r = .const c := by
  cases h with
  | mul c hl => exact ⟨hl, c, rfl⟩
  | div hk _ _ => cases hk

theorem inScope_addCore {a b : Expr} (ha : InScope nd ns a) (hb : InScope nd ns b) :
    InScope nd ns (addCore a b) := by
  fun_induction addCore a b with
  | case1 x y => exact .const _
  | case2 l c => exact ha
  | case3 c y _ x => exact .const _
  | case4 l c y _ _ ih => exact ih ha.add_inv.1 (.const _)
  | case5 self _ _ => exact ha
  | case6 self y _ _ _ => exact .add ha (.const _)
  | case7 self other _ _ _ => exact .add ha hb

theorem inScope_mkAdd {a b : Expr} (ha : InScope nd ns a) (hb : InScope nd ns b) :
    InScope nd ns (mkAdd a b) := by
  unfold mkAdd
  split
  · exact inScope_addCore hb ha
  · exact inScope_addCore ha hb

theorem inScope_mulC {a : Expr} (k : Int) (ha : InScope nd ns a) : InScope nd ns (mulC a k) := by
  fun_induction mulC a k with
  | case1 x k => exact .const _
  | case2 l d => exact ha
  | case3 l d k _ ih => exact ih ha.mul_inv.1
  | case4 l r => exact ha
  | case5 l r k _ ihl ihr => exact inScope_mkAdd (ihl ha.add_inv.1) (ihr ha.add_inv.2)
  | case6 e _ _ _ => exact ha
  | case7 e k _ _ _ _ => exact .mul _ ha

theorem inScope_mkMul {a b e : Expr} (ha : InScope nd ns a) (hb : InScope nd ns b)
    (h : mkMul a b = .ok e) : InScope nd ns e := by
  unfold mkMul at h
  split at h
  · cases h; exact inScope_mulC _ hb
  · cases h; exact inScope_mulC _ ha
  · cases h

theorem inScope_mkDiv {k : Kind} {a e : Expr} {c : Int} (hk : k.isDivLike = true)
    (ha : InScope nd ns a) (hc : 0 < c) (h : mkDiv k a (.const c) = .ok e) : InScope nd ns e := by
  cases a with
  | const x =>
    -- two constants are folded
    have hc' : c ≠ 0 := Int.ne_of_gt hc
    rw [mkDiv, if_neg hc', foldConst_of_ne k x hc'] at h
    cases h
    exact .const _
  | _ => cases h; exact .div hk ha hc

theorem inScope_mkNeg {a : Expr} (ha : InScope nd ns a) : InScope nd ns (mkNeg a) := by
  unfold mkNeg
  split
  · exact .const _
  · exact inScope_mulC _ ha

theorem inScope_mkSub {a b : Expr} (ha : InScope nd ns a) (hb : InScope nd ns b) :
    InScope nd ns (mkSub a b) := inScope_mkAdd ha (inScope_mulC _ hb)

end Xdsl.Affine
