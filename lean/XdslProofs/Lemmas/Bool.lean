/-!
A Boolean check `!a || b` (`a || !b`, `x == y || b`, `x != y || b`) read as an implication: with these in the
`simp only` list a clause of a check becomes the field of its logical reading, which a proof applies instead of splitting.
-/
namespace Xdsl

theorem not_or_imp {a b : Bool} : (!a || b) = true ↔ (a = true → b = true) := by
  cases a <;> simp

theorem or_not_imp {a b : Bool} : (a || !b) = true ↔ (b = true → a = true) := by
  cases b <;> simp

theorem beq_or_imp {α : Type} [BEq α] [LawfulBEq α] {x y : α} {b : Bool} :
    (x == y || b) = true ↔ (x ≠ y → b = true) := by
  by_cases h : x = y <;> simp [h]

theorem bne_or_imp {α : Type} [BEq α] [LawfulBEq α] {x y : α} {b : Bool} :
    (x != y || b) = true ↔ (x = y → b = true) := by
  by_cases h : x = y <;> simp [h]

end Xdsl
