import XdslProofs.Lemmas.IRSubtree
/-!
# C01 — erasure: `drop_all_references` over a detached subtree preserves the store invariant

`dropTree s root = (subtreeOf s root).foldl dropOne s`.  In the middle of the fold the intrusive
lists are broken (operations of a block are nulled before the block's end pointers are), so the
fold is followed with

* `InvU`: the part of the invariant about use lists and index fields, preserved by every step, and
* `DropSt`: a frame description of the tree part relative to the initial store (which link fields
  have been nulled so far),

and the invariant is re-assembled at the end from the closure properties of the subtree
(`Subtree.closed`): an object is in the dropped set iff its parent is.
-/
namespace Xdsl.IR
open Xdsl Xdsl.DLL IRStore

structure InvU (s : IRStore) (vu bu : Nat → List Nat) : Prop where
  vuseL : WF s.vuseL vu
  buseL : WF s.buseL bu
  operandUses : UseInv s (·.operands) (·.operandUses) vu
  successorUses : UseInv s (·.successors) (·.successorUses) bu
  results : ∀ o d i v, AL.get s.ops o = some d → d.results[i]? = some v →
    AL.get s.vals v = some { kind := .result, owner := o, index := i }
  args : ∀ b d i v, AL.get s.blocks b = some d → d.args[i]? = some v →
    AL.get s.vals v = some { kind := .arg, owner := b, index := i }

/-- what `drop_all_references` leaves of the data of an operation -/
def clearedOp (d : OpData) : OpData :=
  { d with operands := [], operandUses := [], successors := [], successorUses := [], regions := [] }

theorem dropOne_op (s : IRStore) (o : Nat) :
    s.dropOne (.op o) =
      { s with
        vuseL := ((s.op! o).operands.zip (s.op! o).operandUses).foldl (fun l p => l.remove p.1 p.2) s.vuseL
        buseL := ((s.op! o).successors.zip (s.op! o).successorUses).foldl (fun l p => l.remove p.1 p.2) s.buseL
        ops := AL.set s.ops o (clearedOp (s.op! o))
        opL := s.opL.setNd o {}
        deadO := o :: s.deadO
        deadV := (s.op! o).results ++ s.deadV } := by
  unfold IRStore.dropOne
  simp only [fold_removeUseV, fold_removeUseB]
  rfl

theorem InvU.dropOp {s : IRStore} {vu bu : Nat → List Nat} (h : InvU s vu bu) {o : Nat} {d : OpData}
    (hd : AL.get s.ops o = some d) : ∃ vu' bu', InvU (s.dropOne (.op o)) vu' bu' := by
  rw [dropOne_op, op!_of_get hd]
  obtain ⟨f1, w1, U1⟩ := h.operandUses.setAll h.vuseL (new := []) (d' := clearedOp d) hd rfl rfl
  obtain ⟨g1, x1, S1⟩ := h.successorUses.setAll h.buseL (new := []) (d' := clearedOp d) hd rfl rfl
  refine ⟨f1, g1, w1, x1, U1 _ rfl rfl rfl, S1 _ rfl rfl rfl, fun o' d'' i v h1 h2 => ?_, h.args⟩
  rcases AL.get_set_eq_some.mp h1 with ⟨rfl, rfl⟩ | ⟨_, h1⟩
  · exact h.results _ d i v hd h2
  · exact h.results o' d'' i v h1 h2

/-- the state of the fold of `dropOne` after the objects `D`, relative to the initial store `s` -/
structure DropSt (s t : IRStore) (D : List Ref) : Prop where
  opNd : ∀ n, t.opL.nd n = if Ref.op n ∈ D then {} else s.opL.nd n
  opEn : ∀ c, t.opL.en c = if Ref.block c ∈ D then {} else s.opL.en c
  blNd : ∀ n, t.blockL.nd n = if Ref.block n ∈ D then {} else s.blockL.nd n
  blEn : ∀ c, t.blockL.en c = if Ref.region c ∈ D then {} else s.blockL.en c
  rpar : ∀ r, t.regionParent r = if Ref.region r ∈ D then none else s.regionParent r
  mono : Mono s t
  opsBack : ∀ o d', AL.get t.ops o = some d' → ∃ d, AL.get s.ops o = some d ∧
    d'.regions = if Ref.op o ∈ D then [] else d.regions
  uses : ∃ vu bu, InvU t vu bu

theorem DropSt.init {s : IRStore} {a : Abs} (ha : InvA s a) : DropSt s s [] where
  opNd := by simp
  opEn := by simp
  blNd := by simp
  blEn := by simp
  rpar := by simp
  mono := Mono.refl s
  opsBack := fun o d' h => ⟨d', h, by simp⟩
  uses := ⟨_, _, ha.vuseL, ha.buseL, ha.operandUses, ha.successorUses, ha.results, ha.args⟩

/-- the two ways in which "nulled iff its reference is in `D`" extends to `x :: D`: `x` is the
reference of the key that has just been nulled, or `x` is a reference of another kind -/
theorem nulled_cons_self {β : Type} {key : Nat → Ref} (hk : ∀ a b, key a = key b → a = b) (D : List Ref)
    (o n : Nat) (z : β) (g : Nat → β) :
    (if n = o then z else if key n ∈ D then z else g n) = if key n ∈ key o :: D then z else g n := by
  by_cases hn : n = o
  · rw [if_pos hn, if_pos (hn ▸ List.mem_cons_self)]
  · rw [if_neg hn]
    by_cases hD : key n ∈ D
    · rw [if_pos hD, if_pos (List.mem_cons_of_mem _ hD)]
    · rw [if_neg hD, if_neg fun hm => (List.mem_cons.mp hm).elim (fun e => hn (hk _ _ e)) hD]

theorem nulled_cons_other {β : Type} {key : Nat → Ref} {x : Ref} (hx : ∀ n, key n ≠ x) (D : List Ref)
    (n : Nat) (z : β) (g : Nat → β) :
    (if key n ∈ D then z else g n) = if key n ∈ x :: D then z else g n := by
  by_cases hD : key n ∈ D
  · rw [if_pos hD, if_pos (List.mem_cons_of_mem _ hD)]
  · rw [if_neg hD, if_neg fun hm => (List.mem_cons.mp hm).elim (hx n) hD]

theorem regionParent_dropRegion (t : IRStore) (r r' : Nat) :
    (t.dropOne (.region r)).regionParent r' = if r' = r then none else t.regionParent r' := by
  show ((AL.get (AL.set t.regions r ({ parent := none } : RegionData)) r').getD {}).parent = _
  rw [AL.get_set]; split <;> rfl

theorem DropSt.step {s t : IRStore} {D : List Ref} (h : DropSt s t D) {x : Ref} (hx : Reg s x) :
    DropSt s (t.dropOne x) (x :: D) := by
  obtain ⟨vu, bu, hu⟩ := h.uses
  have opsBack' : ∀ {y : Ref}, (∀ n, Ref.op n ≠ y) → ∀ o d', AL.get t.ops o = some d' →
      ∃ d, AL.get s.ops o = some d ∧ d'.regions = if Ref.op o ∈ y :: D then [] else d.regions :=
    fun hy o d' h1 => (h.opsBack o d' h1).imp fun d hd => ⟨hd.1, hd.2.trans (nulled_cons_other hy D o [] fun _ => d.regions)⟩
  cases x with
  | op o =>
    obtain ⟨d, hd⟩ := Option.isSome_iff_exists.mp (h.mono.o o hx)
    have hU := hu.dropOp hd
    rw [dropOne_op] at hU ⊢
    refine ⟨fun n => ?_, fun c => (h.opEn c).trans (nulled_cons_other (by intro _ e; cases e) ..),
      fun n => (h.blNd n).trans (nulled_cons_other (by intro _ e; cases e) ..),
      fun c => (h.blEn c).trans (nulled_cons_other (by intro _ e; cases e) ..),
      fun r => (h.rpar r).trans (nulled_cons_other (by intro _ e; cases e) ..),
      h.mono.trans (Mono.of_setOp rfl rfl rfl), fun o' d' h1 => ?_, hU⟩
    · show (t.opL.setNd o {}).nd n = _
      rw [L.nd_setNd, h.opNd]; exact nulled_cons_self (fun _ _ e => Ref.op.inj e) ..
    · rcases AL.get_set_eq_some.mp h1 with ⟨rfl, rfl⟩ | ⟨hne, h1⟩
      · obtain ⟨d0, hd0⟩ := Option.isSome_iff_exists.mp hx
        exact ⟨d0, hd0, (if_pos List.mem_cons_self).symm⟩
      · obtain ⟨d0, hd0, hr⟩ := h.opsBack o' d' h1
        exact ⟨d0, hd0, hr.trans ((if_neg hne).symm.trans
          (nulled_cons_self (fun _ _ e => Ref.op.inj e) D o o' [] fun _ => d0.regions))⟩
  | block b =>
    refine ⟨fun n => (h.opNd n).trans (nulled_cons_other (by intro _ e; cases e) ..), fun c => ?_, fun n => ?_,
      fun c => (h.blEn c).trans (nulled_cons_other (by intro _ e; cases e) ..),
      fun r => (h.rpar r).trans (nulled_cons_other (by intro _ e; cases e) ..), ⟨h.mono.o, h.mono.b, h.mono.r⟩,
      opsBack' (by intro _ e; cases e),
      ⟨vu, bu, hu.vuseL, hu.buseL, hu.operandUses.congr rfl rfl rfl, hu.successorUses.congr rfl rfl rfl,
        hu.results, hu.args⟩⟩
    · show (t.opL.setEn b {}).en c = _
      rw [L.en_setEn, h.opEn]; exact nulled_cons_self (fun _ _ e => Ref.block.inj e) ..
    · show (t.blockL.setNd b {}).nd n = _
      rw [L.nd_setNd, h.blNd]; exact nulled_cons_self (fun _ _ e => Ref.block.inj e) ..
  | region r =>
    refine ⟨fun n => (h.opNd n).trans (nulled_cons_other (by intro _ e; cases e) ..),
      fun c => (h.opEn c).trans (nulled_cons_other (by intro _ e; cases e) ..),
      fun n => (h.blNd n).trans (nulled_cons_other (by intro _ e; cases e) ..), fun c => ?_, fun r' => ?_,
      ⟨h.mono.o, h.mono.b, fun k hk => AL.isSome_get_set _ _ (h.mono.r k hk)⟩, opsBack' (by intro _ e; cases e),
      ⟨vu, bu, hu.vuseL, hu.buseL, hu.operandUses.congr rfl rfl rfl, hu.successorUses.congr rfl rfl rfl,
        hu.results, hu.args⟩⟩
    · show (t.blockL.setEn r {}).en c = _
      rw [L.en_setEn, h.blEn]; exact nulled_cons_self (fun _ _ e => Ref.region.inj e) ..
    · rw [regionParent_dropRegion, h.rpar]; exact nulled_cons_self (fun _ _ e => Ref.region.inj e) ..

theorem DropSt.fold {s : IRStore} : ∀ (l : List Ref) (t : IRStore) (D : List Ref), DropSt s t D →
    (∀ x ∈ l, Reg s x) → DropSt s (l.foldl IRStore.dropOne t) (l.reverse ++ D) := by
  intro l
  induction l with
  | nil => intro t D h _; simpa using h
  | cons x r ih =>
    intro t D h hr
    simp only [List.foldl_cons, List.reverse_cons, List.append_assoc, List.singleton_append]
    exact ih _ _ (h.step (hr x List.mem_cons_self)) (fun y hy => hr y (List.mem_cons_of_mem _ hy))

theorem DropSt.finish {s t : IRStore} {a : Abs} {D : List Ref} (ha : InvA s a) (h : DropSt s t D)
    (closed : ∀ c p, s.parentRef c = some p → (c ∈ D ↔ p ∈ D)) : Inv t := by
  obtain ⟨vu, bu, hu⟩ := h.uses
  have clO : ∀ b o, o ∈ a.ops b → (Ref.op o ∈ D ↔ Ref.block b ∈ D) := fun b o ho =>
    closed (.op o) (.block b) (by simp [IRStore.parentRef, IRStore.opParent, ha.opL.parent_of_mem ho])
  have clB : ∀ r b, b ∈ a.blocks r → (Ref.block b ∈ D ↔ Ref.region r ∈ D) := fun r b hb =>
    closed (.block b) (.region r) (by simp [IRStore.parentRef, IRStore.blockParent, ha.blockL.parent_of_mem hb])
  have clR : ∀ r o, s.regionParent r = some o → (Ref.region r ∈ D ↔ Ref.op o ∈ D) := fun r o hp =>
    closed (.region r) (.op o) (by simp [IRStore.parentRef, hp])
  refine ⟨⟨fun b => if Ref.block b ∈ D then [] else a.ops b,
    fun r => if Ref.region r ∈ D then [] else a.blocks r, vu, bu⟩, ?_⟩
  exact {
    opL := ha.opL.clear_on (fun n => Ref.op n ∈ D) (fun c => Ref.block c ∈ D) h.opNd h.opEn clO
    blockL := ha.blockL.clear_on (fun n => Ref.block n ∈ D) (fun c => Ref.region c ∈ D) h.blNd h.blEn clB
    vuseL := hu.vuseL
    buseL := hu.buseL
    operandUses := hu.operandUses
    successorUses := hu.successorUses
    results := hu.results
    args := hu.args
    regions := by
      intro o d' hd'
      obtain ⟨d, hd, hr⟩ := h.opsBack o d' hd'
      rw [hr]
      by_cases hoD : Ref.op o ∈ D
      · simp [hoD]
      · simp only [hoD, if_false]
        refine ⟨(ha.regions o d hd).1, fun r hr' => ?_⟩
        have hp := (ha.regions o d hd).2 r hr'
        have : Ref.region r ∉ D := fun e => hoD ((clR r o hp).mp e)
        rw [h.rpar]; simp [this, hp]
    regionParent := by
      intro r o hp
      rw [h.rpar] at hp
      by_cases hrD : Ref.region r ∈ D
      · simp [hrD] at hp
      · simp only [hrD, if_false] at hp
        obtain ⟨d, hd, hr⟩ := ha.regionParent r o hp
        have hoD : Ref.op o ∉ D := fun e => hrD ((clR r o hp).mpr e)
        have hreg : regO t o := h.mono.o o (by unfold IR.regO; simp [hd])
        obtain ⟨d', hd'⟩ := Option.isSome_iff_exists.mp hreg
        obtain ⟨d0, hd0, hr0⟩ := h.opsBack o d' hd'
        rw [hd] at hd0; cases hd0
        exact ⟨d', hd', by rw [hr0]; simp [hoD, hr]⟩
    regOps := by
      intro b o ho
      by_cases hb : Ref.block b ∈ D
      · simp [hb] at ho
      · simp only [hb, if_false] at ho
        exact ⟨h.mono.o o (ha.regOps b o ho).1, h.mono.b b (ha.regOps b o ho).2⟩
    regBlocks := by
      intro r b hb
      by_cases hr : Ref.region r ∈ D
      · simp [hr] at hb
      · simp only [hr, if_false] at hb
        exact ⟨h.mono.b b (ha.regBlocks r b hb).1, h.mono.r r (ha.regBlocks r b hb).2⟩ }

theorem Inv.dropTree {s : IRStore} (h : Inv s) {root : Ref} (hroot : s.parentRef root = none)
    (hreg : Reg s root) : Succ s (s.dropTree root) := by
  obtain ⟨a, ha⟩ := h
  have T := subtreeOf_spec ha hroot hreg
  unfold IRStore.dropTree
  have st := DropSt.fold (s.subtreeOf root) s [] (DropSt.init ha) T.reg
  exact ⟨st.finish ha (fun c p hp => by simpa using T.closed c p hp), st.mono⟩

end Xdsl.IR
