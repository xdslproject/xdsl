import XdslModel.RiscVFrameFloat
/-!
# C22 — `FuseMultiplyAddD`: contraction only where the fast-math flags licence it

Property clause: *"RISC-V canonicalization alone never changes results"* — for floating point: never beyond
what the fast-math flags of the rewritten operations allow.  `fmadd.d` rounds once, `fmul.d; fadd.d` twice;
replacing the pair by the fused operation is the transformation `contract` (and only `contract`) licenses, and
both operations take part in it, so both must carry the flag.

`fuseMultiplyAddD` (XdslModel/RiscVFrameFloat.lean) is the pattern as a rule on one `fadd.d`; the harness
compares it with the real pattern on every generated snippet (all pairs of single flags, `fast`, mixed sets;
products with one/two uses; allocated and unallocated registers).  The float arithmetic is abstract
(`FOps`: any `add`, `mul`, `fma`), so the theorems hold for IEEE binary64 in particular.

* `fuseMultiplyAddD_licensed`: whenever the rule fires, the sum and the product it consumed both carry `contract`,
  the product has a single use and its multiplicands are not yet allocated.
* `fuseMultiplyAddD_sound`: whenever the rule fires in a state where the product registers hold the products of
  the (still readable) multiplicands, the emitted `fmadd.d` writes the same register as the `fadd.d`, leaves all
  others alone, and the value it writes is one of the `licensed` values of the `fadd.d`.
* `licensed_strict_only`: without `contract` on the sum, or on the product, the only licensed value is the
  strict (twice rounded) sum.
* `fuse_reassoc_counterexample`: accepting `reassoc` in place of `contract` produces a value that is not licensed
  (for an arithmetic in which one rounding and two roundings differ).
* `fuse_stale_counterexample`: without the `_is_stable` guard, after register allocation the fused operation reads
  a multiplicand register that the product has overwritten — wrong even in exact arithmetic (the repaired defect).
-/
namespace Xdsl.RiscV.FloatRules

theorem fusable_iff (m : MulDef) : m.fusable = true ↔
    hasContract m.flags = true ∧ m.uses = 1 ∧ stableF m.a = true ∧ stableF m.b = true := by
  simp [MulDef.fusable, and_assoc]

/-- what the rule emits, and from which operand -/
theorem fuse_cases {flags rd rs1 rs2 : Nat} {d1 d2 : Option MulDef} {out : FInstr}
    (h : fuseMultiplyAddD flags rd rs1 rs2 d1 d2 = some out) :
    hasContract flags = true ∧ ∃ m rs, out = .fmadd rd m.a m.b rs ∧ m.fusable = true ∧
      ((d2 = some m ∧ rs = rs1) ∨ (d1 = some m ∧ rs = rs2)) := by
  unfold fuseMultiplyAddD at h
  split at h
  · cases h
  · next hc =>
    refine ⟨by simpa using hc, ?_⟩
    split at h
    · next m h2 =>
      obtain ⟨hd, hf⟩ := Option.filter_eq_some_iff.mp h2
      exact ⟨m, rs1, (Option.some.inj h).symm, hf, .inl ⟨hd, rfl⟩⟩
    · split at h
      · next m h1 =>
        obtain ⟨hd, hf⟩ := Option.filter_eq_some_iff.mp h1
        exact ⟨m, rs2, (Option.some.inj h).symm, hf, .inr ⟨hd, rfl⟩⟩
      · cases h

/-- **contraction needs `contract` on both operations** (and a single-use product with readable multiplicands) -/
theorem fuseMultiplyAddD_licensed {flags rd rs1 rs2 : Nat} {d1 d2 : Option MulDef} {out : FInstr}
    (h : fuseMultiplyAddD flags rd rs1 rs2 d1 d2 = some out) :
    hasContract flags = true ∧
    ∃ m, (d1 = some m ∨ d2 = some m) ∧ hasContract m.flags = true ∧ m.uses = 1 ∧
      stableF m.a = true ∧ stableF m.b = true := by
  obtain ⟨hc, m, _, _, hf, hd⟩ := fuse_cases h
  exact ⟨hc, m, hd.elim (fun h => .inr h.1) (fun h => .inl h.1), (fusable_iff m).mp hf⟩

/-- the facts the rule reads hold in `s`: a described operand holds the product of its multiplicands -/
def DefHolds {F : Type} (O : FOps F) (s : FSt F) (r : Nat) : Option MulDef → Prop
  | none => True
  | some m => s r = O.mul (s m.a) (s m.b)

/-- **the rewrite stays inside the licence.**  For every float arithmetic, every state in which the described
operands hold their products: the emitted instruction writes `rd` (as the `fadd.d` does), nothing else, and the
value is the strict sum or a fused multiply-add that the `contract` flags of sum and product allow.
(`DefHolds` is what makes `licensed` the set of values the source admits; the membership itself holds in every
state, so the proof does not use the two hypotheses.) -/
theorem fuseMultiplyAddD_sound {F : Type} (O : FOps F) (s : FSt F) {flags rd rs1 rs2 : Nat}
    {d1 d2 : Option MulDef} {out : FInstr}
    (h : fuseMultiplyAddD flags rd rs1 rs2 d1 d2 = some out)
    (_h1 : DefHolds O s rs1 d1) (_h2 : DefHolds O s rs2 d2) :
    ∃ v, fexec1 O out s = s.set rd v ∧ v ∈ licensed O s flags rs1 rs2 d1 d2 := by
  obtain ⟨hc, m, rs, rfl, hf, hd⟩ := fuse_cases h
  have hm := ((fusable_iff m).mp hf).1
  refine ⟨O.fma (s m.a) (s m.b) (s rs), rfl, ?_⟩
  rcases hd with ⟨rfl, rfl⟩ | ⟨rfl, rfl⟩ <;> simp [licensed, hc, hm]

/-- the `fadd.d` itself always produces a licensed value (the strict one) -/
theorem strict_licensed {F : Type} (O : FOps F) (s : FSt F) (flags rd rs1 rs2 : Nat) (d1 d2 : Option MulDef) :
    ∃ v, fexec1 O (.fadd rd rs1 rs2 flags) s = s.set rd v ∧ v ∈ licensed O s flags rs1 rs2 d1 d2 :=
  ⟨O.add (s rs1) (s rs2), rfl, by simp [licensed]⟩

/-- no `contract` on the sum, or on neither described product: only the strict sum is licensed -/
theorem licensed_strict_only {F : Type} (O : FOps F) (s : FSt F) (flags rs1 rs2 : Nat) (d1 d2 : Option MulDef)
    (h : hasContract flags = false ∨
         ((∀ m, d1 = some m → hasContract m.flags = false) ∧ (∀ m, d2 = some m → hasContract m.flags = false))) :
    licensed O s flags rs1 rs2 d1 d2 = [O.add (s rs1) (s rs2)] := by
  rcases h with h | ⟨h1, h2⟩
  · cases d1 <;> cases d2 <;> simp [licensed, h]
  · cases d1 with
    | none =>
      cases d2 with
      | none => simp [licensed]
      | some m2 => simp [licensed, h2 m2 rfl]
    | some m1 =>
      cases d2 with
      | none => simp [licensed, h1 m1 rfl]
      | some m2 => simp [licensed, h1 m1 rfl, h2 m2 rfl]

/-- the flag test reads bit 5 (`contract`) and nothing else: `reassoc` (1), `nnan` (2) … `afn` (64), and all of
them together without `contract` (95) do not pass; `contract` alone (32) and `fast` (127) do -/
example : ([0, 1, 2, 4, 8, 16, 64, 95].map hasContract, [32, 127, 33].map hasContract) =
    ([false, false, false, false, false, false, false, false], [true, true, true]) := by decide

/-- a toy arithmetic on `Int` whose rounding keeps even numbers (round down to a multiple of 2): two roundings
and one rounding differ, as in IEEE arithmetic -/
def toyOps : FOps Int where
  add a b := 2 * ((a + b) / 2)
  mul a b := 2 * ((a * b) / 2)
  fma a b c := 2 * ((a * b + c) / 2)

/-- exact integer arithmetic: fused and unfused agree -/
def exactOps : FOps Int where
  add a b := a + b
  mul a b := a * b
  fma a b c := a * b + c

def REASSOC : Nat := 0

/-- the acceptance test "contract or reassoc" -/
def acceptsReassoc (m : Nat) : Bool := hasContract m || m.testBit REASSOC

/-- x = y = z = 1 in registers 32, 33, 35; the product register 34 holds `mul 1 1 = 0` -/
def cexState : FSt Int := fun r => if r = 34 then 0 else 1

def cexProduct : Option MulDef := some { a := 32, b := 33, flags := 1, uses := 1 }

/-- **`reassoc` is not `contract`.**  The rule with the acceptance test "contract or reassoc" fires on
`fmul.d [reassoc]; fadd.d [reassoc]` and writes 2, while the only licensed value of the sum is 0; the rule of
the code does not fire. -/
theorem fuse_reassoc_counterexample :
    fuseWith acceptsReassoc stableF 1 36 34 35 cexProduct none = some (.fmadd 36 32 33 35) ∧
    DefHolds toyOps cexState 34 cexProduct ∧
    fexec1 toyOps (.fmadd 36 32 33 35) cexState 36 = 2 ∧
    licensed toyOps cexState 1 34 35 cexProduct none = [0] ∧
    fuseMultiplyAddD 1 36 34 35 cexProduct none = none := by
  refine ⟨by decide, ?_, by decide, by decide, by decide⟩
  show cexState 34 = toyOps.mul (cexState 32) (cexState 33)
  decide

/-- f0 = 2, f1 = 3, f2 = 1 -/
def staleState : FSt Int := fun r => if r = 0 then 2 else if r = 1 then 3 else 1

def staleProduct : Option MulDef := some { a := 0, b := 1, flags := 32, uses := 1 }

/-- **the repaired defect: a multiplicand register reused before the sum.**  After register allocation
`fmul.d f0, f0, f1; fadd.d f0, f0, f2` (the product overwrites its first multiplicand): without the `_is_stable`
guard the rule emits `fmadd.d f0, f0, f1, f2`, which multiplies the PRODUCT by f1 again — 19 instead of 7 even
in exact arithmetic.  The guarded rule does not fire. -/
theorem fuse_stale_counterexample :
    fuseWith hasContract (fun _ => true) 32 0 0 2 staleProduct none = some (.fmadd 0 0 1 2) ∧
    fexec1 exactOps (.fadd 0 0 2 32) (fexec1 exactOps (.fmul 0 0 1 32) staleState) 0 = 7 ∧
    fexec1 exactOps (.fmadd 0 0 1 2) (fexec1 exactOps (.fmul 0 0 1 32) staleState) 0 = 19 ∧
    fuseMultiplyAddD 32 0 0 2 staleProduct none = none := by
  decide

/-- non-vacuity: the rule does fire, on `fmul.d [contract]; fadd.d [contract]` with unallocated registers, in
both operand orders, and prefers the product in rs2 -/
example :
    (fuseMultiplyAddD 32 36 34 35 (some { a := 32, b := 33, flags := 32, uses := 1 }) none,
     fuseMultiplyAddD 127 36 35 34 none (some { a := 32, b := 33, flags := 32, uses := 1 }),
     fuseMultiplyAddD 32 36 34 35 (some { a := 32, b := 33, flags := 32, uses := 1 })
       (some { a := 40, b := 41, flags := 127, uses := 1 }),
     fuseMultiplyAddD 32 36 34 35 (some { a := 32, b := 33, flags := 32, uses := 2 }) none) =
    (some (.fmadd 36 32 33 35), some (.fmadd 36 32 33 35), some (.fmadd 36 40 41 34), none) := by decide

end Xdsl.RiscV.FloatRules
