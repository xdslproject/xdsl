import XdslProofs.Lemmas.ParallelMovGraph
/-!
Lemmas for C20: the counting argument that turns what the tree stage guarantees (every unprocessed
node still has an unprocessed child) into the structure of the remaining part of the graph (`OnlyCycles`).
-/
namespace Xdsl.ParallelMov

open Env

/-- What is left after the tree stage is a union of cycles, in the form the walks of the cycle stage use
it: an unprocessed register has at most one unprocessed child, and the parent of an unprocessed
register is itself the target of an edge.  (That every unprocessed register then lies on a cycle is
`OnlyCycles.on_cycle` in `ParallelMovStage2`.) -/
structure OnlyCycles (e : Env) (P : List Reg) : Prop where
  inj : ∀ y y' p, y ∉ P → y' ∉ P → Edge e p y → Edge e p y' → y = y'
  par : ∀ y p, y ∉ P → Edge e p y → ∃ q, Edge e q p

theorem OnlyCycles.mono {e : Env} {P P' : List Reg} (h : OnlyCycles e P) (hsub : ∀ x ∈ P, x ∈ P') :
    OnlyCycles e P' :=
  ⟨fun y y' p hy hy' => h.inj y y' p (fun hp => hy (hsub y hp)) (fun hp => hy' (hsub y' hp)),
   fun y p hy => h.par y p (fun hp => hy (hsub y hp))⟩

/-- A register has one parent: a duplicate-free list `K` of registers each of which has a child in
`L` is no longer than `L` (the parents of `L` cover `K`). -/
theorem length_le_of_children {e : Env} (w : WF e) {K L : List Reg} (hK : K.Nodup)
    (h : ∀ x ∈ K, ∃ y ∈ L, Edge e x y) : K.length ≤ L.length := by
  have := hK.length_le_of_subset (l₂ := L.map fun y => (e.pred y).getD y) fun x hx => by
    obtain ⟨y, hy, hE⟩ := h x hx
    exact List.mem_map.mpr ⟨y, hy, by rw [edge_pred w hE]; rfl⟩
  rwa [List.length_map] at this

/-- **Structure of what the tree stage leaves behind.**  Pigeonhole on the duplicate-free list `U` of
unprocessed nodes, every one of which has a child in `U`: if `y`, `y'` were two unprocessed children of
one node, every node of `U` would still have a child in `U` without `y`; and if the parent `p` of an
unprocessed node were not in `U`, all of `p :: U` would have children in `U`. -/
theorem cycle_structure {e : Env} (w : WF e) {P : List Reg}
    (hpend : ∀ x, (∃ s, Edge e s x) → x ∉ P → cnt e P x ≠ 0) : OnlyCycles e P := by
  have hchild : ∀ x ∈ unprocessed e P, ∃ y ∈ unprocessed e P, Edge e x y := by
    intro x hx
    obtain ⟨hx1, hx2⟩ := mem_unprocessed.mp hx
    obtain ⟨y, hy, hyP⟩ := cnt_pos_iff.mp (Nat.pos_of_ne_zero (hpend x hx1 hx2))
    exact ⟨y, mem_unprocessed.mpr ⟨⟨x, hy⟩, hyP⟩, hy⟩
  have hnd := unprocessed_nodup w P
  constructor
  · intro y y' p hy hy' hE hE'
    refine Classical.byContradiction fun hne => ?_
    have hyU : y ∈ unprocessed e P := mem_unprocessed.mpr ⟨⟨p, hE⟩, hy⟩
    have := length_le_of_children w (L := (unprocessed e P).erase y) hnd fun x hx => by
      obtain ⟨c, hc, hEc⟩ := hchild x hx
      by_cases hcy : c = y
      · subst hcy
        obtain rfl : x = p := Edge.src_unique w hEc hE
        exact ⟨y', (List.mem_erase_of_ne (Ne.symm hne)).mpr (mem_unprocessed.mpr ⟨⟨_, hE'⟩, hy'⟩), hE'⟩
      · exact ⟨c, (List.mem_erase_of_ne hcy).mpr hc, hEc⟩
    rw [List.length_erase_of_mem hyU] at this
    have := List.length_pos_of_mem hyU
    omega
  · intro y p hy hE
    refine Classical.byContradiction fun hq => ?_
    have hpU : p ∉ unprocessed e P := fun h => hq (mem_unprocessed.mp h).1
    have := length_le_of_children w (L := unprocessed e P) (List.nodup_cons.mpr ⟨hpU, hnd⟩)
      fun x hx => by
        rcases List.mem_cons.mp hx with rfl | hx
        · exact ⟨y, mem_unprocessed.mpr ⟨⟨_, hE⟩, hy⟩, hE⟩
        · exact hchild x hx
    rw [List.length_cons] at this
    omega

end Xdsl.ParallelMov
