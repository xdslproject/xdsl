import XdslProofs.Lemmas.ArgSpecParse
/-!
# C18 — pass pipeline specifications round-trip through text

"For every registered pass and every assignment of values of its supported option types (integers,
floats, booleans, strings with arbitrary characters, tuples and optional values), the printed
pipeline specification parses back into an equal pass; printing a pipeline and parsing it yields the
same pipeline. Parsing any pipeline string either yields passes or reports a pipeline parse or
option error."

This file: the text level (`ArgSpec.__str__` then `parse_pipeline`) and totality of the parser.
The typed level (`spec()` / `from_spec`) is in `C18Typed.lean`.  All statements are about
`XdslModel/ArgSpec.lean`, the model of `xdsl/utils/arg_spec.py` with the C18 repairs applied.
-/
namespace Xdsl.ArgSpec

/-- What is assumed of CPython's `repr(float)` / `float(str)` (stated parameter; re-checked by the
harness on every generated float): `repr` stays inside the grammar `FloatRepr`, and reading back
what `_spec_parameter_type_str` makes of it returns the same float. -/
structure FloatOracle (F : Type) where
  repr : F → List Char
  ofText : List Char → F
  repr_grammar : ∀ f, FloatRepr (repr f)
  roundtrip : ∀ f, ofText (printFloatText (repr f)) = f

/-- A spec as produced from a pass: the name and the keys are identifiers — `[A-Za-z_][A-Za-z0-9_-]*`
(pass names, Python field names) or the digit-led shape `[0-9]+[A-Za-z_-][A-Za-z0-9_-]*` of lexer
rule 1 —, the keys are those of a dictionary (pairwise distinct).
Nothing is assumed about the values: any number of ints, bools, floats and strings over arbitrary
characters. -/
def WFSpec {F : Type} (s : Spec F) : Prop :=
  IsName s.name ∧ (∀ p ∈ s.params, IsName p.1) ∧ (s.params.map Prod.fst).Nodup

/-- "printing a pipeline and parsing it yields the same pipeline": for every list of specs (any
length, including the empty pipeline), every tuple length, every int, bool, float and every string
over arbitrary characters. -/
theorem pipeline_roundtrip {F : Type} (O : FloatOracle F) (ss : List (Spec F)) (h : ∀ s ∈ ss, WFSpec s) :
    parsePipeline O.ofText (printPipeline O.repr ss) = .ok ss := by
  rw [parse_print O.repr O.ofText O.repr_grammar O.roundtrip ss fun s hs => ⟨(h s hs).1, (h s hs).2.1⟩,
    List.map_congr_left fun s hs => normSpec_of_nodup s (h s hs).2.2, List.map_id']

/-- "the printed pipeline specification parses back" — one spec: `parse (print s) = s`. -/
theorem spec_roundtrip {F : Type} (O : FloatOracle F) (s : Spec F) (h : WFSpec s) :
    parsePipeline O.ofText (printSpec O.repr s) = .ok [s] := by
  have := pipeline_roundtrip O [s] (by simpa using h)
  simpa [printPipeline, joinWith] using this

/-- The escaping on print is inverted by the unescaping of the parser for every string. -/
theorem string_value_roundtrip (s : List Char) : unescape (escape s) = s := unescape_escape s

/-- `int(str(i)) = i` in the model's decimal printer/reader. -/
theorem int_value_roundtrip (i : Int) : parseInt (showInt i) = i := parseInt_showInt i

/-- "Parsing any pipeline string either yields passes or reports a pipeline parse error": for
every input text the model parser returns specs or one of the nine `ArgSpecParseError` messages; it
never runs the token generator past its end. -/
theorem parse_total {F : Type} (ofText : List Char → F) (text : List Char) :
    (∃ specs, parsePipeline ofText text = .ok specs) ∨
    (∃ m toks, parsePipeline ofText text = .error (m, toks) ∧ m ≠ .stopIteration) := by
  have h : ¬ IsStop (pPipeline ofText [] (lexAll text)) := fun hs =>
    lexAll_not_endless text ((parser_stop_endless ofText (lexAll text)).1 [] hs)
  unfold parsePipeline
  cases hr : pPipeline ofText [] (lexAll text) with
  | ok specs => exact Or.inl ⟨specs, rfl⟩
  | error e =>
    obtain ⟨m, toks⟩ := e
    rw [hr] at h
    have hm : m ≠ .stopIteration := by
      intro hm; subst hm; exact h (by simp [IsStop])
    exact Or.inr ⟨m, toks, rfl, hm⟩

/-! ## Non-vacuity -/

/-- an oracle exists (a one-point float type whose repr is `0.0`) -/
def unitOracle : FloatOracle Unit where
  repr _ := ['0', '.', '0']
  ofText _ := ()
  repr_grammar _ := FloatRepr.fixed false ['0'] ['0'] (by simp [AllDigits]; decide) (by decide) (by simp [AllDigits]; decide) (by decide)
  roundtrip _ := rfl

/-- `p{k="a\"b\\",-5,true,0.0 n}` read back -/
example :
    parsePipeline unitOracle.ofText (printSpec unitOracle.repr
      ⟨['p'], [(['k'], [.str ['a', '"', 'b', '\\'], .int (-5), .bool true, .float ()]), (['n'], [])]⟩) =
    .ok [⟨['p'], [(['k'], [.str ['a', '"', 'b', '\\'], .int (-5), .bool true, .float ()]), (['n'], [])]⟩] :=
  spec_roundtrip unitOracle _
    ⟨Or.inl ⟨'p', [], rfl, by decide, by decide⟩,
     by intro p hp
        simp at hp
        rcases hp with rfl | rfl
        · exact Or.inl ⟨'k', [], rfl, by decide, by decide⟩
        · exact Or.inl ⟨'n', [], rfl, by decide, by decide⟩,
     by decide⟩

/-- the digit-led identifier shape of lexer rule 1 is covered: `2d-slice` is a name -/
example : IsName ['2', 'd', '-', 's', 'l', 'i', 'c', 'e'] :=
  Or.inr ⟨['2'], 'd', ['-', 's', 'l', 'i', 'c', 'e'], rfl, by decide, by simp [AllDigits]; decide, by decide, by decide⟩

example {F : Type} (n : List Char) (h : IsName n) : WFSpec (F := F) ⟨n, []⟩ := ⟨h, by simp, by simp⟩

end Xdsl.ArgSpec
