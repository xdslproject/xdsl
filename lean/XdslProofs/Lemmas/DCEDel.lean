import XdslProofs.Lemmas.DCE
/-!
Lemmas for C13 about the two erasures, `delete_dead` (`del`) and the trivially-dead sweep (`trivDel`):
the equations of `del` by branch, that they only take away, what `del` keeps (well-sortedness, every
visited live operation, hence the least live set), what "the size did not change" means, and the
termination of `while region_dce(...)` and of the sweep.
-/
namespace Xdsl.DCE
open Xdsl.Graph

theorem anyLive_of_vcell {live : List Nat} {t : T} (hw : ws t .ops = true) {h : Hdr} {rs : T}
    (hc : (h, rs) ∈ vcells t none) (hm : h.id ∈ live) : anyLive live t = true := by
  induction t with
  | nil => cases hc
  | op h0 rs0 next _ ihn =>
    rw [anyLive, Bool.or_eq_true]
    rcases List.mem_cons.mp hc with heq | hc
    · cases heq; exact Or.inl (List.contains_iff_mem.mpr hm)
    · exact Or.inr (ihn (ws_op.mp hw).2.2 hc)
  | block ops next _ _ => cases (ws_block.mp hw).1
  | region bs next _ _ => cases (ws_region.mp hw).1

theorem del_op_live {live : List Nat} {h : Hdr} (hl : h.id ∈ live) (rs next : T) (f : Bool)
    (m : List Bool) :
    del live (.op h rs next) f m
      = .op { h with succs := h.succs.map (renum m) } (del live rs true []) (del live next false m) := by
  simp [del, hl]

theorem del_op_dead {live : List Nat} {h : Hdr} (hl : h.id ∉ live) (rs next : T) (f : Bool)
    (m : List Bool) : del live (.op h rs next) f m = del live next false m := by
  simp [del, hl]

theorem del_block_keep {live : List Nat} {ops : T} {f : Bool} (hk : f = true ∨ anyLive live ops = true)
    (next : T) (m : List Bool) :
    del live (.block ops next) f m = .block (del live ops false m) (del live next false m) := by
  rcases hk with hk | hk <;> simp [del, hk]

theorem del_block_drop {live : List Nat} {ops : T} {f : Bool}
    (hk : ¬ (f = true ∨ anyLive live ops = true)) (next : T) (m : List Bool) :
    del live (.block ops next) f m = del live next false m := by
  have ⟨hf, ha⟩ : f = false ∧ anyLive live ops = false := by simpa using hk
  simp [del, hf, ha]

theorem del_region (live : List Nat) (bs next : T) (f : Bool) (m : List Bool) :
    del live (.region bs next) f m
      = .region (del live bs true (keepMask live bs true)) (del live next true []) := rfl

theorem allIds_del_sublist (live : List Nat) (t : T) (f : Bool) (m : List Bool) :
    (allIds (del live t f m)).Sublist (allIds t) := by
  fun_induction del live t f m with
  | case1 => exact List.Sublist.refl _
  | case2 h rs next _ m _ ihr ihn => rw [allIds_op, allIds_op]; exact (ihr.append ihn).cons_cons _
  | case3 h rs next _ m _ ihn => rw [allIds_op]; exact (ihn.trans (List.sublist_append_right _ _)).cons _
  | case4 ops next f m _ ihn => rw [allIds_block]; exact ihn.trans (List.sublist_append_right _ _)
  | case5 ops next f m _ iho ihn => rw [allIds_block, allIds_block]; exact iho.append ihn
  | case6 bs next _ _ ihb ihn => rw [allIds_region, allIds_region]; exact ihb.append ihn

theorem ws_del (live : List Nat) (t : T) (s : Srt) (f : Bool) (m : List Bool) (hw : ws t s = true) :
    ws (del live t f m) s = true := by
  fun_induction del live t f m generalizing s with
  | case1 => exact hw
  | case2 h rs next _ m _ ihr ihn =>
    obtain ⟨rfl, h1, h2⟩ := ws_op.mp hw; exact ws_op.mpr ⟨rfl, ihr _ h1, ihn _ h2⟩
  | case3 h rs next _ m _ ihn => obtain ⟨rfl, _, h2⟩ := ws_op.mp hw; exact ihn _ h2
  | case4 ops next f m _ ihn => obtain ⟨rfl, _, h2⟩ := ws_block.mp hw; exact ihn _ h2
  | case5 ops next f m _ iho ihn =>
    obtain ⟨rfl, h1, h2⟩ := ws_block.mp hw; exact ws_block.mpr ⟨rfl, iho _ h1, ihn _ h2⟩
  | case6 bs next _ _ ihb ihn =>
    obtain ⟨rfl, h1, h2⟩ := ws_region.mp hw; exact ws_region.mpr ⟨rfl, ihb _ h1, ihn _ h2⟩

/-- a visited live operation is kept, and so is whatever `delete_dead` keeps of its regions -/
theorem del_vcell {live : List Nat} {h : Hdr} {rs t : T} {sel : Option Nat} (hm : h.id ∈ live)
    (hc : (h, rs) ∈ vcells t sel) {s : Srt} (hw : ws t s = true) (f : Bool) (m : List Bool) :
    ws rs .regions = true ∧ h.id :: allIds (del live rs true []) ⊆ allIds (del live t f m) := by
  -- every clause but the first: what is kept of the part `pass` recurs into is kept of the whole
  refine vcells_induct (c := (h, rs)) (M := fun t _ => ∀ s f m, ws t s = true → ws rs .regions = true
    ∧ h.id :: allIds (del live rs true []) ⊆ allIds (del live t f m)) ?_ ?_ ?_ ?_ ?_ ?_ t sel hc s f m hw
  · intro next _ s f m hw
    rw [del_op_live hm, allIds_op]
    exact ⟨(ws_op.mp hw).2.1, List.cons_subset_cons _ (List.subset_append_left _ _)⟩
  · intro h0 rs0 next _ ih s f m hw
    refine (ih _ false m (ws_op.mp hw).2.2).imp_right fun k => ?_
    by_cases hl : h0.id ∈ live
    · rw [del_op_live hl, allIds_op]
      exact k.trans ((List.subset_append_right _ _).trans (List.subset_cons_self _ _))
    · rw [del_op_dead hl]; exact k
  · intro ops next hc ih s f m hw
    have h1 := (ws_block.mp hw).2.1
    rw [del_block_keep (Or.inr (anyLive_of_vcell h1 hc hm)), allIds_block]
    exact (ih _ false m h1).imp_right (·.trans (List.subset_append_left _ _))
  · intro ops next k ih s f m hw
    refine (ih _ false m (ws_block.mp hw).2.2).imp_right fun k => ?_
    by_cases hk : f = true ∨ anyLive live ops = true
    · rw [del_block_keep hk, allIds_block]; exact k.trans (List.subset_append_right _ _)
    · rw [del_block_drop hk]; exact k
  · intro bs next _ b _ ih s f m hw
    rw [del_region, allIds_region]
    exact (ih _ true _ (ws_region.mp hw).2.1).imp_right (·.trans (List.subset_append_left _ _))
  · intro bs next _ ih s f m hw
    rw [del_region, allIds_region]
    exact (ih _ true [] (ws_region.mp hw).2.2).imp_right (·.trans (List.subset_append_right _ _))

theorem LV.kept {P : T} {live : List Nat} (hws : ws P .regions = true)
    (hsub : ∀ h rs, LV P h rs → h.id ∈ live) {h : Hdr} {rs : T} (hl : LV P h rs) :
    h.id ∈ allIds (del live P true []) := by
  obtain ⟨t, ⟨hw, hs⟩, hc⟩ := hl.nested
    (R := fun t => ws t .regions = true ∧ allIds (del live t true []) ⊆ allIds (del live P true []))
    ⟨hws, List.Subset.refl _⟩
    (fun ⟨hw, hs⟩ hc hl' => (del_vcell (hsub _ _ hl') hc hw true []).imp_right
      fun k => ((List.subset_cons_self _ _).trans k).trans hs)
  exact hs ((del_vcell (hsub _ _ hl) hc hw true []).2 List.mem_cons_self)

/-! ### sizes: an erasure that leaves the size alone erased nothing -/

private theorem add_eq_parts {a' a b' b : Nat} (ha : a' ≤ a) (hb : b' ≤ b) (h : a' + b' = a + b) :
    a' = a ∧ b' = b := by omega

/-- `1 + a + b`: the size of an operation or block cell -/
private theorem cell_eq_parts {a' a b' b : Nat} (ha : a' ≤ a) (hb : b' ≤ b) (h : 1 + a' + b' = 1 + a + b) :
    a' = a ∧ b' = b := by omega

private theorem cell_le {a' a b' b : Nat} (ha : a' ≤ a) (hb : b' ≤ b) : 1 + a' + b' ≤ 1 + a + b :=
  Nat.add_le_add (Nat.add_le_add_left ha 1) hb

/-- a cell that is dropped makes the size smaller -/
private theorem lt_cell {b' b : Nat} (a : Nat) (hb : b' ≤ b) : b' < 1 + a + b := by omega

/-- nothing would be erased: every operation is live and every block but the entry block of a
region holds a live operation -/
def AllKept (live : List Nat) : T → Bool → Prop
  | .nil, _ => True
  | .op h rs next, _ => h.id ∈ live ∧ AllKept live rs true ∧ AllKept live next false
  | .block ops next, first =>
    (first = true ∨ anyLive live ops = true) ∧ AllKept live ops false ∧ AllKept live next false
  | .region bs next, _ => AllKept live bs true ∧ AllKept live next true

theorem size_del_le_and_kept (live : List Nat) (t : T) (f : Bool) (m : List Bool) :
    size (del live t f m) ≤ size t ∧ (size (del live t f m) = size t → AllKept live t f) := by
  fun_induction del live t f m with
  | case1 => exact ⟨Nat.le_refl _, fun _ => trivial⟩
  | case2 h rs next _ m hl ihr ihn =>
    exact ⟨cell_le ihr.1 ihn.1, fun he => let ⟨e1, e2⟩ := cell_eq_parts ihr.1 ihn.1 he
      ⟨List.contains_iff_mem.mp hl, ihr.2 e1, ihn.2 e2⟩⟩
  | case3 h rs next _ m _ ihn =>
    have hlt := lt_cell (size rs) ihn.1
    exact ⟨Nat.le_of_lt hlt, fun he => absurd he (Nat.ne_of_lt hlt)⟩
  | case4 ops next f m _ ihn =>
    have hlt := lt_cell (size ops) ihn.1
    exact ⟨Nat.le_of_lt hlt, fun he => absurd he (Nat.ne_of_lt hlt)⟩
  | case5 ops next f m hk iho ihn =>
    exact ⟨cell_le iho.1 ihn.1, fun he => let ⟨e1, e2⟩ := cell_eq_parts iho.1 ihn.1 he
      ⟨by revert hk; cases f <;> simp, iho.2 e1, ihn.2 e2⟩⟩
  | case6 bs next _ _ ihb ihn =>
    exact ⟨Nat.add_le_add ihb.1 ihn.1, fun he => let ⟨e1, e2⟩ := add_eq_parts ihb.1 ihn.1 he
      ⟨ihb.2 e1, ihn.2 e2⟩⟩

theorem allKept_ids {live : List Nat} {t : T} {f : Bool} (hk : AllKept live t f) :
    ∀ i ∈ allIds t, i ∈ live := by
  intro i hi
  induction t generalizing f with
  | nil => cases hi
  | op h rs next ihr ihn =>
    rw [allIds_op] at hi
    rcases List.mem_cons.mp hi with rfl | hi
    · exact hk.1
    · exact (List.mem_append.mp hi).elim (ihr hk.2.1) (ihn hk.2.2)
  | block ops next iho ihn =>
    rw [allIds_block] at hi
    exact (List.mem_append.mp hi).elim (iho hk.2.1) (ihn hk.2.2)
  | region bs next ihb ihn =>
    rw [allIds_region] at hi
    exact (List.mem_append.mp hi).elim (ihb hk.1) (ihn hk.2)

theorem dceOnce_fix {t : T} (h : size (del (liveSet t) t true []) = size t) : dceOnce t = (t, false) := by
  simp [dceOnce, h]

theorem dceOnce_change {t : T} (h : size (del (liveSet t) t true []) ≠ size t) :
    dceOnce t = (del (liveSet t) t true [], true) := by
  simp [dceOnce, h]

theorem dceOnce_cases (t : T) : (dceOnce t).1 = t ∨ (dceOnce t).1 = del (liveSet t) t true [] := by
  by_cases h : size (del (liveSet t) t true []) = size t
  · exact Or.inl (congrArg Prod.fst (dceOnce_fix h))
  · exact Or.inr (congrArg Prod.fst (dceOnce_change h))

theorem dceOnce_sublist (t : T) : (allIds (dceOnce t).1).Sublist (allIds t) := by
  rcases dceOnce_cases t with h | h <;> rw [h]
  · exact List.Sublist.refl _
  · exact allIds_del_sublist _ t true []

theorem dceOnce_ws {t : T} (h : ws t .regions = true) : ws (dceOnce t).1 .regions = true := by
  rcases dceOnce_cases t with e | e <;> rw [e]
  · exact h
  · exact ws_del _ t _ true [] h

theorem dceLoop_sublist (fuel : Nat) (t : T) (n : Nat) :
    (allIds (dceLoop fuel t n).1).Sublist (allIds t) := by
  fun_induction dceLoop fuel t n with
  | case1 => exact List.Sublist.refl _
  | case2 fuel t n r _ ih => exact ih.trans (dceOnce_sublist t)
  | case3 fuel t n r _ => exact dceOnce_sublist t

/-- the loop ends within `size + 1` calls of `region_dce`; the last call erased nothing from the
tree it answers -/
theorem dceLoop_spec (fuel : Nat) (t : T) (n : Nat) (hlt : size t < fuel) :
    (dceLoop fuel t n).2.2 = true
      ∧ size (del (liveSet (dceLoop fuel t n).1) (dceLoop fuel t n).1 true [])
          = size (dceLoop fuel t n).1 := by
  fun_induction dceLoop fuel t n with
  | case1 => cases hlt
  | case2 fuel t n r hr ih =>
    by_cases heq : size (del (liveSet t) t true []) = size t
    · rw [show r = (t, false) from dceOnce_fix heq] at hr; cases hr
    · rw [show r = _ from dceOnce_change heq] at ih ⊢
      exact ih (Nat.lt_of_lt_of_le
        (Nat.lt_of_le_of_ne (size_del_le_and_kept _ t true []).1 heq) (Nat.le_of_lt_succ hlt))
  | case3 fuel t n r hr =>
    by_cases heq : size (del (liveSet t) t true []) = size t
    · rw [show r = (t, false) from dceOnce_fix heq]; exact ⟨rfl, heq⟩
    · rw [show r = _ from dceOnce_change heq] at hr; exact absurd rfl hr

theorem size_trivDel_le_and_none_dead (root : T) (t : T) : size (trivDel root t) ≤ size t
    ∧ (size (trivDel root t) = size t → ∀ h rs, (h, rs) ∈ allCells t → trivDead root h rs = false) := by
  fun_induction trivDel root t with
  | case1 => exact ⟨Nat.le_refl _, fun _ h rs hc => nomatch hc⟩
  | case2 h0 rs0 next _ ihn =>
    have hlt := lt_cell (size rs0) ihn.1
    exact ⟨Nat.le_of_lt hlt, fun he => absurd he (Nat.ne_of_lt hlt)⟩
  | case3 h0 rs0 next ht ihr ihn =>
    refine ⟨cell_le ihr.1 ihn.1, fun he h rs hc => ?_⟩
    obtain ⟨e1, e2⟩ := cell_eq_parts ihr.1 ihn.1 he
    rcases List.mem_cons.mp hc with heq | hc
    · cases heq; exact Bool.eq_false_iff.mpr ht
    · exact (List.mem_append.mp hc).elim (ihr.2 e1 h rs) (ihn.2 e2 h rs)
  | case4 ops next iho ihn =>
    refine ⟨cell_le iho.1 ihn.1, fun he h rs hc => ?_⟩
    obtain ⟨e1, e2⟩ := cell_eq_parts iho.1 ihn.1 he
    exact (List.mem_append.mp hc).elim (iho.2 e1 h rs) (ihn.2 e2 h rs)
  | case5 bs next ihb ihn =>
    refine ⟨Nat.add_le_add ihb.1 ihn.1, fun he h rs hc => ?_⟩
    obtain ⟨e1, e2⟩ := add_eq_parts ihb.1 ihn.1 he
    exact (List.mem_append.mp hc).elim (ihb.2 e1 h rs) (ihn.2 e2 h rs)

/-- an operation that is neither trivially dead nor inside a trivially dead one survives the sweep -/
theorem trivDel_keeps (root : T) {i : Nat} (t : T)
    (hyp : ∀ c ∈ allCells t, trivDead root c.1 c.2 = true → i ∉ c.1.id :: allIds c.2)
    (hi : i ∈ allIds t) : i ∈ allIds (trivDel root t) := by
  fun_induction trivDel root t with
  | case1 => exact hi
  | case2 h rs next ht ihn =>
    have hout := hyp (h, rs) List.mem_cons_self ht
    rw [allIds_op] at hi
    rcases List.mem_cons.mp hi with rfl | hi
    · exact absurd List.mem_cons_self hout
    · exact (List.mem_append.mp hi).elim (fun hi => absurd (List.mem_cons_of_mem _ hi) hout)
        (ihn fun c hc => hyp c (List.mem_cons_of_mem _ (List.mem_append_right _ hc)))
  | case3 h rs next _ ihr ihn =>
    rw [allIds_op] at hi ⊢
    rcases List.mem_cons.mp hi with rfl | hi
    · exact List.mem_cons_self
    · exact List.mem_cons_of_mem _ (List.mem_append.mpr ((List.mem_append.mp hi).imp
        (ihr fun c hc => hyp c (List.mem_cons_of_mem _ (List.mem_append_left _ hc)))
        (ihn fun c hc => hyp c (List.mem_cons_of_mem _ (List.mem_append_right _ hc)))))
  | case4 a b iha ihb =>
    rw [allIds_block] at hi ⊢
    exact List.mem_append.mpr ((List.mem_append.mp hi).imp
      (iha fun c hc => hyp c (List.mem_append_left _ hc))
      (ihb fun c hc => hyp c (List.mem_append_right _ hc)))
  | case5 a b iha ihb =>
    rw [allIds_region] at hi ⊢
    exact List.mem_append.mpr ((List.mem_append.mp hi).imp
      (iha fun c hc => hyp c (List.mem_append_left _ hc))
      (ihb fun c hc => hyp c (List.mem_append_right _ hc)))

theorem trivLoop_spec (fuel : Nat) (t : T) (hlt : size t < fuel) :
    (trivLoop fuel t).2 = true
      ∧ size (trivDel (trivLoop fuel t).1 (trivLoop fuel t).1) = size (trivLoop fuel t).1 := by
  fun_induction trivLoop fuel t with
  | case1 => cases hlt
  | case2 fuel t r heq => exact ⟨rfl, beq_iff_eq.mp heq⟩
  | case3 fuel t r hne ih =>
    refine ih (Nat.lt_of_lt_of_le (Nat.lt_of_le_of_ne (size_trivDel_le_and_none_dead t t).1 ?_)
      (Nat.le_of_lt_succ hlt))
    exact fun e => hne (beq_iff_eq.mpr e)

end Xdsl.DCE
