import XdslModel.DLLStream
import XdslProofs.Lemmas.DLL
/-!
# The single-pass loops of `Region.add_block` / `Region.insert_block_before` (`XdslModel/DLLStream.lean`)

The hand-written loop consumes its argument once, element by element, links each block behind the
previous one and repairs the outer link at the end; `IRStore` models the same methods as folds of
the one-element primitive (`insertBefore` / `pushBack`).

* `Open.linkChain`: the loop is one more rule for a container cut open (`Open`, `Lemmas/DLL.lean`): it extends
  the prefix by the yielded, detached blocks.  The repair at `StopIteration` is the write at the end of
  that prefix and the write at the head of the suffix, after which the cut closes: the loop's state
  represents the list with the blocks inserted (`WF.insertStreamBefore_cut`, `WF.appendStream_cut`).
* The fold represents the same list (`WF.foldInsertBefore`, `WF.foldPushBack`), and two states that
  represent the same lists agree on every node and container (`WF.ext`): that is the `Ext` half of
  `WF.insertStreamBefore` / `WF.appendStream`.  Loop and fold are not equal as association lists: they
  do not write in the same order (on an empty argument the loop re-writes the link between the target
  and its predecessor, the fold writes nothing).
* `Ext` is a congruence for `insertBefore`, `insertAfter`, `pushBack`, `closeBefore` (stated first; nothing
  below needs them).
-/
namespace Xdsl.DLL
open Xdsl

namespace L

theorem Ext.insertBefore {a b : L} (h : Ext a b) (c ex new : Nat) :
    Ext (a.insertBefore c ex new) (b.insertBefore c ex new) := by
  unfold L.insertBefore
  simp only [h.1 ex]
  cases (b.nd ex).prev with
  | none => exact ((h.setNd _ _).setPrev _ _).setFirst _ _
  | some x => exact ((h.setNext _ _).setNd _ _).setPrev _ _

theorem Ext.insertAfter {a b : L} (h : Ext a b) (c ex new : Nat) :
    Ext (a.insertAfter c ex new) (b.insertAfter c ex new) := by
  unfold L.insertAfter
  simp only [h.1 ex]
  cases (b.nd ex).next with
  | none => exact ((h.setNd _ _).setNext _ _).setLast _ _
  | some x => exact ((h.setPrev _ _).setNd _ _).setNext _ _

theorem Ext.pushBack {a b : L} (h : Ext a b) (c new : Nat) : Ext (a.pushBack c new) (b.pushBack c new) := by
  unfold L.pushBack
  simp only [h.2 c]
  cases (b.en c).last with
  | none => exact (h.setNd _ _).setEn _ _
  | some l => exact h.insertAfter _ _ _

theorem Ext.closeBefore {a b : L} (h : Ext a b) (p t : Nat) : Ext (a.closeBefore p t) (b.closeBefore p t) :=
  (h.setNext _ _).setPrev _ _

end L

theorem not_mem_update {f : Nat → List Nat} {c x : Nat} {l' : List Nat} (h : ∀ d, x ∉ f d) (hl : x ∉ l') (d : Nat) :
    x ∉ Function.update f c l' d := by
  by_cases hd : d = c
  · subst hd; rwa [Function.update_self]
  · rw [Function.update_of_ne hd]; exact h d

theorem foldl_insBefore (t : Nat) (b' : List Nat) (bs : List Nat) : ∀ {a : List Nat}, t ∉ a → t ∉ bs →
    bs.foldl (fun l b => insBefore l t b) (a ++ t :: b') = a ++ (bs ++ t :: b') := by
  induction bs with
  | nil => intro a _ _; rfl
  | cons x rest ih =>
    intro a ha hb
    rw [List.mem_cons, not_or] at hb
    have hax : t ∉ a ++ [x] := fun e => (List.mem_append.mp e).elim ha fun e => hb.1 (List.mem_singleton.mp e)
    rw [List.foldl_cons, insBefore_append_cons ha, List.append_cons a x, ih hax hb.2, List.append_assoc a [x]]
    rfl

theorem WF.foldInsertBefore (c t : Nat) (bs : List Nat) : ∀ {s : L} {f : Nat → List Nat}, WF s f → t ∈ f c →
    bs.Nodup → (∀ b ∈ bs, ∀ d, b ∉ f d) →
    WF (bs.foldl (fun s b => s.insertBefore c t b) s)
      (Function.update f c (bs.foldl (fun l b => insBefore l t b) (f c))) := by
  induction bs with
  | nil => intro s f h _ _ _; simpa using h
  | cons b rest ih =>
    intro s f h ht hn hfree
    have hn' := List.nodup_cons.mp hn
    have h1 := h.insertBefore ht (hfree b (List.mem_cons_self ..))
    have ht1 : t ∈ Function.update f c (insBefore (f c) t b) c := by
      rw [Function.update_self]; exact (mem_insBefore ht b t).mpr (Or.inr ht)
    have := ih h1 ht1 hn'.2 fun x hx => not_mem_update (hfree x (List.mem_cons_of_mem _ hx)) fun e =>
      ((mem_insBefore ht b x).mp e).elim (fun e => hn'.1 (e ▸ hx)) (hfree x (List.mem_cons_of_mem _ hx) c)
    simpa [Function.update_self, Function.update_idem] using this

theorem WF.foldPushBack (c : Nat) (bs : List Nat) : ∀ {s : L} {f : Nat → List Nat}, WF s f →
    bs.Nodup → (∀ b ∈ bs, ∀ d, b ∉ f d) →
    WF (bs.foldl (fun s b => s.pushBack c b) s) (Function.update f c (f c ++ bs)) := by
  induction bs with
  | nil => intro s f h _ _; simpa using h
  | cons b rest ih =>
    intro s f h hn hfree
    have hn' := List.nodup_cons.mp hn
    have h1 := h.pushBack (c := c) (hfree b (List.mem_cons_self ..))
    have := ih h1 hn'.2 fun x hx => not_mem_update (hfree x (List.mem_cons_of_mem _ hx)) fun e =>
      (List.mem_append.mp e).elim (hfree x (List.mem_cons_of_mem _ hx) c) fun e => hn'.1 (List.mem_singleton.mp e ▸ hx)
    simpa [Function.update_self, Function.update_idem, List.append_assoc] using this

section
open L
variable {s : L} {f : Nat → List Nat} {T : Nat → Prop} {c d' : Nat} {b : List Nat} {q v' w' : Option Nat}

/-- The loop links the nodes `bs`, which are nowhere, behind the prefix, and returns its new last node.  That
node's `next` is still null (the index `none`): the repair comes after the loop. -/
theorem Open.linkChain (bs : List Nat) : ∀ {s : L} {a : List Nat} {prev : Nat} {p : Option Nat},
    Open s f T c a p q b d' v' [] w' → a.getLast? = some prev → bs.Nodup →
    (∀ m ∈ bs, m ∉ a ∧ m ∉ b ∧ ∀ d, ¬ T d → m ∉ f d) →
    Open (s.linkChain c prev bs).1 f T c (a ++ bs) (if bs = [] then p else none) q b d' v' [] w' ∧
      (a ++ bs).getLast? = some (s.linkChain c prev bs).2 := by
  induction bs with
  | nil => intro s a prev p h hl _ _; exact ⟨by rwa [List.append_nil, if_pos rfl], by rwa [List.append_nil]⟩
  | cons nb rest ih =>
    intro s a prev p h hl hn hbs
    obtain ⟨hnb, hnr⟩ := List.nodup_cons.mp hn
    have hN := hbs nb List.mem_cons_self
    have h1 : Open (s.linkAfter c prev nb) f T c (a ++ [nb]) none q b d' v' [] w' := by
      unfold L.linkAfter L.setParent
      rw [h.free nb hN.1 hN.2.1 nofun hN.2.2]
      exact (((h.fill hN c none none).setPrevMid rfl (some prev)).setFwd hl (some nb)).absorb hl rfl
    obtain ⟨i1, i2⟩ := ih h1 List.getLast?_concat hnr fun m hm =>
      have := hbs m (List.mem_cons_of_mem _ hm)
      ⟨fun e => (List.mem_append.mp e).elim this.1 fun e => hnb (List.mem_singleton.mp e ▸ hm), this.2⟩
    rw [ite_self, List.append_assoc] at i1
    rw [List.append_assoc] at i2
    exact ⟨by rw [if_neg (List.cons_ne_nil _ _)]; exact i1, i2⟩

theorem WF.appendStream_cut (h : WF s f) {bs : List Nat} (hn : bs.Nodup)
    (hfree : ∀ b ∈ bs, ∀ d, b ∉ f d) : WF (s.appendStream c bs) (Function.update f c (f c ++ bs)) := by
  have hab : f c = f c ++ [] := (List.append_nil _).symm
  have O := h.openAt hab
  have hN := fun m hm => nowhere_of_cut hab (hfree m hm)
  -- the chain is linked behind a prefix already in place, then `last` is set
  have key : ∀ {s0 : L} {a0 bs0 : List Nat} {prev : Nat} {q0 : Option Nat},
      Open s0 f (· = c) c a0 none q0 [] c none [] none → a0 ++ bs0 = f c ++ bs → a0.getLast? = some prev → bs0.Nodup →
      (∀ m ∈ bs0, m ∉ a0 ∧ m ∉ [] ∧ ∀ d, ¬ d = c → m ∉ f d) →
      WF ((s0.linkChain c prev bs0).1.setLast c (some (s0.linkChain c prev bs0).2)) (Function.update f c (f c ++ bs)) := by
    intro s0 a0 bs0 prev q0 O0 e hl hn0 hN0
    obtain ⟨i1, i2⟩ := O0.linkChain bs0 hl hn0 hN0
    rw [ite_self] at i1
    have := (i1.setBwd rfl (some _)).close_empty rfl i2.symm
    rwa [e, List.append_nil] at this
  unfold L.appendStream
  rw [(h.rep c).last]
  cases hl : (f c).getLast? with
  | none =>
    cases bs with
    | nil => rw [List.append_nil, Function.update_eq_self]; exact h
    | cons b rest =>
      obtain ⟨hb, hnr⟩ := List.nodup_cons.mp hn
      refine key (a0 := f c ++ [b]) (q0 := (f c).getLast?) ?_ (List.append_assoc ..) List.getLast?_concat hnr fun m hm =>
        have := hN m (List.mem_cons_of_mem _ hm)
        ⟨fun e => (List.mem_append.mp e).elim this.1 fun e => hb (List.mem_singleton.mp e ▸ hm), this.2⟩
      unfold L.setParent
      rw [h.free b (hfree b List.mem_cons_self)]
      exact ((O.fill (hN b List.mem_cons_self) c none none).setFwd hl (some b)).absorb hl rfl
  | some l => exact key O rfl hl hn hN

theorem WF.insertStreamBefore_cut (h : WF s f) {t : Nat} {a b' bs : List Nat}
    (hab : f c = a ++ t :: b') (hn : bs.Nodup) (hfree : ∀ b ∈ bs, ∀ d, b ∉ f d) :
    WF (s.insertStreamBefore c t bs) (Function.update f c (a ++ (bs ++ t :: b'))) := by
  have O := h.openAt hab
  have hN := fun m hm => nowhere_of_cut hab (hfree m hm)
  -- what the two non-trivial branches share: the chain is linked behind a prefix already in place, then the repair
  have key : ∀ {s0 : L} {a0 bs0 : List Nat} {prev : Nat} {p0 q0 : Option Nat},
      Open s0 f (· = c) c a0 p0 q0 (t :: b') c none [] none → a0 ++ bs0 = a ++ bs → a0.getLast? = some prev → bs0.Nodup →
      (∀ m ∈ bs0, m ∉ a0 ∧ m ∉ t :: b' ∧ ∀ d, ¬ d = c → m ∉ f d) →
      WF ((s0.linkChain c prev bs0).1.closeBefore (s0.linkChain c prev bs0).2 t)
        (Function.update f c (a ++ (bs ++ t :: b'))) := by
    intro s0 a0 bs0 prev p0 q0 O0 e hl hn0 hN0
    obtain ⟨i1, i2⟩ := O0.linkChain bs0 hl hn0 hN0
    have := ((i1.setFwd i2 (some t)).setBwd rfl (some _)).close_empty rfl i2.symm
    rwa [e, List.append_assoc] at this
  unfold L.insertStreamBefore
  rw [congrArg Node.prev (h.nd_of_cut hab)]
  cases hp : a.getLast? with
  | none =>
    obtain rfl := List.getLast?_eq_none_iff.mp hp
    cases bs with
    | nil => rw [List.nil_append, ← hab, Function.update_eq_self]; exact h
    | cons b rest =>
      obtain ⟨hb, hnr⟩ := List.nodup_cons.mp hn
      have hNb := hN b List.mem_cons_self
      refine key (a0 := [b]) (p0 := some t) (q0 := none) ?_ rfl rfl hnr fun m hm =>
        ⟨fun e => hb (List.mem_singleton.mp e ▸ hm), (hN m (List.mem_cons_of_mem _ hm)).2⟩
      unfold L.setParent
      rw [h.free b (hfree b List.mem_cons_self)]
      exact (((O.fill hNb c none none).setFwd rfl (some b)).setNextMid rfl (some t)).absorb rfl rfl
  | some p => exact key O rfl hp hn hN

end

/-- `Region.insert_block_before` on consistent IR, blocks distinct and detached: the single-pass loop
agrees with the one-at-a-time insertion and represents the list with the blocks inserted before `t` -/
theorem WF.insertStreamBefore {s : L} {f : Nat → List Nat} (h : WF s f) {c t : Nat} (ht : t ∈ f c)
    {bs : List Nat} (hn : bs.Nodup) (hfree : ∀ b ∈ bs, ∀ d, b ∉ f d) :
    L.Ext (s.insertStreamBefore c t bs) (bs.foldl (fun s b => s.insertBefore c t b) s) ∧
    WF (s.insertStreamBefore c t bs) (Function.update f c (bs.foldl (fun l b => insBefore l t b) (f c))) := by
  obtain ⟨a, b', hab, hta⟩ := List.eq_append_cons_of_mem ht
  have hw : WF (s.insertStreamBefore c t bs)
      (Function.update f c (bs.foldl (fun l b => insBefore l t b) (f c))) := by
    rw [hab, foldl_insBefore t b' bs hta fun e => hfree t e c ht]
    exact h.insertStreamBefore_cut hab hn hfree
  exact ⟨hw.ext (h.foldInsertBefore c t bs ht hn hfree), hw⟩

/-- `Region.add_block` on consistent IR, blocks distinct and detached -/
theorem WF.appendStream {s : L} {f : Nat → List Nat} (h : WF s f) {c : Nat}
    {bs : List Nat} (hn : bs.Nodup) (hfree : ∀ b ∈ bs, ∀ d, b ∉ f d) :
    L.Ext (s.appendStream c bs) (bs.foldl (fun s b => s.pushBack c b) s) ∧
    WF (s.appendStream c bs) (Function.update f c (f c ++ bs)) :=
  ⟨(h.appendStream_cut hn hfree).ext (h.foldPushBack c bs hn hfree), h.appendStream_cut hn hfree⟩

end Xdsl.DLL
