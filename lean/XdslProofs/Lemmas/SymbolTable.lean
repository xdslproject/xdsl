import XdslModel.SymbolTable
import XdslProofs.Lemmas.AL
/-!
Lemmas for C29 (symbol resolution).  All three resolvers are compared through `nestedLast`, the walk along the nested
components without the accumulator of `refNested`: `lookupIn lk` is one table access followed by `nestedLast lk`
(`lookupIn_eq`), `traitsGo false` is `nestedLast directChild` (`traitsGo_false`), and `nestedLast directChild` is the
relation `Nested` of the property sentence (`nestedLast_sound`, and `nestedLast_complete` where names are unique).
The cached table access is the LAST op of the body with the name (`cachedChild_eq_last`), the direct one the first.
-/
namespace Xdsl.SymbolTable

theorem directChild_member {t : Op} {n : Nat} {o : Op} (h : directChild t n = some o) :
    Member t n o := by
  unfold directChild at h
  refine ⟨List.mem_of_find?_eq_some h, ?_⟩
  have := List.find?_some h
  simpa using this

theorem directChild_none {t : Op} {n : Nat} (h : directChild t n = none) (o : Op) :
    ¬ Member t n o := by
  unfold directChild at h
  rw [List.find?_eq_none] at h
  rintro ⟨hm, hn⟩
  exact h o hm (by simp [hn])

theorem directChild_of_unique {t : Op} {n : Nat} {o : Op} (hu : UniqueSyms t) (h : Member t n o) :
    directChild t n = some o := by
  cases hd : directChild t n with
  | none => exact absurd h (directChild_none hd o)
  | some o' => rw [hu n o' o (directChild_member hd) h]

/-- one iteration of the `__init__` loop -/
def cacheStep (m : AL Nat Op) (o : Op) : AL Nat Op :=
  match symbolName o with | some n => AL.set m n o | none => m

theorem cachedTable_eq (t : Op) : cachedTable t = t.body.foldl cacheStep [] := rfl

theorem get_cacheStep (m : AL Nat Op) (o : Op) (n : Nat) :
    AL.get (cacheStep m o) n = if symbolName o = some n then some o else AL.get m n := by
  unfold cacheStep
  cases h : symbolName o with
  | none => simp
  | some k =>
    simp only [AL.get_set, Option.some.injEq]
    by_cases hk : n = k
    · subst hk; simp
    · have : ¬ k = n := fun e => hk e.symm
      simp [hk, this]

theorem get_foldl_cacheStep (body : List Op) (acc : AL Nat Op) (n : Nat) :
    AL.get (body.foldl cacheStep acc) n =
      match body.reverse.find? (fun o => symbolName o == some n) with
      | some o => some o
      | none => AL.get acc n := by
  induction body generalizing acc with
  | nil => simp
  | cons o os ih =>
    simp only [List.foldl_cons, List.reverse_cons, List.find?_append]
    rw [ih]
    cases hos : os.reverse.find? (fun o => symbolName o == some n) with
    | some x => simp
    | none =>
      simp only [Option.none_or, List.find?_cons, List.find?_nil, get_cacheStep]
      by_cases hn : symbolName o = some n
      · simp [hn]
      · have hb : (symbolName o == some n) = false := by simpa using hn
        simp [hn, hb]

theorem cachedChild_eq_last (t : Op) (n : Nat) :
    cachedChild t n = t.body.reverse.find? (fun o => symbolName o == some n) := by
  unfold cachedChild
  rw [cachedTable_eq, get_foldl_cacheStep]
  cases t.body.reverse.find? (fun o => symbolName o == some n) <;> simp

theorem cachedChild_member {t : Op} {n : Nat} {o : Op} (h : cachedChild t n = some o) :
    Member t n o := by
  rw [cachedChild_eq_last] at h
  refine ⟨by simpa using List.mem_of_find?_eq_some h, ?_⟩
  simpa using List.find?_some h

theorem cachedChild_none {t : Op} {n : Nat} (h : cachedChild t n = none) (o : Op) :
    ¬ Member t n o := by
  rw [cachedChild_eq_last, List.find?_eq_none] at h
  rintro ⟨hm, hn⟩
  exact h o (by simpa using hm) (by simp [hn])

theorem cachedChild_eq_directChild {t : Op} (hu : UniqueSyms t) (n : Nat) :
    cachedChild t n = directChild t n := by
  cases hc : cachedChild t n with
  | none =>
    cases hd : directChild t n with
    | none => rfl
    | some o => exact absurd (directChild_member hd) (cachedChild_none hc o)
  | some o => exact (directChild_of_unique hu (cachedChild_member hc)).symm

theorem Sub.trans {a b c : Op} (h1 : Sub a b) (h2 : Sub b c) : Sub a c := by
  induction h1 with
  | refl => exact h2
  | step hc _ ih => exact Sub.step hc (ih h2)

theorem Sub.child {o c : Op} (h : c ∈ o.children) : Sub o c := Sub.step h (Sub.refl c)

theorem Member.sub {t o : Op} {n : Nat} (h : Member t n o) : Sub t o :=
  Sub.child (by unfold Op.children; exact List.mem_append_left _ h.1)

/-- the last element of what `refNested` returns, computed without the accumulator -/
def nestedLast (lk : Op → Nat → Option Op) : Op → List Nat → Option Op
  | cur, [] => some cur
  | cur, n :: ns =>
    if !cur.isTable then none
    else match lk cur n with
      | none => none
      | some s => if isPrivate s then none else nestedLast lk s ns

theorem refNested_last (lk : Op → Nat → Option Op) (cur : Op) (ns : List Nat) (acc : List Op) :
    (refNested lk cur ns (acc ++ [cur])).bind List.getLast? = nestedLast lk cur ns := by
  fun_induction nestedLast lk cur ns generalizing acc with
  | case1 => simp [refNested]
  | case2 cur n ns ht => simp [refNested, ht]
  | case3 cur n ns ht hl => simp [refNested, ht, hl]
  | case4 cur n ns ht s hl hp => simp [refNested, ht, hl, hp]
  | case5 cur n ns ht s hl hp ih => simpa [refNested, ht, hl, hp] using ih (acc ++ [cur])

theorem refNested_length (lk : Op → Nat → Option Op) (cur : Op) (ns : List Nat) (acc l : List Op)
    (h : refNested lk cur ns acc = some l) : l.length = acc.length + ns.length := by
  fun_induction refNested lk cur ns acc with
  | case1 => cases h; rfl
  | case2 | case3 | case4 => cases h
  | case5 cur n ns acc _ s _ _ ih => have := ih h; simp at this ⊢; omega

theorem lookupAllIn_eq (lk : Op → Nat → Option Op) (t : Op) (s : Sym) :
    lookupAllIn lk t s = (lk t s.root).bind fun x => refNested lk x s.nested [x] := by
  cases s with
  | flat n => simp only [lookupAllIn, Sym.root, Sym.nested, refNested]; cases lk t n <;> rfl
  | ref r ns => simp only [lookupAllIn, refIn, Sym.root, Sym.nested]; cases lk t r <;> rfl

theorem lookupIn_eq_last (lk : Op → Nat → Option Op) (t : Op) (s : Sym) :
    lookupIn lk t s = (lookupAllIn lk t s).bind List.getLast? := by
  cases s with
  | flat n => simp only [lookupAllIn, lookupIn]; cases lk t n <;> rfl
  | ref r ns => rfl

theorem lookupIn_eq (lk : Op → Nat → Option Op) (t : Op) (s : Sym) :
    lookupIn lk t s = (lk t s.root).bind fun x => nestedLast lk x s.nested := by
  rw [lookupIn_eq_last, lookupAllIn_eq]
  cases lk t s.root with
  | none => rfl
  | some x => exact refNested_last lk x s.nested []

theorem nestedLast_sound {s r : Op} {ns : List Nat}
    (h : nestedLast directChild s ns = some r) : Nested s ns r := by
  fun_induction nestedLast directChild s ns with
  | case1 => cases h; exact Nested.done _
  | case2 | case3 | case4 => cases h
  | case5 cur n ns ht o ho hp ih =>
    exact Nested.step (by simpa using ht) (directChild_member ho) (by simpa using hp) (ih h)

/-- direct resolver, every tree: whatever `lookup_symbol_in` returns is designated by the nesting
rules (right name at every level, every intermediate result a table, no private result reached
through a nested component). -/
theorem direct_sound (t : Op) (s : Sym) (r : Op) (h : lookupIn directChild t s = some r) :
    ResolvesIn t s.root s.nested r := by
  rw [lookupIn_eq] at h
  cases hd : directChild t s.root with
  | none => simp [hd] at h
  | some x =>
    simp only [hd, Option.bind_some] at h
    exact ⟨x, directChild_member hd, nestedLast_sound h⟩

theorem nestedLast_complete {root s r : Op} {ns : List Nat} (hv : Verified root)
    (hs : Sub root s) (h : Nested s ns r) : nestedLast directChild s ns = some r := by
  induction h with
  | done s => rfl
  | step ht hm hp _ ih =>
    simp only [nestedLast, ht, Bool.not_true, Bool.false_eq_true, if_false]
    rw [directChild_of_unique (hv _ hs ht) hm]
    simp only [hp, Bool.false_eq_true, if_false]
    exact ih (hs.trans hm.sub)

theorem refNested_cached {root s : Op} (ns : List Nat) (acc : List Op) (hv : Verified root)
    (hs : Sub root s) : refNested cachedChild s ns acc = refNested directChild s ns acc := by
  induction ns generalizing s acc with
  | nil => rfl
  | cons n ns ih =>
    simp only [refNested]
    by_cases ht : s.isTable = true
    · simp only [ht, Bool.not_true, Bool.false_eq_true, if_false]
      rw [cachedChild_eq_directChild (hv _ hs ht)]
      cases hd : directChild s n with
      | none => rfl
      | some o =>
        simp only
        rw [ih _ (hs.trans (directChild_member hd).sub)]
    · simp [ht]

theorem traitsGo_false (s : Op) (ns : List Nat) :
    traitsGo false s ns = nestedLast directChild s ns := by
  fun_induction nestedLast directChild s ns with
  | case1 => rfl
  | case2 cur n ns ht => simp [traitsGo, ht]
  | case3 cur n ns ht hl => simp [traitsGo, ht, hl]
  | case4 cur n ns ht s hl hp => simp [traitsGo, ht, hl, hp]
  | case5 cur n ns ht s hl hp ih => simpa [traitsGo, ht, hl, hp] using ih

theorem nearestTable_eq_find (chain : List Op) : nearestTable chain = chain.find? Op.isTable := by
  induction chain with
  | nil => rfl
  | cons o up ih => simp only [nearestTable, List.find?_cons, ih]; cases o.isTable <;> rfl

theorem nearestTable_iff (chain : List Op) (t : Op) :
    nearestTable chain = some t ↔ NearestTable chain t := by
  rw [nearestTable_eq_find, List.find?_eq_some_iff_append]
  simp only [NearestTable, Bool.not_eq_true']
  exact ⟨fun ⟨ht, pre, post, hc, hp⟩ => ⟨pre, post, hc, ht, hp⟩, fun ⟨pre, post, hc, ht, hp⟩ => ⟨ht, pre, post, hc, hp⟩⟩

theorem nearestTable_mem {chain : List Op} {t : Op} (h : nearestTable chain = some t) : t ∈ chain :=
  List.mem_of_find?_eq_some (nearestTable_eq_find chain ▸ h)

theorem nearestTable_isTable {chain : List Op} {t : Op} (h : nearestTable chain = some t) : t.isTable = true :=
  List.find?_some (nearestTable_eq_find chain ▸ h)

theorem lookupNearest_eq (lk : Op → Nat → Option Op) (chain : List Op) (s : Sym) :
    lookupNearest lk chain s = (nearestTable chain).bind fun t => lookupIn lk t s := by
  unfold lookupNearest; cases nearestTable chain <;> rfl

theorem resolves_iff (chain : List Op) (s : Sym) (r : Op) :
    Resolves chain s r ↔ ∃ t, nearestTable chain = some t ∧ ResolvesIn t s.root s.nested r :=
  exists_congr fun _ => and_congr_left' (nearestTable_iff _ _).symm

theorem chainAt_sub {root o : Op} (p : List Nat) (acc ch : List Op) (ho : Sub root o)
    (hacc : ∀ x ∈ acc, Sub root x) (h : chainAt o p acc = some ch) : ∀ x ∈ ch, Sub root x := by
  fun_induction chainAt o p acc with
  | case1 => cases h; exact List.forall_mem_cons.2 ⟨ho, hacc⟩
  | case2 cur i p acc c hc ih =>
    exact ih (ho.trans (Sub.child (List.mem_of_getElem? hc))) (List.forall_mem_cons.2 ⟨ho, hacc⟩) h
  | case3 => cases h

theorem chainAt_parentChain (o : Op) (p : List Nat) (acc ch : List Op)
    (hacc : ParentChain (o :: acc)) (h : chainAt o p acc = some ch) : ParentChain ch := by
  fun_induction chainAt o p acc with
  | case1 => cases h; exact hacc
  | case2 cur i p acc c hc ih => exact ih ⟨List.mem_of_getElem? hc, hacc⟩ h
  | case3 => cases h

/-- the chain the parent walk sees really is the start operation followed by its ancestors: each
element is a child of the next one, and all of them lie inside the root -/
theorem chain_is_ancestor_chain (root : Op) (p : List Nat) (chain : List Op)
    (h : chainAt root p [] = some chain) :
    ParentChain chain ∧ ∀ x ∈ chain, Sub root x :=
  ⟨chainAt_parentChain root p [] chain trivial h,
   chainAt_sub p [] chain (Sub.refl root) (by simp) h⟩

theorem pairwise_mem {α : Type} {R : α → α → Prop} {l : List α} (h : l.Pairwise R) {a b : α}
    (ha : a ∈ l) (hb : b ∈ l) : a = b ∨ R a b ∨ R b a := by
  induction h with
  | nil => simp at ha
  | cons hx _ ih =>
    rcases List.mem_cons.mp ha with rfl | ha' <;> rcases List.mem_cons.mp hb with rfl | hb'
    · exact Or.inl rfl
    · exact Or.inr (Or.inl (hx _ hb'))
    · exact Or.inr (Or.inr (hx _ ha'))
    · exact ih ha' hb'

theorem noDupNames_spec (os : List Op) (met : List Nat) (h : noDupNames os met = true) :
    os.Pairwise (fun a b => ∀ n, a.symName = some n → b.symName ≠ some n) ∧
    ∀ o ∈ os, ∀ n, o.symName = some n → n ∉ met := by
  fun_induction noDupNames os met with
  | case1 => simp
  | case2 o os met hn ih =>
    obtain ⟨hp, hm⟩ := ih h
    exact ⟨List.pairwise_cons.mpr ⟨fun _ _ n hn' => (by rw [hn] at hn'; cases hn'), hp⟩,
      List.forall_mem_cons.2 ⟨fun n hn' => (by rw [hn] at hn'; cases hn'), hm⟩⟩
  | case3 => cases h
  | case4 o os met k hn hk ih =>
    obtain ⟨hp, hm⟩ := ih h
    refine ⟨List.pairwise_cons.mpr ⟨?_, hp⟩, List.forall_mem_cons.2 ⟨?_, ?_⟩⟩
    · intro b hb n hn' hbn
      rw [hn] at hn'; cases hn'
      exact hm b hb _ hbn (by simp)
    · intro n hn'
      rw [hn] at hn'; cases hn'
      simpa using hk
    · exact fun x hx n hxn hmem => hm x hx n hxn (List.mem_cons_of_mem _ hmem)

theorem symbolName_symName {o : Op} {n : Nat} (h : symbolName o = some n) : o.symName = some n := by
  unfold symbolName at h
  split at h
  · exact h
  · exact absurd h (by simp)

theorem noDupNames_unique {t : Op} (h : noDupNames t.body [] = true) : UniqueSyms t := by
  intro n a b ha hb
  have hp := (noDupNames_spec _ _ h).1
  rcases pairwise_mem hp ha.1 hb.1 with e | hab | hba
  · exact e
  · exact absurd (symbolName_symName hb.2) (hab n (symbolName_symName ha.2))
  · exact absurd (symbolName_symName ha.2) (hba n (symbolName_symName hb.2))

theorem verifyListB_mem {l : List Op} (h : verifyListB l = true) {c : Op} (hc : c ∈ l) :
    verifyB c = true := by
  induction l with
  | nil => simp at hc
  | cons o os ih =>
    simp only [verifyListB, Bool.and_eq_true] at h
    rcases List.mem_cons.mp hc with rfl | hc
    · exact h.1
    · exact ih h.2 hc

theorem verifyB_child {o c : Op} (h : verifyB o = true) (hc : c ∈ o.children) : verifyB c = true := by
  cases o with
  | mk i t s nm v body rest =>
    simp only [verifyB, Bool.and_eq_true] at h
    simp only [Op.children, Op.body, Op.rest, List.mem_append] at hc
    rcases hc with hc | hc
    · exact verifyListB_mem h.1.2 hc
    · exact verifyListB_mem h.2 hc

theorem verifyB_table {o : Op} (h : verifyB o = true) (ht : o.isTable = true) :
    noDupNames o.body [] = true := by
  cases o with
  | mk i t s nm v body rest =>
    simp only [verifyB, Bool.and_eq_true] at h
    simp only [Op.isTable] at ht
    subst ht
    simpa [Op.body] using h.1.1

theorem verifyB_sub {o t : Op} (h : verifyB o = true) (hs : Sub o t) : verifyB t = true := by
  induction hs with
  | refl => exact h
  | step hc _ ih => exact ih (verifyB_child h hc)

end Xdsl.SymbolTable
