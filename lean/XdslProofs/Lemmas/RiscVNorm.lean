import XdslModel.RiscVValidate
import XdslProofs.Lemmas.X86Poly
import XdslProofs.Lemmas.RiscV
/-!
Normalisation of expression trees to polynomials over hash-consed atoms (`XdslModel/RiscVValidate.lean`)
is sound: `norm_ok`, `checkPairs_sound`.  Core Lean only.

Entry `i` of a table is variable `NV + i`.  An environment is a *model* of a table when it gives the
registers their entry values and every atom the value of its node.  What `norm` returns evaluates to
the tree's value in **every** model of the table (`Rep`), so growing the table costs nothing: a model
of the longer table is a model of the shorter.  That a model exists (`Sat`) is carried along and used
once, at the comparison.  It survives a new atom because the operands of the atom, being represented,
have the same value in all models: the atom's value is known before the model is chosen.
-/
namespace Xdsl.RiscV.TV
open Xdsl.X86

theorem evalPoly_map_emod (env : Nat → W) (p : Poly) :
    evalPoly env (p.map fun t => (t.1, t.2 % M32)) = evalPoly env p := by
  induction p with
  | nil => rfl
  | cons t r ih =>
    have e : BitVec.ofInt 32 (t.2 % M32) = BitVec.ofInt 32 t.2 := imm32_emod t.2
    simp [ih, e]

theorem evalPoly_pnorm (env : Nat → W) (p : Poly) : evalPoly env (pnorm p) = evalPoly env p := by
  rw [pnorm, evalPoly_pclean, evalPoly_map_emod]

def nodeVal (env : Nat → W) (n : Node) : W := aluR n.1 (evalPoly env n.2.1) (evalPoly env n.2.2)

structure Model (base env : Nat → W) (t : Tbl) : Prop where
  reg : ∀ i, i < NV → env i = base i
  node : ∀ i nd, t[i]? = some nd → env (NV + i) = nodeVal env nd

theorem getElem?_of_prefix {α : Type} {t t' : List α} (h : t <+: t') {i : Nat} {a : α}
    (hi : t[i]? = some a) : t'[i]? = some a := by
  obtain ⟨e, rfl⟩ := h
  rw [List.getElem?_append_left (List.getElem?_eq_some_iff.mp hi).1, hi]

theorem Model.prefix {base env : Nat → W} {t t' : Tbl} (M : Model base env t') (h : t <+: t') :
    Model base env t :=
  ⟨M.reg, fun i nd hi => M.node i nd (getElem?_of_prefix h hi)⟩

def Rep (base : Nat → W) (t : Tbl) (x : W) (p : Poly) : Prop :=
  ∀ env, Model base env t → evalPoly env p = x

namespace Rep
variable {base : Nat → W} {t t' : Tbl} {a b : W} {p q r : Poly}

theorem mono (h : Rep base t a p) (ht : t <+: t') : Rep base t' a p := fun env M => h env (M.prefix ht)

theorem var {i : Nat} (hi : i < NV) : Rep base t (base i) (pvar i) :=
  fun env M => by rw [evalPoly_pvar, M.reg i hi]

theorem const (c : Int) : Rep base t (imm32 c) (pnorm (pconst c)) :=
  fun env _ => by rw [evalPoly_pnorm, evalPoly_pconst, imm32]

theorem map₂ (A : Rep base t a p) (B : Rep base t b q) (f : W → W → W)
    (h : ∀ env, evalPoly env r = f (evalPoly env p) (evalPoly env q)) : Rep base t (f a b) r :=
  fun env M => by rw [h, A env M, B env M]

theorem atom {op : ROp} {i : Nat} (A : Rep base t a p) (B : Rep base t b q) (hi : t[i]? = some (op, p, q)) :
    Rep base t (aluR op a b) (pvar (NV + i)) :=
  fun env M => by rw [evalPoly_pvar, M.node i _ hi, nodeVal, A env M, B env M]

end Rep

/-- the table has a model, whatever the variables beyond its atoms are to hold -/
def Sat (base : Nat → W) (t : Tbl) : Prop :=
  ∀ f : Nat → W, ∃ env, Model base env t ∧ ∀ i, NV + t.length ≤ i → env i = f i

theorem Sat.nil (base : Nat → W) : Sat base [] := fun f =>
  ⟨fun i => if i < NV then base i else f i, ⟨fun _ hi => if_pos hi, fun i nd h => by simp at h⟩,
    fun i hi => if_neg (by simp at hi; omega)⟩

/-- operands that are represented have the same value in all models, so the value of the new atom is known
before the model is: take a model of `t` that holds it at the atom's variable -/
theorem Sat.snoc {base : Nat → W} {t : Tbl} {a b : W} {p q : Poly} (h : Sat base t) (op : ROp)
    (A : Rep base t a p) (B : Rep base t b q) : Sat base (t ++ [(op, p, q)]) := by
  intro f
  obtain ⟨env, M, hf⟩ := h fun i => if i = NV + t.length then aluR op a b else f i
  refine ⟨env, ⟨M.reg, fun i nd hi => ?_⟩, fun i hi => ?_⟩
  · rw [List.getElem?_append] at hi
    split at hi
    · exact M.node i nd hi
    · obtain ⟨hl, rfl⟩ := List.getElem?_eq_some_iff.mp hi
      have e : i = t.length := by simp at hl; omega
      subst e
      simp only [Nat.sub_self, List.getElem_cons_zero]
      rw [hf _ (Nat.le_refl _), if_pos rfl, nodeVal, A env M, B env M]
  · simp only [List.length_append, List.length_singleton] at hi
    rw [hf i (by omega), if_neg (by omega)]

theorem isConst_ev (env : Nat → W) {p : Poly} {c : Int} (h : isConst p = some c) :
    evalPoly env p = imm32 c := by
  unfold isConst at h
  split at h
  · cases h; simp [imm32]
  · cases h; simp [imm32]
  · cases h

theorem simpNode_ok (env : Nat → W) {op : ROp} {p q r : Poly} (h : simpNode op p q = some r) :
    evalPoly env r = aluR op (evalPoly env p) (evalPoly env q) := by
  unfold simpNode at h
  split at h
  · -- and
    split at h
    · next e => cases h; subst e; simp [aluR]
    · split at h
      · next e => cases h; rcases e with e | e <;> subst e <;> simp [aluR]
      · cases h
  · -- or
    split at h
    · next e => cases h; subst e; simp [aluR]
    · split at h
      · next e => cases h; subst e; simp [aluR]
      · split at h
        · next e => cases h; subst e; simp [aluR]
        · cases h
  · -- xor
    split at h
    · next e => cases h; subst e; simp [aluR]
    · split at h
      · next e => cases h; subst e; simp [aluR]
      · split at h
        · next e => cases h; subst e; simp [aluR]
        · cases h
  · -- div
    split at h
    · next e =>
      cases h; subst e
      have : evalPoly env [(([] : Mono), (1 : Int))] = imm32 1 := by simp [imm32]
      rw [this, div_one]
    · cases h
  · cases h

theorem lookup_some (n : Node) (t : Tbl) (k j : Nat) (h : lookup n t k = some j) :
    ∃ i, j = k + i ∧ t[i]? = some n := by
  fun_induction lookup n t k with
  | case1 => cases h
  | case2 => cases h; exact ⟨0, rfl, rfl⟩
  | case3 _ _ _ _ ih =>
    obtain ⟨i, hj, hi⟩ := ih h
    exact ⟨i + 1, by omega, by simpa using hi⟩

/-- what `norm`, `mkNode`, `intern` promise about the table and polynomial they return: the table
only grows and still has a model, and the polynomial represents `x` over it -/
structure NormOK (base : Nat → W) (t : Tbl) (x : W) (r : Tbl × Poly) : Prop where
  grow : t <+: r.1
  sat : Sat base r.1
  rep : Rep base r.1 x r.2

theorem NormOK.from {base : Nat → W} {t₀ t : Tbl} {x : W} {r : Tbl × Poly} (h : NormOK base t x r)
    (ht : t₀ <+: t) : NormOK base t₀ x r :=
  ⟨ht.trans h.grow, h.sat, h.rep⟩

theorem intern_ok {base : Nat → W} {t : Tbl} {a b : W} {p q : Poly} (op : ROp) (hs : Sat base t)
    (A : Rep base t a p) (B : Rep base t b q) : NormOK base t (aluR op a b) (intern (op, p, q) t) := by
  unfold intern
  split
  · next j hj =>
    obtain ⟨i, rfl, hi⟩ := lookup_some _ _ _ _ hj
    exact ⟨List.prefix_rfl, hs, A.atom B hi⟩
  · have hp := List.prefix_append t [(op, p, q)]
    exact ⟨hp, hs.snoc op A B, (A.mono hp).atom (B.mono hp) (by simp)⟩

theorem mkNode_ok {base : Nat → W} {t : Tbl} {a b : W} {p q : Poly} (op : ROp) (hs : Sat base t)
    (A : Rep base t a p) (B : Rep base t b q) : NormOK base t (aluR op a b) (mkNode op p q t) := by
  unfold mkNode
  split
  · next ca cb ha hb =>
    exact ⟨List.prefix_rfl, hs, A.map₂ B (aluR op) fun env => by
      rw [evalPoly_pnorm, evalPoly_pconst, BitVec.ofInt_toInt, isConst_ev env ha, isConst_ev env hb]⟩
  · split
    · next r hr => exact ⟨List.prefix_rfl, hs, A.map₂ B (aluR op) fun env => simpNode_ok env hr⟩
    · exact intern_ok op hs A B

theorem NormOK.bin {base : Nat → W} {t t1 t2 : Tbl} {a b x : W} {p q r : Poly}
    (A : NormOK base t a (t1, p)) (B : NormOK base t1 b (t2, q))
    (h : Rep base t2 a p → Rep base t2 b q → Rep base t2 x r) : NormOK base t x (t2, r) :=
  ⟨A.grow.trans B.grow, B.sat, h (A.rep.mono B.grow) B.rep⟩

theorem norm_ok (base : Nat → W) (x : T) (t : Tbl) (r : Tbl × Poly) (hs : Sat base t) (h : norm x t = some r) :
    NormOK base t (den base x) r := by
  fun_induction norm x t generalizing r with
  | case1 i t hi => cases h; exact ⟨List.prefix_rfl, hs, .var hi⟩
  | case3 c t => cases h; exact ⟨List.prefix_rfl, hs, .const c⟩
  | case2 | case4 | case5 | case9 => cases h
  | case6 a b t t1 p ha t2 q hb iha ihb =>
    cases h
    have A := iha _ hs ha
    exact A.bin (ihb _ A.sat hb) fun A B => A.map₂ B (aluR .add) fun env => by
      rw [evalPoly_pnorm, evalPoly_padd]; rfl
  | case7 a b t t1 p ha t2 q hb iha ihb =>
    cases h
    have A := iha _ hs ha
    exact A.bin (ihb _ A.sat hb) fun A B => A.map₂ B (aluR .sub) fun env => by
      rw [evalPoly_pnorm, evalPoly_padd, evalPoly_pneg, ← BitVec.sub_eq_add_neg]; rfl
  | case8 a b t t1 p ha t2 q hb r hr iha ihb =>
    cases h
    have A := iha _ hs ha
    exact A.bin (ihb _ A.sat hb) fun A B => A.map₂ B (aluR .mul) fun env => by
      rw [evalPoly_pnorm, evalPoly_pmul? _ p q r hr]; rfl
  | case10 op a b t t1 p ha t2 q hb _ _ _ iha ihb =>
    cases h
    have A := iha _ hs ha
    have B := ihb _ A.sat hb
    exact (mkNode_ok op B.sat (A.rep.mono B.grow) B.rep).from (A.grow.trans B.grow)

theorem checkPairs_sound (base : Nat → W) (ps : List (T × T)) (t : Tbl) (hs : Sat base t)
    (h : checkPairs ps t = true) : ∀ xy ∈ ps, den base xy.1 = den base xy.2 := by
  fun_induction checkPairs ps t with
  | case1 => intro xy hmem; cases hmem
  | case2 | case3 => cases h
  | case4 x y r t t1 p hx t2 q hy ih =>
    simp only [Bool.and_eq_true, beq_iff_eq] at h
    have A := norm_ok base x t _ hs hx
    have B := norm_ok base y t1 _ A.sat hy
    intro xy hmem
    rcases List.mem_cons.mp hmem with rfl | hmem
    · obtain ⟨env, M, _⟩ := B.sat fun _ => 0#32
      show den base x = den base y
      rw [← A.rep.mono B.grow env M, ← B.rep env M, h.1]
    · exact ih B.sat h.2 xy hmem

end Xdsl.RiscV.TV
