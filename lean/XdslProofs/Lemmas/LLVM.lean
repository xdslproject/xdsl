import XdslProofs.Lemmas.LLVMTables
/-! The simulation behind `conv_sound` (`XdslProofs/C23.lean`): the `val_map` relation, one op (through the
table theorems of `LLVMTables.lean`), a terminator, a block, a run.  No Mathlib. -/
namespace Xdsl.LLVM

theorem allSome_cons {α β : Type} {f : α → Option β} {a : α} {l : List α} {vs : List β} :
    allSome f (a :: l) = some vs ↔ ∃ x xs, f a = some x ∧ allSome f l = some xs ∧ vs = x :: xs := by
  simp only [allSome]
  cases f a <;> cases allSome f l <;> simp [eq_comm]

theorem allSome_cons_some {α β : Type} {f : α → Option β} {a : α} {x : β} {l : List α} {xs : List β}
    (ha : f a = some x) (hl : allSome f l = some xs) : allSome f (a :: l) = some (x :: xs) :=
  allSome_cons.2 ⟨x, xs, ha, hl, rfl⟩

theorem allSome_length {α β : Type} (f : α → Option β) : ∀ (l : List α) (vs : List β),
    allSome f l = some vs → vs.length = l.length
  | [], _, h => by cases h; rfl
  | a :: l, vs, h => by
    obtain ⟨x, xs, _, h2, rfl⟩ := allSome_cons.1 h
    exact congrArg (· + 1) (allSome_length f l xs h2)

theorem allSome_getElem {α β : Type} (f : α → Option β) : ∀ (l : List α) (vs : List β),
    allSome f l = some vs → ∀ (i : Nat) (a : α), l[i]? = some a → ∃ v, vs[i]? = some v ∧ f a = some v
  | [], _, _, i, a, hi => by cases hi
  | x :: l, vs, h, i, a, hi => by
    obtain ⟨y, ys, h1, h2, rfl⟩ := allSome_cons.1 h
    cases i with
    | zero => cases hi; exact ⟨y, rfl, h1⟩
    | succ i => exact allSome_getElem f l ys h2 i a hi

theorem allSome_map {α β : Type} [Inhabited β] (f : α → Option β) : ∀ (l : List α) (vs : List β),
    allSome f l = some vs → vs = l.map fun a => (f a).getD default
  | [], _, h => by cases h; rfl
  | a :: l, vs, h => by
    obtain ⟨x, xs, hx, hxs, rfl⟩ := allSome_cons.1 h
    rw [List.map_cons, hx, ← allSome_map f l xs hxs]; rfl

theorem allDistinct_cons (x : Nat) (xs : List Nat) :
    allDistinct (x :: xs) = true ↔ x ∉ xs ∧ allDistinct xs = true := by
  simp [allDistinct]

theorem AL_get_of_mem : ∀ (m : VMap) (k : Nat) (o : IOperand),
    allDistinct (m.map (·.1)) = true → (k, o) ∈ m → AL.get m k = some o
  | [], _, _, _, h => by cases h
  | (k', o') :: r, k, o, hd, h => by
    simp only [List.map_cons, allDistinct_cons] at hd
    simp only [AL.get]
    rcases List.mem_cons.1 h with h | h
    · cases h; exact if_pos rfl
    · have : k' ≠ k := fun e => hd.1 (e ▸ List.mem_map.2 ⟨(k, o), h, rfl⟩)
      rw [if_neg this]
      exact AL_get_of_mem r k o hd.2 h

/-- every dialect value that is bound is the value of the operand `val_map` holds for it, in every environment
that agrees with `eI` on register `v id`: bindings of other registers (later results, the select registers of a
doubled successor) cannot disturb it, and a constant operand has its value in any environment -/
def Rel (m : VMap) (eD : Env) (eI : IEnv) : Prop :=
  ∀ id o v, look m id = some o → AL.get eD id = some v →
    ∀ eI' : IEnv, AL.get eI' (.v id) = AL.get eI (.v id) → evalOperand eI' o = some v

theorem Rel.eval {m : VMap} {eD : Env} {eI : IEnv} (h : Rel m eD eI) {id : Nat} {o : IOperand} {v : Val}
    (ho : look m id = some o) (hv : AL.get eD id = some v) : evalOperand eI o = some v :=
  h id o v ho hv eI rfl

theorem Rel_bind {m : VMap} {r : Nat} (hr : look m r = some (.reg (.v r)))
    {eD : Env} {eI : IEnv} (h : Rel m eD eI) (v : Val) : Rel m ((r, v) :: eD) ((.v r, v) :: eI) := by
  intro id o x ho hx eI' he
  simp only [AL.get] at hx
  split at hx
  · subst id
    rw [hr] at ho; cases ho; cases hx
    exact he.trans (if_pos rfl)
  · next e => exact h id o x ho hx eI' (he.trans (if_neg fun e' => e (IReg.v.inj e')))

theorem Rel_bindConst {m : VMap} {r : Nat} {o : IOperand} (hr : look m r = some o) {v : Val}
    {eD : Env} {eI : IEnv} (hv : ∀ eI', evalOperand eI' o = some v) (h : Rel m eD eI) :
    Rel m ((r, v) :: eD) eI := by
  intro id o' x ho hx eI' he
  simp only [AL.get] at hx
  split at hx
  · subst id
    rw [hr] at ho; cases ho; cases hx
    exact hv eI'
  · exact h id o' x ho hx eI' he

theorem Rel_allSome {m : VMap} {eD : Env} {eI : IEnv} (h : Rel m eD eI) :
    ∀ (ids : List Nat) (os : List IOperand) (vs : List Val),
      allSome (look m) ids = some os → allSome (AL.get eD) ids = some vs → allSome (evalOperand eI) os = some vs
  | [], os, vs, h1, h2 => by cases h1; cases h2; rfl
  | a :: l, os, vs, h1, h2 => by
    obtain ⟨o, os', ho, hos, rfl⟩ := allSome_cons.1 h1
    obtain ⟨v, vs', hv, hvs, rfl⟩ := allSome_cons.1 h2
    exact allSome_cons_some (h.eval ho hv) (Rel_allSome h l os' vs' hos hvs)

theorem Rel_zip {m : VMap} : ∀ (args : List (Nat × Ty)) (vs : List Val) {eD : Env} {eI : IEnv},
    (∀ a ∈ args, look m a.1 = some (.reg (.v a.1))) → Rel m eD eI →
    Rel m ((args.map (·.1)).zip vs ++ eD) ((args.map fun a => IReg.v a.1).zip vs ++ eI)
  | [], _, _, _, _, h => h
  | _ :: _, [], _, _, _, h => h
  | a :: args, v :: vs, _, _, hl, h =>
    Rel_bind (hl a (List.mem_cons_self)) (Rel_zip args vs (fun x hx => hl x (List.mem_cons_of_mem _ hx)) h) v

theorem runInstrs_single (i : IInstr) (eI : IEnv) (mem : Mem) :
    runInstrs eI mem [i] = i.step eI mem := by
  simp only [runInstrs]
  cases i.step eI mem with
  | none => rfl
  | some x => cases x; rfl

theorem runInstrs_append : ∀ (is js : List IInstr) (eI : IEnv) (mem : Mem),
    runInstrs eI mem (is ++ js) = (runInstrs eI mem is).bind fun x => runInstrs x.1 x.2 js
  | [], js, eI, mem => rfl
  | i :: is, js, eI, mem => by
    simp only [List.cons_append, runInstrs]
    cases i.step eI mem with
    | none => rfl
    | some x => cases x; exact runInstrs_append is js _ _

/-- the generic part of the simulation of one converted op: an instruction that defines the register
`val_map` holds for the op's result, finds its operands' values wherever the op finds its own, and denotes
the same function, takes the same step -/
theorem step_sim {m : VMap} {op : DOp} {i : IInstr} {eD : Env} {eI : IEnv} {mem : Mem}
    {eD' : Env} {mem' : Mem} (hrel : Rel m eD eI) (hs : op.step eD mem = some (eD', mem'))
    (hdef : ∀ r o, op.operand = some (r, o) → look m r = some o)
    (hopd : op.operand = op.res.map fun r => (r, .reg (.v r)))
    (hres : i.res = op.res.map IReg.v)
    (hargs : ∀ vs, allSome (AL.get eD) op.args = some vs →
      ∃ vs', allSome (evalOperand eI) i.args = some vs' ∧ ∀ mem, i.den mem vs' = op.den mem vs) :
    ∃ eI', runInstrs eI mem [i] = some (eI', mem') ∧ Rel m eD' eI' := by
  rw [runInstrs_single]
  simp only [DOp.step, Option.bind_eq_bind, Option.bind_eq_some_iff] at hs
  obtain ⟨vs, hvs, ⟨mem1, r⟩, hden, hout⟩ := hs
  cases hout
  obtain ⟨vs', hvs', hd⟩ := hargs vs hvs
  refine ⟨bindRes i.res r eI, ?_, ?_⟩
  · simp only [IInstr.step, hvs', hd, hden, Option.bind_eq_bind, Option.bind_some]
  · rw [hres]
    cases hr : op.res with
    | none => exact hrel
    | some x =>
      cases r with
      | none => exact hrel
      | some v => exact Rel_bind (hdef x _ (by rw [hopd, hr]; rfl)) hrel v

/-- the usual case: the operands are what `val_map` holds for the op's; then it is enough that instruction
and op denote the same function of the values `g` of the operand ids -/
theorem step_sim_args {m : VMap} {op : DOp} {i : IInstr} {eD : Env} {eI : IEnv} {mem : Mem}
    {eD' : Env} {mem' : Mem} (hrel : Rel m eD eI) (hs : op.step eD mem = some (eD', mem'))
    (hdef : ∀ r o, op.operand = some (r, o) → look m r = some o)
    (hopd : op.operand = op.res.map fun r => (r, .reg (.v r)))
    (hres : i.res = op.res.map IReg.v)
    (hos : allSome (look m) op.args = some i.args)
    (hden : ∀ mem (g : Nat → Val), i.den mem (op.args.map g) = op.den mem (op.args.map g)) :
    ∃ eI', runInstrs eI mem [i] = some (eI', mem') ∧ Rel m eD' eI' :=
  step_sim hrel hs hdef hopd hres fun vs hvs =>
    ⟨vs, Rel_allSome hrel _ _ _ hos hvs, fun mem => allSome_map _ _ _ hvs ▸ hden mem _⟩

theorem intOf_constVal (w : Nat) (i : Int) : intOf w (constVal w i) = some (BitVec.ofInt w i) := by
  simp only [intOf, constVal, ↓reduceIte, BitVec.ofNat_toNat, BitVec.setWidth_eq]

/-- `convert_op` on one op preserves the relation.  Constants emit no instruction: their value is what
`val_map` substitutes.  Every other op becomes one instruction with the looked-up operands; that it denotes
the same function is immediate except where a table of `convert_op.py` is involved (and for a constant `gep`
index, which becomes an `i32` operand). -/
theorem convOp_step {m : VMap} (op : DOp) (is : List IInstr) (h : convOp m op = some is)
    (hdef : ∀ r o, op.operand = some (r, o) → look m r = some o)
    {eD : Env} {eI : IEnv} {mem : Mem} {eD' : Env} {mem' : Mem} (hrel : Rel m eD eI)
    (hs : op.step eD mem = some (eD', mem')) :
    ∃ eI', runInstrs eI mem is = some (eI', mem') ∧ Rel m eD' eI' := by
  cases op
  case const r w v =>
    cases h; cases hs
    exact ⟨eI, rfl, Rel_bindConst (hdef r _ rfl) (fun _ => rfl) hrel⟩
  case fconst r ty d =>
    cases ty <;> cases h <;> cases hs <;> exact ⟨eI, rfl, Rel_bindConst (hdef r _ rfl) (fun _ => rfl) hrel⟩
  case gep r elem pp idx inb =>
    cases idx with
    | const ci =>
      obtain ⟨oa, ha, h⟩ := Option.bind_eq_some_iff.1 h
      cases h
      refine step_sim hrel hs hdef rfl rfl fun vs hvs => ?_
      obtain ⟨va, _, h1, hnil, rfl⟩ := allSome_cons.1 hvs
      cases hnil
      refine ⟨[va, constVal 32 ci], allSome_cons_some (hrel.eval ha h1) (allSome_cons_some rfl rfl), fun mem => ?_⟩
      show (intOf 32 (constVal 32 ci)).bind (fun x => gepDen elem mem va x.toInt) = _
      rw [intOf_constVal]; rfl
    | ssa si sw =>
      simp only [convOp, Option.bind_eq_bind, Option.bind_eq_some_iff, Option.some.injEq] at h
      obtain ⟨oa, ha, ob, hb, rfl⟩ := h
      exact step_sim_args hrel hs hdef rfl rfl (allSome_cons_some ha (allSome_cons_some hb rfl)) fun _ _ => rfl
  all_goals simp only [convOp, Option.bind_eq_bind, Option.bind_eq_some_iff, Option.some.injEq] at h
  case fneg | alloca | load =>
    all_goals
      obtain ⟨oa, ha, rfl⟩ := h
      exact step_sim_args hrel hs hdef rfl rfl (allSome_cons_some ha rfl) fun _ _ => rfl
  case store =>
    obtain ⟨oa, ha, ob, hb, rfl⟩ := h
    exact step_sim_args hrel hs hdef rfl rfl (allSome_cons_some ha (allSome_cons_some hb rfl)) fun _ _ => rfl
  case fbin k r ty a b =>
    obtain ⟨oa, ha, ob, hb, rfl⟩ := h
    exact step_sim_args hrel hs hdef rfl rfl (allSome_cons_some ha (allSome_cons_some hb rfl))
      fun _ _ => by cases k <;> rfl
  case select r ty c a b =>
    obtain ⟨oc, hc, oa, ha, ob, hb, rfl⟩ := h
    exact step_sim_args hrel hs hdef rfl rfl
      (allSome_cons_some hc (allSome_cons_some ha (allSome_cons_some hb rfl))) fun _ _ => rfl
  case bin k r w a b ovf ex dj =>
    obtain ⟨fl, hfl, oa, ha, ob, hb, rfl⟩ := h
    have e : @IBin.eval (convBin k) fl = @DBin.eval k ovf ex dj := by
      funext w x y; exact convBin_sound k ovf ex dj fl hfl x y
    refine step_sim_args hrel hs hdef rfl rfl (allSome_cons_some ha (allSome_cons_some hb rfl)) fun mem g => ?_
    dsimp only [IInstr.den, DOp.den, DOp.args, List.map]
    rw [e]
  case icmp r p w a b =>
    obtain ⟨q, hq, oa, ha, ob, hb, rfl⟩ := h
    refine step_sim_args hrel hs hdef rfl rfl (allSome_cons_some ha (allSome_cons_some hb rfl)) fun mem g => ?_
    dsimp only [IInstr.den, DOp.den, DOp.args, List.map]
    simp only [convICmp_sound p q hq]; rfl
  case fcmp r p ty a b =>
    obtain ⟨q, hq, oa, ha, ob, hb, rfl⟩ := h
    refine step_sim_args hrel hs hdef rfl rfl (allSome_cons_some ha (allSome_cons_some hb rfl)) fun mem g => ?_
    dsimp only [IInstr.den, DOp.den, DOp.args, List.map]
    simp only [convFCmp_sound p q hq]; rfl
  case cast k r ft tt a ovf nn =>
    obtain ⟨fl, hfl, oa, ha, rfl⟩ := h
    refine step_sim_args hrel hs hdef rfl rfl (allSome_cons_some ha rfl) fun mem g => ?_
    dsimp only [IInstr.den, DOp.den, DOp.args, List.map]
    rw [convCast_sound k ovf nn fl hfl]

theorem convOps_sim {m : VMap} (ops : List DOp) : ∀ (is : List IInstr),
    convOps m ops = some is →
    (∀ op ∈ ops, ∀ r o, op.operand = some (r, o) → look m r = some o) →
    ∀ {eD : Env} {eI : IEnv} {mem : Mem} {eD' : Env} {mem' : Mem}, Rel m eD eI →
      runOpsD eD mem ops = some (eD', mem') →
      ∃ eI', runInstrs eI mem is = some (eI', mem') ∧ Rel m eD' eI' := by
  induction ops with
  | nil =>
    intro is h _ eD eI mem eD' mem' hrel hr
    cases h; cases hr
    exact ⟨eI, rfl, hrel⟩
  | cons op rest ih =>
    intro is h hdef eD eI mem eD' mem' hrel hr
    obtain ⟨is1, h1, h⟩ := Option.bind_eq_some_iff.1 h
    obtain ⟨js, h2, h⟩ := Option.bind_eq_some_iff.1 h
    cases h
    simp only [runOpsD] at hr
    split at hr
    · cases hr
    · next eD1 mem1 hs =>
      obtain ⟨eI1, hi1, hrel1⟩ := convOp_step op is1 h1 (hdef op (List.mem_cons_self)) hrel hs
      obtain ⟨eI2, hi2, hrel2⟩ := ih js h2 (fun o ho => hdef o (List.mem_cons_of_mem _ ho)) hrel1 hr
      exact ⟨eI2, by rw [runInstrs_append, hi1]; exact hi2, hrel2⟩

theorem incomingFrom_snd (d i b : Nat) (es : List Edge) (x : IOperand × Nat) (h : x ∈ incomingFrom d i b es) :
    x.2 = b := by
  simp only [incomingFrom, List.mem_filterMap] at h
  obtain ⟨e, _, he⟩ := h
  split at he
  · obtain ⟨o, _, rfl⟩ := Option.map_eq_some_iff.1 he
    rfl
  · cases he

theorem incomingFrom_cons_eq (d i b : Nat) (os : List IOperand) (es : List Edge) :
    incomingFrom d i b (⟨d, os⟩ :: es) = ((os[i]?).map (·, b)).toList ++ incomingFrom d i b es := by
  simp only [incomingFrom, List.filterMap_cons, if_true]
  cases os[i]? <;> rfl

theorem incomingFrom_cons_ne {d d' : Nat} (h : d' ≠ d) (i b : Nat) (os : List IOperand) (es : List Edge) :
    incomingFrom d i b (⟨d', os⟩ :: es) = incomingFrom d i b es := by
  simp only [incomingFrom, List.filterMap_cons, if_neg h]

theorem incomingAll_snd_ge (d i : Nat) : ∀ (cs : List CBlock) (k : Nat) (x : IOperand × Nat),
    x ∈ incomingAll d i k cs → k ≤ x.2
  | [], _, _, h => by cases h
  | c :: rest, k, x, h => by
    rcases List.mem_append.1 h with h | h
    · exact Nat.le_of_eq (incomingFrom_snd d i k c.edges x h).symm
    · exact Nat.le_of_succ_le (incomingAll_snd_ge d i rest (k + 1) x h)

/-- the entries of a phi that name predecessor `b` are exactly those block `b` contributed (block `k + j`
is the `j`-th of `cs`) -/
theorem incomingAll_filter (d i b : Nat) (cs : List CBlock) : ∀ (k : Nat) (c : CBlock), k ≤ b →
    cs[b - k]? = some c → (incomingAll d i k cs).filter (fun x => x.2 = b) = incomingFrom d i b c.edges := by
  induction cs with
  | nil => intro _ _ _ h; cases h
  | cons c0 rest ih =>
    intro k c hk h
    simp only [incomingAll, List.filter_append]
    rcases Nat.eq_or_lt_of_le hk with rfl | hlt
    · rw [Nat.sub_self] at h; cases h
      have h1 : (incomingFrom d i k c0.edges).filter (fun x => x.2 = k) = incomingFrom d i k c0.edges :=
        List.filter_eq_self.2 fun x hx => decide_eq_true (incomingFrom_snd d i k _ x hx)
      have h2 : (incomingAll d i (k + 1) rest).filter (fun x => x.2 = k) = [] :=
        List.filter_eq_nil_iff.2 fun x hx hb =>
          Nat.not_succ_le_self k (of_decide_eq_true hb ▸ incomingAll_snd_ge d i rest (k + 1) x hx)
      rw [h1, h2, List.append_nil]
    · have h1 : (incomingFrom d i k c0.edges).filter (fun x => x.2 = b) = [] :=
        List.filter_eq_nil_iff.2 fun x hx hb =>
          Nat.ne_of_lt hlt ((incomingFrom_snd d i k _ x hx).symm.trans (of_decide_eq_true hb))
      rw [h1, List.nil_append]
      refine ih (k + 1) c hlt ?_
      rwa [show b - k = (b - (k + 1)) + 1 by omega, List.getElem?_cons_succ] at h

/-- the phis built for the arguments `i, i+1, …` of block `d`, entered from `b`, bind the values of any operands
`os` that head block `b`'s incoming entries -/
theorem evalPhis_mk (cs : List CBlock) (d b : Nat) (eI : IEnv) (args : List (Nat × Ty)) :
    ∀ (i : Nat) (os : List IOperand) (vs : List Val),
      (∀ j, (incomingAll d (i + j) 0 cs).find? (fun x => x.2 = b) = (os[j]?).map (·, b)) →
      allSome (evalOperand eI) os = some vs → vs.length = args.length →
      evalPhis eI b (mkPhis cs d i args) = some ((args.map fun a => IReg.v a.1).zip vs) := by
  induction args with
  | nil =>
    intro _ _ vs _ _ hl
    cases vs with
    | nil => rfl
    | cons _ _ => cases hl
  | cons a rest ih =>
    intro i os vs hinc hos hl
    cases os with
    | nil => cases hos; cases hl
    | cons o os' =>
      obtain ⟨v, vs', hv, hvs', rfl⟩ := allSome_cons.1 hos
      have hf : (incomingAll d i 0 cs).find? (fun x => x.2 = b) = some (o, b) := hinc 0
      have h0 : evalPhi eI b ⟨.v a.1, a.2, incomingAll d i 0 cs⟩ = some (.v a.1, v) := by
        simp only [evalPhi, hf, hv, Option.bind_eq_bind, Option.bind_some]
      exact allSome_cons_some h0 (ih (i + 1) os' vs'
        (fun j => Nat.add_right_comm i 1 j ▸ hinc (j + 1)) hvs' (Nat.succ.inj hl))

theorem bindArgs_zip {κ : Type} (ks : List κ) (vs : List Val) : ∀ (binds : List (κ × Val)),
    bindArgs ks vs = some binds → binds = ks.zip vs ∧ vs.length = ks.length := by
  fun_induction bindArgs ks vs
  case case1 => intro _ h; cases h; exact ⟨rfl, rfl⟩
  case case2 k ks v vs ih =>
    intro binds h
    obtain ⟨bs, hb, rfl⟩ := Option.map_eq_some_iff.1 h
    obtain ⟨rfl, hl⟩ := ih bs hb
    exact ⟨rfl, congrArg (· + 1) hl⟩
  case case3 => intro _ h; cases h

/-- `eI'` differs from `eI` at most in the select registers `s b j`, `j ≥ i`, of block `b`: what the selects
emitted for arguments `i, i+1, …` of a doubled successor do to the environment -/
def SelExt (b i : Nat) (eI eI' : IEnv) : Prop :=
  ∀ r, (∀ j, i ≤ j → r ≠ IReg.s b j) → AL.get eI' r = AL.get eI r

theorem SelExt.refl (b i : Nat) (eI : IEnv) : SelExt b i eI eI := fun _ _ => rfl

theorem SelExt.mono {b i : Nat} {eI eI' : IEnv} (h : SelExt b (i + 1) eI eI') : SelExt b i eI eI' :=
  fun r hr => h r fun j hj => hr j (Nat.le_of_succ_le hj)

/-- select `i` is bound first, the later ones on top of it -/
theorem SelExt.cons {b i : Nat} {eI eI' : IEnv} {v : Val} (h : SelExt b (i + 1) ((.s b i, v) :: eI) eI') :
    SelExt b i eI eI' :=
  fun r hr => (h.mono r hr).trans (if_neg (hr i (Nat.le_refl i)).symm)

theorem Rel.selExt {m : VMap} {eD : Env} {eI eI' : IEnv} (h : Rel m eD eI) {b i : Nat} (hext : SelExt b i eI eI') :
    Rel m eD eI' :=
  fun id o v ho hv eI'' h'' => h id o v ho hv eI'' (h''.trans (hext (.v id) fun _ _ => nofun))

theorem condOf_some {cv : Val} {bb : Bool} (h : condOf cv = some bb) : ∃ n, cv = .int 1 n ∧ bb = decide (n = 1) := by
  unfold condOf at h
  split at h
  · cases h; exact ⟨_, rfl, rfl⟩
  · cases h

theorem select_step {eI : IEnv} {c a b : IOperand} {n : Nat} {va vb : Val} (hc : evalOperand eI c = some (.int 1 n))
    (ha : evalOperand eI a = some va) (hb : evalOperand eI b = some vb) (r : IReg) (ty : Ty) (mem : Mem) :
    (IInstr.select r ty c a b).step eI mem = some ((r, if n = 1 then va else vb) :: eI, mem) := by
  have : allSome (evalOperand eI) (IInstr.select r ty c a b).args = some [.int 1 n, va, vb] :=
    allSome_cons_some hc (allSome_cons_some ha (allSome_cons_some hb rfl))
  simp only [IInstr.step, this, Option.bind_eq_bind, Option.bind_some]
  rfl

theorem ite_cons {α : Type} {p : Prop} [Decidable p] (x y : α) {xs ys : List α} :
    ((if p then x else y) :: if p then xs else ys) = if p then x :: xs else y :: ys := by
  split <;> rfl

/-- the selects that merge the two argument lists of a doubled successor run without touching anything but
their own registers, and leave the merged operands with the values of the list the condition `x` chooses -/
theorem mergeArgs_sim {m : VMap} (b : Nat) (tys : List Ty) {x : Nat} (c : IOperand) (hc : look m x = some c)
    (ta ea : List Nat) (i : Nat) : ∀ (is : List IInstr) (os : List IOperand),
    mergeArgs m b tys c i ta ea = some (is, os) →
    ∀ {eD : Env} {eI : IEnv} (mem : Mem) (n : Nat), Rel m eD eI → AL.get eD x = some (.int 1 n) →
    ∀ (tv ev : List Val), allSome (AL.get eD) ta = some tv → allSome (AL.get eD) ea = some ev →
    ∃ eI', runInstrs eI mem is = some (eI', mem) ∧ SelExt b i eI eI' ∧
      allSome (evalOperand eI') os = some (if n = 1 then tv else ev) := by
  fun_induction mergeArgs m b tys c i ta ea
  case case1 i =>
    intro is os h eD eI mem n hrel hx tv ev htv hev
    cases h; cases htv; cases hev
    exact ⟨eI, rfl, SelExt.refl b i eI, (ite_self _).symm ▸ rfl⟩
  case case2 i ts e es t' e' is' os' hrec _ ht ih =>
    -- the same SSA value on both edges is passed on
    intro is os h eD eI mem n hrel hx tv ev htv hev
    cases h
    obtain ⟨vt, tv', hvt, htv', rfl⟩ := allSome_cons.1 htv
    obtain ⟨ve, ev', hve, hev', rfl⟩ := allSome_cons.1 hev
    cases hvt.symm.trans hve
    obtain ⟨eI', hrun, hext, hos⟩ := ih is' os' hrec mem n hrel hx tv' ev' htv' hev'
    refine ⟨eI', hrun, hext.mono, ?_⟩
    rw [← ite_cons vt vt, ite_self]
    exact allSome_cons_some ((hrel.selExt hext).eval ht hvt) hos
  case case3 i t ts e es t' e' is' os' hrec he ht _ ih =>
    -- select `i` runs first; the later selects do not touch its register
    intro is os h eD eI mem n hrel hx tv ev htv hev
    cases h
    obtain ⟨vt, tv', hvt, htv', rfl⟩ := allSome_cons.1 htv
    obtain ⟨ve, ev', hve, hev', rfl⟩ := allSome_cons.1 hev
    have hext1 : SelExt b i eI ((.s b i, if n = 1 then vt else ve) :: eI) := (SelExt.refl b (i + 1) _).cons
    obtain ⟨eI', hrun, hext, hos⟩ := ih is' os' hrec mem n (hrel.selExt hext1) hx tv' ev' htv' hev'
    refine ⟨eI', ?_, hext.cons, ?_⟩
    · simp only [runInstrs, select_step (hrel.eval hc hx) (hrel.eval ht hvt) (hrel.eval he hve)]
      exact hrun
    · rw [← ite_cons vt ve]
      refine allSome_cons_some ((hext (.s b i) fun j hj e => ?_).trans (if_pos rfl)) hos
      cases e; exact Nat.lt_irrefl _ hj
  case case4 | case5 => intro _ _ h; cases h

/-- what the converted terminator guarantees for the successor's phis -/
def TermPost (b : Nat) (term : ITerm) (edges : List Edge) (eI' : IEnv) : DNext → Prop
  | .ret v => term.eval eI' = some (.ret v)
  | .jump d vs => term.eval eI' = some (.jump d) ∧
      ∃ os, allSome (evalOperand eI') os = some vs ∧
        ∀ i : Nat, (incomingFrom d i b edges).head? = (os[i]?).map (fun o => (o, b))

theorem condbr_eval {eI : IEnv} {c : IOperand} {n : Nat} (hc : evalOperand eI c = some (.int 1 n)) (t e : Nat) :
    (ITerm.condbr c t e).eval eI = some (.jump (if n = 1 then t else e)) := by
  simp only [ITerm.eval, hc, condOf, Option.bind_eq_bind, Option.bind_some, decide_eq_true_eq]

theorem convTerm_sim {m : VMap} (argTys : Nat → List Ty) (b : Nat) (t : DTerm)
    (extra : List IInstr) (term : ITerm) (edges : List Edge)
    (h : convTerm m argTys b t = some (extra, term, edges))
    {eD : Env} {eI : IEnv} (hrel : Rel m eD eI) (mem : Mem) (nx : DNext) (hD : t.eval eD = some nx) :
    ∃ eI', runInstrs eI mem extra = some (eI', mem) ∧ Rel m eD eI' ∧ TermPost b term edges eI' nx := by
  cases t with
  | ret ty v =>
    obtain ⟨o, ho, h⟩ := Option.bind_eq_some_iff.1 h
    cases h
    obtain ⟨x, hx, hD⟩ := Option.bind_eq_some_iff.1 hD
    refine ⟨eI, rfl, hrel, ?_⟩
    split at hD
    · next hty =>
      cases hD
      simp only [TermPost, ITerm.eval, hrel.eval ho hx, hty, Option.bind_eq_bind, Option.bind_some, if_true]
    · cases hD
  | br d args =>
    obtain ⟨os, hos, h⟩ := Option.bind_eq_some_iff.1 h
    cases h
    obtain ⟨vs, hvs, hD⟩ := Option.bind_eq_some_iff.1 hD
    cases hD
    refine ⟨eI, rfl, hrel, rfl, os, Rel_allSome hrel args os vs hos hvs, fun i => ?_⟩
    rw [incomingFrom_cons_eq]
    cases os[i]? <;> rfl
  | unreachable => cases hD
  | condbr c t ta e ea =>
    simp only [DTerm.eval, Option.bind_eq_bind, Option.bind_eq_some_iff, Option.some.injEq] at hD
    obtain ⟨cv, hcv, bb, hbb, tv, htv, ev, hev, rfl⟩ := hD
    obtain ⟨n, rfl, rfl⟩ := condOf_some hbb
    obtain ⟨c', hc', h⟩ := Option.bind_eq_some_iff.1 h
    split at h
    · next hte =>
      -- doubled successor: the selects run, then both edges carry the merged operands
      subst hte
      obtain ⟨⟨is, os⟩, hm, h⟩ := Option.bind_eq_some_iff.1 h
      cases h
      obtain ⟨eI', hrun, hext, hos⟩ := mergeArgs_sim b (argTys t) c' hc' ta ea 0 _ _ hm mem n hrel hcv tv ev htv hev
      have hrel' := hrel.selExt hext
      refine ⟨eI', hrun, hrel', ?_⟩
      have hinc : ∀ i : Nat, (incomingFrom t i b [⟨t, os⟩, ⟨t, os⟩]).head? = (os[i]?).map (fun o => (o, b)) := by
        intro i
        rw [incomingFrom_cons_eq, incomingFrom_cons_eq]
        cases os[i]? <;> rfl
      have hnx : (if decide (n = 1) = true then DNext.jump t tv else .jump t ev) = .jump t (if n = 1 then tv else ev) := by
        by_cases h1 : n = 1 <;> simp only [h1, decide_true, decide_false, if_true, if_false, Bool.false_eq_true]
      rw [hnx]
      exact ⟨(condbr_eval (hrel'.eval hc' hcv) t t).trans (by rw [ite_self]), os, hos, hinc⟩
    · next hte =>
      obtain ⟨ta', hta, h⟩ := Option.bind_eq_some_iff.1 h
      obtain ⟨ea', hea, h⟩ := Option.bind_eq_some_iff.1 h
      cases h
      have ec := hrel.eval hc' hcv
      refine ⟨eI, rfl, hrel, ?_⟩
      by_cases h1 : n = 1
      · rw [if_pos (decide_eq_true h1)]
        refine ⟨(condbr_eval ec t e).trans (by rw [if_pos h1]), ta', Rel_allSome hrel ta ta' tv hta htv, fun i => ?_⟩
        · rw [incomingFrom_cons_eq, incomingFrom_cons_ne (fun h => hte h.symm)]
          cases ta'[i]? <;> rfl
      · rw [if_neg fun hd => h1 (of_decide_eq_true hd)]
        refine ⟨(condbr_eval ec t e).trans (by rw [if_neg h1]), ea', Rel_allSome hrel ea ea' ev hea hev, fun i => ?_⟩
        · rw [incomingFrom_cons_ne hte, incomingFrom_cons_eq]
          cases ea'[i]? <;> rfl

theorem mem_defs {f : DFunc} {blk : DBlock} (hb : blk ∈ f.blocks) {x : Nat × IOperand} (hx : x ∈ blk.defs) :
    x ∈ f.defs :=
  List.mem_flatMap.2 ⟨blk, hb, hx⟩

theorem Rel_args {f : DFunc} (hd : allDistinct (f.defs.map (·.1)) = true) {blk : DBlock} (hmem : blk ∈ f.blocks)
    (vs : List Val) {eD : Env} {eI : IEnv} (h : Rel f.defs eD eI) :
    Rel f.defs ((blk.args.map (·.1)).zip vs ++ eD) ((blk.args.map fun a => IReg.v a.1).zip vs ++ eI) :=
  Rel_zip blk.args vs (fun a ha => AL_get_of_mem _ _ _ hd (mem_defs hmem (List.mem_append_left _ (List.mem_map.2 ⟨a, ha, rfl⟩)))) h

/-- what the simulation uses of a successful `conv f = some q` (`conv_unpack`); the guards `orderOK` and `storesOK`
of `conv` only say where the Python code raises and are not among it.  `cs` are the converted blocks before the
phis are assembled -/
structure Conv (f : DFunc) (q : IFunc) (cs : List CBlock) : Prop where
  distinct : allDistinct (f.defs.map (·.1)) = true
  dests : f.destsOK = true
  blocks : convBlocks f f.defs 0 f.blocks = some cs
  entry : ∃ e rest, f.blocks = e :: rest ∧ q = ⟨f.ret, e.args, assemble f cs 0 f.blocks cs⟩

theorem conv_unpack {f : DFunc} {q : IFunc} (h : conv f = some q) : ∃ cs, Conv f q cs := by
  simp only [conv] at h
  split at h
  · rename_i hg
    simp only [Bool.and_eq_true] at hg
    obtain ⟨⟨⟨h1, _⟩, h3⟩, _⟩ := hg
    split at h
    · cases h
    · rename_i e rest hb
      split at h
      · cases h
      · rename_i cs hcs
        cases h
        exact ⟨cs, h1, h3, hcs, e, rest, hb, by rw [hb]⟩
  · cases h

theorem convBlocks_get (f : DFunc) (m : VMap) (bs : List DBlock) : ∀ (k : Nat) (cs : List CBlock),
    convBlocks f m k bs = some cs → ∀ (j : Nat) (blk : DBlock), bs[j]? = some blk →
      ∃ c, cs[j]? = some c ∧ convBlock f m (k + j) blk = some c := by
  induction bs with
  | nil => intro _ _ _ j _ hj; cases hj
  | cons b0 bs ih =>
    intro k cs h j blk hj
    obtain ⟨c0, hc0, h⟩ := Option.bind_eq_some_iff.1 h
    obtain ⟨cs', hcs', h⟩ := Option.bind_eq_some_iff.1 h
    cases h
    cases j with
    | zero => cases hj; exact ⟨c0, rfl, hc0⟩
    | succ j =>
      obtain ⟨c, h1, h2⟩ := ih (k + 1) cs' hcs' j blk hj
      exact ⟨c, h1, Nat.add_right_comm k 1 j ▸ h2⟩

def phisOf (cs : List CBlock) (b : Nat) (blk : DBlock) : List IPhi :=
  if b = 0 then [] else mkPhis cs b 0 blk.args

theorem assemble_get (f : DFunc) (cs : List CBlock) (bs : List DBlock) : ∀ (cs' : List CBlock) (k j : Nat)
    (blk : DBlock) (c : CBlock), bs[j]? = some blk → cs'[j]? = some c →
    (assemble f cs k bs cs')[j]? = some ⟨phisOf cs (k + j) blk, c.instrs, c.term⟩ := by
  induction bs with
  | nil => intro _ _ j _ _ hj; cases hj
  | cons b0 bs ih =>
    intro cs' k j blk c hj hc
    cases cs' with
    | nil => cases hc
    | cons c0 cs' =>
      cases j with
      | zero => cases hj; cases hc; rfl
      | succ j => exact Nat.add_right_comm k 1 j ▸ ih cs' (k + 1) j blk c hj hc

/-- the invariant at a block boundary: when the source enters block `d` with the values `vs`, the phis of `d`
evaluated in the environment of the predecessor `pred` bind the same values, and the relation holds with
both bindings in place -/
def Pre (f : DFunc) (cs : List CBlock) (d : Nat) (vs : List Val) (eD : Env) (eI : IEnv) (pred : Nat) : Prop :=
  ∀ blk bindsD, f.blocks[d]? = some blk → bindArgs (blk.args.map (·.1)) vs = some bindsD →
    ∃ bindsI, evalPhis eI pred (phisOf cs d blk) = some bindsI ∧ Rel f.defs (bindsD ++ eD) (bindsI ++ eI)

def BlockPost (f : DFunc) (q : IFunc) (cs : List CBlock) (b pred : Nat) (eI : IEnv) (mem : Mem) (eD' : Env) (mem' : Mem) :
    DNext → Prop
  | .ret v => ∃ eI', blockI q b pred eI mem = some (.ret v, eI', mem')
  | .jump d vs => ∃ eI', blockI q b pred eI mem = some (.jump d, eI', mem') ∧ Pre f cs d vs eD' eI' b

theorem blockD_some {f : DFunc} {b : Nat} {vals : List Val} {eD : Env} {mem : Mem} {nx : DNext} {eD' : Env}
    {mem' : Mem} (h : blockD f b vals eD mem = some (nx, eD', mem')) :
    ∃ blk binds, f.blocks[b]? = some blk ∧ bindArgs (blk.args.map (·.1)) vals = some binds ∧
      runOpsD (binds ++ eD) mem blk.ops = some (eD', mem') ∧ blk.term.eval eD' = some nx := by
  simp only [blockD] at h
  split at h
  · cases h
  next blk hblk =>
  split at h
  · cases h
  next binds hbind =>
  split at h
  · cases h
  next _ _ hops =>
  split at h
  · cases h
  next _ hterm =>
  cases h
  exact ⟨blk, binds, hblk, hbind, hops, hterm⟩

theorem blockI_some {q : IFunc} {b pred : Nat} {eI : IEnv} {mem : Mem} {blk : IBlock} {binds eI' : IEnv}
    {mem' : Mem} {nx : INext} (hblk : q.blocks[b]? = some blk) (hphis : evalPhis eI pred blk.phis = some binds)
    (hrun : runInstrs (binds ++ eI) mem blk.instrs = some (eI', mem')) (hterm : blk.term.eval eI' = some nx) :
    blockI q b pred eI mem = some (nx, eI', mem') := by
  simp only [blockI, hblk, hphis, hrun, hterm]

theorem eval_dest (t : DTerm) (eD : Env) (d : Nat) (vs : List Val) (h : t.eval eD = some (.jump d vs)) :
    d ∈ t.dests := by
  cases t with
  | ret ty v =>
    obtain ⟨x, _, h⟩ := Option.bind_eq_some_iff.1 h
    split at h <;> cases h
  | br d' args =>
    obtain ⟨_, _, h⟩ := Option.bind_eq_some_iff.1 h
    cases h; exact List.mem_cons_self
  | condbr c t ta e ea =>
    simp only [DTerm.eval, Option.bind_eq_bind, Option.bind_eq_some_iff, Option.some.injEq] at h
    obtain ⟨_, _, bb, _, _, _, _, _, h⟩ := h
    cases bb <;> cases h
    · exact List.mem_cons_of_mem _ List.mem_cons_self
    · exact List.mem_cons_self
  | unreachable => cases h

theorem block_sim {f : DFunc} {q : IFunc} {cs : List CBlock} (hc : Conv f q cs)
    {b : Nat} {vals : List Val} {eD : Env} {eI : IEnv} {mem : Mem} {pred : Nat}
    (pre : Pre f cs b vals eD eI pred) {nx : DNext} {eD' : Env} {mem' : Mem}
    (hD : blockD f b vals eD mem = some (nx, eD', mem')) :
    BlockPost f q cs b pred eI mem eD' mem' nx := by
  obtain ⟨blk, bindsD, hblk, hbind, hops, hterm⟩ := blockD_some hD
  have hmem : blk ∈ f.blocks := List.mem_of_getElem? hblk
  obtain ⟨c, hcb, hconv⟩ := convBlocks_get f f.defs f.blocks 0 cs hc.blocks b blk hblk
  rw [Nat.zero_add] at hconv
  obtain ⟨is, his, hconv⟩ := Option.bind_eq_some_iff.1 hconv
  obtain ⟨⟨extra, t, es⟩, hct, hconv⟩ := Option.bind_eq_some_iff.1 hconv
  cases hconv
  obtain ⟨e0, rest, _, hq⟩ := hc.entry
  have hqb : q.blocks[b]? = some ⟨phisOf cs b blk, is ++ extra, t⟩ := by
    have := assemble_get f cs f.blocks cs 0 b blk _ hblk hcb
    rw [Nat.zero_add] at this
    rw [hq]; exact this
  obtain ⟨bindsI, hphis, hrel⟩ := pre blk bindsD hblk hbind
  obtain ⟨eI1, hrun1, hrel1⟩ := convOps_sim blk.ops is his
    (fun op ho r o h => AL_get_of_mem _ _ _ hc.distinct (mem_defs hmem (List.mem_append_right _ (List.mem_filterMap.2 ⟨op, ho, h⟩)))) hrel hops
  obtain ⟨eI2, hrun2, hrel2, hpost⟩ := convTerm_sim f.argTys b blk.term extra t es hct hrel1 mem' nx hterm
  have hrun : runInstrs (bindsI ++ eI) mem (is ++ extra) = some (eI2, mem') := by
    rw [runInstrs_append, hrun1]; exact hrun2
  cases nx with
  | ret v => exact ⟨eI2, blockI_some hqb hphis hrun hpost⟩
  | jump d vs =>
    obtain ⟨hjump, os, hos, hinc⟩ := hpost
    refine ⟨eI2, blockI_some hqb hphis hrun hjump, ?_⟩
    -- the successor's phis read exactly the values the dialect passes
    intro blk' bindsD' hblk' hbind'
    have hd0 : d ≠ 0 := by
      have := List.all_eq_true.1 (List.all_eq_true.1 hc.dests blk hmem) d (eval_dest _ _ _ _ hterm)
      simp only [Bool.and_eq_true, bne_iff_ne] at this
      exact this.1
    obtain ⟨rfl, hlen⟩ := bindArgs_zip _ _ _ hbind'
    rw [List.length_map] at hlen
    have hphi := evalPhis_mk cs d b eI2 blk'.args 0 os vs (fun j => by
      rw [Nat.zero_add, ← List.head?_filter, incomingAll_filter d j b cs 0 _ (Nat.zero_le b) hcb, hinc j]) hos hlen
    refine ⟨_, by rw [phisOf, if_neg hd0]; exact hphi, ?_⟩
    exact Rel_args hc.distinct (List.mem_of_getElem? hblk') vs hrel2

theorem run_sim {f : DFunc} {q : IFunc} {cs : List CBlock} (hc : Conv f q cs) :
    ∀ (fuel b : Nat) (vals : List Val) (eD : Env) (eI : IEnv) (mem : Mem) (pred : Nat),
      Pre f cs b vals eD eI pred → runD f fuel b vals eD mem ≠ .ub →
      runI q fuel b pred eI mem = runD f fuel b vals eD mem := by
  intro fuel
  induction fuel with
  | zero => intros; rfl
  | succ fuel ih =>
    intro b vals eD eI mem pred pre hne
    simp only [runD] at hne ⊢
    simp only [runI]
    split at hne
    · exact absurd rfl hne
    · next v eD' mem' hD =>
      obtain ⟨eI', hI⟩ := block_sim hc pre hD
      rw [hI]
    · next d vs eD' mem' hD =>
      obtain ⟨eI', hI, pre'⟩ := block_sim hc pre hD
      rw [hI]
      exact ih d vs eD' eI' mem' b pre' hne

end Xdsl.LLVM
