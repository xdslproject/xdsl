import XdslProofs.Lemmas.DisjointSet
/-!
# C12 — property theorems (union-find part)

"the union-find structure always represents exactly the partition induced by the unions performed,
returns a member of the element's class as representative, and left-biased union keeps the left
representative" — for every operation sequence (`add`, `find`, `union`, `union_left`, `connected`)
from `IntDisjointSet(size=n)`.

Vocabulary (definitions in `Lemmas/DisjointSet.lean`):
* `Inv s` — forest invariant: `_parent`/`_count` equally long, parents in range, acyclic (rank
  witness); `Counts s` — `_count[r]` of every root `r` is the number of elements of its class;
* `root s x = findRoot s s.size x` — what the first loop of `__getitem__` returns;
* `Spec` = number of elements + list of pairs unioned so far (a union that raises `KeyError` unions
  nothing), `Rel us` = `Relation.EqvGen` of those pairs, `Repr s σ` = "`s` is a well-formed forest
  over `σ.n` elements whose representatives induce exactly the partition `Rel σ.us`";
* `OutOK σ o out` — the results the abstract state allows for operation `o`.
-/
namespace Xdsl.DisjointSet

/-- `IntDisjointSet(size=n)` is a forest of `n` singleton trees with all counts `1`. -/
theorem inv_init (n : Nat) : Inv (init n) ∧ Counts (init n) := ⟨init_inv n, init_counts n⟩

/-- Under the invariant the first loop of `__getitem__`, run with fuel `len(_parent)`, stops at a
root (self-parent) that is reachable from `x` along parent edges, in range when `x` is. -/
theorem findRoot_returns_root (s : UF) (h : Inv s) (x : Nat) :
    s.par (findRoot s s.size x) = findRoot s s.size x
    ∧ (∃ k, k ≤ s.size ∧ findRoot s s.size x = s.par^[k] x)
    ∧ (x < s.size → findRoot s s.size x < s.size) :=
  ⟨root_is_root s h x, root_reachable s x, fun hx => root_lt s h hx⟩

/-- "Never exhausted": with any fuel `≥ len(_parent)` both loops compute exactly what they compute
with fuel `len(_parent)`.  For the first loop this and `findRoot_returns_root` (the answer is a root,
where the `while` stops) make the fuel-indexed recursion of the model the Python loop.  The second
loop walks the same parent path up to that root (`compress_fuel` follows it step by step); the
equation alone does not say that it gets there. -/
theorem fuel_never_exhausted (s : UF) (h : Inv s) (x fuel : Nat) (hf : s.size ≤ fuel) :
    findRoot s fuel x = findRoot s s.size x
    ∧ compress s.parent (root s x) fuel x = compress s.parent (root s x) s.size x :=
  ⟨findRoot_fuel_irrelevant s h x fuel hf, compress_fuel_irrelevant s h x fuel hf⟩

/-- Without the invariant the fuel *can* run out (the Python loop would not terminate): on the
2-cycle `_parent = [1, 0]` the fuel-bounded loop stops on a non-root. -/
example : let s : UF := { parent := [1, 0], count := [1, 1] }
    s.par (findRoot s s.size 0) ≠ findRoot s s.size 0 := by decide

/-- Path compression does not change the represented partition: `self[x]` returns the representative
of `x`, and afterwards every element has the representative it had before; the set of roots and the
counts are untouched and the structure is again a forest. -/
theorem find_preserves_roots (s : UF) (h : Inv s) (hc : Counts s) {x : Nat} (hx : x < s.size) :
    ∃ s', find s x = some (s', root s x) ∧ Inv s' ∧ Counts s' ∧ s'.size = s.size ∧
      (∀ i, root s' i = root s i) ∧ (∀ i, s'.par i = i ↔ s.par i = i) := by
  obtain ⟨s', e, c⟩ := find_compressed s h hx
  exact ⟨s', e, c.inv, c.counts h hc, c.size, c.root, c.par h⟩

theorem step_find_out (s : UF) (h : Inv s) {x : Nat} (hx : x < s.size) :
    (step s (.find x)).2 = .nat (root s x) := by
  obtain ⟨_, e, _⟩ := find_compressed s h hx
  simp only [step, e]

/-- The representative is canonical: in any reachable state `find x` and `find y` return the same
value iff `x` and `y` are in the same class. -/
theorem find_canonical (s : UF) (σ : Spec) (h : Repr s σ) (x y : Nat)
    (hx : x < σ.n) (hy : y < σ.n) :
    (step s (.find x)).2 = (step s (.find y)).2 ↔ Rel σ.us x y := by
  obtain ⟨_, ex, _⟩ := find_compressed s h.inv (h.size ▸ hx)
  obtain ⟨_, ey, _⟩ := find_compressed s h.inv (h.size ▸ hy)
  simp only [step, ex, ey, ← repr_iff h x y]
  constructor
  · intro e; injection e
  · intro e; rw [e]

/-- One operation: the result is one the abstract state allows (`OutOK`: `add` returns the old size;
`find x` returns a member of `x`'s class; `connected a b` is true iff `a`,`b` are related by the
equivalence closure of the pairs unioned so far; `union`/`union_left` return true iff the classes
were distinct; `KeyError` exactly for indices out of range), and the new concrete state represents
the new abstract state (the unioned pair is added exactly when no `KeyError` is raised). This also
carries preservation of `Inv` and `Counts` (fields of `Repr`). -/
theorem step_refines (s : UF) (σ : Spec) (h : Repr s σ) (o : Op) :
    OutOK σ o (step s o).2 ∧ Repr (step s o).1 (σ.step o) := by
  have hn := h.size
  cases o with
  | add =>
    exact ⟨by simp [step, OutOK, hn], repr_add h⟩
  | find x =>
    by_cases hx : x < s.size
    · obtain ⟨s', e, c⟩ := find_compressed s h.inv hx
      simp only [step, e, OutOK, Spec.step]
      rw [if_pos (hn ▸ hx)]
      exact ⟨⟨root s x, rfl, hn ▸ root_lt s h.inv hx, h.complete x⟩, repr_of_compressed h c⟩
    · simp only [step, find_none s (Nat.le_of_not_lt hx), OutOK, Spec.step]
      rw [if_neg (hn ▸ hx)]
      exact ⟨trivial, h⟩
  | union a b =>
    by_cases hab : a < s.size ∧ b < s.size
    · obtain ⟨s', e, hi, hs, hr, hc⟩ := union_spec s h.inv hab.1 hab.2
      simp only [step, e, OutOK, Spec.step, if_pos (hn ▸ hab)]
      exact ⟨⟨_, rfl, by rw [← repr_iff h a b]; simp⟩, repr_union h a b hi (hc h.counts) hs hr⟩
    · exact step_keyError h (Or.inl rfl) hab
  | unionLeft a b =>
    by_cases hab : a < s.size ∧ b < s.size
    · obtain ⟨s', e, hi, hs, hr, hc⟩ := unionLeft_spec s h.inv hab.1 hab.2
      simp only [step, e, OutOK, Spec.step, if_pos (hn ▸ hab)]
      exact ⟨⟨_, rfl, by rw [← repr_iff h a b]; simp⟩,
        repr_union h a b hi (hc h.counts) hs (Or.inl hr)⟩
    · exact step_keyError h (Or.inr (Or.inl rfl)) hab
  | connected a b =>
    by_cases hab : a < s.size ∧ b < s.size
    · obtain ⟨s', e, c⟩ := connected_spec s h.inv hab.1 hab.2
      simp only [step, e, OutOK, Spec.step, if_pos (hn ▸ hab)]
      exact ⟨⟨_, rfl, by rw [← repr_iff h a b]; simp⟩, repr_of_compressed h c⟩
    · exact step_keyError h (Or.inr (Or.inr rfl)) hab

theorem step_preserves_inv (s : UF) (h : Inv s) (hc : Counts s) (o : Op) :
    Inv (step s o).1 ∧ Counts (step s o).1 := by
  -- any well-formed state represents *some* abstract state: its own partition
  have := (step_refines s _ (repr_self s h hc) o).2
  exact ⟨this.inv, this.counts⟩

theorem step_size (s : UF) (h : Inv s) (hc : Counts s) (o : Op) :
    (step s o).1.size = if o = .add then s.size + 1 else s.size := by
  have hr := (step_refines s _ (repr_self s h hc) o).2.size
  rw [hr]
  cases o <;> simp only [Spec.step, reduceCtorEq, if_false, if_true] <;> split <;> rfl

/-- **Every history.** Running any operation list from a state that represents `σ`: every result is
one the abstract partition allows at that point of the history, and the final state represents the
final abstract state. -/
theorem run_refines (os : List Op) : ∀ (s : UF) (σ : Spec), Repr s σ →
    OutsOK σ os (run s os).2 ∧ Repr (run s os).1 (σ.run os) := by
  induction os with
  | nil => intro s σ h; exact ⟨trivial, h⟩
  | cons o os ih =>
    intro s σ h
    obtain ⟨h1, h2⟩ := step_refines s σ h o
    obtain ⟨h3, h4⟩ := ih (step s o).1 (σ.step o) h2
    exact ⟨⟨h1, h3⟩, h4⟩

/-- "For every sequence of operations the union-find structure always represents exactly the
partition induced by the unions performed": after any history from `IntDisjointSet(size=n)` the
structure is a forest with correct counts whose size is `n` + the number of `add`s, two elements
have the same representative iff they are related by the equivalence closure of the pairs
(successfully) unioned in the history, and all results along the way were the allowed ones. -/
theorem uf_history (n : Nat) (os : List Op) :
    let s := (run (init n) os).1
    let σ := Spec.run { n := n } os
    Inv s ∧ Counts s ∧ s.size = σ.n ∧ (∀ a b, root s a = root s b ↔ Rel σ.us a b)
      ∧ OutsOK { n := n } os (run (init n) os).2 := by
  obtain ⟨h1, h2⟩ := run_refines os (init n) { n := n } (repr_init n)
  exact ⟨h2.inv, h2.counts, h2.size, fun a b => repr_iff h2 a b, h1⟩

/-- The invariant along histories (`step_preserves_inv` lifted). -/
theorem run_preserves_inv (os : List Op) (s : UF) (h : Inv s) (hc : Counts s) :
    Inv (run s os).1 ∧ Counts (run s os).1 := by
  induction os generalizing s with
  | nil => exact ⟨h, hc⟩
  | cons o os ih =>
    obtain ⟨h1, h2⟩ := step_preserves_inv s h hc o
    exact ih (step s o).1 h1 h2

/-- `connected a b` after any history: true iff `a` and `b` are related by the equivalence closure
of the pairs unioned so far (and never `KeyError` for indices in range). -/
theorem uf_connected (n : Nat) (os : List Op) (a b : Nat)
    (ha : a < (Spec.run { n := n } os).n) (hb : b < (Spec.run { n := n } os).n) :
    ∃ c, (step (run (init n) os).1 (.connected a b)).2 = .bool c ∧
      (c = true ↔ Rel (Spec.run { n := n } os).us a b) := by
  obtain ⟨_, h2⟩ := run_refines os (init n) { n := n } (repr_init n)
  have := (step_refines _ _ h2 (.connected a b)).1
  simpa only [OutOK, if_pos (And.intro ha hb)] using this

/-- `find x` after any history returns a member of `x`'s class (in range). -/
theorem uf_find_member (n : Nat) (os : List Op) (x : Nat)
    (hx : x < (Spec.run { n := n } os).n) :
    ∃ r, (step (run (init n) os).1 (.find x)).2 = .nat r ∧ r < (Spec.run { n := n } os).n ∧
      Rel (Spec.run { n := n } os).us x r := by
  obtain ⟨_, h2⟩ := run_refines os (init n) { n := n } (repr_init n)
  have := (step_refines _ _ h2 (.find x)).1
  simpa only [OutOK, if_pos hx] using this

/-- `union`/`union_left` return `True` iff the two classes were distinct, after any history. -/
theorem uf_union_returns (n : Nat) (os : List Op) (a b : Nat)
    (ha : a < (Spec.run { n := n } os).n) (hb : b < (Spec.run { n := n } os).n) :
    (∃ c, (step (run (init n) os).1 (.union a b)).2 = .bool c ∧
      (c = true ↔ ¬ Rel (Spec.run { n := n } os).us a b)) ∧
    (∃ c, (step (run (init n) os).1 (.unionLeft a b)).2 = .bool c ∧
      (c = true ↔ ¬ Rel (Spec.run { n := n } os).us a b)) := by
  obtain ⟨_, h2⟩ := run_refines os (init n) { n := n } (repr_init n)
  have h3 := (step_refines _ _ h2 (.union a b)).1
  have h4 := (step_refines _ _ h2 (.unionLeft a b)).1
  exact ⟨by simpa only [OutOK, if_pos (And.intro ha hb)] using h3,
    by simpa only [OutOK, if_pos (And.intro ha hb)] using h4⟩

/-- "Left-biased union keeps the left representative": after `union_left(a, b)` every element of
the merged class — in particular `a` and `b` — has as representative the representative `a` had
before, and all other elements keep theirs. -/
theorem unionLeft_keeps_left_rep (s : UF) (σ : Spec) (h : Repr s σ) (a b : Nat)
    (ha : a < σ.n) (hb : b < σ.n) :
    let s' := (step s (.unionLeft a b)).1
    (∀ y, Rel ((a, b) :: σ.us) y a → root s' y = root s a)
    ∧ (∀ y, ¬ Rel ((a, b) :: σ.us) y a → root s' y = root s y) := by
  obtain ⟨s', e, hi, hs, hr, hc⟩ := unionLeft_spec s h.inv (h.size ▸ ha) (h.size ▸ hb)
  have h' := (step_refines s σ h (.unionLeft a b)).2
  simp only [step, e, Spec.step, if_pos (And.intro ha hb)] at h' ⊢
  have haa : root s' a = root s a := by
    rw [hr]; split
    · rfl
    · rfl
  constructor
  · intro y hy
    rw [← haa]; exact (repr_iff h' y a).mpr hy
  · intro y hy
    rw [hr, if_neg]
    intro e'
    apply hy
    rw [← repr_iff h' y a, haa, hr, if_pos e']

/-- The same on observable results: `find` of any member of the merged class right after
`union_left(a, b)` returns what `find a` returned right before it. -/
theorem unionLeft_find_rep_of_rel (s : UF) (σ : Spec) (h : Repr s σ) (a b y : Nat) (ha : a < σ.n)
    (hb : b < σ.n) (hy : y < σ.n) (hya : Rel ((a, b) :: σ.us) y a) :
    (step (step s (.unionLeft a b)).1 (.find y)).2 = (step s (.find a)).2 := by
  have h' := (step_refines s σ h (.unionLeft a b)).2
  simp only [Spec.step, if_pos (And.intro ha hb)] at h'
  rw [step_find_out _ h'.inv (x := y) (h'.size ▸ hy), step_find_out s h.inv (x := a) (h.size ▸ ha),
    (unionLeft_keeps_left_rep s σ h a b ha hb).1 y hya]

/-- … where the merged class is `a`, `b` and everything that was related to either. -/
theorem unionLeft_find_rep (s : UF) (σ : Spec) (h : Repr s σ) (a b y : Nat) (ha : a < σ.n)
    (hb : b < σ.n) (hy : y = a ∨ y = b ∨ Rel σ.us y a ∨ Rel σ.us y b) :
    (step (step s (.unionLeft a b)).1 (.find y)).2 = (step s (.find a)).2 := by
  have hba : Rel ((a, b) :: σ.us) b a :=
    Relation.EqvGen.symm _ _ (Relation.EqvGen.rel _ _ List.mem_cons_self)
  have hm : ∀ {u v}, Rel σ.us u v → Rel ((a, b) :: σ.us) u v :=
    fun r => Rel.mono (fun q hq => List.mem_cons_of_mem _ hq) r
  refine unionLeft_find_rep_of_rel s σ h a b y ha hb ?_ ?_
  · rcases hy with rfl | rfl | r | r
    · exact ha
    · exact hb
    · exact repr_rel_lt h r ha
    · exact repr_rel_lt h r hb
  · rcases hy with rfl | rfl | r | r
    · exact Relation.EqvGen.refl _
    · exact hba
    · exact hm r
    · exact Relation.EqvGen.trans _ _ _ (hm r) hba

/-- `unionLeft_find_rep` after any history. -/
theorem uf_union_left_rep (n : Nat) (os : List Op) (a b y : Nat)
    (ha : a < (Spec.run { n := n } os).n) (hb : b < (Spec.run { n := n } os).n)
    (hy : y = a ∨ y = b ∨ Rel (Spec.run { n := n } os).us y a
      ∨ Rel (Spec.run { n := n } os).us y b) :
    let s := (run (init n) os).1
    (step (step s (.unionLeft a b)).1 (.find y)).2 = (step s (.find a)).2 :=
  unionLeft_find_rep _ _ (run_refines os (init n) { n := n } (repr_init n)).2 a b y ha hb hy

/-- a concrete history: results and final lists (`KeyError` for the out-of-range index, `add`
returns the old size, `union_left 3 0` makes `2` — the representative of `3` — the representative
of the merged class `{0,1,2,3}`) -/
example :
    (run (init 4) [.union 0 1, .unionLeft 2 3, .connected 0 1, .connected 1 2, .unionLeft 3 0,
        .find 1, .connected 1 2, .add, .find 4, .union 4 9, .union 0 1]).2
      = [.bool true, .bool true, .bool true, .bool false, .bool true,
          .nat 2, .bool true, .nat 4, .nat 4, .keyError, .bool false] := by decide

/-- a chain `3 → 2 → 1 → 0` built by left-biased unions is a reachable forest of depth 3; `find 3`
returns the root `0` and compresses the whole path; counts: the root carries the class size 4 -/
example :
    let s := (run (init 4) [.unionLeft 2 3, .unionLeft 1 2, .unionLeft 0 1]).1
    s.parent = [0, 0, 1, 2] ∧ s.count.getD 0 0 = 4 ∧
    (step s (.find 3)).2 = .nat 0 ∧ (step s (.find 3)).1.parent = [0, 0, 0, 0] := by decide

/-- the hypotheses of the refinement theorems are satisfiable: the chain state above represents
the abstract state "4 elements, pairs (0,1),(1,2),(2,3)" -/
example : Repr (run (init 4) [.unionLeft 2 3, .unionLeft 1 2, .unionLeft 0 1]).1
    { n := 4, us := [(0, 1), (1, 2), (2, 3)] } :=
  (run_refines [.unionLeft 2 3, .unionLeft 1 2, .unionLeft 0 1] (init 4) { n := 4 }
    (repr_init 4)).2

/-- union by size attaches the smaller tree below the larger one, `union_left` does not -/
example :
    (run (init 3) [.union 0 1, .union 2 0, .find 2]).2 = [.bool true, .bool true, .nat 0]
    ∧ (run (init 3) [.union 0 1, .unionLeft 2 0, .find 0]).2 = [.bool true, .bool true, .nat 2] := by
  decide

end Xdsl.DisjointSet
