import XdslProofs.Lemmas.IRStore
import XdslProofs.Lemmas.DLLStream
/-!
# `Region.add_block` / `Region.insert_block_before`: the store functions the harness compares the
real methods with (`IRStore.addBlock`, `IRStore.insertBlockBefore`: folds of the one-block
primitive, with the `_attach_block` guard before every block) versus the hand-written single-pass
loops (`XdslModel/DLLStream.lean`)

On consistent IR a successful call leaves, on every block and region, the links the loop leaves (`L.Ext`), and the region
lists the blocks in the order they were yielded: the guards make the blocks pairwise distinct and detached
(`attach_fold`), which is what the `WF` lemmas of the loops (`Lemmas/DLLStream.lean`) ask for.
-/
namespace Xdsl.IR
open Xdsl Xdsl.DLL

/-- What a successful fold of "`_attach_block` guard, then link with `step`" did, for a `step` that writes
the parent pointer of the new block only: the links are those of the unguarded fold, and the blocks were
pairwise distinct and detached (a block attached by an earlier round fails the guard). -/
theorem attach_fold (r : Nat) (step : L → Nat → L)
    (hstep : ∀ l b x, ((step l b).nd x).parent = if x = b then some r else (l.nd x).parent) :
    ∀ (bs : List Nat) (s : IRStore), Sat (bs.foldlM (fun s b => do
      s.checkAttachBlock r b
      pure { s with blockL := step s.blockL b }) s) fun s' =>
    s'.blockL = bs.foldl step s.blockL ∧ bs.Nodup ∧ ∀ b ∈ bs, s.blockParent b = none
  | [], _ => Sat.pure ⟨rfl, List.nodup_nil, nofun⟩
  | b :: rest, s => by
    rw [List.foldlM_cons]
    refine Sat.bind (P := fun s1 => s1 = { s with blockL := step s.blockL b } ∧ s.blockParent b = none)
      ((sat_checkAttachBlock s r b).bind fun _ hb => Sat.pure ⟨rfl, hb⟩) ?_
    rintro _ ⟨rfl, hb⟩
    refine (attach_fold r step hstep rest { s with blockL := step s.blockL b }).imp fun s' ⟨e, hn, hfree⟩ => ?_
    have hpar : ∀ x, IRStore.blockParent { s with blockL := step s.blockL b } x
        = if x = b then some r else s.blockParent x := hstep s.blockL b
    refine ⟨e, List.nodup_cons.mpr ⟨fun hm => ?_, hn⟩, fun x hx => ?_⟩
    · have := hfree b hm; rw [hpar, if_pos rfl] at this; cases this
    · rcases List.mem_cons.mp hx with rfl | hx
      · exact hb
      · have := hfree x hx
        rw [hpar] at this
        split at this
        · cases this
        · exact this

theorem insertBlockBefore_single_pass {s : IRStore} (h : Inv s) {r t : Nat} {bs : List Nat} :
    Sat (s.insertBlockBefore r bs t) fun s' =>
      L.Ext (s.blockL.insertStreamBefore r t bs) s'.blockL ∧
      s'.blocksOf r = bs.foldl (fun l b => insBefore l t b) (s.blocksOf r) ∧ bs.Nodup := by
  obtain ⟨a, ha⟩ := h
  unfold IRStore.insertBlockBefore
  refine Sat.guard fun g1 => (attach_fold r (fun l b => l.insertBefore r t b)
    (fun l b x => parent_insertBefore l r t b x) bs s).imp fun s' ⟨e, hn, hfree⟩ => ?_
  have hex : t ∈ a.blocks r := (ha.blockL.mem_iff_parent r t).mpr (Decidable.not_not.mp g1)
  have hfr : ∀ b ∈ bs, ∀ d, b ∉ a.blocks d := fun b hb => ha.blockL.not_mem_of_parent_none (hfree b hb)
  obtain ⟨hext, _⟩ := ha.blockL.insertStreamBefore hex hn hfr
  refine ⟨by rw [e]; exact hext, ?_, hn⟩
  have hw := ha.blockL.foldInsertBefore r t bs hex hn hfr
  unfold IRStore.blocksOf
  rw [e, hw.toList_eq, ha.blockL.toList_eq, Function.update_self]

theorem addBlock_single_pass {s : IRStore} (h : Inv s) {r : Nat} {bs : List Nat} :
    Sat (s.addBlock r bs) fun s' =>
      L.Ext (s.blockL.appendStream r bs) s'.blockL ∧ s'.blocksOf r = s.blocksOf r ++ bs ∧ bs.Nodup := by
  obtain ⟨a, ha⟩ := h
  unfold IRStore.addBlock
  refine (attach_fold r (fun l b => l.pushBack r b) (fun l b x => parent_pushBack l r b x) bs s).imp
    fun s' ⟨e, hn, hfree⟩ => ?_
  have hfr : ∀ b ∈ bs, ∀ d, b ∉ a.blocks d := fun b hb => ha.blockL.not_mem_of_parent_none (hfree b hb)
  obtain ⟨hext, _⟩ := ha.blockL.appendStream (c := r) hn hfr
  refine ⟨by rw [e]; exact hext, ?_, hn⟩
  have hw := ha.blockL.foldPushBack r bs hn hfr
  unfold IRStore.blocksOf
  rw [e, hw.toList_eq, ha.blockL.toList_eq, Function.update_self]

end Xdsl.IR
