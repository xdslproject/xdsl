import XdslProofs.Lemmas.DeclFormatParse
import XdslProofs.Lemmas.Bool
/-!
C05, sequences of directives: FIRST sets are sound, sequences of simple directives parse back.
-/
namespace Xdsl.DeclFormat

/-- every operand type list is as long as the operand list (types are the operands' types) -/
def tysMatch (op : OpInst) : SDir → Prop
  | .operandTy i _ => (seg op.operandTys i).length = (seg op.operands i).length
  | _ => True

def okInstAll (D : Defs) (op : OpInst) (d : SDir) : Prop := okInst D op d ∧ tysMatch op d

theorem okAgg_of_inFragment (D : Defs) {d : SDir} (h : inFragment d = true) : okAgg D d = true := by
  cases d <;> first | rfl | simp [inFragment] at h

/-- FIRST is sound for one directive: the text printed for `d`, followed by `r`, begins with a token `d` may
begin with; or `d` printed nothing, is nullable, and the text begins like `r` -/
theorem clsHd_printS (D : Defs) (op : OpInst) (d : SDir) (r : List Tok) (F : List Cls)
    (hinst : okInst D op d) (hr : clsHd r ∈ F) :
    clsHd (printS D op d ++ r) ∈ firstS d ++ (if nullableS d = true then F else []) := by
  cases d using SDir.segCases with
  | seg fam i k =>
    rw [printS_segD, nullableS_segD]
    have hfit := okInst_segD.mp hinst
    cases hx : seg (opF fam op) i with
    | nil =>
      rw [hx] at hfit
      rw [printSeg_nil]
      cases k <;> first | exact List.mem_append_right _ hr | cases hfit
    | cons x xs =>
      rw [clsHd_printSeg]
      cases fam <;> exact List.mem_append_left _ (List.Mem.head _)
  | kw s => exact List.mem_append_left _ (List.Mem.head _)
  | punct s => exact List.mem_append_left _ (List.Mem.head _)
  | attr name isProp optional dflt =>
    rw [printS_attr]
    cases h : attrOut op name isProp optional dflt with
    | some v => exact List.mem_append_left _ (List.Mem.head _)
    | none =>
      cases optional with
      | true => exact List.mem_append_right _ hr
      | false => cases h ▸ attrOut_isSome hinst rfl
  | unitAttr _ _ _ => exact List.mem_append_right _ hr
  | attrDict withKw reserved expProps =>
    simp only [printS]
    cases hes : dictEntries D reserved expProps op with
    | nil => exact List.mem_append_right _ hr
    | cons e es => cases withKw <;> exact List.mem_append_left _ (List.Mem.head _)
  | operandsAll => exact clsHd_commaSep_mem Tok.val (fun _ => rfl) _ hr
  | operandTysAll => exact clsHd_commaSep_mem Tok.ty (fun _ => rfl) _ hr
  | resultTysAll => exact clsHd_commaSep_mem Tok.ty (fun _ => rfl) _ hr
  | funcTy a b => exact List.mem_append_left _ (List.Mem.head _)

theorem clsHd_printSeq (D : Defs) (op : OpInst) (ds : List SDir) (K : List Cls) (rest : List Tok)
    (hinst : ∀ d ∈ ds, okInst D op d) (hK : clsHd rest ∈ K) :
    clsHd (printSeq D op ds ++ rest) ∈ firstSeq ds K := by
  induction ds with
  | nil => exact hK
  | cons d ds ih =>
    rw [printSeq, List.append_assoc]
    exact clsHd_printS D op d _ _ (hinst d (List.mem_cons_self ..))
      (ih fun x hx => hinst x (List.mem_cons_of_mem _ hx))

theorem followOK_of_okFollow {d : SDir} {F : List Cls} {toks : List Tok} (h : okFollow d F = true)
    (hm : clsHd toks ∈ F) : FollowOK d toks := by
  simp only [okFollow, Bool.and_eq_true, not_or_imp, List.all_eq_true, Bool.not_eq_true',
    List.contains_eq_mem, decide_eq_false_iff_not] at h
  exact ⟨fun hn => h.1.1 hn _ hm, fun hc e => h.1.2 hc (e ▸ hm), fun hr => h.2 hr _ hm⟩

def replaySeq (D : Defs) (op : OpInst) : List SDir → PState → PState
  | [], st => st
  | d :: ds, st => replaySeq D op ds (replayS D op d st)

theorem parseSeq_printSeq (D : Defs) (op : OpInst) (ds : List SDir) (K : List Cls)
    (rest : List Tok) (st : PState)
    (hwf : wfSeq ds K = true)
    (hfrag : ∀ d ∈ ds, inFragment d = true)
    (hinst : ∀ d ∈ ds, okInst D op d)
    (hK : clsHd rest ∈ K) :
    parseSeq D ds (printSeq D op ds ++ rest) st = some (replaySeq D op ds st, rest) := by
  induction ds generalizing st with
  | nil => simp [parseSeq, printSeq, replaySeq]
  | cons d ds ih =>
    simp only [wfSeq, Bool.and_eq_true] at hwf
    obtain ⟨hfol, hwf'⟩ := hwf
    have hfr' : ∀ x ∈ ds, inFragment x = true := fun x hx => hfrag x (List.mem_cons_of_mem _ hx)
    have hin' : ∀ x ∈ ds, okInst D op x := fun x hx => hinst x (List.mem_cons_of_mem _ hx)
    have hfirst := clsHd_printSeq D op ds K rest hin' hK
    have hf := followOK_of_okFollow hfol hfirst
    obtain ⟨b, hb⟩ := parseS_printS D op d (printSeq D op ds ++ rest) st
      (hinst d (List.mem_cons_self ..)) (okAgg_of_inFragment D (hfrag d (List.mem_cons_self ..))) hf
    simp only [printSeq, List.append_assoc, parseSeq, hb, replaySeq]
    exact ih _ hwf' hfr' hin'

end Xdsl.DeclFormat
