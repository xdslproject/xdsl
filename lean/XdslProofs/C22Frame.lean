import XdslProofs.Lemmas.RiscVFrame
import XdslProofs.C22FrameWalk
/-!
# C22 — callee-saved registers and the stack pointer

Property clause: *"… and restores callee-saved registers and the stack pointer"*.

`prologue saved` / `epilogue saved` (XdslModel/RiscVRules.lean) are the instruction lists
`PrologueEpilogueInsertion` puts at the start of a function and before its `ret` for the clobbered
callee-saved integer registers `saved` (the harness compares them with the emitted text).
`frame_sound`: around *any* body that leaves `sp` where the prologue put it and does not change the
`saved.length` frame words, the epilogue restores `sp` and every saved register to its value at
function entry — for every entry state with a word-aligned `sp`, every list of distinct registers
other than `zero`/`sp`, every body.
-/
namespace Xdsl.RiscV

/-- prologue and epilogue around a body that keeps `sp` and the frame words: the prologue changes no
register but `sp`; at the end `sp` and the saved registers have their entry values, every other
register and memory are what the body left -/
theorem frame_full (saved : List Reg) (body : List Instr) (s : St)
    (hreg : ∀ r ∈ saved, r ≠ 0 ∧ r ≠ SP) (hn : saved.length ≤ 511)
    (hal : aligned (s.get SP) = true) :
    ∃ s1, exec (prologue saved) s = some s1 ∧ (∀ r, r ≠ SP → s1.get r = s.get r) ∧
      ∀ s2, exec body s1 = some s2 → s2.get SP = s1.get SP →
        (∀ j, j < saved.length → s2.mem (slotAddr (s1.get SP) j) = s1.mem (slotAddr (s1.get SP) j)) →
        ∃ s3, exec (prologue saved ++ body ++ epilogue saved) s = some s3 ∧
          s3.get SP = s.get SP ∧ (∀ r ∈ saved, s3.get r = s.get r) ∧
          (∀ r, r ∉ saved → r ≠ SP → s3.get r = s2.get r) ∧ s3.mem = s2.mem := by
  let sA := s.set SP (s.get SP + imm32 (-((4 * saved.length : Nat) : Int)))
  have hspA : sA.get SP = s.get SP + imm32 (-((4 * saved.length : Nat) : Int)) :=
    get_set_same _ _ _ (by decide)
  have halA : aligned (sA.get SP) = true := by
    rw [hspA]; exact aligned_add hal (aligned_imm32 (by omega))
  obtain ⟨s1, he1, hr1, hm1, _⟩ := stores_spec saved 0 sA halA (by omega)
  have hget1 : ∀ x, s1.get x = sA.get x := fun x => get_of_regs hr1 x
  have hpro : exec (prologue saved) s = some s1 := by
    simp only [prologue, exec_cons, exec1, aluI, Option.bind]
    exact he1
  refine ⟨s1, hpro, fun r hr => (hget1 r).trans (get_set_ne _ _ _ _ hr), ?_⟩
  intro s2 hb hsp2 hfrm
  have hsp2' : s2.get SP = sA.get SP := by rw [hsp2, hget1]
  have hal2 : aligned (s2.get SP) = true := by rw [hsp2']; exact halA
  obtain ⟨u', hel, hmu, hv, hfr⟩ := loads_spec saved 0 s2 (fun r => sA.get r) hal2 hreg (by
    intro r j hj
    have hb' := (slots_bound hj).2.1
    rw [hsp2, hfrm j (by omega), hget1]
    exact hm1 r j hj)
  have hspu : u'.get SP = sA.get SP := by
    rw [hfr SP (fun h => (hreg SP h).2 rfl), hsp2']
  refine ⟨u'.set SP (u'.get SP + imm32 ((4 * saved.length : Nat) : Int)), ?_, ?_, ?_, ?_, ?_⟩
  · rw [exec_append, exec_append, hpro]
    simp only [Option.bind, hb, epilogue, exec_append, hel, exec_cons, exec1, aluI, exec_nil]
  · rw [get_set_same _ _ _ (by decide), hspu, hspA, BitVec.add_assoc,
      imm32_neg_add, BitVec.add_zero]
  · intro r hr
    have hr' := hreg r hr
    rw [get_set_ne _ _ _ _ hr'.2, hv r hr]
    exact get_set_ne _ _ _ _ hr'.2
  · intro r hin hr
    rw [get_set_ne _ _ _ _ hr, hfr r hin]
  · simp [hmu]

/-- **callee-saved registers and sp are restored.**  `saved`: distinct registers other than `zero`
and `sp`; entry state `s` with aligned `sp`; `body` any instruction list that, started after the
prologue, terminates in a state with the same `sp` and unchanged frame words.  Then the whole function
body `prologue ++ body ++ epilogue` terminates, `sp` and every saved register have their entry values,
and memory is what the body left.  `saved.length ≤ 511`: the frames for which `addi sp, sp, ±4n` of prologue
and epilogue assembles (`4 * 511 = 2044`); the proof only needs `4n < 2^32`, for distinct slot addresses.
`hnd` is not used either: a register listed twice is saved twice and reloaded twice with the same value. -/
theorem frame_sound (saved : List Reg) (body : List Instr) (s : St)
    (hnd : saved.Nodup) (hreg : ∀ r ∈ saved, r ≠ 0 ∧ r ≠ SP) (hn : saved.length ≤ 511)
    (hal : aligned (s.get SP) = true) :
    ∃ s1, exec (prologue saved) s = some s1 ∧
      ∀ s2, exec body s1 = some s2 → s2.get SP = s1.get SP →
        (∀ j, j < saved.length → s2.mem (slotAddr (s1.get SP) j) = s1.mem (slotAddr (s1.get SP) j)) →
        ∃ s3, exec (prologue saved ++ body ++ epilogue saved) s = some s3 ∧
          s3.get SP = s.get SP ∧ (∀ r ∈ saved, s3.get r = s.get r) ∧ s3.mem = s2.mem :=
  let ⟨s1, hp, _, h⟩ := frame_full saved body s hreg hn hal
  ⟨s1, hp, fun s2 hb hsp hfr => let ⟨s3, he, h1, h2, _, h3⟩ := h s2 hb hsp hfr; ⟨s3, he, h1, h2, h3⟩⟩

/-! ## every callee-saved register, for the list the pass computes

`frame_sound` is about the registers in `saved`.  The pass computes `saved` from the function
(`FrameWalk.usedCalleeSaved` of XdslModel/RiscVFrameFloat.lean, characterised in XdslProofs/C22FrameWalk.lean).  For a straight-line body the two fit together:
a callee-saved register that is not in the list is not written by the body at all. -/

/-- the register a (non-control) instruction writes -/
def Instr.writes : Instr → Option Reg
  | .r _ rd _ _ => some rd
  | .i _ rd _ _ => some rd
  | .sh _ rd _ _ => some rd
  | .li rd _ => some rd
  | .mv rd _ => some rd
  | .lw rd _ _ => some rd
  | _ => none

theorem exec1_preserves {i : Instr} {s s' : St} {r : Reg} (h : exec1 i s = some s')
    (hw : i.writes ≠ some r) : s'.get r = s.get r := by
  cases i
  case r | i | sh | li | mv =>
    simp only [exec1, Option.some.injEq] at h; subst h
    exact get_set_ne _ _ _ _ (fun e => hw (by simp [Instr.writes, e]))
  case lw =>
    simp only [exec1] at h
    split at h
    · simp only [Option.some.injEq] at h; subst h
      exact get_set_ne _ _ _ _ (fun e => hw (by simp [Instr.writes, e]))
    · cases h
  case sw =>
    simp only [exec1] at h
    split at h
    · simp only [Option.some.injEq] at h; subst h; rfl
    · cases h
  all_goals (simp only [exec1, Option.some.injEq] at h; subst h; rfl)

theorem exec_preserves (r : Reg) : ∀ (is : List Instr) (s s' : St), exec is s = some s' →
    (∀ i ∈ is, i.writes ≠ some r) → s'.get r = s.get r := by
  intro is
  induction is with
  | nil => intro s s' h _; simp [exec] at h; subst h; rfl
  | cons i is ih =>
    intro s s' h hw
    rw [exec_cons] at h
    cases h1 : exec1 i s with
    | none => simp [h1, Option.bind] at h
    | some s1 =>
      simp only [h1, Option.bind] at h
      rw [ih s1 s' h (fun x hx => hw x (List.mem_cons_of_mem _ hx)),
        exec1_preserves h1 (hw i List.mem_cons_self)]

/-- the body as `func.walk()` sees it: one op per instruction, its result register.  The register number is
handed over as a `FrameWalk` code, where `100 + n` is `f_n`: meant for allocated bodies (registers < 32). -/
def nodeOf (i : Instr) : FrameWalk.Node := .op false i.writes.toList []

/-- `used_callee_preserved_registers` of a straight-line body -/
def savedOf (body : List Instr) : List Reg := FrameWalk.usedCalleeSaved (body.map nodeOf)

theorem writtenIn_nodeOf {body : List Instr} {i : Instr} {r : Reg} (hi : i ∈ body) (hw : i.writes = some r) :
    FrameWalk.WrittenIn (body.map nodeOf) r := by
  induction body with
  | nil => simp at hi
  | cons x xs ih =>
    rcases List.mem_cons.mp hi with h | h
    · subst h
      exact .here (by simp [hw])
    · exact .later (ih h)

theorem savedOf_complete {body : List Instr} {i : Instr} {r : Reg} (hi : i ∈ body) (hw : i.writes = some r)
    (hr : FrameWalk.isCalleeSaved r = true) : r ∈ savedOf body :=
  (FrameWalk.usedCalleeSaved_spec _ _).mpr ⟨writtenIn_nodeOf hi hw, hr⟩

theorem isCalleeSaved_ne {r : Reg} (h : FrameWalk.isCalleeSaved r = true) : r ≠ 0 ∧ r ≠ SP := by
  constructor
  · rintro rfl; revert h; decide
  · rintro rfl; revert h; decide

def allCalleeSaved : List Nat := FrameWalk.sRegs ++ FrameWalk.sRegs.map (· + 100)

theorem isCalleeSaved_mem {r : Nat} (h : FrameWalk.isCalleeSaved r = true) : r ∈ allCalleeSaved := by
  unfold FrameWalk.isCalleeSaved at h
  rcases (Bool.or_eq_true _ _).mp h with h | h
  · have h' : r ∈ FrameWalk.sRegs := by simpa using h
    exact List.mem_append.mpr (.inl h')
  · obtain ⟨h1, h2⟩ := (Bool.and_eq_true _ _).mp h
    have h100 : 100 ≤ r := of_decide_eq_true h1
    have h2' : r - 100 ∈ FrameWalk.sRegs := by simpa using h2
    exact List.mem_append.mpr (.inr (List.mem_map.mpr ⟨r - 100, h2', by omega⟩))

theorem savedOf_length (body : List Instr) : (savedOf body).length ≤ 511 := by
  have h := List.Nodup.length_le_of_subset (FrameWalk.usedCalleeSaved_nodup (body.map nodeOf))
    (l₂ := allCalleeSaved) (fun r hr => isCalleeSaved_mem ((FrameWalk.usedCalleeSaved_spec _ _).mp hr).2)
  have : allCalleeSaved.length = 24 := by decide
  unfold savedOf
  omega

/-- **every callee-saved register and sp are restored** (straight-line body, the list the pass computes).
For every instruction list `body`, every entry state with aligned `sp`: if the body, started after the prologue
for `savedOf body`, terminates with the same `sp` and unchanged frame words, then the whole function body
terminates with `sp` and ALL of s0–s11 at their entry values — the saved ones through the frame, the others
because nothing writes them.  (Bodies with loops: validated by execution, stage-wise and on the emitted code.) -/
theorem frame_restores_every_callee_saved (body : List Instr) (s : St) (hal : aligned (s.get SP) = true) :
    ∃ s1, exec (prologue (savedOf body)) s = some s1 ∧
      ∀ s2, exec body s1 = some s2 → s2.get SP = s1.get SP →
        (∀ j, j < (savedOf body).length →
          s2.mem (slotAddr (s1.get SP) j) = s1.mem (slotAddr (s1.get SP) j)) →
        ∃ s3, exec (prologue (savedOf body) ++ body ++ epilogue (savedOf body)) s = some s3 ∧
          s3.get SP = s.get SP ∧ ∀ r ∈ FrameWalk.sRegs, s3.get r = s.get r := by
  have hreg : ∀ r ∈ savedOf body, r ≠ 0 ∧ r ≠ SP := fun r hr =>
    isCalleeSaved_ne ((FrameWalk.usedCalleeSaved_spec _ _).mp hr).2
  obtain ⟨s1, hp, h1, hrest⟩ :=
    frame_full (savedOf body) body s hreg (savedOf_length body) hal
  refine ⟨s1, hp, fun s2 hb hsp hfr => ?_⟩
  obtain ⟨s3, he, hsp3, hsaved, hother, _⟩ := hrest s2 hb hsp hfr
  refine ⟨s3, he, hsp3, fun r hr => ?_⟩
  by_cases hin : r ∈ savedOf body
  · exact hsaved r hin
  · -- not saved: the body does not write it, prologue and epilogue only write `sp` and saved registers
    have hcs : FrameWalk.isCalleeSaved r = true := by simp [FrameWalk.isCalleeSaved, hr]
    have hne := isCalleeSaved_ne hcs
    rw [hother r hin hne.2, exec_preserves r body s1 s2 hb fun i hi hw => hin (savedOf_complete hi hw hcs),
      h1 r hne.2]

/-! ## the listed allocator finding, on the machine -/

/-- `%n = add %acc, %acc2; %m = mul %acc, %n; yield %n, %m` with `%n` tied to the register of `%acc`
(what `riscv_scf.for` allocation does): the emitted `add t0,t0,t1; mul t1,t0,t0` computes another
`%m` than the SSA program (here with separate registers 40, 41 for `%n`, `%m`) -/
theorem loop_carried_sharing_counterexample :
    let s := (st1.set 5 1#32).set 6 1#32
    (exec [.r .add 5 5 6, .r .mul 6 5 5] s).map (·.get 6) ≠
    (exec [.r .add 40 5 6, .r .mul 41 5 40] s).map (·.get 41) := by decide

end Xdsl.RiscV
