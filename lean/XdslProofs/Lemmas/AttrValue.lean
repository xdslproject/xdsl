import XdslModel.AttrValue
/-!
Helper lemmas for C08: the Boolean comparison functions of `XdslModel/AttrValue.lean` decide
propositional equality of the value trees; the hash of a node is a function of its children's
hashes (`V.hash_node`); the key-sorted normal form of dictionaries and frozensets does not depend on
the insertion order (`sortKeyed` of a permutation with pairwise distinct keys is the same list).
-/
namespace Xdsl.AttrValue

theorem natListEq_iff : ∀ (a b : List Nat), natListEq a b = true ↔ a = b
  | [], [] => by simp [natListEq]
  | [], _ :: _ => by simp [natListEq]
  | _ :: _, [] => by simp [natListEq]
  | x :: xs, y :: ys => by simp [natListEq, natListEq_iff xs ys]

theorem Leaf.eq_iff (a b : Leaf) : Leaf.eq a b = true ↔ a = b := by
  cases a <;> cases b <;> simp [Leaf.eq, natListEq_iff]

theorem Tag.eq_iff (a b : Tag) : Tag.eq a b = true ↔ a = b := by
  cases a <;> cases b <;> simp [Tag.eq]

mutual
theorem V.eq_iff : ∀ (a b : V), V.eq a b = true ↔ a = b
  | .leaf x, .leaf y => by simp [V.eq, Leaf.eq_iff]
  | .node t xs, .node u ys => by simp [V.eq, Tag.eq_iff, V.eqList_iff xs ys]
  | .leaf _, .node _ _ => by simp [V.eq]
  | .node _ _, .leaf _ => by simp [V.eq]
theorem V.eqList_iff : ∀ (xs ys : List V), V.eqList xs ys = true ↔ xs = ys
  | [], [] => by simp [V.eqList]
  | x :: xs, y :: ys => by simp [V.eqList, V.eq_iff x y, V.eqList_iff xs ys]
  | [], _ :: _ => by simp [V.eqList]
  | _ :: _, [] => by simp [V.eqList]
end

theorem V.eq_false_iff (a b : V) : V.eq a b = false ↔ a ≠ b := by
  rw [← Bool.not_eq_true, V.eq_iff]

theorem V.hashList_eq_map (xs : List V) : V.hashList xs = xs.map V.hash := by
  induction xs with
  | nil => rfl
  | cons x xs ih => simp [V.hashList, ih]

/-- `hash` of a tuple / dataclass instance / frozenset / immutabledict from the hashes of the
components (the class of an object takes no part) -/
def nodeCode : Tag → List Code → Code
  | .tup, cs => seqCode 10 cs
  | .obj _, cs => seqCode 10 cs
  | .fset, cs => seqCode 11 cs
  | .dict, [] => numCode 0
  | .dict, cs => seqCode 12 cs

theorem V.hash_node (t : Tag) (xs : List V) : V.hash (.node t xs) = nodeCode t (xs.map V.hash) := by
  rw [← V.hashList_eq_map]
  cases t with
  | dict => cases xs <;> simp [V.hash, V.hashList, nodeCode]
  | _ => simp [V.hash, nodeCode]

theorem lexLe_iff : ∀ a b : List Int, lexLe a b = true ↔ a ≤ b
  | [], b => by simp [lexLe]
  | _ :: _, [] => by simp [lexLe]
  | x :: xs, y :: ys => by
    rw [List.cons_le_cons_iff, ← lexLe_iff xs ys, lexLe]
    by_cases h1 : x < y
    · simp [h1]
    · by_cases h2 : y < x
      · simp [h1, h2, show x ≠ y by omega]
      · simp [show x = y by omega]

theorem lexLe_refl : ∀ a : List Int, lexLe a a = true :=
  fun a => (lexLe_iff a a).2 (List.le_refl a)

abbrev Entry := List Int × V

theorem mem_insert_sub (e : Entry) (acc : List Entry) (y : Entry) (h : y ∈ insertKeyed e acc) :
    y = e ∨ y ∈ acc := by
  fun_induction insertKeyed e acc <;> grind

theorem mem_insert_self (e : Entry) (acc : List Entry) : e ∈ insertKeyed e acc := by
  fun_induction insertKeyed e acc <;> grind

theorem mem_insert_of_mem (e : Entry) (acc : List Entry) (y : Entry) (hy : y ∈ acc)
    (hne : y.1 ≠ e.1) : y ∈ insertKeyed e acc := by
  fun_induction insertKeyed e acc <;> grind

theorem insertKeyed_cons (e w : Entry) (ws : List Entry) :
    insertKeyed e (w :: ws) =
      if e.1 = w.1 then e :: ws else if e.1 ≤ w.1 then e :: w :: ws else w :: insertKeyed e ws := by
  simp only [insertKeyed, lexLe_iff]

/-- Insertions of entries with different keys commute, into any list (sorted or not).  At the head
`w` of the list each of `x`, `y` replaces `w`, goes in front of it, or moves on; the nine
combinations are settled by totality, antisymmetry and transitivity of the order on keys, the one
where both move on by induction. -/
theorem insertKeyed_comm (x y : Entry) (h : x.1 ≠ y.1) :
    ∀ z, insertKeyed x (insertKeyed y z) = insertKeyed y (insertKeyed x z)
  | [] => by
    -- `[x, y]` or `[y, x]` on both sides: exactly one of `x.1 ≤ y.1`, `y.1 ≤ x.1` holds
    simp only [insertKeyed, insertKeyed_cons]
    grind
  | w :: ws => by
    have ih := insertKeyed_comm x y h ws
    -- unfold every insertion at its head (`w`, or the entry just put in front of `w`) and compare
    -- the two sides case by case; `ih` is for the case where both `x` and `y` pass `w`
    grind [insertKeyed_cons]

/-- The sorted normal form is independent of the insertion order (keys pairwise distinct): it is a
fold of insertions that commute. -/
theorem sortKeyed_perm {l₁ l₂ : List Entry} (hp : l₁.Perm l₂)
    (hk : l₁.Pairwise fun a b => a.1 ≠ b.1) : sortKeyed l₁ = sortKeyed l₂ := by
  have hne : ∀ ⦃x⦄, x ∈ l₁ → ∀ ⦃y⦄, y ∈ l₁ → x ≠ y → x.1 ≠ y.1 := by
    refine List.Pairwise.forall_of_forall_of_flip (fun _ _ h => absurd rfl h) (hk.imp ?_) (hk.imp ?_)
    · intro a b h _; exact h
    · intro a b h _; exact Ne.symm h
  refine hp.foldl_eq' (fun x hx y hy z => ?_) []
  by_cases hxy : x = y
  · rw [hxy]
  · exact insertKeyed_comm y x (hne hy hx (Ne.symm hxy)) z

theorem keyed_sort_perm {ps qs : List V} (hp : ps.Perm qs)
    (hk : ps.Pairwise (fun x y => x.sortKey ≠ y.sortKey)) :
    (keyed ps).map sortKeyed = (keyed qs).map sortKeyed := by
  unfold keyed
  rw [← hp.all_eq (f := fun x => x.sortKey.isSome)]
  by_cases hall : ps.all (fun x => x.sortKey.isSome) = true
  · simp only [hall, if_true, Option.map_some]
    congr 1
    apply sortKeyed_perm (hp.map _)
    refine List.pairwise_map.2 (hk.imp_of_mem ?_)
    intro a b ha hb hne
    have ha' := List.all_eq_true.1 hall a ha
    have hb' := List.all_eq_true.1 hall b hb
    cases hsa : a.sortKey with
    | none => simp [hsa] at ha'
    | some ka =>
      cases hsb : b.sortKey with
      | none => simp [hsb] at hb'
      | some kb =>
        simp only [Option.getD_some]
        intro e
        exact hne (by rw [hsa, hsb, e])
  · simp [hall]

end Xdsl.AttrValue
