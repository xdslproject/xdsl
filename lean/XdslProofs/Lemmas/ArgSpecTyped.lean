import XdslProofs.Lemmas.ArgSpecParse
/-!
C18 typed-level lemmas: `spec()` emits the non-default fields in field order, `from_spec` consumes
them in the same order.
-/
namespace Xdsl.ArgSpec

section
variable {F : Type}

theorem allowsNone_of_isa_none {ty : Ty} (h : isa (FVal.none : FVal F) ty = true) : allowsNone ty = true := by
  simp only [isa, List.any_eq_true] at h
  obtain ⟨a, ha, hia⟩ := h
  cases a <;> simp [isaAlt] at hia
  simp only [allowsNone, List.contains_eq_mem, decide_eq_true_eq]
  exact ha

theorem normalizeParams_eq (ps : List (List Char × List (PVal F))) :
    normalizeParams ps = foldDict [] (ps.map fun p => (normalizeKey p.1, p.2)) := by
  simp only [normalizeParams, foldDict, List.foldl_map]

theorem normalizeParams_id (ps : List (List Char × List (PVal F)))
    (hn : ∀ p ∈ ps, normalizeKey p.1 = p.1) (hnd : (ps.map Prod.fst).Nodup) : normalizeParams ps = ps := by
  rw [normalizeParams_eq, List.map_congr_left (g := id) fun p hp => by rw [hn p hp]; rfl, List.map_id,
    foldDict_nodup [] ps (by simpa using hnd), List.nil_append]

variable [DecidableEq F]

theorem toSpecParams_keys_sublist (incl : Bool) (fs : List (Field F)) (vs : List (FVal F)) :
    ((toSpecParams incl fs vs).map Prod.fst).Sublist (fs.map (·.name)) := by
  fun_induction toSpecParams incl fs vs with
  | case1 f fs v vs _ ih => exact ih.trans (List.sublist_cons_self _ _)
  | case2 f fs v vs _ ih => simpa using ih
  | case3 => simp

theorem toSpecParams_keys {P : List Char → Prop} (incl : Bool) {fs : List (Field F)} (vs : List (FVal F))
    (h : ∀ f ∈ fs, P f.name) : ∀ p ∈ toSpecParams incl fs vs, P p.1 := fun p hp => by
  obtain ⟨f, hf, hfe⟩ := List.mem_map.1 ((toSpecParams_keys_sublist incl fs vs).subset (List.mem_map_of_mem hp))
  exact hfe ▸ h f hf

theorem dictGet_none_of_not_mem {α β : Type} [DecidableEq α] (d : List (α × β)) (k : α)
    (h : k ∉ d.map Prod.fst) : dictGet d k = none := by
  induction d with
  | nil => rfl
  | cons x d ih =>
    obtain ⟨a, b⟩ := x
    simp only [List.map_cons, List.mem_cons, not_or] at h
    simp [dictGet, Ne.symm h.1, ih h.2]

theorem fromSpecFields_toSpecParams (incl : Bool) (fs : List (Field F)) (vs : List (FVal F))
    (hlen : vs.length = fs.length) (hnd : (fs.map (·.name)).Nodup)
    (hok : ∀ fv ∈ fs.zip vs, convert (argList fv.2) fv.1.ty = .ok fv.2) :
    fromSpecFields fs (toSpecParams incl fs vs) = .ok (vs, []) := by
  fun_induction toSpecParams incl fs vs with
  | case1 f fs v vs hskip ih =>
    -- a skipped field is absent from the dictionary (its name is not among the later ones) and optional
    have ih := ih (by simpa using hlen) (List.nodup_cons.1 hnd).2 fun fv h => hok fv (by simp [h])
    have hnot : f.name ∉ (toSpecParams incl fs vs).map Prod.fst :=
      fun hm => (List.nodup_cons.1 hnd).1 ((toSpecParams_keys_sublist incl fs vs).subset hm)
    simp only [Bool.and_eq_true, decide_eq_true_eq, Bool.not_eq_true'] at hskip
    simp [fromSpecFields, dictGet_none_of_not_mem _ _ hnot, hskip.1.1, ih, hskip.1.2]
  | case2 f fs v vs _ ih =>
    have ih := ih (by simpa using hlen) (List.nodup_cons.1 hnd).2 fun fv h => hok fv (by simp [h])
    have hc := hok (f, v) (by simp)
    simp only at hc
    simp [fromSpecFields, dictGet, dictDel, hc, ih]
  | case3 fs vs hmis =>
    cases fs with
    | nil => cases vs with
      | nil => rfl
      | cons _ _ => simp at hlen
    | cons f fs => cases vs with
      | nil => simp at hlen
      | cons v vs => exact absurd rfl (hmis f fs v vs rfl)

end
end Xdsl.ArgSpec
