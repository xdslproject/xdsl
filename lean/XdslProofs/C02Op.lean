import XdslProofs.C02
/-!
# C02 — `Operation.clone`, `Operation.clone_without_regions`, `Region.clone`, and the pinned
`clone_into` counterexample

The `clone_op_*` theorems say of `Operation.clone` of a single op `.op h rs .nil` what the
`clone_into_*` theorems of `XdslProofs/C02.lean` say of `Region.clone_into`, with `r.out` (the clone)
in the place of `r.new`; `clone_op_mapper_inside` speaks of values only.
-/
namespace Xdsl.Clone

theorem clone_op_frame {k : Kind} (st : St) (o : T .ops) (u : T k) (old : Old st u) :
    applyOps (phase2 0 st o) u = u :=
  phase2_frame (alloc_op st o) u old

/-- the clone of an op is the op renamed by the final mappers: operands (also uses of values defined
later, in nested regions, or by the op itself) and successors included -/
theorem clone_op_iso (st : St) (h : OpHdr) (rs : T .regions) (ok : SrcOK (T.op h rs .nil)) :
    let r := cloneOp st (.op h rs .nil) true
    Iso true (mapVal r.st.vm) (mapVal r.st.bm) (T.op h rs .nil) r.out := by
  simp only [cloneOp_eq]
  exact phase2_iso (alloc_op st _) ok (Reg_of_ne _ _ _)

theorem clone_op_mapper_outside (st : St) (h : OpHdr) (rs : T .regions) :
    let r := cloneOp st (.op h rs .nil) true
    (∀ v, v ∉ defVals (T.op h rs .nil) → AL.get r.st.vm v = AL.get st.vm v)
      ∧ (∀ b, b ∉ blockIds (T.op h rs .nil) → AL.get r.st.bm b = AL.get st.bm b) := by
  simp only [cloneOp_eq]
  exact ⟨(c1_frame _ 0 st).vm, fun b hb => (c1_frame _ 0 st).bm b (blockIds_of_ne (T.op h rs .nil) ▸ hb)⟩

theorem clone_op_mapper_inside (st : St) (h : OpHdr) (rs : T .regions) (ok : SrcOK (T.op h rs .nil)) :
    let r := cloneOp st (.op h rs .nil) true
    (∀ v ∈ defVals (T.op h rs .nil), st.next ≤ mapVal r.st.vm v)
      ∧ (∀ v ∈ defVals (T.op h rs .nil), ∀ w ∈ defVals (T.op h rs .nil),
          mapVal r.st.vm v = mapVal r.st.vm w → v = w) := by
  simp only [cloneOp_eq]
  have h := mapper_inside (alloc_op st _) ok (Reg_of_ne _ _ _)
  exact ⟨h.1, h.2.1⟩

theorem clone_op_source_unchanged (st : St) (h : OpHdr) (rs : T .regions)
    (old : Old st (T.op h rs .nil)) : (cloneOp st (.op h rs .nil) true).src = .op h rs .nil := by
  simp only [cloneOp_eq]
  exact clone_op_frame st _ _ old

theorem clone_op_fresh (st : St) (h : OpHdr) (rs : T .regions) :
    let r := cloneOp st (.op h rs .nil) true
    (∀ i ∈ ids r.out, st.next ≤ i ∧ i < r.st.next) ∧ (ids r.out).Nodup := by
  simp only [cloneOp_eq]
  exact phase2_fresh (alloc_op st _)

/-- `apply_to_clone`: the pass works on `op.clone()`; whatever edits it performs on objects of the
clone (or on objects it creates itself), the original module is unchanged — and the clone call itself
did not change it (`clone_op_source_unchanged`). -/
theorem apply_to_clone_frame (st : St) (h : OpHdr) (rs : T .regions) (old : Old st (T.op h rs .nil))
    (es : List Edit) (hes : ∀ e ∈ es, st.next ≤ e.target) :
    es.foldl (fun t e => e.apply t) (cloneOp st (.op h rs .nil) true).src = .op h rs .nil := by
  rw [clone_op_source_unchanged st h rs old]
  apply edits_frame
  intro e he hin
  have := old _ hin
  have := hes e he
  omega

theorem clone_op_edit_independence (st : St) (h : OpHdr) (rs : T .regions) (e : Edit) :
    let r := cloneOp st (.op h rs .nil) true
    (e.target ∈ ids r.out → ∀ {k : Kind} (u : T k), Old st u → e.apply u = u)
      ∧ (e.target < st.next → e.apply r.out = r.out) :=
  edit_independence (fun i hi => ((clone_op_fresh st h rs).1 i hi).1) e

/-- The clone without regions: same name and dict contents, results renamed to new values, a use of
one of the op's own results becomes a use of the clone's result, every other operand goes through the
caller's `value_mapper`, successors through the caller's `block_mapper`; the dict objects and the op
are new. -/
theorem clone_without_regions_spec (st : St) (h : OpHdr) (rs : T .regions) (nx : T .ops)
    (nd : (h.results.map Prod.fst).Nodup) :
    ∃ h', (cloneOpNoRegions st (.op h rs nx) true).out = .op h' (emptyRegions rs) .nil
      ∧ h'.name = h.name ∧ h'.attrs = h.attrs ∧ h'.props = h.props
      ∧ h'.results = h.results.map (fun p => (mapVal (cloneOpNoRegions st (.op h rs nx) true).st.vm p.1, p.2))
      ∧ h'.operands = h.operands.map (fun v =>
          if v ∈ h.results.map Prod.fst then mapVal (cloneOpNoRegions st (.op h rs nx) true).st.vm v
          else mapVal st.vm v)
      ∧ h'.succs = h.succs.map (mapVal st.bm)
      ∧ h'.id = st.next ∧ h'.aref = st.next + 1 ∧ h'.pref = st.next + 2
      ∧ (∀ p ∈ h'.results, st.next + 3 ≤ p.1)
      ∧ (cloneOpNoRegions st (.op h rs nx) true).src = .op h rs nx := by
  refine ⟨(cloneHdr st h true).1, rfl, rfl, rfl, rfl, ?_, ?_, rfl, rfl, rfl, rfl, ?_, rfl⟩
  · show (cloneVals st.vm (st.next + 3) h.results).1 = _
    exact cloneVals_map _ _ _ nd
  · show h.operands.map _ = _
    apply List.map_congr_left
    intro v _
    rw [ownResult_cloneVals _ _ _ _ nd]
    by_cases hv : v ∈ h.results.map Prod.fst
    · simp only [hv, if_true, Option.getD_some]; rfl
    · simp [hv]
  · intro p hp
    have : p.1 ∈ (cloneVals st.vm (st.next + 3) h.results).1.map Prod.fst := List.mem_map.2 ⟨p, hp, rfl⟩
    rw [cloneVals_ids, List.mem_range'_1] at this
    exact this.1

/-- `Region.clone()` = `clone_into` a new empty region: the result *is* the renamed source -/
theorem region_clone_iso (st : St) (src : T .blocks) (ok : SrcOK src) :
    let r := cloneRegion st src
    Iso true (mapVal r.st.vm) (mapVal r.st.bm) src r.out ∧ r.out = r.new := by
  have h := clone_into_iso st src .nil none ok
  have e : (cloneRegion st src).out = (cloneRegion st src).new := by
    simp [cloneRegion, cloneInto_eq, chainLen, insertAt, append_nil]
  exact ⟨by rw [e]; exact h, e⟩

/-- source region: one block, `%a = op()`, `%b = op(%a)`; destination: one block, `%c = op()`,
`%d = op(%c)` -/
def exSrc : T .blocks :=
  .block ⟨1, []⟩
    (.op ⟨2, 0, 3, [], 4, [], [(5, 1)], [], []⟩ .nil
      (.op ⟨6, 0, 7, [], 8, [], [(9, 1)], [5], []⟩ .nil .nil)) .nil

def exDst : T .blocks :=
  .block ⟨11, []⟩
    (.op ⟨12, 0, 13, [], 14, [], [(15, 1)], [], []⟩ .nil
      (.op ⟨16, 0, 17, [], 18, [], [(19, 1)], [15], []⟩ .nil .nil)) .nil

/-- **the defect of the pinned code** (`zip(self.walk(), dest.walk())`): cloning at the end of a
non-empty destination rewires the operand of the old op `%d` to a new value and leaves the clone of
`%b` without operand — the destination frame fails and the copy is not equivalent. -/
theorem clone_into_pinned_counterexample :
    let r := cloneIntoPinned {next := 20} exSrc exDst none true
    r.out ≠ insertAt 1 r.new exDst ∧ operandsOf r.new = [] ∧ operandsOf r.out = [24] := by
  decide

/-- the repaired code on the same input: the destination keeps `%d = op(%c)` and the copy's second op
uses the copy's first result -/
theorem clone_into_fixed_example :
    let r := cloneInto {next := 20} exSrc exDst none true
    r.out = insertAt 1 r.new exDst ∧ operandsOf r.new = [24] ∧ operandsOf r.out = [15, 24]
      ∧ r.src = exSrc := by
  decide

/-! ## non-vacuity: the hypotheses hold on a CFG with a forward block reference, a value used
before its definition, a nested region using an outer value, and an external value/block -/

/-- `^b30(%31): termop(%44)[^b40]` ; `^b40(%41): %44 = op(%31, %41, %99) { region { ^b50: op(%44) } }`,
`termop()[^b30, ^b77]` (`%99`, `^b77` are defined outside) -/
def exCfg : T .blocks :=
  .block ⟨30, [(31, 1)]⟩
    (.op ⟨32, 1, 33, [], 34, [], [], [44], [40]⟩ .nil .nil)
  (.block ⟨40, [(41, 2)]⟩
    (.op ⟨42, 0, 43, [(0, 1)], 45, [], [(44, 1)], [31, 41, 99], []⟩
      (.region (.block ⟨50, []⟩ (.op ⟨51, 0, 52, [], 53, [], [], [44], []⟩ .nil .nil) .nil) .nil)
      (.op ⟨46, 1, 47, [], 48, [], [], [], [30, 77]⟩ .nil .nil))
    .nil)

theorem exCfg_ok : SrcOK exCfg :=
  srcOK_of_verified exCfg (by decide) (by decide) (by simp [exCfg, Scoped, blockIds, directIds, regd])

theorem exCfg_old : Old {vm := [(99, 98)], next := 100} exCfg := by
  unfold Old; decide

/-- the theorems instantiated: cloned in front of the block of `exDst` (index 0) with a caller mapping `%99 ↦ %98`;
the copy's forward use and forward branch point into the copy, `%99` became `%98`, `^b77` stayed -/
example :
    let r := cloneInto {vm := [(99, 98)], next := 100} exCfg exDst (some 0) true
    Iso true (mapVal r.st.vm) (mapVal r.st.bm) exCfg r.new
      ∧ r.src = exCfg ∧ r.out = insertAt 0 r.new exDst
      ∧ operandsOf r.new = [110, 102, 106, 98, 110] ∧ succsOf r.new = [101, 100, 77] :=
  ⟨clone_into_iso _ _ _ _ exCfg_ok, clone_into_source_unchanged _ _ _ _ exCfg_old,
    clone_into_dest_frame _ _ _ _ (by unfold Old; decide),
    by decide, by decide⟩

end Xdsl.Clone
