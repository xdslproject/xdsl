import XdslProofs.Lemmas.ParallelMovCount
import XdslProofs.Lemmas.List
/-!
Lemmas for C20: how a loop of the lowering ends (`Ends`), the invariant of the lowering split into
its bookkeeping half (`Book`) and its register half (`Regs`), and the first loop and the tree stage
(`stage0`, `walkUp`, `stage1`).
-/
namespace Xdsl.ParallelMov

open Env

variable {n : Nat}

/-- `x` returns a value satisfying `Q`, or fails with an error satisfying `E`.  Every loop of the
lowering gets one theorem of this shape; what `lower` computes when it succeeds (`of_ok`) and what a
failure implies (`of_error`) are both read off it. -/
def Ends {α : Type} (x : Except Err α) (E : Err → Prop) (Q : α → Prop) : Prop :=
  match x with
  | .ok a => Q a
  | .error err => E err

section
variable {α : Type} {x : Except Err α} {E E' : Err → Prop} {Q R : α → Prop}

theorem Ends.ok {a : α} (h : Q a) : Ends (.ok a) E Q := h

theorem Ends.error {err : Err} (h : E err) : Ends (.error err : Except Err α) E Q := h

theorem Ends.mono (h : Ends x E Q) (hE : ∀ err, E err → E' err) (hQ : ∀ a, Q a → R a) :
    Ends x E' R := by
  cases x with
  | ok a => exact hQ a h
  | error err => exact hE err h

theorem Ends.of_ok {a : α} (h : Ends x E Q) (hx : x = .ok a) : Q a := by
  subst hx; exact h

theorem Ends.of_error {err : Err} (h : Ends x E Q) (hx : x = .error err) : E err := by
  subst hx; exact h

end

def IsMove (i : Instr) (d s : Reg) : Prop := ∀ (n : Nat) (ρ : RegFile n), step ρ i = wr ρ d (rd ρ s)

theorem emitMv_cases (st : St) (src : Val) (dst : Reg) (w : Nat) :
    (emitMv st src dst w = .error .width ∧ ¬ (w = 32 ∨ w = 64)) ∨
    ∃ i, emitMv st src dst w = .ok ({ st with ops := st.ops ++ [i] }, ⟨.op st.ops.length, dst⟩) ∧
      IsMove i dst src.reg := by
  unfold emitMv
  split
  · rename_i h; exact Or.inl ⟨rfl, by omega⟩
  · exact Or.inr ⟨_, rfl, fun n ρ => by cases dst.kind <;> rfl⟩

theorem exec_emit {ops : List Instr} {i : Instr} {d s : Reg} (hi : IsMove i d s) (ρ₀ : RegFile n) :
    exec (ops ++ [i]) ρ₀ = wr (exec ops ρ₀) d (rd (exec ops ρ₀) s) := by
  rw [exec_snoc, hi]

def WidthsOK (e : Env) : Prop := ∀ m ∈ e.moves, m.w = 32 ∨ m.w = 64

/-- the only failure of the first loop and of the tree stage: `Unsupported bit width`, and then some
operand has one -/
def WidthErr (e : Env) (x : Err) : Prop := x = .width ∧ ¬ WidthsOK e

theorem widthOf_ok {e : Env} (hw : WidthsOK e) {s d : Reg} (h : Edge e s d) :
    e.widthOf s = 32 ∨ e.widthOf s = 64 := by
  obtain ⟨m, hm, hs, _⟩ := h
  unfold Env.widthOf
  cases hf : e.moves.reverse.find? (fun m => m.src = s) with
  | none =>
    rw [List.find?_eq_none] at hf
    exact absurd (by simp [hs]) (hf m (List.mem_reverse.mpr hm))
  | some m' =>
    simp only [Option.map_some, Option.getD_some]
    exact hw m' (List.mem_reverse.mp (List.mem_of_find?_eq_some hf))

theorem getD_set_isSome {l : List (Option Val)} {i j : Nat} {v : Val} (hi : i < l.length) :
    ((l.set i (some v)).getD j none).isSome = (decide (j = i) || (l.getD j none).isSome) := by
  rw [getD_set_of_lt hi]
  split <;> simp [*]

/-!
`P` = destinations of the edges already performed.  While a cycle is being broken one register `s₀` of
it is overwritten before its child has received its old content; that content is parked in a register
`loc` (a designated free register, or the register the xor chain has carried it to).  Outside the
cycle stage the hole is closed: `loc = s₀ ∉ P`. -/

/-- Graph and `results` bookkeeping.  `closed`: a register other than `s₀` is overwritten only after
all its out-edges were performed; `res`: `results[i]` is set exactly for self-moves, moves into
`zero`, and performed edges. -/
structure Book (e : Env) (s₀ : Reg) (P : List Reg) (results : List (Option Val)) : Prop where
  sub : ∀ d ∈ P, ∃ s, Edge e s d
  closed : ∀ d ∈ P, ∀ x, Edge e d x → x ∈ P ∨ d = s₀
  len : results.length = e.moves.length
  res : ∀ i m, e.moves[i]? = some m →
    ((results.getD i none).isSome ↔ (m.src = m.dst ∨ m.dst = Reg.zero ∨ m.dst ∈ P))

theorem Book.cons {e : Env} (w : WF e) {s₀ : Reg} {P : List Reg} {results : List (Option Val)}
    (b : Book e s₀ P results) {s d : Reg} (hE : Edge e s d)
    (hch : ∀ x, Edge e d x → x ∈ P ∨ d = s₀) {i : Nat} (ho : e.outIdx d = some i) (v : Val) :
    Book e s₀ (d :: P) (results.set i (some v)) := by
  obtain ⟨m0, hm0, hm0d⟩ := outIdx_some ho
  have hilt : i < results.length := by
    rw [b.len]; exact (List.getElem?_eq_some_iff.mp hm0).1
  refine ⟨?_, ?_, ?_, ?_⟩
  · intro x hx
    rcases List.mem_cons.mp hx with rfl | hx
    · exact ⟨s, hE⟩
    · exact b.sub x hx
  · intro x hx y hy
    rcases List.mem_cons.mp hx with rfl | hx
    · exact (hch y hy).imp_left (List.mem_cons_of_mem _)
    · exact (b.closed x hx y hy).imp_left (List.mem_cons_of_mem _)
  · rw [List.length_set, b.len]
  · intro j m hm
    rw [getD_set_isSome hilt, Bool.or_eq_true, decide_eq_true_eq, b.res j m hm, List.mem_cons]
    constructor
    · rintro (rfl | h | h | h)
      · rw [hm0] at hm
        cases hm
        exact Or.inr (Or.inr (Or.inl hm0d))
      · exact Or.inl h
      · exact Or.inr (Or.inl h)
      · exact Or.inr (Or.inr (Or.inr h))
    · rintro (h | h | h | h)
      · exact Or.inr (Or.inl h)
      · exact Or.inr (Or.inr (Or.inl h))
      · -- the operand with destination `d` is the one at `outIdx d`
        exact Or.inl (pairwise_idx_unique w.dstDistinct hm hm0 (by rw [h, hm0d])
          (by rw [h]; exact hE.dst_ne_zero))
      · exact Or.inr (Or.inr (Or.inr h))

/-- Register contents.  `done`: a processed destination holds its source's old content; `saved`: `loc`
holds the old content of `s₀`; `keep`: every other register (outside the designated free ones) is
untouched. -/
structure Regs (e : Env) (ρ₀ : RegFile n) (s₀ loc : Reg) (P : List Reg) (ρ : RegFile n) : Prop where
  done : ∀ d ∈ P, ∀ s, Edge e s d → rd ρ d = rd ρ₀ s
  saved : rd ρ loc = rd ρ₀ s₀
  keep : ∀ r, r ∉ P → r ≠ loc → r ∉ e.free → rd ρ r = rd ρ₀ r

variable {e : Env} {ρ₀ ρ : RegFile n} {s₀ loc : Reg} {P : List Reg}

theorem Regs.copy (w : WF e) (g : Regs e ρ₀ s₀ loc P ρ) {s d a : Reg} (hE : Edge e s d) (hd : d ∉ P)
    (hdl : d ≠ loc) (ha : rd ρ a = rd ρ₀ s) : Regs e ρ₀ s₀ loc (d :: P) (wr ρ d (rd ρ a)) := by
  refine ⟨?_, ?_, ?_⟩
  · intro x hx s' hs'
    rcases List.mem_cons.mp hx with rfl | hx
    · rw [rd_wr_same _ hE.dst_ne_zero, ha, Edge.src_unique w hs' hE]
    · rw [rd_wr_ne _ (fun h : x = d => hd (h ▸ hx))]
      exact g.done x hx s' hs'
  · rw [rd_wr_ne _ (Ne.symm hdl)]
    exact g.saved
  · intro r hr hl hf
    rw [rd_wr_ne _ (fun h : r = d => hr (h ▸ List.mem_cons_self))]
    exact g.keep r (fun h => hr (List.mem_cons_of_mem _ h)) hl hf

theorem Regs.save (g : Regs e ρ₀ s₀ s₀ P ρ) {t : Reg} (ht : t ∉ P) (htz : t ≠ Reg.zero) :
    Regs e ρ₀ s₀ t P (wr ρ t (rd ρ s₀)) := by
  refine ⟨?_, ?_, ?_⟩
  · intro x hx s hs
    rw [rd_wr_ne _ (fun h : x = t => ht (h ▸ hx))]
    exact g.done x hx s hs
  · rw [rd_wr_same _ htz]
    exact g.saved
  · intro r hr hl hf
    rw [rd_wr_ne _ hl]
    by_cases h : r = s₀
    · rw [h]; exact g.saved
    · exact g.keep r hr h hf

/-- The register holding the old content of `s₀` is a child of `s₀`: that edge is performed. -/
theorem Regs.arrive (w : WF e) (g : Regs e ρ₀ s₀ loc P ρ) (hE : Edge e s₀ loc) :
    Regs e ρ₀ s₀ loc (loc :: P) ρ := by
  refine ⟨?_, g.saved, fun r hr hl hf => g.keep r (fun h => hr (List.mem_cons_of_mem _ h)) hl hf⟩
  intro x hx s hs
  rcases List.mem_cons.mp hx with rfl | hx
  · rw [g.saved, Edge.src_unique w hs hE]
  · exact g.done x hx s hs

/-- Performing the edge `inp → out` by a swap when `out` holds the parked content: `out` becomes
final and the parked content moves to `inp`. -/
theorem Regs.swap (w : WF e) {out inp : Reg} (g : Regs e ρ₀ s₀ out P ρ) (hE : Edge e inp out)
    (ho : out ∉ P) (hi : inp ∉ P) (hiz : inp ≠ Reg.zero) :
    Regs e ρ₀ s₀ inp (out :: P) (exec [.xor inp inp out, .xor out inp out, .xor inp inp out] ρ) := by
  have hio := hE.ne
  have hival : rd ρ inp = rd ρ₀ inp := g.keep inp hi hio (hE.src_not_free w)
  have hsw := rd_swap hio hiz hE.dst_ne_zero ρ
  refine ⟨?_, ?_, ?_⟩
  · intro x hx s' hs'
    rw [hsw]
    rcases List.mem_cons.mp hx with rfl | hx
    · rw [if_neg (Ne.symm hio), if_pos rfl, hival, Edge.src_unique w hs' hE]
    · rw [if_neg (fun h : x = inp => hi (h ▸ hx)), if_neg (fun h : x = out => ho (h ▸ hx))]
      exact g.done x hx s' hs'
  · rw [hsw, if_pos rfl]
    exact g.saved
  · intro r hr hl hf
    have h2 : r ≠ out := fun h => hr (h ▸ List.mem_cons_self)
    rw [hsw, if_neg hl, if_neg h2]
    exact g.keep r (fun h => hr (List.mem_cons_of_mem _ h)) h2 hf

/-- `P` = destinations of the edges already performed.  `done`: they hold their source's old content;
`keep`: every other register (outside the designated free ones) is untouched; `closed`: a register is
overwritten only after all its out-edges were performed; `res`: `results[i]` is set exactly for
self-moves, moves into `zero`, and performed edges. -/
structure Inv (e : Env) (ρ₀ : RegFile n) (P : List Reg) (st : St) : Prop where
  sub : ∀ d ∈ P, ∃ s, Edge e s d
  done : ∀ d ∈ P, ∀ s, Edge e s d → rd (exec st.ops ρ₀) d = rd ρ₀ s
  keep : ∀ r, r ∉ P → r ∉ e.free → rd (exec st.ops ρ₀) r = rd ρ₀ r
  closed : ∀ d ∈ P, ∀ x, Edge e d x → x ∈ P
  len : st.results.length = e.moves.length
  res : ∀ i m, e.moves[i]? = some m →
    ((st.results.getD i none).isSome ↔ (m.src = m.dst ∨ m.dst = Reg.zero ∨ m.dst ∈ P))

variable {st : St}

/-- Any untouched register can be taken for the (closed) hole. -/
theorem Inv.split (inv : Inv e ρ₀ P st) (hs : s₀ ∉ P) (hf : s₀ ∉ e.free) :
    Book e s₀ P st.results ∧ Regs e ρ₀ s₀ s₀ P (exec st.ops ρ₀) :=
  ⟨⟨inv.sub, fun d hd x hx => Or.inl (inv.closed d hd x hx), inv.len, inv.res⟩,
   ⟨inv.done, inv.keep s₀ hs hf, fun r hr _ hf => inv.keep r hr hf⟩⟩

/-- The hole is closed when the children of `s₀` are processed once `s₀` is, and the parked content is
where it belongs, in a free register, or still in `s₀`. -/
theorem Inv.join (b : Book e s₀ P st.results) (g : Regs e ρ₀ s₀ loc P (exec st.ops ρ₀))
    (hcl : s₀ ∈ P → ∀ x, Edge e s₀ x → x ∈ P) (hloc : loc ∈ P ∨ loc ∈ e.free ∨ loc = s₀) :
    Inv e ρ₀ P st := by
  refine ⟨b.sub, g.done, ?_, ?_, b.len, b.res⟩
  · intro r hr hf
    by_cases h : r = loc
    · subst h
      rcases hloc with h | h | h
      · exact absurd h hr
      · exact absurd h hf
      · rw [g.saved, h]
    · exact g.keep r hr h hf
  · intro d hd x hx
    rcases b.closed d hd x hx with h | h
    · exact h
    · subst h; exact hcl hd x hx

theorem Inv.parent_unprocessed (inv : Inv e ρ₀ P st) {s d : Reg} (h : Edge e s d) (hd : d ∉ P) :
    s ∉ P :=
  fun hs => hd (inv.closed s hs d h)

/-- Performing the edge `s → d` by a register copy, when all out-edges of `d` are done. -/
theorem Inv.process {e : Env} (w : WF e) {ρ₀ : RegFile n} {P : List Reg} {st st' : St}
    (inv : Inv e ρ₀ P st) {s d : Reg} (hE : Edge e s d) (hd : d ∉ P)
    (hch : ∀ x, Edge e d x → x ∈ P) {v : Val} {wd : Nat}
    (hemit : emitMv st ⟨.src, s⟩ d wd = .ok (st', v)) {i : Nat} (hi : e.outIdx d = some i) :
    Inv e ρ₀ (d :: P) (setResult st' i v) := by
  have hs := inv.parent_unprocessed hE hd
  obtain ⟨b, g⟩ := inv.split hs (hE.src_not_free w)
  rcases emitMv_cases st ⟨.src, s⟩ d wd with ⟨he, _⟩ | ⟨ins, he, hmv⟩
  · rw [he] at hemit; cases hemit
  · rw [he] at hemit
    cases hemit
    refine Inv.join (s₀ := s) (loc := s) (b.cons w hE (fun x hx => Or.inl (hch x hx)) hi _) ?_
      (fun h => absurd h fun h => (List.mem_cons.mp h).elim hE.ne hs) (Or.inr (Or.inr rfl))
    show Regs e ρ₀ s s (d :: P) (exec (st.ops ++ [ins]) ρ₀)
    rw [exec_emit hmv]
    exact g.copy w hE hd (Ne.symm hE.ne) g.saved

theorem enum_map_snd (l : List Move) : (enum l).map (·.2) = l := by
  unfold enum
  rw [List.map_map]
  exact List.zipIdx_map_fst 0 l

theorem Cnt.val_set (c : Cnt) (s s' : Reg) (v : Int) :
    Cnt.val (AL.set c s v) s' = if s' = s then v else c.val s' := by
  unfold Cnt.val
  rw [AL.get_set]
  split <;> rfl

theorem isSome_set_cons {results : List (Option Val)} {i : Nat} (hi : i < results.length) (v : Val)
    {C : Move → Prop} {m : Move} (hm : C m) (rest : List (Nat × Move)) (j : Nat) :
    (((results.set i (some v)).getD j none).isSome ∨ ∃ m', (j, m') ∈ rest ∧ C m') ↔
      ((results.getD j none).isSome ∨ ∃ m', (j, m') ∈ (i, m) :: rest ∧ C m') := by
  rw [getD_set_isSome hi, Bool.or_eq_true, decide_eq_true_eq]
  constructor
  · rintro ((rfl | h) | ⟨m', hm', hc⟩)
    · exact Or.inr ⟨m, List.mem_cons_self, hm⟩
    · exact Or.inl h
    · exact Or.inr ⟨m', List.mem_cons_of_mem _ hm', hc⟩
  · rintro (h | ⟨m', hm', hc⟩)
    · exact Or.inl (Or.inr h)
    · rcases List.mem_cons.mp hm' with h | h
      · cases h; exact Or.inl (Or.inl rfl)
      · exact Or.inr ⟨m', h, hc⟩

/-- What the first loop does to a state: it changes no register a later read could see (it only
writes `zero`), sets the results of the self-moves and of the moves into `zero`, and counts the
out-edges. -/
structure Stage0Post (ρ₀ : RegFile n) (l : List (Nat × Move)) (st : St) (c : Cnt)
    (r : St × Cnt) : Prop where
  regs : ∀ x, rd (exec r.1.ops ρ₀) x = rd (exec st.ops ρ₀) x
  len : r.1.results.length = st.results.length
  res : ∀ j, (r.1.results.getD j none).isSome ↔
    ((st.results.getD j none).isSome ∨ ∃ m, (j, m) ∈ l ∧ (m.src = m.dst ∨ m.dst = Reg.zero))
  count : ∀ s, r.2.val s
    = c.val s + ((l.map (·.2)).countP (fun m => isEdge m && m.src = s) : Nat)

theorem stage0_spec (e : Env) (ρ₀ : RegFile n) :
    ∀ (l : List (Nat × Move)) (st : St) (c : Cnt),
      (∀ p ∈ l, p.1 < st.results.length ∧ p.2 ∈ e.moves) →
      Ends (stage0 e l st c) (WidthErr e) (Stage0Post ρ₀ l st c) := by
  intro l
  induction l with
  | nil =>
    intro st c _
    exact Ends.ok ⟨fun _ => rfl, rfl, fun j => by simp, fun s => by simp⟩
  | cons p rest ih =>
    obtain ⟨i, m⟩ := p
    intro st c hl
    have hi : i < st.results.length := (hl (i, m) List.mem_cons_self).1
    have hl' := fun p hp => hl p (List.mem_cons_of_mem _ hp)
    -- an operand that is not an edge: its result is set, and registers read as before
    have skip : ∀ (ops1 : List Instr) (v : Val),
        (∀ x, rd (exec ops1 ρ₀) x = rd (exec st.ops ρ₀) x) → (m.src = m.dst ∨ m.dst = Reg.zero) →
        Ends (stage0 e rest (setResult { st with ops := ops1 } i v) c) (WidthErr e)
          (Stage0Post ρ₀ ((i, m) :: rest) st c) := by
      intro ops1 v hrd hC
      have hne : isEdge m = false := by
        rcases hC with h | h <;> simp [isEdge, h]
      refine (ih (setResult { st with ops := ops1 } i v) c fun p hp => ⟨?_, (hl' p hp).2⟩).mono
        (fun _ h => h) ?_
      · show p.1 < (st.results.set i _).length
        rw [List.length_set]; exact (hl' p hp).1
      · rintro r ⟨h1, h2, h3, h4⟩
        refine ⟨fun x => (h1 x).trans (hrd x), h2.trans List.length_set,
          fun j => (h3 j).trans (isSome_set_cons hi _ hC rest j), fun s => ?_⟩
        rw [h4 s]
        simp only [List.map_cons, List.countP_cons, hne, Bool.false_and, Bool.false_eq_true,
          if_false, Nat.add_zero]
    unfold stage0
    by_cases hself : m.src = m.dst
    · rw [if_pos hself]
      exact skip st.ops _ (fun _ => rfl) (Or.inl hself)
    · rw [if_neg hself]
      by_cases hz : m.dst = Reg.zero
      · rw [if_pos hz]
        rcases emitMv_cases st ⟨.src, m.src⟩ m.dst m.w with ⟨hem, hw⟩ | ⟨ins, hem, hmv⟩
        · simp only [hem]
          exact Ends.error ⟨rfl, fun h => hw (h m (hl (i, m) List.mem_cons_self).2)⟩
        · simp only [hem]
          -- the emitted instruction writes `zero`
          exact skip _ _ (fun x => by rw [exec_emit hmv, hz, rd_wr_zero]) (Or.inr hz)
      · rw [if_neg hz]
        have hedge : isEdge m = true := (isEdge_iff m).mpr ⟨hself, hz⟩
        refine (ih st (AL.set c m.src (c.val m.src + 1)) hl').mono (fun _ h => h) ?_
        rintro r ⟨h1, h2, h3, h4⟩
        refine ⟨h1, h2, fun j => (h3 j).trans (or_congr_right ?_), ?_⟩
        · constructor
          · rintro ⟨m', hm', hc⟩
            exact ⟨m', List.mem_cons_of_mem _ hm', hc⟩
          · rintro ⟨m', hm', hc⟩
            rcases List.mem_cons.mp hm' with h | h
            · cases h; exact absurd hc (not_or.mpr ⟨hself, hz⟩)
            · exact ⟨m', h, hc⟩
        · intro s
          rw [h4 s, Cnt.val_set]
          simp only [List.map_cons, List.countP_cons, hedge, Bool.true_and, decide_eq_true_eq]
          by_cases hs : s = m.src
          · subst hs; rw [if_pos rfl, if_pos rfl]; omega
          · rw [if_neg hs, if_neg fun e => hs e.symm, Nat.add_zero]

theorem stage0_inv {e : Env} (ρ₀ : RegFile n) :
    Ends (stage0 e (enum e.moves) { results := e.moves.map fun _ => none } []) (WidthErr e)
      fun r => Inv e ρ₀ [] r.1 ∧ ∀ s, r.2.val s = (cnt e [] s : Int) := by
  refine (stage0_spec e ρ₀ (enum e.moves) _ [] fun p hp => ?_).mono (fun _ h => h) ?_
  · obtain ⟨i, m⟩ := p
    rw [mem_enum] at hp
    simp only [List.length_map]
    exact ⟨(List.getElem?_eq_some_iff.mp hp).1, List.mem_of_getElem? hp⟩
  rintro ⟨st, c⟩ ⟨h1, h2, h3, h4⟩
  refine ⟨⟨nofun, nofun, fun r _ _ => by rw [h1 r]; rfl, nofun, by rw [h2]; simp, ?_⟩, ?_⟩
  · intro i m hm
    rw [h3 i]
    have : ((List.map (fun _ => (none : Option Val)) e.moves).getD i none).isSome = false := by
      rw [List.getD_eq_getElem?_getD]
      simp only [List.getElem?_map]
      cases e.moves[i]? <;> rfl
    simp only [this, Bool.false_eq_true, false_or, List.not_mem_nil, or_false]
    constructor
    · rintro ⟨m', hm', hc⟩
      rw [mem_enum, hm] at hm'
      cases hm'
      exact hc
    · intro hc
      exact ⟨m, mem_enum.mpr hm, hc⟩
  · intro s
    rw [h4 s, enum_map_snd]
    simp [Cnt.val, cnt]

/-- the edge into `x` can be performed next -/
def Ready (e : Env) (P : List Reg) (x : Reg) : Prop :=
  (∃ s, Edge e s x) ∧ x ∉ P ∧ cnt e P x = 0

/-- counters = number of unprocessed out-edges; every ready register is in the work list `W` (the
position of the walk, then the leaves still to come) -/
structure Work (e : Env) (P : List Reg) (c : Cnt) (W : List Reg) : Prop where
  count : ∀ s, c.val s = (cnt e P s : Int)
  pend : ∀ x, Ready e P x → x ∈ W

/-- the target of an edge that has no out-edge is a leaf: it is not the source of a self-move either,
since it is the destination of one operand only -/
theorem isLeaf_of_ready (w : WF e) {x : Reg} (h : Ready e [] x) : e.isLeaf x = true := by
  obtain ⟨⟨s, m, hm, hms, hmd, hne, hz⟩, _, hx0⟩ := h
  unfold Env.isLeaf
  simp only [Bool.not_eq_eq_eq_not, Bool.not_true, List.any_eq_false, Bool.and_eq_true,
    decide_eq_true_eq, Bool.or_eq_true, not_and, not_or]
  intro m' hm' hsrc
  constructor
  · intro hself
    have : m = m' := w.dst_unique hm hm' (by rw [hmd, ← hself, hsrc]) (by rw [hmd]; exact hz)
    subst this
    exact hne (by rw [← hms, ← hmd, hself])
  · intro hedge
    have := (cnt_eq_zero_iff.mp hx0) m'.dst (hsrc ▸ edge_of_isEdge hm' hedge)
    simp at this

theorem Work.init (w : WF e) {c0 : Cnt} (hc0 : ∀ s, c0.val s = (cnt e [] s : Int)) :
    Work e [] c0 ((e.moves.map (·.dst)).filter e.isLeaf) := by
  refine ⟨hc0, fun x h => List.mem_filter.mpr ⟨?_, isLeaf_of_ready w h⟩⟩
  obtain ⟨⟨s, m, hm, _, hmd, _⟩, _⟩ := h
  exact List.mem_map.mpr ⟨m, hm, hmd⟩

/-- Performing the edge `s → d` decrements the counter of `s`; `s` joins the work list when that was
its last unprocessed child. -/
theorem Work.advance (w : WF e) {P : List Reg} {c : Cnt} {W : List Reg} {s d : Reg}
    (wk : Work e P c (d :: W)) (hE : Edge e s d) (hd : d ∉ P) :
    Work e (d :: P) (AL.set c s (c.val s - 1)) (if c.val s - 1 ≠ 0 then W else s :: W) := by
  have hcount : ∀ s', Cnt.val (AL.set c s (c.val s - 1)) s' = (cnt e (d :: P) s' : Int) := by
    intro s'
    rw [Cnt.val_set]
    have h1 := cnt_add w hE hd s'
    have h2 := wk.count s'
    split
    · rename_i e1; subst e1
      simp only [if_true] at h1
      omega
    · rename_i e1
      simp only [e1, if_false] at h1
      omega
  refine ⟨hcount, ?_⟩
  rintro x ⟨hx, hxP, hx0⟩
  by_cases hxs : x = s
  · subst hxs
    have := hcount x
    rw [Cnt.val_set, if_pos rfl, hx0] at this
    rw [if_neg (by omega)]
    exact List.mem_cons_self
  · have h1 := cnt_add w hE hd x
    rw [if_neg hxs, Nat.add_zero] at h1
    rcases List.mem_cons.mp
      (wk.pend x ⟨hx, fun h => hxP (List.mem_cons_of_mem _ h), by rw [h1]; exact hx0⟩) with h | h
    · exact absurd (h ▸ List.mem_cons_self) hxP
    · split
      · exact h
      · exact List.mem_cons_of_mem _ h

theorem Work.onlyCycles (w : WF e) {P : List Reg} {c : Cnt} (wk : Work e P c []) : OnlyCycles e P :=
  cycle_structure w fun x hx hxP hx0 => absurd (wk.pend x ⟨hx, hxP, hx0⟩) List.not_mem_nil

/-- The walk up from `d`: all out-edges of `d` are done, so the edge into `d` can be performed, and so
on for its source while that was the source's last unprocessed child.  Every step processes an edge,
so `fuel` beyond the number of unprocessed edges is never used up.  The last clause (what the walk
processes is `d` or not a leaf) lets `stage1_spec` know that the leaves still to come are unprocessed. -/
theorem walkUp_spec (w : WF e) {ρ₀ : RegFile n} {W : List Reg} :
    ∀ (fuel : Nat) (d : Reg) (st : St) (c : Cnt) (P : List Reg),
      Inv e ρ₀ P st → Work e P c (d :: W) → d ∉ P → cnt e P d = 0 →
      (unprocessed e P).length < fuel →
      Ends (walkUp e fuel d st c) (WidthErr e) fun r =>
        ∃ P', Inv e ρ₀ P' r.1 ∧ Work e P' r.2 W ∧
          ∀ x ∈ P', x ∈ P ∨ x = d ∨ e.isLeaf x = false := by
  intro fuel
  induction fuel with
  | zero => intro d st c P _ _ _ _ h; exact absurd h (Nat.not_lt_zero _)
  | succ fuel ih =>
    intro d st c P inv wk hd hc hfuel
    unfold walkUp
    cases hp : e.pred d with
    | none =>
      refine Ends.ok ⟨P, inv, ⟨wk.count, fun x hR => ?_⟩, fun x hx => Or.inl hx⟩
      rcases List.mem_cons.mp (wk.pend x hR) with rfl | h
      · exact hR.1.elim fun s hs => absurd hs ((pred_none_iff w).mp hp s)
      · exact h
    | some s =>
      have hE : Edge e s d := pred_some_edge hp
      rcases emitMv_cases st ⟨.src, s⟩ d (e.widthOf s) with ⟨hem, hw⟩ | ⟨ins, hem, hmv⟩
      · simp only [hem]
        exact Ends.error ⟨rfl, fun h => hw (widthOf_ok h hE)⟩
      · simp only [hem]
        obtain ⟨i, m, hm, hms, hmd, ho⟩ := hE.exists_outIdx w
        simp only [ho]
        -- `assert results[…] is None`: `d` is not processed yet
        have hnone : ¬ (st.results.getD i none).isSome = true := by
          rw [inv.res i m hm, hms, hmd]
          exact fun h => h.elim hE.ne fun h => h.elim hE.dst_ne_zero hd
        rw [if_neg hnone]
        have inv' := inv.process w hE hd (cnt_eq_zero_iff.mp hc) hem ho
        have wk' := wk.advance w hE hd
        by_cases hn : c.val s - 1 ≠ 0
        · rw [if_pos hn] at wk' ⊢
          exact Ends.ok ⟨d :: P, inv', wk',
            fun x hx => (List.mem_cons.mp hx).elim (fun h => Or.inr (Or.inl h)) Or.inl⟩
        · rw [if_neg hn] at wk' ⊢
          have hs : s ∉ d :: P :=
            fun h => (List.mem_cons.mp h).elim hE.ne (inv.parent_unprocessed hE hd)
          have hc' : cnt e (d :: P) s = 0 := by
            have := wk'.count s
            rw [Cnt.val_set, if_pos rfl] at this
            omega
          have hlt := unprocessed_cons_lt w (mem_unprocessed.mpr ⟨⟨s, hE⟩, hd⟩)
          refine (ih s _ _ (d :: P) inv' wk' hs hc' (by omega)).mono (fun _ h => h) ?_
          rintro r ⟨P', j1, j2, j4⟩
          refine ⟨P', j1, j2, fun x hx => ?_⟩
          rcases j4 x hx with h | h | h
          · exact (List.mem_cons.mp h).elim (fun h => Or.inr (Or.inl h)) Or.inl
          · exact Or.inr (Or.inr (h ▸ not_leaf_of_edge hE))
          · exact Or.inr (Or.inr h)

theorem dsts_pairwise {e : Env} (w : WF e) :
    (e.moves.map (·.dst)).Pairwise (fun a b => a = b → a = Reg.zero) := by
  rw [List.pairwise_map]; exact w.dstDistinct

/-- The tree stage.  `todo` lists a register twice only if it is `zero`, which is never processed;
so a leaf met in `todo` has not been walked up from before. -/
theorem stage1_spec (w : WF e) {ρ₀ : RegFile n} :
    ∀ (todo : List Reg) (st : St) (c : Cnt) (P : List Reg),
      todo.Pairwise (fun a b => a = b → a = Reg.zero) →
      Inv e ρ₀ P st → Work e P c (todo.filter e.isLeaf) → (∀ x ∈ todo, e.isLeaf x = true → x ∉ P) →
      Ends (stage1 e todo st c) (WidthErr e) fun r => ∃ P', Inv e ρ₀ P' r.1 ∧ Work e P' r.2 [] := by
  intro todo
  induction todo with
  | nil => intro st c P _ inv wk _; exact Ends.ok ⟨P, inv, wk⟩
  | cons d rest ih =>
    intro st c P hpw inv wk hfresh
    rw [List.pairwise_cons] at hpw
    unfold stage1
    by_cases hl : e.isLeaf d = true
    · rw [if_pos hl]
      rw [List.filter_cons_of_pos hl] at wk
      have hsp := walkUp_spec w (e.moves.length + 1) d st c P inv wk
        (hfresh d List.mem_cons_self hl)
        (cnt_eq_zero_iff.mpr fun x hx => absurd hx (leaf_no_edge hl x))
        (Nat.lt_succ_of_le (unprocessed_length_le e P))
      generalize walkUp e (e.moves.length + 1) d st c = r at hsp ⊢
      cases r with
      | error x => exact hsp
      | ok r =>
        obtain ⟨st1, c1⟩ := r
        obtain ⟨P', i1, i2, i4⟩ := hsp
        refine ih st1 c1 P' hpw.2 i1 i2 ?_
        intro x hx hxl hxP'
        rcases i4 x hxP' with h | h | h
        · exact hfresh x (List.mem_cons_of_mem _ hx) hxl h
        · subst h
          obtain ⟨s, hs⟩ := i1.sub x hxP'
          exact hs.dst_ne_zero (hpw.1 x hx rfl)
        · rw [hxl] at h; cases h
    · rw [if_neg hl]
      rw [List.filter_cons_of_neg hl] at wk
      exact ih st c P hpw.2 inv wk fun x hx => hfresh x (List.mem_cons_of_mem _ hx)

end Xdsl.ParallelMov
