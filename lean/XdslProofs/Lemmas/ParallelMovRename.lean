import XdslModel.ParallelMov
/-!
Helper lemmas for `XdslProofs/C20Rename.lean`: every piece of the lowering algorithm commutes with a
renaming of the registers that is injective, keeps the register file (kind) and the allocation
status, and maps exactly `zero` to `zero`.
-/
namespace Xdsl.ParallelMov

/-- A placement of the registers of a parallel move in the register files: injective, preserves
the register file and the allocation status, and `zero` — the one register the algorithm singles
out — is the image of `zero` only. -/
structure Renaming (ρ : Reg → Reg) : Prop where
  inj : ∀ a b, ρ a = ρ b → a = b
  zero : ∀ r, ρ r = Reg.zero ↔ r = Reg.zero
  kind : ∀ r, (ρ r).kind = r.kind
  alloc : ∀ r, (ρ r).allocated = r.allocated

def Move.map (ρ : Reg → Reg) (m : Move) : Move := ⟨ρ m.src, ρ m.dst, m.w⟩

def Instr.map (ρ : Reg → Reg) : Instr → Instr
  | .mv d s => .mv (ρ d) (ρ s)
  | .fmv w d s => .fmv w (ρ d) (ρ s)
  | .xor d a b => .xor (ρ d) (ρ a) (ρ b)

def Val.map (ρ : Reg → Reg) (v : Val) : Val := ⟨v.d, ρ v.reg⟩

def St.map (ρ : Reg → Reg) (st : St) : St :=
  ⟨st.ops.map (Instr.map ρ), st.results.map (Option.map (Val.map ρ))⟩

def Out.map (ρ : Reg → Reg) (o : Out) : Out :=
  ⟨o.ops.map (Instr.map ρ), o.results.map (Option.map (Val.map ρ))⟩

def Env.map (ρ : Reg → Reg) (e : Env) : Env := ⟨e.moves.map (Move.map ρ), e.free.map ρ⟩

def cmap (ρ : Reg → Reg) (c : Cnt) : Cnt := c.map fun p => (ρ p.1, p.2)

/-- `Except.map` spelled out (core's is stated through `Functor`) -/
def emap {α β : Type} (f : α → β) : Except Err α → Except Err β
  | .error x => .error x
  | .ok a => .ok (f a)

variable {ρ : Reg → Reg}

theorem Renaming.eq_iff (h : Renaming ρ) (a b : Reg) : ρ a = ρ b ↔ a = b :=
  ⟨h.inj a b, fun e => by rw [e]⟩

theorem Renaming.dec_eq (h : Renaming ρ) (a b : Reg) : decide (ρ a = ρ b) = decide (a = b) := by
  simp [h.eq_iff]

theorem emitMv_map (h : Renaming ρ) (st : St) (v : Val) (d : Reg) (w : Nat) :
    emitMv (st.map ρ) (v.map ρ) (ρ d) w
      = emap (fun p => (p.1.map ρ, p.2.map ρ)) (emitMv st v d w) := by
  unfold emitMv
  split
  · rfl
  · simp only [emap, St.map, Val.map, List.map_append, List.map_cons, List.map_nil, List.length_map,
      h.kind]
    cases d.kind <;> rfl

theorem emitSwap_map (st : St) (a b : Val) :
    emitSwap (st.map ρ) (a.map ρ) (b.map ρ)
      = ((emitSwap st a b).1.map ρ, (emitSwap st a b).2.1.map ρ, (emitSwap st a b).2.2.map ρ) := by
  simp [emitSwap, St.map, Val.map, Instr.map]

theorem setResult_map (st : St) (i : Nat) (v : Val) :
    setResult (st.map ρ) i (v.map ρ) = (setResult st i v).map ρ := by
  simp [setResult, St.map, List.map_set]

theorem results_isSome_map (st : St) (i : Nat) :
    ((st.map ρ).results.getD i none).isSome = (st.results.getD i none).isSome := by
  simp only [St.map, List.getD_eq_getElem?_getD, List.getElem?_map]
  cases st.results[i]? with
  | none => rfl
  | some o => cases o <;> rfl

theorem isEdge_map (h : Renaming ρ) (m : Move) : Env.isEdge (m.map ρ) = Env.isEdge m := by
  simp [Env.isEdge, Move.map, h.eq_iff, h.zero]

theorem outIdx_map (h : Renaming ρ) (e : Env) (r : Reg) : (e.map ρ).outIdx (ρ r) = e.outIdx r := by
  simp only [Env.outIdx, Env.map, List.zipIdx_map, ← List.map_reverse, List.find?_map,
    Option.map_map]
  have : ((fun p : Move × Nat => decide (p.1.dst = ρ r)) ∘ Prod.map (Move.map ρ) id)
      = fun p : Move × Nat => decide (p.1.dst = r) := by
    funext p
    simp [Move.map, h.eq_iff]
  rw [this]
  cases List.find? (fun p : Move × Nat => decide (p.1.dst = r)) e.moves.zipIdx.reverse <;> rfl

theorem find?_map_move {p q : Move → Bool} (hpq : ∀ m, q (m.map ρ) = p m) (l : List Move) :
    (l.map (Move.map ρ)).find? q = (l.find? p).map (Move.map ρ) := by
  rw [List.find?_map, show q ∘ Move.map ρ = p from funext hpq]

theorem widthOf_map (h : Renaming ρ) (e : Env) (r : Reg) : (e.map ρ).widthOf (ρ r) = e.widthOf r := by
  simp only [Env.widthOf, Env.map, ← List.map_reverse]
  rw [find?_map_move (p := fun m => decide (m.src = r)) fun m => by simp [Move.map, h.eq_iff]]
  cases List.find? (fun m : Move => decide (m.src = r)) e.moves.reverse <;> rfl

theorem pred_map (h : Renaming ρ) (e : Env) (r : Reg) :
    (e.map ρ).pred (ρ r) = (e.pred r).map ρ := by
  simp only [Env.pred, Env.map, ← List.map_reverse]
  rw [find?_map_move (p := fun m => Env.isEdge m && decide (m.dst = r)) fun m => by
    rw [isEdge_map h]; simp [Move.map, h.eq_iff]]
  cases List.find? (fun m : Move => Env.isEdge m && decide (m.dst = r)) e.moves.reverse <;> rfl

theorem isLeaf_map (h : Renaming ρ) (e : Env) (r : Reg) : (e.map ρ).isLeaf (ρ r) = e.isLeaf r := by
  simp only [Env.isLeaf, Env.map, List.any_map]
  congr 2
  funext m
  simp only [Function.comp, isEdge_map h]
  simp [Move.map, h.eq_iff]

theorem freeOf_map (h : Renaming ρ) (e : Env) (k : Kind) :
    (e.map ρ).freeOf k = (e.freeOf k).map ρ := by
  simp only [Env.freeOf, Env.map, List.filter_map]
  congr 2
  funext r
  simp [Function.comp, h.kind]

theorem get_cmap (h : Renaming ρ) (c : Cnt) (r : Reg) : AL.get (cmap ρ c) (ρ r) = AL.get c r := by
  induction c with
  | nil => rfl
  | cons p c ih =>
    obtain ⟨k, v⟩ := p
    simp only [cmap, List.map_cons, AL.get] at ih ⊢
    by_cases hk : k = r
    · simp [hk]
    · have : ρ k ≠ ρ r := fun e => hk (h.inj _ _ e)
      simp only [hk, this, if_false]
      exact ih

theorem val_cmap (h : Renaming ρ) (c : Cnt) (r : Reg) : Cnt.val (cmap ρ c) (ρ r) = Cnt.val c r := by
  simp [Cnt.val, get_cmap h]

theorem del_cmap (h : Renaming ρ) (c : Cnt) (r : Reg) :
    AL.del (cmap ρ c) (ρ r) = cmap ρ (AL.del c r) := by
  induction c with
  | nil => rfl
  | cons p c ih =>
    obtain ⟨k, v⟩ := p
    simp only [cmap, List.map_cons, AL.del] at ih ⊢
    by_cases hk : k = r
    · simp only [hk, if_true]
      exact ih
    · have : ρ k ≠ ρ r := fun e => hk (h.inj _ _ e)
      simp only [hk, this, if_false, List.map_cons]
      rw [ih]

theorem set_cmap (h : Renaming ρ) (c : Cnt) (r : Reg) (v : Int) :
    AL.set (cmap ρ c) (ρ r) v = cmap ρ (AL.set c r v) := by
  simp only [AL.set, del_cmap h]
  rfl

/-!
Every loop of the model is built from the primitives above, so it commutes with `ρ` because they do:
induction along the model function's own recursion, and in each branch one `simp only` with the
commutation lemmas of the primitives that branch calls, the hypotheses of the branch (which reduce the
matches) and the induction hypothesis.  `+zetaDelta`: the model's `let`s arrive as local definitions. -/

/-- pairs `(index, move)` as produced by `enum` -/
def mapEnum (ρ : Reg → Reg) (l : List (Nat × Move)) : List (Nat × Move) :=
  l.map fun p => (p.1, p.2.map ρ)

theorem mapEnum_nil : mapEnum ρ [] = [] := rfl

theorem mapEnum_cons (i : Nat) (m : Move) (l : List (Nat × Move)) :
    mapEnum ρ ((i, m) :: l) = (i, ⟨ρ m.src, ρ m.dst, m.w⟩) :: mapEnum ρ l := rfl

theorem enum_map (l : List Move) : enum (l.map (Move.map ρ)) = mapEnum ρ (enum l) := by
  simp [enum, mapEnum, List.zipIdx_map, Function.comp_def]

theorem emap_ok {α β : Type} (f : α → β) (a : α) : emap f (.ok a) = .ok (f a) := rfl

theorem emap_error {α β : Type} (f : α → β) (x : Err) :
    emap f (.error x : Except Err α) = .error x := rfl

theorem val_src_map (r : Reg) : (⟨.src, ρ r⟩ : Val) = Val.map ρ ⟨.src, r⟩ := rfl

theorem Val.map_reg (v : Val) : (v.map ρ).reg = ρ v.reg := rfl

theorem Env.map_length (e : Env) : (e.map ρ).moves.length = e.moves.length := by simp [Env.map]

theorem Out.map_mk (st : St) :
    (⟨(st.map ρ).ops, (st.map ρ).results⟩ : Out) = Out.map ρ ⟨st.ops, st.results⟩ := rfl

theorem stage0_map (h : Renaming ρ) (e : Env) (l : List (Nat × Move)) (st : St) (c : Cnt) :
    stage0 (e.map ρ) (mapEnum ρ l) (st.map ρ) (cmap ρ c)
      = emap (fun p => (p.1.map ρ, cmap ρ p.2)) (stage0 e l st c) := by
  -- the branch hypotheses are equations between registers (`m.src = m.dst`, `m.dst = zero`): given to
  -- `simp` as rewrite rules they would change the goal away from the induction hypothesis, so each
  -- branch names them and uses them only to decide its `if`
  fun_induction stage0 e l st c with
  | case1 => rfl
  | case2 i m rest st c hs ih =>
    simp only [stage0, mapEnum_cons, h.eq_iff, if_pos hs, val_src_map, setResult_map, ih]
  | case3 i m rest st c hs hz x hx =>
    simp only [stage0, mapEnum_cons, h.eq_iff, h.zero, if_neg hs, if_pos hz, val_src_map,
      emitMv_map h, hx, emap_error]
  | case4 i m rest st c hs hz st' v hx ih =>
    simp only [stage0, mapEnum_cons, h.eq_iff, h.zero, if_neg hs, if_pos hz, val_src_map,
      emitMv_map h, hx, emap_ok, setResult_map, ih]
  | case5 i m rest st c hs hz ih =>
    simp only [stage0, mapEnum_cons, h.eq_iff, h.zero, if_neg hs, if_neg hz, val_cmap h,
      set_cmap h, ih]

theorem walkUp_map (h : Renaming ρ) (e : Env) (fuel : Nat) (d : Reg) (st : St) (c : Cnt) :
    walkUp (e.map ρ) fuel (ρ d) (st.map ρ) (cmap ρ c)
      = emap (fun p => (p.1.map ρ, cmap ρ p.2)) (walkUp e fuel d st c) := by
  fun_induction walkUp e fuel d st c <;>
    simp +zetaDelta only [walkUp, emap_ok, emap_error, pred_map h, val_src_map, emitMv_map h,
      widthOf_map h, outIdx_map h, results_isSome_map, setResult_map, val_cmap h, set_cmap h,
      Option.map_some, Option.map_none, if_true, if_false, ne_eq, not_false_eq_true,
      Bool.false_eq_true, *]

theorem stage1_map (h : Renaming ρ) (e : Env) (l : List Reg) (st : St) (c : Cnt) :
    stage1 (e.map ρ) (l.map ρ) (st.map ρ) (cmap ρ c)
      = emap (fun p => (p.1.map ρ, cmap ρ p.2)) (stage1 e l st c) := by
  fun_induction stage1 e l st c <;>
    simp +zetaDelta only [stage1, List.map_cons, List.map_nil, emap_ok, emap_error, isLeaf_map h,
      Env.map_length, walkUp_map h, if_true, if_false, Bool.false_eq_true, *]

theorem xorChain_map (h : Renaming ρ) (e : Env) (start : Reg) (fuel : Nat) (out inp : Val) (st : St) :
    xorChain (e.map ρ) (ρ start) fuel (out.map ρ) (inp.map ρ) (st.map ρ)
      = emap (St.map ρ) (xorChain e start fuel out inp st) := by
  fun_induction xorChain e start fuel out inp st <;>
    simp +zetaDelta only [xorChain, emap_ok, emap_error, Val.map_reg, h.eq_iff, outIdx_map h,
      pred_map h, emitSwap_map, setResult_map, val_src_map, Option.map_some, Option.map_none,
      if_true, if_false, *]

theorem tempWalk_map (h : Renaming ρ) (e : Env) (stop : Reg) (fuel : Nat) (d : Reg) (st : St) :
    tempWalk (e.map ρ) (ρ stop) fuel (ρ d) (st.map ρ) = emap (St.map ρ) (tempWalk e stop fuel d st) := by
  fun_induction tempWalk e stop fuel d st <;>
    simp +zetaDelta only [tempWalk, emap_ok, emap_error, h.eq_iff, pred_map h, val_src_map,
      emitMv_map h, widthOf_map h, outIdx_map h, setResult_map, Option.map_some, Option.map_none,
      if_true, if_false, *]

theorem stage2_map (h : Renaming ρ) (e : Env) (l : List (Nat × Move)) (st : St) :
    stage2 (e.map ρ) (mapEnum ρ l) (st.map ρ) = emap (St.map ρ) (stage2 e l st) := by
  fun_induction stage2 e l st <;>
    simp +zetaDelta only [stage2, mapEnum_cons, mapEnum_nil, List.map_cons, List.map_nil, h.kind,
      Env.map_length, emap_ok, emap_error, pred_map h, val_src_map, emitMv_map h, freeOf_map h,
      xorChain_map h, tempWalk_map h, results_isSome_map, setResult_map, Option.map_some,
      Option.map_none, if_true, if_false, ne_eq, not_false_eq_true, Bool.false_eq_true, *]

theorem lower_map (h : Renaming ρ) (moves : List Move) (free : List Reg) :
    lower (moves.map (Move.map ρ)) (free.map ρ) = emap (Out.map ρ) (lower moves free) := by
  have hall : ((moves.map (Move.map ρ)).all fun m => m.src.allocated && m.dst.allocated)
      = moves.all fun m => m.src.allocated && m.dst.allocated := by
    simp [List.all_map, Function.comp_def, Move.map, h.alloc]
  have henv : (⟨moves.map (Move.map ρ), free.map ρ⟩ : Env) = Env.map ρ ⟨moves, free⟩ := rfl
  have hst : ({ results := (moves.map (Move.map ρ)).map fun _ => none } : St)
      = St.map ρ { results := moves.map fun _ => none } := by
    simp [St.map, Function.comp_def]
  have hd : (moves.map (Move.map ρ)).map (·.dst) = (moves.map (·.dst)).map ρ := by
    simp [Function.comp_def, Move.map]
  have h0 := stage0_map h ⟨moves, free⟩ (enum moves) { results := moves.map fun _ => none } []
  rw [show cmap ρ ([] : Cnt) = [] from rfl] at h0
  fun_cases lower moves free <;>
    simp +zetaDelta only [lower, enum_map, stage1_map h, stage2_map h, emap_ok, emap_error,
      Out.map_mk, if_true, if_false, Bool.false_eq_true, *]

end Xdsl.ParallelMov
