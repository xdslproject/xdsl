import XdslModel.Dominance
import XdslProofs.Lemmas.Graph
import XdslProofs.Lemmas.List
/-!
Lemmas for C24 (dominance): the refinement loop of `DominanceInfo.__init__` keeps the path-based
dominator sets below the table (soundness) and shrinks the table (termination); a table on which a
pass changes nothing satisfies the dataflow equations, and such a table holds path-based dominators
only (completeness).
-/
namespace Xdsl.Dominance
open Xdsl.Graph

/-- "every path from the entry to `b` passes through `a`" -/
def PathDom (g : Graph) (a b : Nat) : Prop := ∀ l, Path g 0 b l → a ∈ l

theorem mem_refine {g : Graph} {d : Dom} {a b : Nat} :
    a ∈ refine g d b ↔ a < g.length ∧ (a = b ∨ ∀ p, Edge g p b → a ∈ d.getD p []) := by
  unfold refine
  simp only [List.mem_filter, List.mem_range, Bool.or_eq_true, beq_iff_eq, List.all_eq_true,
    List.contains_iff_mem, mem_preds]

/-- sum of the sizes of all dominator sets: the termination measure -/
def size (n : Nat) (d : Dom) : Nat := ((List.range n).map fun b => (d.getD b []).length).sum

structure Inv (g : Graph) (d : Dom) : Prop where
  len : d.length = g.length
  entry : d.getD 0 [] = [0]
  /-- soundness: path-based dominators are never removed (unreachable `b`: nothing is removed) -/
  sound : ∀ b, b < g.length → ∀ a, a < g.length → PathDom g a b → a ∈ d.getD b []
  /-- the table is a post-fixpoint: refining can only remove members -/
  post : ∀ b, 0 < b → b < g.length → ∀ a, a ∈ refine g d b → a ∈ d.getD b []
  /-- every set is stored as the increasing list of its members -/
  canon : ∀ b, b < g.length → ∃ p, d.getD b [] = (List.range g.length).filter p

/-- the dataflow equations hold at every non-entry block -/
def Fix (g : Graph) (d : Dom) : Prop := ∀ b, 0 < b → b < g.length → d.getD b [] = refine g d b

theorem getD_init {n b : Nat} (hb : b < n) :
    (init n).getD b [] = if b = 0 then [0] else List.range n := by
  unfold init
  rw [List.getD_eq_getElem?_getD, List.getElem?_map, List.getElem?_range hb]; rfl

theorem inv_init (g : Graph) (hn : 0 < g.length) : Inv g (init g.length) where
  len := by simp [init]
  entry := by rw [getD_init hn]; simp
  sound := by
    intro b hb a ha hp
    rw [getD_init hb]
    split
    · subst b; simpa using hp [0] .root
    · simpa using ha
  post := by
    intro b hb0 hb a ha
    rw [getD_init hb, if_neg (by omega)]
    simpa using (mem_refine.mp ha).1
  canon := by
    intro b hb
    rw [getD_init hb]
    split
    · refine ⟨fun a => a == 0, ?_⟩
      generalize g.length = n at hn
      cases n with
      | zero => omega
      | succ n => rw [List.range_succ_eq_map]; simp [List.filter_map, Function.comp_def]
    · exact ⟨fun _ => true, (List.filter_eq_self.mpr (fun _ _ => rfl)).symm⟩

theorem sublist_of_filter_range {n : Nat} {l₁ l₂ : List Nat} {p₁ p₂ : Nat → Bool}
    (h₁ : l₁ = (List.range n).filter p₁) (h₂ : l₂ = (List.range n).filter p₂)
    (h : ∀ a, a ∈ l₁ → a ∈ l₂) : l₁.Sublist l₂ := by
  have e : l₁ = (List.range n).filter fun a => p₁ a && p₂ a := by
    rw [h₁]
    apply List.filter_congr
    intro a ha
    by_cases hp : p₁ a = true
    · have : a ∈ l₂ := h a (by rw [h₁]; exact List.mem_filter.mpr ⟨ha, hp⟩)
      rw [h₂] at this
      simp [hp, (List.mem_filter.mp this).2]
    · simp [hp]
  rw [e, h₂, ← List.filter_filter]
  exact List.filter_sublist

/-- refining a row of a table that satisfies the invariant only removes members (both are increasing
lists, so this is a sublist) -/
theorem Inv.refine_sublist {g : Graph} {d : Dom} (hi : Inv g d) {b : Nat} (hb0 : 0 < b)
    (hb : b < g.length) : (refine g d b).Sublist (d.getD b []) := by
  obtain ⟨p, hp⟩ := hi.canon b hb
  exact sublist_of_filter_range rfl hp (hi.post b hb0 hb)

theorem Inv.set_refine {g : Graph} {d : Dom} (hi : Inv g d) {b : Nat} (hb0 : 0 < b)
    (hb : b < g.length) : Inv g (d.set b (refine g d b)) := by
  have hget : ∀ x, ((d.set b (refine g d b)).getD x []) = if x = b then refine g d b else d.getD x [] :=
    fun x => getD_set_of_lt (hi.len ▸ hb) x _ _
  have hmono : ∀ x a, a ∈ (d.set b (refine g d b)).getD x [] → a ∈ d.getD x [] := by
    intro x a ha
    rw [hget] at ha
    split at ha
    · subst x; exact (hi.refine_sublist hb0 hb).subset ha
    · exact ha
  refine ⟨by simp [hi.len], ?_, ?_, ?_, ?_⟩
  · rw [hget, if_neg (by omega)]; exact hi.entry
  · intro x hx a ha hp
    rw [hget]
    split
    · subst x
      refine mem_refine.mpr ⟨ha, ?_⟩
      by_cases hab : a = b
      · exact Or.inl hab
      · right
        intro p e
        apply hi.sound p (edge_src_lt e) a ha
        intro l hl
        have := hp _ (.snoc hl e)
        simpa [hab] using this
    · exact hi.sound x hx a ha hp
  · intro x hx0 hx a ha
    have ha' : a ∈ refine g d x := by
      rw [mem_refine] at ha ⊢
      exact ⟨ha.1, ha.2.imp id fun h p e => hmono _ _ (h p e)⟩
    rw [hget]
    split
    · subst x; exact ha'
    · exact hi.post x hx0 hx a ha'
  · intro x hx
    rw [hget]
    split
    · exact ⟨_, rfl⟩
    · exact hi.canon x hx

/-- One pass `for b in bs: a = f a b; changed |= t a b` of a `while changed` loop.  If every update
keeps `P`, is the identity where `t` says "no change" and lowers `μ` where `t` says "change", then the
pass keeps `P`, its flag says exactly whether `μ` went down, and if it did not the state is the old one
and `t` is false at every `b`. -/
theorem foldl_changed {α β : Type} (f : α → β → α) (t : α → β → Bool) (P : α → Prop) (μ : α → Nat)
    (bs : List β)
    (h : ∀ a, P a → ∀ b ∈ bs, P (f a b) ∧ (t a b = false → f a b = a) ∧ (t a b = true → μ (f a b) < μ a)) :
    ∀ (a : α) (c : Bool), P a → ∀ r, bs.foldl (fun acc b => (f acc.1 b, acc.2 || t acc.1 b)) (a, c) = r →
      P r.1 ∧ (r.2 = true ↔ c = true ∨ μ r.1 < μ a)
      ∧ (μ r.1 < μ a ∨ r.1 = a ∧ ∀ b ∈ bs, t a b = false) := by
  induction bs with
  | nil => rintro a c hP _ rfl; simp [hP]
  | cons b bs ih =>
    intro a c hP r hr
    obtain ⟨hP', hid, hlt⟩ := h a hP b List.mem_cons_self
    obtain ⟨i1, i2, i3⟩ := ih (fun a hP b hb => h a hP b (List.mem_cons_of_mem _ hb)) _ _ hP' r hr
    refine ⟨i1, ?_⟩
    by_cases ht : t a b = true
    · have : μ r.1 < μ a := by
        have := hlt ht
        rcases i3 with h | ⟨e, _⟩
        · omega
        · rwa [e]
      exact ⟨⟨fun _ => Or.inr this, fun _ => i2.2 (Or.inl (by simp [ht]))⟩, Or.inl this⟩
    · have ht : t a b = false := by simpa using ht
      simp only [hid ht, ht, Bool.or_false] at i2 i3
      exact ⟨i2, i3.imp id fun ⟨e, hall⟩ => ⟨e, fun x hx => by
        rcases List.mem_cons.mp hx with rfl | hx
        · exact ht
        · exact hall x hx⟩⟩

theorem sum_map_mono (l : List Nat) (f h : Nat → Nat) (hle : ∀ i ∈ l, f i ≤ h i) :
    (l.map f).sum ≤ (l.map h).sum ∧ ((∃ i ∈ l, f i < h i) → (l.map f).sum < (l.map h).sum) := by
  induction l with
  | nil => exact ⟨Nat.le_refl _, fun ⟨_, hi, _⟩ => nomatch hi⟩
  | cons a l ih =>
    obtain ⟨ih1, ih2⟩ := ih fun i hi => hle i (List.mem_cons_of_mem _ hi)
    have ha := hle a List.mem_cons_self
    simp only [List.map_cons, List.sum_cons]
    refine ⟨by omega, fun ⟨i, hi, hlt⟩ => ?_⟩
    rcases List.mem_cons.mp hi with rfl | hi
    · omega
    · have := ih2 ⟨i, hi, hlt⟩; omega

theorem size_set_lt {n : Nat} {d : Dom} {b : Nat} {x : List Nat} (hb : b < n) (hbl : b < d.length)
    (hsub : x.Sublist (d.getD b [])) (hne : d.getD b [] ≠ x) : size n (d.set b x) < size n d := by
  have hget : ∀ i, (d.set b x).getD i [] = if i = b then x else d.getD i [] := fun i => getD_set_of_lt hbl i _ _
  refine (sum_map_mono _ _ _ fun i _ => ?_).2 ⟨b, List.mem_range.mpr hb, ?_⟩
  · rw [hget]; split
    · subst i; exact hsub.length_le
    · exact Nat.le_refl _
  · rw [hget, if_pos rfl]
    exact Nat.lt_of_le_of_ne hsub.length_le fun e => hne (hsub.eq_of_length e).symm

/-- refining one row: the three things `foldl_changed` asks of an update -/
theorem Inv.visit {g : Graph} {d : Dom} (hi : Inv g d) {b : Nat} (hb0 : 0 < b) (hb : b < g.length) :
    Inv g (d.set b (refine g d b))
    ∧ ((d.getD b [] != refine g d b) = false → d.set b (refine g d b) = d)
    ∧ ((d.getD b [] != refine g d b) = true → size g.length (d.set b (refine g d b)) < size g.length d) := by
  have hbl : b < d.length := hi.len ▸ hb
  refine ⟨hi.set_refine hb0 hb, fun ht => ?_, fun ht => ?_⟩
  · rw [← bne_eq_false_iff_eq.1 ht, List.getD_eq_getElem?_getD, List.getElem?_eq_getElem hbl]
    exact List.set_getElem_self hbl
  · exact size_set_lt hb hbl (hi.refine_sublist hb0 hb) (bne_iff_ne.1 ht)

theorem sweep_spec {g : Graph} {d : Dom} (hi : Inv g d) :
    Inv g (sweep g d).1
    ∧ ((sweep g d).2 = true ↔ size g.length (sweep g d).1 < size g.length d)
    ∧ (size g.length (sweep g d).1 < size g.length d ∨ (sweep g d).1 = d ∧ Fix g d) := by
  have hbs : ∀ b ∈ List.range' 1 (g.length - 1), 0 < b ∧ b < g.length := by
    intro b hb; rw [List.mem_range'_1] at hb; omega
  -- `visit g` unfolds to `fun acc b => (f acc.1 b, acc.2 || t acc.1 b)` for the `f`, `t` below: the last `rfl`
  obtain ⟨h1, h2, h3⟩ := foldl_changed (fun d b => d.set b (refine g d b))
    (fun d b => d.getD b [] != refine g d b) (Inv g) (size g.length) _
    (fun d hi b hb => hi.visit (hbs b hb).1 (hbs b hb).2) d false hi (sweep g d) rfl
  refine ⟨h1, h2.trans (or_iff_right Bool.false_ne_true), h3.imp id fun ⟨e, hall⟩ => ⟨e, fun b hb0 hb => ?_⟩⟩
  exact bne_eq_false_iff_eq.1 (hall b (by rw [List.mem_range'_1]; omega))

theorem iterate_spec {g : Graph} : ∀ (fuel : Nat) (d : Dom), Inv g d → size g.length d < fuel →
    (iterate g fuel d).2 = true ∧ Inv g (iterate g fuel d).1 ∧ Fix g (iterate g fuel d).1 := by
  intro fuel
  induction fuel with
  | zero => intro d _ h; omega
  | succ fuel ih =>
    intro d hi hf
    obtain ⟨s1, s2, s3⟩ := sweep_spec hi
    unfold iterate
    simp only
    rcases s3 with hlt | ⟨e, hfix⟩
    · rw [if_pos (s2.2 hlt)]
      exact ih _ s1 (by omega)
    · rw [if_neg (fun h => by have := s2.1 h; rw [e] at this; omega), e]
      exact ⟨rfl, hi, hfix⟩

theorem iterate_diverges {g : Graph} (S : Dom → Prop)
    (h : ∀ d, S d → (sweep g d).2 = true ∧ S (sweep g d).1) :
    ∀ (fuel : Nat) (d : Dom), S d → (iterate g fuel d).2 = false := by
  intro fuel
  induction fuel with
  | zero => exact fun _ _ => rfl
  | succ fuel ih =>
    intro d hd
    unfold iterate
    simp only
    rw [if_pos (h d hd).1]
    exact ih _ (h d hd).2

theorem size_le {g : Graph} {d : Dom} (hi : Inv g d) : size g.length d ≤ g.length * g.length := by
  have := (sum_map_mono (List.range g.length) (fun b => (d.getD b []).length) (fun _ => g.length) (by
    intro b hb
    obtain ⟨p, hp⟩ := hi.canon b (List.mem_range.mp hb)
    simp only [hp]
    exact Nat.le_trans (List.length_filter_le _ _) (Nat.le_of_eq List.length_range))).1
  rwa [List.map_const', List.sum_replicate_nat, List.length_range] at this

/-- completeness: a table satisfying the equations only contains path-based dominators -/
theorem fix_complete {g : Graph} {d : Dom} (he : d.getD 0 [] = [0]) (hf : Fix g d) {a b : Nat}
    {l : List Nat} (hp : Path g 0 b l) : b < g.length → a ∈ d.getD b [] → a ∈ l := by
  induction hp with
  | root => intro _ ha; rw [he] at ha; exact ha
  | @snoc u v l hp e ih =>
    intro hv ha
    by_cases hv0 : v = 0
    · subst hv0
      rw [he] at ha
      have : a = 0 := by simpa using ha
      subst this
      exact List.mem_append_left _ hp.root_mem
    · rw [hf v (by omega) hv, mem_refine] at ha
      rcases ha.2 with rfl | h
      · simp
      · exact List.mem_append_left _ (ih (edge_src_lt e) (h u e))

theorem Inv.dominates_iff {g : Graph} {d : Dom} (hi : Inv g d) (hf : Fix g d) {a b : Nat}
    (hb : b < g.length) : dominates d a b = true ↔ a < g.length ∧ PathDom g a b := by
  unfold dominates
  rw [List.contains_iff_mem]
  refine ⟨fun hm => ⟨?_, fun l hl => fix_complete hi.entry hf hl hb hm⟩, fun ⟨ha, hp⟩ => hi.sound b hb a ha hp⟩
  obtain ⟨p, hp⟩ := hi.canon b hb
  rw [hp] at hm
  exact List.mem_range.mp (List.mem_filter.mp hm).1

/-- one direction of order independence; `Relabel.pathDom_iff` gets the other one from `Relabel.symm` -/
theorem _root_.Xdsl.Graph.Relabel.pathDom_of_map {g g' : Graph} {π σ : Nat → Nat} (h : Relabel g g' π σ)
    (h0 : π 0 = 0) {a b : Nat} (ha : a < g.length) (hb : b < g.length)
    (hd : PathDom g' (π a) (π b)) : PathDom g a b := by
  intro l hl
  have hp := h.path hl
  rw [h0] at hp
  obtain ⟨x, hx, hxa⟩ := List.mem_map.mp (hd _ hp)
  have hxlt : x < g.length := hl.lt hb x hx
  have : x = a := by rw [← h.left x hxlt, hxa, h.left a ha]
  exact this ▸ hx

theorem _root_.Xdsl.Graph.Relabel.pathDom_iff {g g' : Graph} {π σ : Nat → Nat} (h : Relabel g g' π σ)
    (hwf : WF g) (h0 : π 0 = 0) {a b : Nat} (ha : a < g.length) (hb : b < g.length) :
    PathDom g' (π a) (π b) ↔ PathDom g a b := by
  have hn : 0 < g.length := by omega
  have h0' : σ 0 = 0 := by have := h.left 0 hn; rwa [h0] at this
  refine ⟨h.pathDom_of_map h0 ha hb, fun hd => ?_⟩
  have := (h.symm hwf).pathDom_of_map (a := π a) (b := π b) h0' (h.len ▸ h.lt a ha) (h.len ▸ h.lt b hb)
  rw [h.left a ha, h.left b hb] at this
  exact this hd

end Xdsl.Dominance
