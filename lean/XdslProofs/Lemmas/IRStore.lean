import XdslProofs.Lemmas.DLL
import XdslProofs.Lemmas.Except
import XdslModel.IRApi
/-!
# Lemmas for the IR store model (`XdslModel/IRStore.lean`, `XdslModel/IRApi.lean`) — C01

* `InvA s a`: the consistency invariant of the store `s` relative to the abstract state `a`
  (the four families of lists the intrusive pointers represent; they can only be the traversals, `InvA.abs_eq`);
* every field of `InvA` reads only a few components of the store, so there is one frame lemma per
  component that a call can write (`InvA.of_opL`, `of_blockL`, `of_vals`, `setArgs`, `setOp`), each under
  the weakest hypothesis that keeps the fields reading that component; the registration clauses only need
  that ids are never removed from the tables (`Mono`);
* `Succ s s'` (consistent, and every id of `s` still registered) is the postcondition of every model function:
  `Sat (s.f args) (Succ s)` on a consistent `s`, under registration facts about the arguments.  The rules of
  `Sat` (`Lemmas/Except.lean`) with `Sat.andThen`, `Sat.forIn`, `Sat.after` let the proof of a composite method
  follow its `do` block; what was registered at the start reaches a later store through `Succ.mono`;
* per list method of `Block` and `Region` (and the `Rewriter`/`PatternRewriter` insertions that resolve to
  them): that specification, from the frame lemmas and the `DLL.WF` lemma of the primitive (`InvA.setOpsOf`,
  `InvA.setBlocksOf`: one list of one family is rewritten, its new members are old members or registered);
* `Block(arg_types=…)`, `Region()`, `Block.split_before`: the calls that add an entry to the block or region
  table;
* `Reg`, `allRefs`: the registered objects as one list, the carrier of the pigeonholes that bound the fuel of the two
  walks over the parent relation (`subtreeOf` downwards, `isAncestor` upwards); an object with a parent is registered
  (`reg_of_parent`).
-/
namespace Xdsl.IR
open Xdsl Xdsl.DLL

/-- the lists represented by the four families of intrusive pointers -/
structure Abs where
  ops : Nat → List Nat
  blocks : Nat → List Nat
  vuses : Nat → List Nat
  buses : Nat → List Nat

/-- use lists `f` (of values or of blocks) hold exactly the positions `pos` of all operations;
`uid` are the `Use` objects of those positions -/
structure UseInv (s : IRStore) (pos uid : OpData → List Nat) (f : Nat → List Nat) : Prop where
  len : ∀ o d, AL.get s.ops o = some d → (uid d).length = (pos d).length
  fwd : ∀ o d i u v, AL.get s.ops o = some d → (uid d)[i]? = some u → (pos d)[i]? = some v →
    s.use! u = (o, i) ∧ u ∈ f v
  bwd : ∀ v u, u ∈ f v → ∃ d, AL.get s.ops (s.use! u).1 = some d ∧
    (uid d)[(s.use! u).2]? = some u ∧ (pos d)[(s.use! u).2]? = some v
  lt : ∀ v u, u ∈ f v → u < s.nextUse

def regO (s : IRStore) (o : Nat) : Prop := (AL.get s.ops o).isSome
def regB (s : IRStore) (b : Nat) : Prop := (AL.get s.blocks b).isSome
def regR (s : IRStore) (r : Nat) : Prop := (AL.get s.regions r).isSome

structure InvA (s : IRStore) (a : Abs) : Prop where
  opL : WF s.opL a.ops
  blockL : WF s.blockL a.blocks
  vuseL : WF s.vuseL a.vuses
  buseL : WF s.buseL a.buses
  operandUses : UseInv s (·.operands) (·.operandUses) a.vuses
  successorUses : UseInv s (·.successors) (·.successorUses) a.buses
  results : ∀ o d i v, AL.get s.ops o = some d → d.results[i]? = some v →
    AL.get s.vals v = some { kind := .result, owner := o, index := i }
  args : ∀ b d i v, AL.get s.blocks b = some d → d.args[i]? = some v →
    AL.get s.vals v = some { kind := .arg, owner := b, index := i }
  regions : ∀ o d, AL.get s.ops o = some d → d.regions.Nodup ∧ ∀ r ∈ d.regions, s.regionParent r = some o
  regionParent : ∀ r o, s.regionParent r = some o → ∃ d, AL.get s.ops o = some d ∧ r ∈ d.regions
  regOps : ∀ b o, o ∈ a.ops b → regO s o ∧ regB s b
  regBlocks : ∀ r b, b ∈ a.blocks r → regB s b ∧ regR s r

/-- the consistency invariant of C01 -/
def Inv (s : IRStore) : Prop := ∃ a, InvA s a

theorem invA_empty : InvA {} ⟨fun _ => [], fun _ => [], fun _ => [], fun _ => []⟩ where
  opL := wf_empty
  blockL := wf_empty
  vuseL := wf_empty
  buseL := wf_empty
  operandUses := ⟨nofun, nofun, nofun, nofun⟩
  successorUses := ⟨nofun, nofun, nofun, nofun⟩
  results := nofun
  args := nofun
  regions := nofun
  regionParent := nofun
  regOps := nofun
  regBlocks := nofun

def absOf (s : IRStore) : Abs :=
  ⟨fun b => s.opL.toList b, fun r => s.blockL.toList r, fun v => s.vuseL.toList v, fun b => s.buseL.toList b⟩

/-- the four families of lists are the traversals (so the witness of `Inv s` is unique) -/
theorem InvA.abs_eq {s : IRStore} {a : Abs} (h : InvA s a) : a = absOf s := by
  obtain ⟨o, b, v, u⟩ := a
  have h1 : o = _ := h.opL.eq_toList
  have h2 : b = _ := h.blockL.eq_toList
  have h3 : v = _ := h.vuseL.eq_toList
  have h4 : u = _ := h.buseL.eq_toList
  subst h1 h2 h3 h4
  rfl

open IRStore

/-! ### the id tables

`InvA` reads the tables through `AL.get`; the model writes them through `AL.set`.  An id is never
removed from a table (`Mono`); the accessors `op!`/`block!` return the empty record for an id that has
no entry, so a statement about `s.op! o` covers registered and unregistered ids alike. -/

theorem op!_of_get {s : IRStore} {o : Nat} {d : OpData} (h : AL.get s.ops o = some d) : s.op! o = d := by
  simp [IRStore.op!, h]

theorem block!_of_get {s : IRStore} {b : Nat} {d : BlockData} (h : AL.get s.blocks b = some d) :
    s.block! b = d := by
  simp [IRStore.block!, h]

theorem op!_of_not_reg {s : IRStore} {o : Nat} (h : AL.get s.ops o = none) : s.op! o = {} := by
  simp [IRStore.op!, h]

theorem block!_of_not_reg {s : IRStore} {b : Nat} (h : AL.get s.blocks b = none) : s.block! b = {} := by
  simp [IRStore.block!, h]

structure Mono (s s' : IRStore) : Prop where
  o : ∀ k, regO s k → regO s' k
  b : ∀ k, regB s k → regB s' k
  r : ∀ k, regR s k → regR s' k

theorem Mono.refl (s : IRStore) : Mono s s := ⟨fun _ h => h, fun _ h => h, fun _ h => h⟩
theorem Mono.trans {s1 s2 s3 : IRStore} (h1 : Mono s1 s2) (h2 : Mono s2 s3) : Mono s1 s3 :=
  ⟨fun k h => h2.o k (h1.o k h), fun k h => h2.b k (h1.b k h), fun k h => h2.r k (h1.r k h)⟩

structure Same (s s' : IRStore) : Prop where
  ops : s'.ops = s.ops
  blocks : s'.blocks = s.blocks
  regions : s'.regions = s.regions

theorem Same.mono {s s' : IRStore} (h : Same s s') : Mono s s' := by
  refine ⟨fun _ hk => ?_, fun _ hk => ?_, fun _ hk => ?_⟩
  · unfold IR.regO at *; rwa [h.ops]
  · unfold IR.regB at *; rwa [h.blocks]
  · unfold IR.regR at *; rwa [h.regions]

theorem Mono.of_tables {s s' : IRStore} (ho : s'.ops = s.ops) (hb : s'.blocks = s.blocks)
    (hr : s'.regions = s.regions) : Mono s s' := Same.mono ⟨ho, hb, hr⟩

theorem Mono.setOp (s : IRStore) (o : Nat) (d : OpData) : Mono s (s.setOp o d) :=
  ⟨fun _ h => AL.isSome_get_set o d h, fun _ h => h, fun _ h => h⟩
theorem Mono.setBlock (s : IRStore) (b : Nat) (d : BlockData) : Mono s (s.setBlock b d) :=
  ⟨fun _ h => h, fun _ h => AL.isSome_get_set b d h, fun _ h => h⟩
theorem Mono.setRegion (s : IRStore) (r : Nat) (d : RegionData) : Mono s (s.setRegion r d) :=
  ⟨fun _ h => h, fun _ h => h, fun _ h => AL.isSome_get_set r d h⟩

theorem Mono.of_setOp {s s' : IRStore} {o : Nat} {d : OpData} (ho : s'.ops = AL.set s.ops o d)
    (hb : s'.blocks = s.blocks) (hr : s'.regions = s.regions) : Mono s s' :=
  (Mono.setOp s o d).trans (Mono.of_tables ho hb hr)

theorem Mono.of_setBlock {s s' : IRStore} {b : Nat} {d : BlockData} (ho : s'.ops = s.ops)
    (hb : s'.blocks = AL.set s.blocks b d) (hr : s'.regions = s.regions) : Mono s s' :=
  (Mono.setBlock s b d).trans (Mono.of_tables ho hb hr)

theorem liveO_reg {s : IRStore} {k : Nat} (h : s.liveO k = true) : regO s k := by
  simp [IRStore.liveO] at h; exact h.1
theorem liveB_reg {s : IRStore} {k : Nat} (h : s.liveB k = true) : regB s k := by
  simp [IRStore.liveB] at h; exact h.1
theorem liveR_reg {s : IRStore} {k : Nat} (h : s.liveR k = true) : regR s k := by
  simp [IRStore.liveR] at h; exact h.1

/-! ### the one postcondition of every call

`Succ s s'`: `s'` is consistent and every id registered in `s` is registered in `s'`.  On a consistent `s` every
model function `f` satisfies `Sat (s.f …) (Succ s)`.  `Succ` is a preorder, which is what the rules for a step
and a loop of a `do` block use; what was registered at the start is carried to a later store by `mono`. -/

structure Succ (s s' : IRStore) : Prop where
  inv : Inv s'
  mono : Mono s s'

theorem Succ.refl {s : IRStore} (h : Inv s) : Succ s s := ⟨h, Mono.refl s⟩

theorem Succ.trans {s t u : IRStore} (h1 : Succ s t) (h2 : Succ t u) : Succ s u :=
  ⟨h2.inv, h1.mono.trans h2.mono⟩

theorem _root_.Xdsl.Sat.after {s t : IRStore} {r : R} (h : Sat r (Succ t)) (h0 : Succ s t) : Sat r (Succ s) :=
  h.imp fun _ hu => h0.trans hu

theorem _root_.Xdsl.Sat.andThen {s : IRStore} {r : R} {k : IRStore → R} (h : Sat r (Succ s))
    (hk : ∀ t, Succ s t → Sat (k t) (Succ t)) : Sat (r >>= k) (Succ s) :=
  h.bind fun t ht => (hk t ht).after ht

theorem _root_.Xdsl.Sat.forIn {α : Type} {s : IRStore} {f : IRStore → α → R} {l : List α} (h : Inv s)
    (step : ∀ t x, x ∈ l → Succ s t → Sat (f t x) (Succ t)) : Sat (l.foldlM f s) (Succ s) :=
  Sat.foldlM (Succ s) (fun t x hx ht => (step t x hx ht).after ht) (Succ.refl h)

theorem UseInv.congr {s s' : IRStore} {pos uid : OpData → List Nat} {f : Nat → List Nat}
    (h : UseInv s pos uid f) (hops : s'.ops = s.ops) (huses : s'.uses = s.uses)
    (hnu : s'.nextUse = s.nextUse) : UseInv s' pos uid f := by
  have hu : ∀ u, s'.use! u = s.use! u := fun u => by unfold IRStore.use!; rw [huses]
  refine ⟨fun o d hd => h.len o d (hops ▸ hd), fun o d i u v hd => ?_, fun v u hm => ?_,
    fun v u hm => hnu ▸ h.lt v u hm⟩
  · rw [hu]; exact h.fwd o d i u v (hops ▸ hd)
  · rw [hu, hops]; exact h.bwd v u hm

theorem InvA.of_opL {s : IRStore} {a : Abs} (h : InvA s a) {l : L} {f : Nat → List Nat}
    (hwf : WF l f) (hreg : ∀ b o, o ∈ f b → regO s o ∧ regB s b) :
    InvA { s with opL := l } { a with ops := f } where
  opL := hwf
  blockL := h.blockL
  vuseL := h.vuseL
  buseL := h.buseL
  operandUses := h.operandUses.congr rfl rfl rfl
  successorUses := h.successorUses.congr rfl rfl rfl
  results := h.results
  args := h.args
  regions := h.regions
  regionParent := h.regionParent
  regOps := hreg
  regBlocks := h.regBlocks

theorem InvA.of_blockL {s : IRStore} {a : Abs} (h : InvA s a) {l : L} {f : Nat → List Nat}
    (hwf : WF l f) (hreg : ∀ r b, b ∈ f r → regB s b ∧ regR s r) :
    InvA { s with blockL := l } { a with blocks := f } where
  opL := h.opL
  blockL := hwf
  vuseL := h.vuseL
  buseL := h.buseL
  operandUses := h.operandUses.congr rfl rfl rfl
  successorUses := h.successorUses.congr rfl rfl rfl
  results := h.results
  args := h.args
  regions := h.regions
  regionParent := h.regionParent
  regOps := h.regOps
  regBlocks := hreg

/-- the bookkeeping of dead objects is not part of the invariant -/
theorem InvA.of_deadV {s : IRStore} {a : Abs} (h : InvA s a) (l : List Nat) : InvA { s with deadV := l } a where
  opL := h.opL
  blockL := h.blockL
  vuseL := h.vuseL
  buseL := h.buseL
  operandUses := h.operandUses.congr rfl rfl rfl
  successorUses := h.successorUses.congr rfl rfl rfl
  results := h.results
  args := h.args
  regions := h.regions
  regionParent := h.regionParent
  regOps := h.regOps
  regBlocks := h.regBlocks

theorem Inv.of_deadV {s : IRStore} (h : Inv s) (l : List Nat) : Inv { s with deadV := l } := by
  obtain ⟨a, ha⟩ := h; exact ⟨a, ha.of_deadV l⟩

theorem Succ.of_deadV {s t : IRStore} (h : Succ s t) (l : List Nat) : Succ s { t with deadV := l } :=
  ⟨h.inv.of_deadV l, ⟨h.mono.o, h.mono.b, h.mono.r⟩⟩

theorem _root_.Xdsl.Sat.thenDead {s : IRStore} {r : R} (h : Sat r (Succ s)) (f : IRStore → List Nat) :
    Sat (r >>= fun t => Pure.pure { t with deadV := f t }) (Succ s) :=
  h.bind fun t ht => Sat.pure (ht.of_deadV (f t))

theorem InvA.of_vals {s : IRStore} {a : Abs} (h : InvA s a) (m : AL Nat ValData)
    (keep : ∀ v d, AL.get s.vals v = some d → AL.get m v = some d) : InvA { s with vals := m } a where
  opL := h.opL
  blockL := h.blockL
  vuseL := h.vuseL
  buseL := h.buseL
  operandUses := h.operandUses.congr rfl rfl rfl
  successorUses := h.successorUses.congr rfl rfl rfl
  results := fun o d i v hd hv => keep v _ (h.results o d i v hd hv)
  args := fun b d i v hd hv => keep v _ (h.args b d i v hd hv)
  regions := h.regions
  regionParent := h.regionParent
  regOps := h.regOps
  regBlocks := h.regBlocks

/-- `b` need not be registered: `mkBlock` creates the entry of a block through this -/
theorem InvA.setArgs {s : IRStore} {a : Abs} (h : InvA s a) (b : Nat) (args : List Nat) (m : AL Nat ValData)
    (keep : ∀ v d, AL.get s.vals v = some d → (d.kind = .arg → d.owner ≠ b) → AL.get m v = some d)
    (hargs : ∀ j w, args[j]? = some w → AL.get m w = some { kind := .arg, owner := b, index := j }) :
    InvA { s with blocks := AL.set s.blocks b { args := args }, vals := m } a where
  opL := h.opL
  blockL := h.blockL
  vuseL := h.vuseL
  buseL := h.buseL
  operandUses := h.operandUses.congr rfl rfl rfl
  successorUses := h.successorUses.congr rfl rfl rfl
  results := fun o d i v hd hv => keep v _ (h.results o d i v hd hv) nofun
  args := fun b' d i v hd hv => by
    rcases AL.get_set_eq_some.mp hd with ⟨rfl, rfl⟩ | ⟨hne, hd⟩
    · exact hargs i v hv
    · exact keep v _ (h.args b' d i v hd hv) fun _ => hne
  regions := h.regions
  regionParent := h.regionParent
  regOps := fun c o ho => ⟨(h.regOps c o ho).1, AL.isSome_get_set _ _ (h.regOps c o ho).2⟩
  regBlocks := fun r x hx => ⟨AL.isSome_get_set _ _ (h.regBlocks r x hx).1, (h.regBlocks r x hx).2⟩

theorem InvA.results! {s : IRStore} {a : Abs} (h : InvA s a) {o i v : Nat}
    (hv : (s.op! o).results[i]? = some v) :
    AL.get s.vals v = some { kind := .result, owner := o, index := i } := by
  cases hd : AL.get s.ops o with
  | none => rw [op!_of_not_reg hd] at hv; cases hv
  | some d => rw [op!_of_get hd] at hv; exact h.results o d i v hd hv

theorem InvA.args! {s : IRStore} {a : Abs} (h : InvA s a) {b i v : Nat}
    (hv : (s.block! b).args[i]? = some v) :
    AL.get s.vals v = some { kind := .arg, owner := b, index := i } := by
  cases hd : AL.get s.blocks b with
  | none => rw [block!_of_not_reg hd] at hv; cases hv
  | some d => rw [block!_of_get hd] at hv; exact h.args b d i v hd hv

theorem InvA.regions! {s : IRStore} {a : Abs} (h : InvA s a) (o : Nat) :
    (s.op! o).regions.Nodup ∧ ∀ r, r ∈ (s.op! o).regions ↔ s.regionParent r = some o := by
  cases hd : AL.get s.ops o with
  | none =>
    rw [op!_of_not_reg hd]
    refine ⟨List.nodup_nil, fun r => ⟨nofun, fun hp => ?_⟩⟩
    obtain ⟨d, hd', _⟩ := h.regionParent r o hp
    rw [hd] at hd'; cases hd'
  | some d =>
    rw [op!_of_get hd]
    refine ⟨(h.regions o d hd).1, fun r => ⟨(h.regions o d hd).2 r, fun hp => ?_⟩⟩
    obtain ⟨d', hd', hr⟩ := h.regionParent r o hp
    rw [hd] at hd'; cases hd'; exact hr

/-- The entry of operation `o` is replaced by `d'` (or created) and the lists change from `f` to `f2`: the
old `Use` records are kept, the uses held by other operations stay in their lists, and apart from those the
lists hold exactly the positions of `d'`. -/
theorem UseInv.setEntry {s s' : IRStore} {pos uid : OpData → List Nat} {f f2 : Nat → List Nat}
    (h : UseInv s pos uid f) {o : Nat} {d' : OpData}
    (hops : s'.ops = AL.set s.ops o d') (hold : ∀ u, u < s.nextUse → s'.use! u = s.use! u)
    (hnu : s.nextUse ≤ s'.nextUse) (hlen : (uid d').length = (pos d').length)
    (hnew : ∀ i u v, (uid d')[i]? = some u → (pos d')[i]? = some v →
      s'.use! u = (o, i) ∧ u ∈ f2 v ∧ u < s'.nextUse)
    (hkeep : ∀ v u, u ∈ f v → (s.use! u).1 ≠ o → u ∈ f2 v)
    (hf2 : ∀ v u, u ∈ f2 v → (u ∈ f v ∧ (s.use! u).1 ≠ o) ∨
      ∃ i : Nat, (uid d')[i]? = some u ∧ (pos d')[i]? = some v) :
    UseInv s' pos uid f2 := by
  refine ⟨fun o' d'' h1 => ?_, fun o' d'' i u v h1 h2 h3 => ?_, fun v u hm => ?_, fun v u hm => ?_⟩
  · rw [hops] at h1
    rcases AL.get_set_eq_some.mp h1 with ⟨rfl, rfl⟩ | ⟨_, h1⟩
    · exact hlen
    · exact h.len o' d'' h1
  · rw [hops] at h1
    rcases AL.get_set_eq_some.mp h1 with ⟨rfl, rfl⟩ | ⟨hne, h1⟩
    · exact ⟨(hnew i u v h2 h3).1, (hnew i u v h2 h3).2.1⟩
    · obtain ⟨e1, e2⟩ := h.fwd o' d'' i u v h1 h2 h3
      rw [hold u (h.lt v u e2)]
      exact ⟨e1, hkeep v u e2 (by rw [e1]; exact hne)⟩
  · rcases hf2 v u hm with ⟨hm', ho⟩ | ⟨i, h2, h3⟩
    · obtain ⟨d0, h0, h1, h2⟩ := h.bwd v u hm'
      rw [hold u (h.lt v u hm'), hops]
      exact ⟨d0, by rw [AL.get_set, if_neg ho]; exact h0, h1, h2⟩
    · rw [(hnew i u v h2 h3).1, hops]
      exact ⟨d', by rw [AL.get_set, if_pos rfl], h2, h3⟩
  · rcases hf2 v u hm with ⟨hm', _⟩ | ⟨i, h2, h3⟩
    · exact Nat.lt_of_lt_of_le (h.lt v u hm') hnu
    · exact (hnew i u v h2 h3).2.2

/-- Rewriting the data of one operation without touching the positions of this family (also: a first
entry, without positions, for an id that had none). -/
theorem UseInv.setOp_same {s s' : IRStore} {pos uid : OpData → List Nat} {f : Nat → List Nat}
    (h : UseInv s pos uid f) {o : Nat} {d' : OpData}
    (hpos : pos d' = pos (s.op! o)) (huid : uid d' = uid (s.op! o)) (hp0 : pos {} = []) (hu0 : uid {} = [])
    (hops : s'.ops = AL.set s.ops o d') (huses : ∀ u, u < s.nextUse → s'.use! u = s.use! u)
    (hnu : s.nextUse ≤ s'.nextUse) :
    UseInv s' pos uid f := by
  refine h.setEntry hops huses hnu ?_ (fun i u v h2 h3 => ?_) (fun v u hm _ => hm) (fun v u hm => ?_)
  · rw [hpos, huid]
    cases hd : AL.get s.ops o with
    | none => rw [op!_of_not_reg hd, hp0, hu0]
    | some d => rw [op!_of_get hd]; exact h.len o d hd
  · rw [huid] at h2; rw [hpos] at h3
    cases hd : AL.get s.ops o with
    | none => rw [op!_of_not_reg hd, hu0] at h2; cases h2
    | some d =>
      rw [op!_of_get hd] at h2 h3
      obtain ⟨e1, e2⟩ := h.fwd o d i u v hd h2 h3
      exact ⟨by rw [huses u (h.lt v u e2)]; exact e1, e2, Nat.lt_of_lt_of_le (h.lt v u e2) hnu⟩
  · by_cases ho : (s.use! u).1 = o
    · obtain ⟨d0, h0, h1, h2⟩ := h.bwd v u hm
      rw [ho] at h0
      rw [op!_of_get h0] at hpos huid
      exact Or.inr ⟨_, by rw [huid]; exact h1, by rw [hpos]; exact h2⟩
    · exact Or.inl ⟨hm, ho⟩

/-- The entry of operation `o` is replaced by `d'` (or created: `s.op! o` of an unregistered id is the
empty record).  The `regions` tuple stays; the new results agree with the value table; the use lists,
which is what the operand and successor setters change together with the entry, are given. -/
theorem InvA.setOp {s s' : IRStore} {a a' : Abs} (h : InvA s a) {o : Nat} {d' : OpData}
    (hops : s'.ops = AL.set s.ops o d') (hblocks : s'.blocks = s.blocks) (hregions : s'.regions = s.regions)
    (hopL : s'.opL = s.opL) (hblockL : s'.blockL = s.blockL)
    (haops : a'.ops = a.ops) (hablocks : a'.blocks = a.blocks)
    (hreg : d'.regions = (s.op! o).regions)
    (hres : ∀ i v, d'.results[i]? = some v → AL.get s'.vals v = some { kind := .result, owner := o, index := i })
    (hvals : ∀ v d, AL.get s.vals v = some d → AL.get s'.vals v = some d)
    (hv : WF s'.vuseL a'.vuses) (hb : WF s'.buseL a'.buses)
    (hou : UseInv s' (·.operands) (·.operandUses) a'.vuses)
    (hsu : UseInv s' (·.successors) (·.successorUses) a'.buses) : InvA s' a' := by
  have par : ∀ r, s'.regionParent r = s.regionParent r := fun r => by
    unfold IRStore.regionParent IRStore.region!; rw [hregions]
  have regO' : ∀ k, regO s k → regO s' k := fun k hk => by
    unfold IR.regO; rw [hops]; exact AL.isSome_get_set _ _ hk
  exact {
    opL := by rw [hopL, haops]; exact h.opL
    blockL := by rw [hblockL, hablocks]; exact h.blockL
    vuseL := hv
    buseL := hb
    operandUses := hou
    successorUses := hsu
    results := fun o' d'' i v h1 h2 => by
      rw [hops] at h1
      rcases AL.get_set_eq_some.mp h1 with ⟨rfl, rfl⟩ | ⟨_, h1⟩
      · exact hres i v h2
      · exact hvals v _ (h.results o' d'' i v h1 h2)
    args := fun b d0 i v h1 h2 => by
      rw [hblocks] at h1; exact hvals v _ (h.args b d0 i v h1 h2)
    regions := fun o' d'' h1 => by
      rw [hops] at h1
      simp only [par]
      rcases AL.get_set_eq_some.mp h1 with ⟨rfl, rfl⟩ | ⟨_, h1⟩
      · rw [hreg]; exact ⟨(h.regions! o').1, fun r hr => ((h.regions! o').2 r).mp hr⟩
      · exact h.regions o' d'' h1
    regionParent := fun r o' hp => by
      rw [par] at hp
      obtain ⟨d0, h0, hr⟩ := h.regionParent r o' hp
      rw [hops]
      by_cases ho : o' = o
      · subst ho
        exact ⟨d', by rw [AL.get_set, if_pos rfl], by rw [hreg, op!_of_get h0]; exact hr⟩
      · exact ⟨d0, by rw [AL.get_set, if_neg ho]; exact h0, hr⟩
    regOps := fun b x hx => by
      rw [haops] at hx
      have := h.regOps b x hx
      exact ⟨regO' x this.1, by unfold IR.regB at *; rw [hblocks]; exact this.2⟩
    regBlocks := fun r x hx => by
      rw [hablocks] at hx
      have := h.regBlocks r x hx
      exact ⟨by unfold IR.regB at *; rw [hblocks]; exact this.1,
        by unfold IR.regR at *; rw [hregions]; exact this.2⟩ }

theorem InvA.setOp_results {s : IRStore} {a : Abs} (h : InvA s a) (o : Nat) (d' : OpData) (m : AL Nat ValData)
    (h1 : d'.operands = (s.op! o).operands) (h2 : d'.operandUses = (s.op! o).operandUses)
    (h3 : d'.successors = (s.op! o).successors) (h4 : d'.successorUses = (s.op! o).successorUses)
    (hreg : d'.regions = (s.op! o).regions)
    (hres : ∀ i v, d'.results[i]? = some v → AL.get m v = some { kind := .result, owner := o, index := i })
    (hvals : ∀ v d, AL.get s.vals v = some d → AL.get m v = some d) :
    InvA { s with ops := AL.set s.ops o d', vals := m } a :=
  h.setOp rfl rfl rfl rfl rfl rfl rfl hreg hres hvals h.vuseL h.buseL
    (h.operandUses.setOp_same h1 h2 rfl rfl rfl
      (fun _ _ => rfl) (Nat.le_refl _))
    (h.successorUses.setOp_same h3 h4 rfl rfl rfl
      (fun _ _ => rfl) (Nat.le_refl _))

/-- the registration clauses (`regOps`, `regBlocks`) after the list of one container has been rewritten -/
theorem reg_update {P Q : Nat → Prop} {f : Nat → List Nat} (hf : ∀ c x, x ∈ f c → P x ∧ Q c) {r : Nat}
    {l : List Nat} (hl : ∀ x ∈ l, P x ∧ Q r) : ∀ c x, x ∈ Function.update f r l c → P x ∧ Q c := by
  intro c x hx
  by_cases hc : c = r
  · subst hc; rw [Function.update_self] at hx; exact hl x hx
  · rw [Function.update_of_ne hc] at hx; exact hf c x hx

theorem InvA.setOpsOf {s : IRStore} {a : Abs} (ha : InvA s a) {l : L} {b : Nat} {xs : List Nat}
    (hwf : WF l (Function.update a.ops b xs)) (hb : regB s b) (hxs : ∀ x ∈ xs, x ∈ a.ops b ∨ regO s x) :
    Succ s { s with opL := l } :=
  ⟨⟨_, ha.of_opL hwf (reg_update ha.regOps fun x hx =>
    ⟨(hxs x hx).elim (fun e => (ha.regOps b x e).1) id, hb⟩)⟩, Mono.of_tables rfl rfl rfl⟩

theorem InvA.setBlocksOf {s : IRStore} {a : Abs} (ha : InvA s a) {l : L} {r : Nat} {xs : List Nat}
    (hwf : WF l (Function.update a.blocks r xs)) (hr : regR s r) (hxs : ∀ x ∈ xs, x ∈ a.blocks r ∨ regB s x) :
    Succ s { s with blockL := l } :=
  ⟨⟨_, ha.of_blockL hwf (reg_update ha.regBlocks fun x hx =>
    ⟨(hxs x hx).elim (fun e => (ha.regBlocks r x e).1) id, hr⟩)⟩, Mono.of_tables rfl rfl rfl⟩

/-- Of the two guards of `Block._attach_op` only the first matters here: the `is_ancestor` test keeps the parent
relation free of cycles, and `Inv` does not speak of cycles.  (The same holds of `Region._attach_block` below.) -/
theorem sat_checkAttachOp (s : IRStore) (b o : Nat) :
    Sat (s.checkAttachOp b o) fun _ => s.opParent o = none := fun _ h => by
  unfold IRStore.checkAttachOp at h
  by_cases g1 : (s.opParent o).isSome
  · simp [g1] at h
  · simpa using g1

theorem sat_insertOpAfter {s : IRStore} (h : Inv s) {b new ex : Nat} (hr : regO s new) :
    Sat (s.insertOpAfter b new ex) (Succ s) := by
  unfold IRStore.insertOpAfter
  refine Sat.guard fun g1 => (sat_checkAttachOp s b new).bind fun _ h2 => Sat.pure ?_
  obtain ⟨a, ha⟩ := h
  have hex : ex ∈ a.ops b := (ha.opL.mem_iff_parent b ex).mpr (Decidable.not_not.mp g1)
  exact ha.setOpsOf (ha.opL.insertAfter hex (ha.opL.not_mem_of_parent_none h2)) (ha.regOps b ex hex).2
    fun x hx => ((mem_insAfter hex new x).mp hx).symm.imp_right fun (e : x = new) => e ▸ hr

theorem insertOpBefore_spec (s : IRStore) (b new ex : Nat) :
    Sat (s.insertOpBefore b new ex) fun s' =>
      s.opParent ex = some b ∧ s.opParent new = none ∧ s' = { s with opL := s.opL.insertBefore b ex new } := by
  unfold IRStore.insertOpBefore
  exact Sat.guard fun g1 => (sat_checkAttachOp s b new).bind fun _ h2 =>
    Sat.pure ⟨Decidable.not_not.mp g1, h2, rfl⟩

/-- `Block.insert_op_before`, with the list of `b` after the call named -/
theorem InvA.insertOpBefore {s s' : IRStore} {a : Abs} (h : InvA s a) {b new ex : Nat} (hr : regO s new)
    (hok : s.insertOpBefore b new ex = .ok s') :
    InvA s' { a with ops := Function.update a.ops b (insBefore (a.ops b) ex new) } := by
  obtain ⟨h1, h2, rfl⟩ := insertOpBefore_spec s b new ex s' hok
  have hex : ex ∈ a.ops b := (h.opL.mem_iff_parent b ex).mpr h1
  refine h.of_opL (h.opL.insertBefore hex (h.opL.not_mem_of_parent_none h2))
    (reg_update h.regOps fun x hx => ⟨?_, (h.regOps b ex hex).2⟩)
  rcases (mem_insBefore hex new x).mp hx with e | e
  · exact e ▸ hr
  · exact (h.regOps b x e).1

theorem Inv.insertOpBefore {s s' : IRStore} (h : Inv s) {b new ex : Nat} (hr : regO s new)
    (hok : s.insertOpBefore b new ex = .ok s') : Inv s' ∧ Same s s' := by
  obtain ⟨a, ha⟩ := h
  refine ⟨⟨_, ha.insertOpBefore hr hok⟩, ?_⟩
  obtain ⟨_, _, rfl⟩ := insertOpBefore_spec s b new ex s' hok
  exact ⟨rfl, rfl, rfl⟩

theorem sat_insertOpBefore {s : IRStore} (h : Inv s) {b new ex : Nat} (hr : regO s new) :
    Sat (s.insertOpBefore b new ex) (Succ s) :=
  fun _ e => ⟨(h.insertOpBefore hr e).1, (h.insertOpBefore hr e).2.mono⟩

theorem sat_addOp {s : IRStore} (h : Inv s) {b o : Nat} (hr : regO s o) (hb : regB s b) :
    Sat (s.addOp b o) (Succ s) := by
  unfold IRStore.addOp
  split
  · refine (sat_checkAttachOp s b o).bind fun _ h2 => Sat.pure ?_
    obtain ⟨a, ha⟩ := h
    exact ha.setOpsOf (ha.opL.pushBack (ha.opL.not_mem_of_parent_none h2)) hb
      fun x hx => (List.mem_append.mp hx).imp_right fun e => (List.eq_of_mem_singleton e : x = o) ▸ hr
  · exact sat_insertOpAfter h hr

theorem sat_detachOp {s : IRStore} (h : Inv s) {b o : Nat} : Sat (s.detachOp b o) (Succ s) := by
  unfold IRStore.detachOp
  refine Sat.ite (fun _ => Sat.error) fun g1 => ?_
  obtain ⟨a, ha⟩ := h
  have hm : o ∈ a.ops b := (ha.opL.mem_iff_parent b o).mpr (Decidable.not_not.mp g1)
  exact Sat.ok (ha.setOpsOf (ha.opL.remove hm) (ha.regOps b o hm).2
    fun x hx => Or.inl (List.mem_of_mem_erase hx))

theorem sat_opDetach {s : IRStore} (h : Inv s) {o : Nat} : Sat (s.opDetach o) (Succ s) := by
  unfold IRStore.opDetach
  split
  · exact Sat.error
  · exact sat_detachOp h

theorem sat_addOps {s : IRStore} (h : Inv s) {b : Nat} {ops : List Nat} (hr : ∀ o ∈ ops, regO s o)
    (hb : regB s b) : Sat (s.addOps b ops) (Succ s) :=
  Sat.forIn h fun _ x hx ht => sat_addOp ht.inv (ht.mono.o x (hr x hx)) (ht.mono.b b hb)

theorem sat_insertOpsBefore {s : IRStore} (h : Inv s) {b ex : Nat} {ops : List Nat}
    (hr : ∀ o ∈ ops, regO s o) : Sat (s.insertOpsBefore b ops ex) (Succ s) :=
  Sat.forIn h fun _ x hx ht => sat_insertOpBefore ht.inv (ht.mono.o x (hr x hx))

theorem sat_insertOpsAfter {s : IRStore} (h : Inv s) {b ex : Nat} {ops : List Nat}
    (hr : ∀ o ∈ ops, regO s o) : Sat (s.insertOpsAfter b ops ex) (Succ s) := by
  unfold IRStore.insertOpsAfter
  -- the fold carries the last inserted operation along with the store
  refine (Sat.foldlM (fun (p : IRStore × Nat) => Succ s p.1) (fun p x hx hp => ?_)
    (s := (s, ex)) (Succ.refl h)).bind fun _ hp => Sat.pure hp
  exact (sat_insertOpAfter hp.inv (hp.mono.o x (hr x hx))).bind fun _ ht => Sat.pure (hp.trans ht)

theorem sat_checkAttachBlock (s : IRStore) (r b : Nat) :
    Sat (s.checkAttachBlock r b) fun _ => s.blockParent b = none := fun _ h => by
  unfold IRStore.checkAttachBlock at h
  by_cases g1 : (s.blockParent b).isSome
  · simp [g1] at h
  · simpa using g1

theorem Inv.pushBackBlock {s : IRStore} (h : Inv s) {r b : Nat} (hb : regB s b) (hr : regR s r)
    (hp : s.blockParent b = none) : Succ s { s with blockL := s.blockL.pushBack r b } := by
  obtain ⟨a, ha⟩ := h
  exact ha.setBlocksOf (ha.blockL.pushBack (ha.blockL.not_mem_of_parent_none hp)) hr
    fun x hx => (List.mem_append.mp hx).imp_right fun e => (List.eq_of_mem_singleton e : x = b) ▸ hb

theorem Inv.insertBlockBeforeOne {s : IRStore} (h : Inv s) {r t b : Nat} (hb : regB s b)
    (ht : s.blockParent t = some r) (hp : s.blockParent b = none) :
    Succ s { s with blockL := s.blockL.insertBefore r t b } := by
  obtain ⟨a, ha⟩ := h
  have hex : t ∈ a.blocks r := (ha.blockL.mem_iff_parent r t).mpr ht
  exact ha.setBlocksOf (ha.blockL.insertBefore hex (ha.blockL.not_mem_of_parent_none hp))
    (ha.regBlocks r t hex).2 fun x hx => ((mem_insBefore hex b x).mp hx).symm.imp_right fun (e : x = b) => e ▸ hb

theorem sat_addBlock {s : IRStore} (h : Inv s) {r : Nat} {bs : List Nat} (hbs : ∀ b ∈ bs, regB s b)
    (hr : regR s r) : Sat (s.addBlock r bs) (Succ s) :=
  Sat.forIn h fun t x hx ht => (sat_checkAttachBlock t r x).bind fun _ h1 =>
    Sat.pure (ht.inv.pushBackBlock (ht.mono.b x (hbs x hx)) (ht.mono.r r hr) h1)

theorem sat_insertBlockBefore {s : IRStore} (h : Inv s) {r t : Nat} {bs : List Nat}
    (hbs : ∀ b ∈ bs, regB s b) : Sat (s.insertBlockBefore r bs t) (Succ s) := by
  unfold IRStore.insertBlockBefore
  refine Sat.guard fun g1 => ?_
  -- `t` stays in `r` while the blocks are inserted in front of it
  refine (Sat.foldlM (fun u => Succ s u ∧ u.blockParent t = some r) (fun u x hx hu => ?_)
    ⟨Succ.refl h, Decidable.not_not.mp g1⟩).imp fun _ h => h.1
  refine (sat_checkAttachBlock u r x).bind fun _ hpn => Sat.pure ?_
  have htx : t ≠ x := fun e => by rw [e, hpn] at hu; cases hu.2
  exact ⟨hu.1.trans (hu.1.inv.insertBlockBeforeOne (hu.1.mono.b x (hbs x hx)) hu.2 hpn),
    (parent_insertBefore u.blockL r t x t).trans ((if_neg htx).trans hu.2)⟩

theorem sat_insertBlockAfter {s : IRStore} (h : Inv s) {r t : Nat} {bs : List Nat}
    (hbs : ∀ b ∈ bs, regB s b) (hr : regR s r) : Sat (s.insertBlockAfter r bs t) (Succ s) := by
  unfold IRStore.insertBlockAfter
  split
  · exact sat_addBlock h hbs hr
  · exact sat_insertBlockBefore h hbs

theorem sat_insertBlock {s : IRStore} (h : Inv s) {r : Nat} {bs : List Nat} {idx : Int}
    (hbs : ∀ b ∈ bs, regB s b) (hr : regR s r) : Sat (s.insertBlock r bs idx) (Succ s) := by
  unfold IRStore.insertBlock
  exact Sat.ite (fun _ => Sat.ok (Succ.refl h)) fun _ => Sat.ite (fun _ => sat_insertBlockBefore h hbs) fun _ =>
    Sat.ite (fun _ => sat_addBlock h hbs hr) fun _ => Sat.ok (Succ.refl h)

theorem Inv.removeBlock {s : IRStore} (h : Inv s) {r b : Nat} (hp : s.blockParent b = some r) :
    Succ s { s with blockL := s.blockL.remove r b } := by
  obtain ⟨a, ha⟩ := h
  have hm : b ∈ a.blocks r := (ha.blockL.mem_iff_parent r b).mpr hp
  exact ha.setBlocksOf (ha.blockL.remove hm) (ha.regBlocks r b hm).2
    fun x hx => Or.inl (List.mem_of_mem_erase hx)

theorem sat_detachBlock {s : IRStore} (h : Inv s) {r b : Nat} : Sat (s.detachBlock r b) (Succ s) := by
  unfold IRStore.detachBlock
  exact Sat.ite (fun _ => Sat.error) fun g1 => Sat.ok (h.removeBlock (Decidable.not_not.mp g1))

theorem normIdx_some_lt {n : Nat} {i : Int} {k : Nat} (h : IRStore.normIdx n i = some k) : k < n := by
  unfold IRStore.normIdx at h
  split at h
  · split at h
    · cases h; assumption
    · cases h
  · split at h
    · cases h
      rename_i h1 h2
      have : 0 < (-i).toNat := by omega
      omega
    · cases h

theorem sat_blockAt {s : IRStore} (h : Inv s) (r : Nat) (idx : Int) :
    Sat (s.blockAt r idx) fun b => s.blockParent b = some r := fun b hb => by
  obtain ⟨a, ha⟩ := h
  unfold IRStore.blockAt at hb
  cases hk : IRStore.normIdx (s.blocksOf r).length idx with
  | none => simp [hk] at hb
  | some k =>
    simp only [hk] at hb
    have hlt := normIdx_some_lt hk
    have : b = (s.blocksOf r)[k] := by
      simp [List.getD_eq_getElem?_getD, List.getElem?_eq_getElem hlt] at hb; exact hb.symm
    have hm : b ∈ s.blocksOf r := this ▸ List.getElem_mem hlt
    unfold IRStore.blocksOf at hm
    rw [ha.blockL.toList_eq] at hm
    exact (ha.blockL.mem_iff_parent r b).mp hm

theorem sat_detachBlockIdx {s : IRStore} (h : Inv s) {r : Nat} {idx : Int} :
    Sat (s.detachBlockIdx r idx) (Succ s) :=
  (sat_blockAt h r idx).bind fun _ hb => Sat.pure (h.removeBlock hb)

theorem sat_moveBlocks {s : IRStore} (h : Inv s) {r dst : Nat} (hd : regR s dst) :
    Sat (s.moveBlocks r dst) (Succ s) := by
  unfold IRStore.moveBlocks
  refine Sat.ite (fun _ => Sat.error) fun g1 => ?_
  obtain ⟨a, ha⟩ := h
  refine Sat.ok ⟨⟨_, ha.of_blockL (ha.blockL.spliceAllBack g1)
    (reg_update (reg_update ha.regBlocks (l := []) nofun) fun x hx => ?_)⟩, Mono.of_tables rfl rfl rfl⟩
  rcases List.mem_append.mp hx with e | e
  · exact ha.regBlocks dst x e
  · exact ⟨(ha.regBlocks r x e).1, hd⟩

theorem sat_moveBlocksBefore {s : IRStore} (h : Inv s) {r t : Nat} :
    Sat (s.moveBlocksBefore r t) (Succ s) := by
  unfold IRStore.moveBlocksBefore
  split
  · exact Sat.error
  · rename_i dst hp
    refine Sat.ite (fun _ => Sat.error) fun g1 => ?_
    · obtain ⟨a, ha⟩ := h
      have hm : t ∈ a.blocks dst := (ha.blockL.mem_iff_parent dst t).mpr hp
      obtain ⟨pre, post, hab⟩ := List.append_of_mem hm
      refine Sat.ok ⟨⟨_, ha.of_blockL (ha.blockL.spliceAllBefore (fun e => g1 e.symm) hab)
        (reg_update (reg_update ha.regBlocks (l := []) nofun) fun x hx => ?_)⟩, Mono.of_tables rfl rfl rfl⟩
      -- a block of the spliced list was in `dst` or in `r`
      have old : ∀ y, y ∈ pre ∨ y ∈ t :: post → regB s y ∧ regR s dst := fun y hy =>
        ha.regBlocks dst y (hab ▸ List.mem_append.mpr hy)
      rcases List.mem_append.mp hx with e | e
      · exact old x (Or.inl e)
      · rcases List.mem_append.mp e with e | e
        · exact ⟨(ha.regBlocks r x e).1, (ha.regBlocks dst t hm).2⟩
        · exact old x (Or.inr e)

theorem sat_insertOpsAt {s : IRStore} (h : Inv s) {ops : List Nat} {p : Nat × Option Nat}
    (hr : ∀ o ∈ ops, regO s o) (hb : regB s p.1) : Sat (s.insertOpsAt ops p) (Succ s) := by
  unfold IRStore.insertOpsAt
  split
  · exact sat_insertOpsBefore h hr
  · exact sat_addOps h hr hb

theorem sat_insertBlocksAt {s : IRStore} (h : Inv s) {bs : List Nat} {p : Nat × Option Nat}
    (hbs : ∀ b ∈ bs, regB s b) (hr : regR s p.1) : Sat (s.insertBlocksAt bs p) (Succ s) := by
  unfold IRStore.insertBlocksAt
  split
  · exact sat_insertBlockBefore h hbs
  · exact sat_addBlock h hbs hr

theorem sat_resolveIP {s : IRStore} (h : Inv s) {ip : IP} (hip : s.okIP ip = true) :
    Sat (s.resolveIP ip) fun p => regB s p.1 := fun p hp => by
  obtain ⟨a, ha⟩ := h
  cases ip with
  | before o | after o =>
    simp only [IRStore.resolveIP] at hp
    cases hpar : s.opParent o with
    | none => simp [hpar] at hp
    | some b => simp [hpar] at hp; subst hp; exact (ha.regOps b o ((ha.opL.mem_iff_parent b o).mpr hpar)).2
  | start b | end_ b => simp [IRStore.resolveIP] at hp; subst hp; exact liveB_reg hip

theorem sat_resolveBIP {s : IRStore} (h : Inv s) {bip : BIP} (hip : s.okBIP bip = true) :
    Sat (s.resolveBIP bip) fun p => regR s p.1 := fun p hp => by
  obtain ⟨a, ha⟩ := h
  cases bip with
  | before b | after b =>
    simp only [IRStore.resolveBIP] at hp
    cases hpar : s.blockParent b with
    | none => simp [hpar] at hp
    | some r => simp [hpar] at hp; subst hp; exact (ha.regBlocks r b ((ha.blockL.mem_iff_parent r b).mpr hpar)).2
  | start r | end_ r => simp [IRStore.resolveBIP] at hp; subst hp; exact liveR_reg hip

theorem sat_rwInsertOp {s : IRStore} (h : Inv s) {ops : List Nat} {ip : IP}
    (hr : ∀ o ∈ ops, regO s o) (hip : s.okIP ip = true) : Sat (s.rwInsertOp ops ip) (Succ s) :=
  (sat_resolveIP h hip).bind fun _ hp => sat_insertOpsAt h hr hp

theorem sat_rwInsertBlock {s : IRStore} (h : Inv s) {bs : List Nat} {bip : BIP}
    (hbs : ∀ b ∈ bs, regB s b) (hip : s.okBIP bip = true) : Sat (s.rwInsertBlock bs bip) (Succ s) :=
  (sat_resolveBIP h hip).bind fun _ hp => sat_insertBlocksAt h hbs hp

theorem sat_rwInlineRegion {s : IRStore} (h : Inv s) {r : Nat} {bip : BIP}
    (hip : s.okBIP bip = true) : Sat (s.rwInlineRegion r bip) (Succ s) :=
  (sat_resolveBIP h hip).bind fun p hp => by
    split
    · exact sat_moveBlocksBefore h
    · exact sat_moveBlocks h hp

theorem _root_.Xdsl.Sat.withCur {s : IRStore} {cur : Nat} {k : IRStore → R} {Q : IRStore → Prop} (h : Sat (k s) Q) :
    Sat (s.withCur cur k) Q := Sat.bind (P := fun _ => True) (fun _ _ => trivial) fun _ _ => h

theorem sat_prInsert {s : IRStore} (h : Inv s) {cur : Nat} {ops : List Nat} {ip : Option IP}
    (hr : ∀ o ∈ ops, regO s o) (hcur : s.liveO cur = true)
    (hip : ∀ x, ip = some x → s.okIP x = true) : Sat (s.prInsert cur ops ip) (Succ s) := by
  unfold IRStore.prInsert
  refine Sat.bind (P := fun _ => True) (fun _ _ => trivial) fun _ _ => ?_
  have key : ∀ x, s.okIP x = true →
      Sat (s.resolveIP x >>= fun p => if ops.isEmpty = true then pure s else s.insertOpsAt ops p) (Succ s) :=
    fun x hx => (sat_resolveIP h hx).bind fun p hp => by
      split
      · exact Sat.pure (Succ.refl h)
      · exact sat_insertOpsAt h hr hp
  cases ip with
  | none => exact key (.before cur) (by simpa [IRStore.okIP] using hcur)
  | some x => exact key x (hip x rfl)

def setEntries {β : Type} (g : Nat → β) (l : List (Nat × Nat)) (m : AL Nat β) : AL Nat β :=
  l.foldl (fun m p => AL.set m p.1 (g p.2)) m

theorem get_setEntries_of_not_mem {β : Type} (g : Nat → β) (l : List (Nat × Nat)) (m : AL Nat β) (k : Nat)
    (h : k ∉ l.map Prod.fst) : AL.get (setEntries g l m) k = AL.get m k :=
  AL.get_foldl_set_of_not_mem Prod.fst (fun p => g p.2) l m fun _ hp e => h (e ▸ List.mem_map_of_mem hp)

theorem get_setEntries_of_mem {β : Type} (g : Nat → β) (l : List (Nat × Nat)) (m : AL Nat β) (k i : Nat)
    (hn : (l.map Prod.fst).Nodup) (h : (k, i) ∈ l) : AL.get (setEntries g l m) k = some (g i) :=
  AL.get_foldl_set_of_mem_nodup Prod.fst (fun p => g p.2) m hn h

theorem fold_setVal (s : IRStore) (g : Nat → ValData) (l : List (Nat × Nat)) :
    l.foldl (fun s p => s.setVal p.1 (g p.2)) s = { s with vals := setEntries g l s.vals } := by
  unfold setEntries
  induction l generalizing s with
  | nil => rfl
  | cons p r ih => simp only [List.foldl_cons, ih]; rfl

theorem mkBlock_eq (s : IRStore) (b : Nat) (args : List Nat) :
    s.mkBlock b args =
      { s with blocks := (AL.set s.blocks b ({ args := args } : BlockData)),
               vals := (setEntries (fun i => ({ kind := .arg, owner := b, index := i } : ValData)) args.zipIdx s.vals) } := by
  unfold IRStore.mkBlock
  rw [fold_setVal]; rfl

theorem freshV_not_reg {s : IRStore} {k : Nat} (h : s.freshV k = true) : AL.get s.vals k = none := by
  simp [IRStore.freshV] at h; exact h.2

theorem freshVs_spec {s : IRStore} {ks : List Nat} (h : s.freshVs ks = true) :
    (∀ k ∈ ks, AL.get s.vals k = none) ∧ ks.Nodup := by
  simp only [IRStore.freshVs, Bool.and_eq_true, List.all_eq_true, decide_eq_true_eq] at h
  exact ⟨fun k hk => freshV_not_reg (h.1 k hk), h.2⟩

theorem setEntries_fresh {s : IRStore} {ks : List Nat} (hks : s.freshVs ks = true) (g : Nat → ValData) :
    (∀ v d, AL.get s.vals v = some d → AL.get (setEntries g ks.zipIdx s.vals) v = some d) ∧
    ∀ j w, ks[j]? = some w → AL.get (setEntries g ks.zipIdx s.vals) w = some (g j) := by
  obtain ⟨hfresh, hnd⟩ := freshVs_spec hks
  refine ⟨fun v d hv => ?_, fun j w hw => ?_⟩
  · rw [get_setEntries_of_not_mem _ _ _ _ (by rw [List.zipIdx_map_fst]; intro hm; rw [hfresh v hm] at hv; cases hv)]
    exact hv
  · exact get_setEntries_of_mem _ _ _ _ _ (by rw [List.zipIdx_map_fst]; exact hnd) (List.mem_zipIdx_iff_getElem?.mpr (by simpa using hw))

theorem InvA.mkBlock {s : IRStore} {a : Abs} (h : InvA s a) {b : Nat} {args : List Nat}
    (hargs : s.freshVs args = true) : InvA (s.mkBlock b args) a := by
  rw [mkBlock_eq]
  exact h.setArgs b args _ (fun v d hv _ => (setEntries_fresh hargs _).1 v d hv) (setEntries_fresh hargs _).2

theorem Mono.mkBlock (s : IRStore) (b : Nat) (args : List Nat) : Mono s (s.mkBlock b args) := by
  rw [mkBlock_eq]; exact Mono.of_setBlock rfl rfl rfl

theorem Inv.mkBlock {s : IRStore} (h : Inv s) (b : Nat) {args : List Nat} (hargs : s.freshVs args = true) :
    Succ s (s.mkBlock b args) := by
  obtain ⟨a, ha⟩ := h; exact ⟨⟨a, ha.mkBlock hargs⟩, Mono.mkBlock s b args⟩

theorem regB_mkBlock (s : IRStore) (b : Nat) (args : List Nat) : regB (s.mkBlock b args) b := by
  rw [mkBlock_eq]; unfold IR.regB; simp [AL.get_set]

theorem regB_mkBlock_of {s : IRStore} {b : Nat} {args : List Nat} {x : Nat} (h : regB s x) :
    regB (s.mkBlock b args) x := (Mono.mkBlock s b args).b x h

theorem freshO_not_reg {s : IRStore} {k : Nat} (h : s.freshO k = true) : AL.get s.ops k = none := by
  simp [IRStore.freshO] at h; exact h.2
theorem freshB_not_reg {s : IRStore} {k : Nat} (h : s.freshB k = true) : AL.get s.blocks k = none := by
  simp [IRStore.freshB] at h; exact h.2
theorem freshR_not_reg {s : IRStore} {k : Nat} (h : s.freshR k = true) : AL.get s.regions k = none := by
  simp [IRStore.freshR] at h; exact h.2

theorem InvA.fresh_block {s : IRStore} {a : Abs} (h : InvA s a) {b : Nat} (hb : AL.get s.blocks b = none) :
    a.ops b = [] ∧ ∀ r, b ∉ a.blocks r := by
  have nb : ¬ regB s b := by unfold IR.regB; simp [hb]
  refine ⟨?_, fun r hm => nb (h.regBlocks r b hm).1⟩
  cases e : a.ops b with
  | nil => rfl
  | cons o l => exact absurd (h.regOps b o (by rw [e]; simp)).2 nb

theorem sat_newBlock {s : IRStore} (h : Inv s) {b : Nat} {args ops : List Nat}
    (hargs : s.freshVs args = true) (hops : ∀ o ∈ ops, regO s o) : Sat (s.newBlock b args ops) (Succ s) :=
  have h1 := h.mkBlock b hargs
  (sat_addOps h1.inv (fun o ho => h1.mono.o o (hops o ho)) (regB_mkBlock s b args)).after h1

/-- `Region()`: a fresh, empty, detached region -/
theorem InvA.mkRegion {s : IRStore} {a : Abs} (h : InvA s a) {r : Nat} (hr : AL.get s.regions r = none) :
    InvA (s.setRegion r {}) a := by
  have par : ∀ x, IRStore.regionParent (s.setRegion r {}) x = s.regionParent x := by
    intro x
    unfold IRStore.regionParent IRStore.region! IRStore.setRegion
    simp only [AL.get_set]
    split
    · subst_vars; simp [hr]
    · rfl
  exact {
    opL := h.opL, blockL := h.blockL, vuseL := h.vuseL, buseL := h.buseL
    operandUses := h.operandUses.congr rfl rfl rfl
    successorUses := h.successorUses.congr rfl rfl rfl
    results := h.results
    args := h.args
    regions := fun o d hd => ⟨(h.regions o d hd).1, fun x hx => by rw [par]; exact (h.regions o d hd).2 x hx⟩
    regionParent := fun x o hx => by rw [par] at hx; exact h.regionParent x o hx
    regOps := h.regOps
    regBlocks := fun c x hx => ⟨(h.regBlocks c x hx).1, (Mono.setRegion s r {}).r c (h.regBlocks c x hx).2⟩ }

theorem Inv.mkRegion {s : IRStore} (h : Inv s) {r : Nat} (hr : s.freshR r = true) :
    Succ s (s.setRegion r {}) := by
  obtain ⟨a, ha⟩ := h; exact ⟨⟨a, ha.mkRegion (freshR_not_reg hr)⟩, Mono.setRegion s r {}⟩

theorem regR_setRegion (s : IRStore) (r : Nat) (d : RegionData) : regR (s.setRegion r d) r := by
  unfold IR.regR IRStore.setRegion; simp [AL.get_set]

theorem sat_newRegion {s : IRStore} (h : Inv s) {r : Nat} {bs : List Nat}
    (hr : s.freshR r = true) (hbs : ∀ b ∈ bs, regB s b) : Sat (s.newRegion r bs) (Succ s) :=
  (sat_addBlock (h.mkRegion hr).inv hbs (regR_setRegion s r {})).after (h.mkRegion hr)

theorem sat_rwMoveRegionContents {s : IRStore} (h : Inv s) {r nr : Nat} (hr : s.freshR nr = true) :
    Sat (s.rwMoveRegionContents r nr) (Succ s) :=
  (sat_moveBlocks (h.mkRegion hr).inv (regR_setRegion s nr {})).after (h.mkRegion hr)

/-- `Builder.create_block` -/
theorem sat_prCreateBlock {s : IRStore} (h : Inv s) {bip : BIP} {nb : Nat} {args : List Nat}
    (hargs : s.freshVs args = true) (hip : s.okBIP bip = true) :
    Sat (s.prCreateBlock bip nb args) (Succ s) :=
  have h1 := h.mkBlock nb hargs
  (sat_resolveBIP h hip).bind fun _ hp =>
    (sat_insertBlocksAt h1.inv (bs := [nb]) (fun _ hb => List.eq_of_mem_singleton hb ▸ regB_mkBlock s nb args)
      (h1.mono.r _ hp)).after h1

theorem sat_splitBefore {s : IRStore} (h : Inv s) {b o nb : Nat} {args : List Nat}
    (hnb : s.freshB nb = true) (hargs : s.freshVs args = true) (hb : regB s b) :
    Sat (s.splitBefore b o nb args) (Succ s) := by
  obtain ⟨a, ha⟩ := h
  unfold IRStore.splitBefore
  refine Sat.guard fun g1 => ?_
  split
  · exact Sat.error
  · rename_i r hp
    refine Sat.pure ?_
    have hfb := freshB_not_reg hnb
    obtain ⟨hempty, hnomem⟩ := ha.fresh_block hfb
    have hne : b ≠ nb := fun e => by
      unfold IR.regB at hb; rw [e, hfb] at hb; cases hb
    -- 1. the new block exists
    have h1 := ha.mkBlock (b := nb) hargs
    have rnb := regB_mkBlock s nb args
    rw [mkBlock_eq] at h1 rnb ⊢
    -- 2. it is linked into the region right after `b`
    have hbr : b ∈ a.blocks r := (ha.blockL.mem_iff_parent r b).mpr hp
    have h2 := h1.of_blockL (ha.blockL.insertAfter hbr hnomem) (reg_update h1.regBlocks fun x hx =>
      ⟨((mem_insAfter hbr nb x).mp hx).elim (fun e => e ▸ rnb) fun e => (h1.regBlocks r x e).1,
        (h1.regBlocks r b hbr).2⟩)
    -- 3. the operations from `o` on move into it
    obtain ⟨pre, post, hab⟩ := List.append_of_mem ((ha.opL.mem_iff_parent b o).mpr (Decidable.not_not.mp g1))
    have old : ∀ x, x ∈ pre ∨ x ∈ o :: post → _ := fun x hx =>
      h2.regOps b x (hab ▸ List.mem_append.mpr hx)
    exact ⟨⟨_, h2.of_opL (ha.opL.splitBefore hab hempty hne) (reg_update (reg_update h2.regOps
      fun x hx => old x (Or.inl hx)) fun x hx => ⟨(old x (Or.inr hx)).1, rnb⟩)⟩,
      Mono.of_setBlock rfl rfl rfl⟩

theorem Inv.splitBefore {s s' : IRStore} (h : Inv s) {b o nb : Nat} {args : List Nat}
    (hnb : s.freshB nb = true) (hargs : s.freshVs args = true) (hb : regB s b)
    (hok : s.splitBefore b o nb args = .ok s') : Inv s' :=
  (sat_splitBefore h hnb hargs hb s' hok).inv

def Reg (s : IRStore) : Ref → Prop
  | .op o => regO s o
  | .block b => regB s b
  | .region r => regR s r

def allRefs (s : IRStore) : List Ref :=
  (s.ops.map Prod.fst).map Ref.op ++
    ((s.blocks.map Prod.fst).map Ref.block ++ (s.regions.map Prod.fst).map Ref.region)

theorem mem_allRefs {s : IRStore} {x : Ref} (h : Reg s x) : x ∈ allRefs s := by
  unfold allRefs
  cases x with
  | op o => exact List.mem_append_left _ (List.mem_map_of_mem (AL.isSome_get_iff.1 h))
  | block b =>
    exact List.mem_append_right _ (List.mem_append_left _ (List.mem_map_of_mem (AL.isSome_get_iff.1 h)))
  | region r =>
    exact List.mem_append_right _ (List.mem_append_right _ (List.mem_map_of_mem (AL.isSome_get_iff.1 h)))

theorem allRefs_length (s : IRStore) : (allRefs s).length + 1 = s.size := by
  simp [allRefs, IRStore.size]; omega

theorem length_lt_size {s : IRStore} {l : List Ref} (hn : l.Nodup) (hr : ∀ x ∈ l, Reg s x) :
    l.length < s.size := by
  have hsub : l ⊆ allRefs s := fun x hx => mem_allRefs (hr x hx)
  have := (List.subperm_of_subset hn hsub).length_le
  rw [← allRefs_length]; omega

theorem regR_of_regionParent {s : IRStore} {r o : Nat} (h : s.regionParent r = some o) : regR s r := by
  unfold regR
  cases hr : AL.get s.regions r with
  | none => simp [IRStore.regionParent, IRStore.region!, hr] at h
  | some x => rfl

theorem reg_of_parent {s : IRStore} {a : Abs} (ha : InvA s a) {c p : Ref} (h : s.parentRef c = some p) :
    Reg s c := by
  cases c with
  | op o =>
    simp only [IRStore.parentRef, Option.map_eq_some_iff] at h
    obtain ⟨b, hb, _⟩ := h
    exact (ha.regOps b o ((ha.opL.mem_iff_parent b o).mpr hb)).1
  | block b =>
    simp only [IRStore.parentRef, Option.map_eq_some_iff] at h
    obtain ⟨r, hr, _⟩ := h
    exact (ha.regBlocks r b ((ha.blockL.mem_iff_parent r b).mpr hr)).1
  | region r =>
    simp only [IRStore.parentRef, Option.map_eq_some_iff] at h
    obtain ⟨o, ho, _⟩ := h
    exact regR_of_regionParent ho

end Xdsl.IR
