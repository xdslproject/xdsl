import XdslProofs.Lemmas.IRErase
/-!
# C01 — the erasing calls, and the specification of all 58 call kinds

`Operation.erase`, `Block.erase`, `Region.erase`, `Block.erase_op`, `Region.erase_block` (by block and
by index), `Operation.drop_all_references`, `Rewriter.erase_op/replace_op/inline_block` and the
`PatternRewriter` wrappers `erase/replace/inline_block`: compositions of already covered
steps with `dropTree` on an object that the method's own guard (or, for
`Operation.drop_all_references`, the contract) makes detached.  `sat_api`: one case per constructor of `Call`,
each the specification `Sat (s.f args) (Succ s)` of its model function with the registration facts read off the
reference check; `sat_exec` is the same for a call with its reference check.
-/
namespace Xdsl.IR
open Xdsl Xdsl.DLL IRStore

theorem sat_eraseValues {s : IRStore} (h : Inv s) {vs : List Nat} {safe : Bool} :
    Sat (vs.foldlM (fun s v => s.valueErase v safe) s) (Succ s) :=
  Sat.forIn h fun _ _ _ ht => sat_valueErase ht.inv

theorem sat_opErase {s : IRStore} (h : Inv s) {o : Nat} {safe : Bool} (ho : regO s o) :
    Sat (s.opErase o safe) (Succ s) := by
  unfold IRStore.opErase
  refine Sat.ite (fun _ => Sat.error) fun hp => ?_
  have h1 := h.dropTree (root := .op o) (by simpa [IRStore.parentRef] using hp) ho
  exact (sat_eraseValues h1.inv).after h1

/-- `Operation.drop_all_references` on a detached operation (the contract of the method: "called
prior to deleting an operation") -/
theorem sat_dropAllReferences {s : IRStore} (h : Inv s) {o : Nat} (ho : regO s o)
    (hdet : s.opParent o = none) : Sat (s.dropAllReferences o) (Succ s) :=
  Sat.ok (h.dropTree (root := .op o) (by simp [IRStore.parentRef, hdet]) ho)

theorem sat_eraseOp {s : IRStore} (h : Inv s) {b o : Nat} {safe : Bool} (ho : regO s o) :
    Sat (s.eraseOp b o safe) (Succ s) :=
  (sat_detachOp h).andThen fun _ ht => sat_opErase ht.inv (ht.mono.o o ho)

theorem sat_rwEraseOp {s : IRStore} (h : Inv s) {o : Nat} {safe : Bool} (ho : regO s o) :
    Sat (s.rwEraseOp o safe) (Succ s) := by
  unfold IRStore.rwEraseOp
  split
  · exact sat_eraseOp h ho
  · exact sat_opErase h ho

theorem sat_blockErase {s : IRStore} (h : Inv s) {b : Nat} {safe : Bool} (hb : regB s b) :
    Sat (s.blockErase b safe) (Succ s) := by
  unfold IRStore.blockErase
  refine Sat.ite (fun _ => Sat.error) fun hp => ?_
  have h1 := h.dropTree (root := .block b) (by simpa [IRStore.parentRef] using hp) hb
  exact (Sat.forIn h1.inv fun _ _ _ ht => sat_eraseValues ht.inv).after h1

theorem sat_eraseBlock {s : IRStore} (h : Inv s) {r b : Nat} {safe : Bool} (hb : regB s b) :
    Sat (s.eraseBlock r b safe) (Succ s) :=
  (sat_detachBlock h).andThen fun _ ht => sat_blockErase ht.inv (ht.mono.b b hb)

theorem sat_eraseBlockIdx {s : IRStore} (h : Inv s) {r : Nat} {idx : Int} {safe : Bool} :
    Sat (s.eraseBlockIdx r idx safe) (Succ s) :=
  (sat_blockAt h r idx).bind fun b hp => by
    obtain ⟨a, ha⟩ := h
    have hreg : regB s b := (ha.regBlocks r b ((ha.blockL.mem_iff_parent r b).mpr hp)).1
    have h1 := Inv.removeBlock ⟨a, ha⟩ hp
    exact (sat_blockErase h1.inv (h1.mono.b b hreg)).after h1

theorem sat_regionErase {s : IRStore} (h : Inv s) {r : Nat} (hr : regR s r) :
    Sat (s.regionErase r) (Succ s) := by
  unfold IRStore.regionErase
  exact Sat.ite (fun _ => Sat.error) fun hp =>
    Sat.ok (h.dropTree (root := .region r) (by simpa [IRStore.parentRef] using hp) hr)

theorem sat_replaceResults {s : IRStore} (h : Inv s) {olds : List Nat} {news : List (Option Nat)}
    {safe : Bool} : Sat (s.replaceResults olds news safe) (Succ s) :=
  Sat.forIn h fun _ _ _ ht => by
    split
    · exact sat_valueErase ht.inv
    · exact sat_replaceAllUsesWith ht.inv

theorem sat_rwReplaceOp {s : IRStore} (h : Inv s) {o : Nat} {newOps : List Nat}
    {newResults : Option (List (Option Nat))} {safe : Bool} (ho : regO s o)
    (hnew : ∀ x ∈ newOps, regO s x) : Sat (s.rwReplaceOp o newOps newResults safe) (Succ s) := by
  unfold IRStore.rwReplaceOp
  split
  · exact Sat.error
  · dsimp only
    refine Sat.guard fun _ => (sat_replaceResults h).andThen fun _ h1 => ?_
    exact (sat_insertOpsAfter h1.inv fun x hx => h1.mono.o x (hnew x hx)).andThen fun _ h2 =>
      sat_eraseOp h2.inv (h2.mono.o o (h1.mono.o o ho))

theorem sat_prReplace {s : IRStore} (h : Inv s) {o : Nat} {newOps : List Nat}
    {newResults : Option (List (Option Nat))} {safe : Bool} (ho : s.liveO o = true)
    (hnew : ∀ x ∈ newOps, regO s x) : Sat (s.prReplace o newOps newResults safe) (Succ s) := by
  unfold IRStore.prReplace
  refine (sat_resolveIP h (ip := .before o) ho).bind fun p hp => ?_
  rw [ite_bind]
  refine (Sat.ite (fun _ => Sat.pure (Succ.refl h)) fun _ => sat_insertOpsAt h hnew hp).andThen fun t1 h1 => ?_
  dsimp only
  refine Sat.guard fun _ => ?_
  -- the results are replaced or erased one by one, then the operation goes
  refine (Sat.forIn h1.inv fun t q _ ht => Sat.ite (fun _ => Sat.pure (Succ.refl ht.inv)) fun _ => ?_).andThen
    fun _ h2 => sat_rwEraseOp h2.inv (h2.mono.o o (h1.mono.o o (liveO_reg ho)))
  split
  · exact sat_valueErase ht.inv
  · exact sat_replaceAllUsesWith ht.inv

theorem Inv.regO_opsOf {s : IRStore} (h : Inv s) {b x : Nat} (hx : x ∈ s.opsOf b) : regO s x := by
  obtain ⟨a, ha⟩ := h
  unfold IRStore.opsOf at hx
  rw [ha.opL.toList_eq] at hx
  exact (ha.regOps b x hx).1

theorem sat_rwInlineBlock {s : IRStore} (h : Inv s) {src : Nat} {ip : IP} {argVals : List Nat}
    (hsrc : regB s src) (hip : s.okIP ip = true) : Sat (s.rwInlineBlock src ip argVals) (Succ s) := by
  unfold IRStore.rwInlineBlock
  refine (sat_resolveIP h hip).bind fun p hp => ?_
  dsimp only
  refine Sat.guard fun _ => ?_
  -- the arguments are replaced; the operations of `src` are detached one by one and inserted at the
  -- insertion point; the emptied block leaves its region and is erased
  refine (Sat.forIn h fun _ _ _ ht => sat_replaceAllUsesWith ht.inv).andThen fun t1 h1 => ?_
  refine (Sat.forIn h1.inv fun _ _ _ ht => sat_opDetach ht.inv).andThen fun t2 h2 => ?_
  refine (sat_insertOpsAt h2.inv (fun x hx => h2.mono.o x (h1.inv.regO_opsOf hx))
    (h2.mono.b _ (h1.mono.b _ hp))).andThen fun t3 h3 => ?_
  have fin : ∀ t4, Succ t3 t4 → Sat (t4.blockErase src true) (Succ t4) := fun t4 h4 =>
    sat_blockErase h4.inv (h4.mono.b _ (h3.mono.b _ (h2.mono.b _ (h1.mono.b _ hsrc))))
  split
  · exact (sat_detachBlock h3.inv).andThen fin
  · exact (Sat.pure (Succ.refl h3.inv)).andThen fin

theorem allO_reg {s : IRStore} {l : List Nat} (h : l.all s.liveO = true) : ∀ o ∈ l, regO s o := by
  intro o ho; exact liveO_reg (List.all_eq_true.mp h o ho)
theorem allB_reg {s : IRStore} {l : List Nat} (h : l.all s.liveB = true) : ∀ o ∈ l, regB s o := by
  intro o ho; exact liveB_reg (List.all_eq_true.mp h o ho)
theorem manyO_reg {s : IRStore} {m : Many} (h : okMany s.liveO m = true) : ∀ o ∈ m.ids, regO s o := by
  simp only [okMany, Bool.and_eq_true] at h; exact allO_reg h.1
theorem manyB_reg {s : IRStore} {m : Many} (h : okMany s.liveB m = true) : ∀ o ∈ m.ids, regB s o := by
  simp only [okMany, Bool.and_eq_true] at h; exact allB_reg h.1

/-- The 45 call kinds that erase no operation, block or region: `inv_step_partial` in `XdslProofs/C01.lean`
has no contract hypothesis for them (its doc comment lists them and the other 13). -/
def covered : Call → Bool
  | .insertOpBefore .. | .insertOpAfter .. | .addOp .. | .addOps .. | .insertOpsBefore ..
  | .insertOpsAfter .. | .detachOp .. | .opDetach .. | .addBlock .. | .insertBlockBefore ..
  | .insertBlockAfter .. | .insertBlock .. | .detachBlock .. | .detachBlockIdx .. | .moveBlocks ..
  | .moveBlocksBefore .. | .rwInsertBlock .. | .rwInsertOp .. | .rwInlineRegion .. | .prInsert ..
  | .prInlineRegion .. | .newBlock .. | .newRegion .. | .splitBefore .. | .rwMoveRegionContents ..
  | .prMoveRegionContents .. | .prCreateBlock .. | .newOp .. | .setOperand .. | .setOperands ..
  | .setSuccessor .. | .setSuccessors .. | .addRegion .. | .replaceAllUsesWith .. | .replaceUsesWithIf ..
  | .prReplaceUsesWithIf .. | .detachRegion .. | .detachRegionIdx .. | .insertArg ..
  | .prInsertBlockArgument .. | .eraseArg .. | .prEraseBlockArgument .. | .prReplaceAllUsesWith ..
  | .rwReplaceValueWithNewType .. | .prReplaceValueWithNewType .. => true
  | _ => false

/-- What the harness never generates although xDSL does not raise (its `contract_ok`), as far as the
preservation of `Inv` depends on it: `Operation.drop_all_references` is only called on a detached
operation.  (The other clauses of `contract_ok` — no parent cycles through `move_blocks`,
`move_blocks_before`, `inline_region`, `add_region` — are not needed: `Inv` does not speak about
cycles and the erasing calls do not need acyclicity.) -/
def contract (s : IRStore) : Call → Bool
  | .dropAllReferences o => (s.opParent o).isNone
  | _ => true

theorem contract_of_ne {s : IRStore} {c : Call} (hc : ∀ o, c ≠ .dropAllReferences o) :
    contract s c = true := by
  unfold contract
  split
  · exact absurd rfl (hc _)
  · rfl

theorem sat_api {s : IRStore} (h : Inv s) (c : Call) (hcon : contract s c = true)
    (href : s.refsOk c = true) : Sat (s.api c) (Succ s) := by
  cases c
  -- the reference check of a call is a conjunction of tests (`liveO k` itself is one: registered and not
  -- dead): split it
  all_goals try (change (_ && _) = true at href; simp only [Bool.and_eq_true] at href)
  case insertOpBefore b new ex => exact sat_insertOpBefore h (liveO_reg href.1.2)
  case insertOpAfter b new ex => exact sat_insertOpAfter h (liveO_reg href.1.2)
  case addOp b o => exact sat_addOp h (liveO_reg href.2) (liveB_reg href.1)
  case addOps b ops => exact sat_addOps h (allO_reg href.2) (liveB_reg href.1)
  case insertOpsBefore b ops ex => exact sat_insertOpsBefore h (allO_reg href.1.2)
  case insertOpsAfter b ops ex => exact sat_insertOpsAfter h (allO_reg href.1.2)
  case detachOp b o => exact sat_detachOp h
  case opDetach o => exact sat_opDetach h
  case addBlock r bs => exact sat_addBlock h (manyB_reg href.2) (liveR_reg href.1)
  case insertBlockBefore r bs t => exact sat_insertBlockBefore h (manyB_reg href.1.2)
  case insertBlockAfter r bs t => exact sat_insertBlockAfter h (manyB_reg href.1.2) (liveR_reg href.1.1)
  case insertBlock r bs idx => exact sat_insertBlock h (manyB_reg href.2) (liveR_reg href.1)
  case detachBlock r b => exact sat_detachBlock h
  case detachBlockIdx r idx => exact sat_detachBlockIdx h
  case moveBlocks r dst => exact sat_moveBlocks h (liveR_reg href.2)
  case moveBlocksBefore r t => exact sat_moveBlocksBefore h
  case rwInsertBlock bs bip => exact sat_rwInsertBlock h (manyB_reg href.1) href.2
  case rwInsertOp ops ip => exact sat_rwInsertOp h (manyO_reg href.1) href.2
  case rwInlineRegion r bip => exact sat_rwInlineRegion h href.2
  case prInsert cur ops ip =>
    refine sat_prInsert h (manyO_reg href.1.2) href.1.1 fun x hx => ?_
    subst hx; simpa using href.2
  case prInlineRegion cur r bip =>
    simp only [IRStore.api]
    exact Sat.withCur (sat_rwInlineRegion h href.2)
  case newBlock b args ops => exact sat_newBlock h href.1.2 (allO_reg href.2)
  case newRegion r bs => exact sat_newRegion h href.1 (allB_reg href.2)
  case splitBefore b o nb args => exact sat_splitBefore h href.1.2 href.2 (liveB_reg href.1.1.1)
  case rwMoveRegionContents r nr => exact sat_rwMoveRegionContents h href.2
  case prMoveRegionContents cur r nr =>
    simp only [IRStore.api]
    exact Sat.withCur (sat_rwMoveRegionContents h href.2)
  case newOp k kind res operands succs regions => exact sat_newOp h href.1.1.1.1.1 href.1.1.1.2
  case setOperand o i v => exact sat_setOperand h
  case setOperands o vs => exact Sat.ok (h.setOperands vs (liveO_reg href.1))
  case setSuccessor o i b => exact sat_setSuccessor h
  case setSuccessors o bs => exact Sat.ok (h.setSuccessors bs (liveO_reg href.1))
  case addRegion o r => exact sat_addRegion h (liveO_reg href.1)
  case replaceAllUsesWith v w => exact sat_replaceAllUsesWith h
  case replaceUsesWithIf v w mode => exact sat_replaceUsesIf h
  case prReplaceUsesWithIf cur v w mode =>
    simp only [IRStore.api]
    refine Sat.withCur ?_
    split
    · exact Sat.ok (Succ.refl h)
    · exact sat_replaceUsesIf h
  case detachRegion o r => exact sat_detachRegion h
  case detachRegionIdx o i => exact sat_detachRegionIdx h
  case insertArg b idx nv => exact sat_insertArg h href.2
  case prInsertBlockArgument cur b idx nv =>
    simp only [IRStore.api]
    exact Sat.withCur (sat_insertArg h href.2)
  case eraseArg b v safe => exact sat_eraseArg h
  case prEraseBlockArgument cur v safe =>
    simp only [IRStore.api]
    exact Sat.withCur (sat_prEraseBlockArgument h)
  case prReplaceAllUsesWith cur v w safe =>
    simp only [IRStore.api]
    exact Sat.withCur (sat_prReplaceAllUsesWith h)
  case rwReplaceValueWithNewType v nv => exact sat_replaceValueWithNewType h href.2
  case prReplaceValueWithNewType cur v nv =>
    simp only [IRStore.api]
    exact Sat.withCur (sat_replaceValueWithNewType h href.2)
  case prCreateBlock cur bip nb args =>
    simp only [IRStore.api]
    exact Sat.withCur (sat_prCreateBlock h href.2 href.1.1.2)
  case eraseOp b o safe => exact sat_eraseOp h (liveO_reg href.2)
  case blockErase b safe => exact sat_blockErase h href.1
  case eraseBlock r b safe => exact sat_eraseBlock h (liveB_reg href.2)
  case eraseBlockIdx r idx safe => exact sat_eraseBlockIdx h
  case regionErase r => exact sat_regionErase h href.1
  case opErase o safe => exact sat_opErase h href.1
  case dropAllReferences o =>
    simp only [contract, Option.isNone_iff_eq_none] at hcon
    exact sat_dropAllReferences h href.1 hcon
  case rwEraseOp o safe => exact sat_rwEraseOp h href.1
  case rwReplaceOp o newOps newResults safe => exact sat_rwReplaceOp h (liveO_reg href.1.1) (manyO_reg href.1.2)
  case rwInlineBlock src ip vals => exact sat_rwInlineBlock h (liveB_reg href.1.1) href.1.2
  case prErase cur o safe =>
    simp only [IRStore.api]
    exact Sat.withCur (sat_rwEraseOp h (liveO_reg href.2))
  case prReplace cur o newOps newResults safe =>
    simp only [IRStore.api]
    exact Sat.withCur (sat_prReplace h href.1.1.2 (manyO_reg href.1.2))
  case prInlineBlock cur src ip vals =>
    simp only [IRStore.api]
    exact Sat.withCur (sat_rwInlineBlock h (liveB_reg href.1.1.2) href.1.2)

theorem sat_exec {s : IRStore} (h : Inv s) {c : Call} (hcon : contract s c = true) :
    Sat (s.exec c) (Succ s) := by
  unfold IRStore.exec
  split
  · exact sat_api h c hcon ‹_›
  · exact Sat.error

end Xdsl.IR
