import XdslModel.PDL
import XdslProofs.Lemmas.AL
/-!
The PDL specification matcher (`XdslModel/PDL.lean`) against the declarative reading `Holds` of a pattern.
Soundness: every binding it returns instantiates every constraint of the pattern.  Completeness: whenever SOME
binding instantiates the pattern with its root at `o`, `matchRoot` succeeds and returns a sub-binding of it — for
every DAG-shaped pattern (shared nodes included) whose `pdl.result` operands refer to earlier operations (`WFPat`,
which SSA form guarantees).

Every binder has the shape "a bound key must carry the entity; an unbound one is bound if the node's constraints
admit it".  The proofs follow the binders branch by branch; what a new entry needs is in `Holds.consTy` …
`Holds.consOp`.
-/
namespace Xdsl.PDL
open Xdsl

inductive All2 {α β : Type} (R : α → β → Prop) : List α → List β → Prop
  | nil : All2 R [] []
  | cons {a b l₁ l₂} : R a b → All2 R l₁ l₂ → All2 R (a :: l₁) (b :: l₂)

/-- binding `b'` extends `b` -/
structure Le (b b' : Binding) : Prop where
  ops : ∀ k v, AL.get b.ops k = some v → AL.get b'.ops k = some v
  vals : ∀ k v, AL.get b.vals k = some v → AL.get b'.vals k = some v
  attrs : ∀ k v, AL.get b.attrs k = some v → AL.get b'.attrs k = some v
  tys : ∀ k v, AL.get b.tys k = some v → AL.get b'.tys k = some v

theorem Le.refl (b : Binding) : Le b b := ⟨fun _ _ h => h, fun _ _ h => h, fun _ _ h => h, fun _ _ h => h⟩

theorem Le.trans {a b c : Binding} (h1 : Le a b) (h2 : Le b c) : Le a c :=
  ⟨fun k v h => h2.ops k v (h1.ops k v h), fun k v h => h2.vals k v (h1.vals k v h),
   fun k v h => h2.attrs k v (h1.attrs k v h), fun k v h => h2.tys k v (h1.tys k v h)⟩

/-- the constraint of a `pdl.type` node -/
def EntT (p : Pattern) (t : Nat) (x : Ty) : Prop :=
  ∃ c, p.types[t]? = some c ∧ optEq c x = true

/-- the constraints of a `pdl.operand` node bound to value `x` -/
def EntV (p : Pattern) (ir : IR) (b : Binding) (v : Nat) (x : Val) : Prop :=
  ∃ c, p.vals[v]? = some c ∧ ∀ t, c = some t → ∃ ty, ir.typeOf x = some ty ∧ AL.get b.tys t = some ty

/-- the constraints of a `pdl.attribute` node bound to attribute `x` -/
def EntA (p : Pattern) (b : Binding) (a : Nat) (x : Attr) : Prop :=
  ∃ ap, p.attrs[a]? = some ap ∧ optEq ap.val x = true ∧
    ∀ t, ap.ty = some t → ∃ ty, x.ty = some ty ∧ AL.get b.tys t = some ty

/-- operand `r` of a pattern operation is instantiated by the payload value `x` -/
def OperandOk (b : Binding) (r : ORef) (x : Val) : Prop :=
  match r with
  | .val v => AL.get b.vals v = some x
  | .res j idx => ∃ o, x = .res o idx ∧ AL.get b.ops j = some o

/-- the constraints of a `pdl.operation` node bound to the payload operation with id `o` -/
def EntO (p : Pattern) (ir : IR) (b : Binding) (i : Nat) (o : OpId) : Prop :=
  ∃ pat x, p.ops[i]? = some pat ∧ ir.find o = some x ∧ optEq pat.name x.name = true ∧
    (∀ n a, (n, a) ∈ pat.attrs → ∃ av, x.attr n = some av ∧ AL.get b.attrs a = some av) ∧
    All2 (OperandOk b) pat.operands x.operands ∧
    All2 (fun t ty => AL.get b.tys t = some ty) pat.results x.resTys

/-- `b` instantiates the pattern: every bound node satisfies all of its constraints -/
structure Holds (p : Pattern) (ir : IR) (b : Binding) : Prop where
  tys : ∀ t x, AL.get b.tys t = some x → EntT p t x
  vals : ∀ v x, AL.get b.vals v = some x → EntV p ir b v x
  attrs : ∀ a x, AL.get b.attrs a = some x → EntA p b a x
  ops : ∀ i o, AL.get b.ops i = some o → EntO p ir b i o

/-- operands defined by `pdl.result` refer to operations declared earlier -/
def WFPat (p : Pattern) : Prop :=
  ∀ i pat, p.ops[i]? = some pat → ∀ j idx, ORef.res j idx ∈ pat.operands → j < i

variable {p : Pattern} {ir : IR} {b b' B : Binding} {rec : Binding → Nat → OpId → Option Binding}

theorem EntV.mono {v : Nat} {x : Val} (h : Le b b') :
    EntV p ir b v x → EntV p ir b' v x := by
  rintro ⟨c, hc, hx⟩
  exact ⟨c, hc, fun t ht => by obtain ⟨ty, h1, h2⟩ := hx t ht; exact ⟨ty, h1, h.tys _ _ h2⟩⟩

theorem EntA.mono {a : Nat} {x : Attr} (h : Le b b') :
    EntA p b a x → EntA p b' a x := by
  rintro ⟨ap, hc, hv, hx⟩
  exact ⟨ap, hc, hv, fun t ht => by obtain ⟨ty, h1, h2⟩ := hx t ht; exact ⟨ty, h1, h.tys _ _ h2⟩⟩

theorem OperandOk.mono {r : ORef} {x : Val} (h : Le b b') :
    OperandOk b r x → OperandOk b' r x := by
  cases r with
  | val v => exact h.vals _ _
  | res j idx => rintro ⟨o, h1, h2⟩; exact ⟨o, h1, h.ops _ _ h2⟩

theorem All2.mono {α β : Type} {R S : α → β → Prop} (h : ∀ a b, R a b → S a b)
    {l₁ : List α} {l₂ : List β} (hl : All2 R l₁ l₂) : All2 S l₁ l₂ := by
  induction hl with
  | nil => exact .nil
  | cons h1 _ ih => exact .cons (h _ _ h1) ih

theorem EntO.mono {i : Nat} {o : OpId} (h : Le b b') :
    EntO p ir b i o → EntO p ir b' i o := by
  rintro ⟨pat, x, h1, h2, h3, h4, h5, h6⟩
  refine ⟨pat, x, h1, h2, h3, ?_, h5.mono (fun _ _ => OperandOk.mono h),
    h6.mono (fun _ _ hh => h.tys _ _ hh)⟩
  intro n a hm
  obtain ⟨av, e1, e2⟩ := h4 n a hm
  exact ⟨av, e1, h.attrs _ _ e2⟩

theorem holds_empty (p : Pattern) (ir : IR) : Holds p ir {} :=
  ⟨fun _ _ h => by simp at h, fun _ _ h => by simp at h, fun _ _ h => by simp at h, fun _ _ h => by simp at h⟩

/-! A new entry with its justification keeps `Holds`; the other entries keep theirs by monotonicity. -/

theorem Holds.consTy {t : Nat} {x : Ty} (hb : Holds p ir b) (hnone : AL.get b.tys t = none) (hx : EntT p t x) :
    Holds p ir { b with tys := (t, x) :: b.tys } ∧ Le b { b with tys := (t, x) :: b.tys } ∧
      AL.get ({ b with tys := (t, x) :: b.tys } : Binding).tys t = some x :=
  have hle : Le b { b with tys := (t, x) :: b.tys } :=
    ⟨fun _ _ h => h, fun _ _ h => h, fun _ _ h => h, fun _ _ => AL.get_cons_new hnone⟩
  ⟨⟨AL.get_cons_forall hb.tys hx, fun _ _ h => (hb.vals _ _ h).mono hle, fun _ _ h => (hb.attrs _ _ h).mono hle,
    fun _ _ h => (hb.ops _ _ h).mono hle⟩, hle, by simp⟩

theorem Holds.consVal {v : Nat} {x : Val} (hb : Holds p ir b) (hnone : AL.get b.vals v = none)
    (hx : EntV p ir b v x) :
    Holds p ir { b with vals := (v, x) :: b.vals } ∧ Le b { b with vals := (v, x) :: b.vals } ∧
      AL.get ({ b with vals := (v, x) :: b.vals } : Binding).vals v = some x :=
  have hle : Le b { b with vals := (v, x) :: b.vals } :=
    ⟨fun _ _ h => h, fun _ _ => AL.get_cons_new hnone, fun _ _ h => h, fun _ _ h => h⟩
  ⟨⟨hb.tys, AL.get_cons_forall (fun _ _ h => (hb.vals _ _ h).mono hle) (hx.mono hle),
    fun _ _ h => (hb.attrs _ _ h).mono hle, fun _ _ h => (hb.ops _ _ h).mono hle⟩, hle, by simp⟩

theorem Holds.consAttr {a : Nat} {x : Attr} (hb : Holds p ir b) (hnone : AL.get b.attrs a = none)
    (hx : EntA p b a x) :
    Holds p ir { b with attrs := (a, x) :: b.attrs } ∧ Le b { b with attrs := (a, x) :: b.attrs } ∧
      AL.get ({ b with attrs := (a, x) :: b.attrs } : Binding).attrs a = some x :=
  have hle : Le b { b with attrs := (a, x) :: b.attrs } :=
    ⟨fun _ _ h => h, fun _ _ h => h, fun _ _ => AL.get_cons_new hnone, fun _ _ h => h⟩
  ⟨⟨hb.tys, fun _ _ h => (hb.vals _ _ h).mono hle,
    AL.get_cons_forall (fun _ _ h => (hb.attrs _ _ h).mono hle) (hx.mono hle),
    fun _ _ h => (hb.ops _ _ h).mono hle⟩, hle, by simp⟩

theorem Holds.consOp {i : Nat} {o : OpId} (hb : Holds p ir b) (hnone : AL.get b.ops i = none)
    (hx : EntO p ir b i o) :
    Holds p ir { b with ops := (i, o) :: b.ops } ∧ Le b { b with ops := (i, o) :: b.ops } ∧
      AL.get ({ b with ops := (i, o) :: b.ops } : Binding).ops i = some o :=
  have hle : Le b { b with ops := (i, o) :: b.ops } :=
    ⟨fun _ _ => AL.get_cons_new hnone, fun _ _ h => h, fun _ _ h => h, fun _ _ h => h⟩
  ⟨⟨hb.tys, fun _ _ h => (hb.vals _ _ h).mono hle, fun _ _ h => (hb.attrs _ _ h).mono hle,
    AL.get_cons_forall (fun _ _ h => (hb.ops _ _ h).mono hle) (hx.mono hle)⟩, hle, by simp⟩

theorem bindTy_spec {t : Nat} {x : Ty} (h : bindTy p b t x = some b') (hb : Holds p ir b) :
    Holds p ir b' ∧ Le b b' ∧ AL.get b'.tys t = some x := by
  unfold bindTy at h
  split at h
  · rename_i y hy
    split at h
    · rename_i e; cases h; exact ⟨hb, Le.refl _, e ▸ hy⟩
    · cases h
  · rename_i hnone
    split at h
    · cases h
    · rename_i hc; cases h; exact hb.consTy hnone ⟨none, hc, rfl⟩
    · rename_i c hc
      split at h
      · rename_i e; cases h; exact hb.consTy hnone ⟨some c, hc, decide_eq_true e⟩
      · cases h

theorem bindTy_frame {t : Nat} {x : Ty} (h : bindTy p b t x = some b') :
    b'.ops = b.ops ∧ b'.vals = b.vals ∧ b'.attrs = b.attrs := by
  unfold bindTy at h
  repeat' split at h
  all_goals cases h
  all_goals exact ⟨rfl, rfl, rfl⟩

theorem bindVal_spec {v : Nat} {x : Val} (h : bindVal p ir b v x = some b') (hb : Holds p ir b) :
    Holds p ir b' ∧ Le b b' ∧ AL.get b'.vals v = some x := by
  unfold bindVal at h
  split at h
  · rename_i y hy
    split at h
    · rename_i e; cases h; exact ⟨hb, Le.refl _, e ▸ hy⟩
    · cases h
  · rename_i hnone
    split at h
    · cases h
    · rename_i hc; cases h; exact hb.consVal hnone ⟨none, hc, nofun⟩
    · rename_i t hc
      split at h; · cases h
      rename_i ty hty
      split at h; · cases h
      rename_i b1 hb1
      cases h
      obtain ⟨h1, hle1, hg⟩ := bindTy_spec hb1 hb
      obtain ⟨h2, hle2, hget⟩ := h1.consVal (by rw [(bindTy_frame hb1).2.1]; exact hnone)
        ⟨some t, hc, fun _ e => by cases e; exact ⟨ty, hty, hg⟩⟩
      exact ⟨h2, hle1.trans hle2, hget⟩

theorem bindVal_frame {v : Nat} {x : Val} (h : bindVal p ir b v x = some b') : b'.ops = b.ops := by
  unfold bindVal at h
  repeat' split at h
  all_goals cases h
  · rfl
  · rfl
  · rename_i hb1; exact (bindTy_frame hb1).1

theorem bindAttr_spec {a : Nat} {x : Attr} (h : bindAttr p b a x = some b') (hb : Holds p ir b) :
    Holds p ir b' ∧ Le b b' ∧ AL.get b'.attrs a = some x := by
  unfold bindAttr at h
  split at h
  · rename_i y hy
    split at h
    · rename_i e; cases h; exact ⟨hb, Le.refl _, e ▸ hy⟩
    · cases h
  · rename_i hnone
    split at h; · cases h
    rename_i ap hap
    split at h
    · rename_i hopt
      split at h
      · rename_i hty
        cases h; exact hb.consAttr hnone ⟨ap, hap, hopt, fun _ e => by rw [hty] at e; cases e⟩
      · rename_i t hty
        split at h; · cases h
        rename_i ty hxty
        split at h; · cases h
        rename_i b1 hb1
        cases h
        obtain ⟨h1, hle1, hg⟩ := bindTy_spec hb1 hb
        obtain ⟨h2, hle2, hget⟩ := h1.consAttr (by rw [(bindTy_frame hb1).2.2]; exact hnone)
          ⟨ap, hap, hopt, fun _ e => by rw [hty] at e; cases e; exact ⟨ty, hxty, hg⟩⟩
        exact ⟨h2, hle1.trans hle2, hget⟩
    · cases h

theorem bindAttr_frame {a : Nat} {x : Attr} (h : bindAttr p b a x = some b') : b'.ops = b.ops := by
  unfold bindAttr at h
  repeat' split at h
  all_goals cases h
  · rfl
  · rfl
  · rename_i hb1; exact (bindTy_frame hb1).1

theorem matchAttrs_spec {x : Op} {l : List (Nat × Nat)} (h : matchAttrs p x b l = some b') (hb : Holds p ir b) :
    Holds p ir b' ∧ Le b b' ∧ ∀ n a, (n, a) ∈ l → ∃ av, x.attr n = some av ∧ AL.get b'.attrs a = some av := by
  fun_induction matchAttrs p x b l with
  | case1 b => cases h; exact ⟨hb, Le.refl _, fun _ _ hm => by cases hm⟩
  | case2 | case3 => cases h
  | case4 b n a r av hav b1 hb1 ih =>
    obtain ⟨h1, hle1, hg1⟩ := bindAttr_spec hb1 hb
    obtain ⟨h2, hle2, hall⟩ := ih h h1
    refine ⟨h2, hle1.trans hle2, fun n' a' hm => ?_⟩
    rcases List.mem_cons.mp hm with e | hm'
    · cases e; exact ⟨av, hav, hle2.attrs _ _ hg1⟩
    · exact hall n' a' hm'

theorem matchResults_spec {ts : List Nat} {xs : List Ty} (h : matchResults p b ts xs = some b')
    (hb : Holds p ir b) : Holds p ir b' ∧ Le b b' ∧ All2 (fun t ty => AL.get b'.tys t = some ty) ts xs := by
  fun_induction matchResults p b ts xs with
  | case1 b => cases h; exact ⟨hb, Le.refl _, .nil⟩
  | case2 | case4 => cases h
  | case3 b t ts x xs b1 hb1 ih =>
    obtain ⟨h1, hle1, hg1⟩ := bindTy_spec hb1 hb
    obtain ⟨h2, hle2, hall⟩ := ih h h1
    exact ⟨h2, hle1.trans hle2, .cons (hle2.tys _ _ hg1) hall⟩

/-- what a recursive call of the operation matcher has to guarantee -/
def RecOk (p : Pattern) (ir : IR) (rec : Binding → Nat → OpId → Option Binding) : Prop :=
  ∀ b j o b', rec b j o = some b' → Holds p ir b → Holds p ir b' ∧ Le b b' ∧ AL.get b'.ops j = some o

theorem matchOperands_spec (hrec : RecOk p ir rec) {rs : List ORef} {xs : List Val}
    (h : matchOperands p ir rec b rs xs = some b') (hb : Holds p ir b) :
    Holds p ir b' ∧ Le b b' ∧ All2 (OperandOk b') rs xs := by
  fun_induction matchOperands p ir rec b rs xs with
  | case1 b => cases h; exact ⟨hb, Le.refl _, .nil⟩
  | case2 | case4 => cases h
  | case3 b r rs x xs b1 hb1 ih =>
    have step : Holds p ir b1 ∧ Le b b1 ∧ OperandOk b1 r x := by
      cases r with
      | val v => exact bindVal_spec hb1 hb
      | res j idx =>
        cases x with
        | arg k => cases hb1
        | res o k =>
          dsimp only at hb1
          split at hb1
          · rename_i e
            subst e
            obtain ⟨h1, hle1, hg⟩ := hrec _ _ _ _ hb1 hb
            exact ⟨h1, hle1, o, rfl, hg⟩
          · cases hb1
    obtain ⟨h1, hle1, hok⟩ := step
    obtain ⟨h2, hle2, hall⟩ := ih h h1
    exact ⟨h2, hle1.trans hle2, .cons (hok.mono hle2) hall⟩

theorem matchOp_spec (fuel : Nat) : RecOk p ir (matchOp p ir fuel) := by
  intro b i o b' h hb
  -- two branches of `matchOp` return a binding: `i` is already bound to `o` (case2), or all three stages succeed and
  -- `i` is bound now (case8)
  fun_induction matchOp p ir fuel b i o generalizing b' with
  | case2 fuel b i o ho => cases h; exact ⟨hb, Le.refl _, ho⟩
  | case8 fuel b i o _ pat x hx hpat hname b1 hb1 b2 hb2 b3 hb3 hnone3 ih =>
    cases h
    obtain ⟨h1, hle1, hA⟩ := matchAttrs_spec hb1 hb
    obtain ⟨h2, hle2, hO⟩ := matchOperands_spec (fun b j o b' => ih b j o b') hb2 h1
    obtain ⟨h3, hle3, hR⟩ := matchResults_spec hb3 h2
    have hent : EntO p ir b3 i o := ⟨pat, x, hpat, hx, hname,
      fun n a hm => (hA n a hm).imp fun _ e => ⟨e.1, (hle2.trans hle3).attrs _ _ e.2⟩,
      hO.mono fun _ _ => OperandOk.mono hle3, hR⟩
    obtain ⟨h4, hle4, hget⟩ := h3.consOp hnone3 hent
    exact ⟨h4, ((hle1.trans hle2).trans hle3).trans hle4, hget⟩
  | _ => cases h

theorem matchRoot_spec {o : OpId} (h : matchRoot p ir o = some b) :
    Holds p ir b ∧ AL.get b.ops p.root = some o := by
  unfold matchRoot at h
  split at h
  · cases h
  · obtain ⟨h1, _, h3⟩ := matchOp_spec _ _ _ _ _ h (holds_empty p ir)
    exact ⟨h1, h3⟩

/-! ### completeness

Below any instance `B` a run succeeds and stays below `B`.  The runs also say which operation keys they leave alone
(`Above n`: those from `n` on): that is what keeps node `i` free while its three stages run. -/

def Above (n : Nat) (b b' : Binding) : Prop := ∀ k, n ≤ k → AL.get b'.ops k = AL.get b.ops k

theorem Above.trans {a b c : Binding} {n : Nat} (h1 : Above n a b) (h2 : Above n b c) : Above n a c :=
  fun k hk => (h2 k hk).trans (h1 k hk)

theorem Above.of_eq {n : Nat} (h : b'.ops = b.ops) : Above n b b' := fun _ _ => by rw [h]

theorem Above.mono {n m : Nat} (h : Above n b b') (hnm : n ≤ m) : Above m b b' :=
  fun k hk => h k (Nat.le_trans hnm hk)

theorem bindTy_complete {t : Nat} {x : Ty} (hle : Le b B) (hB : Holds p ir B) (hx : AL.get B.tys t = some x) :
    ∃ b', bindTy p b t x = some b' ∧ Le b' B := by
  unfold bindTy
  cases hg : AL.get b.tys t with
  | some y => obtain rfl := AL.get_le_eq hle.tys hg hx; exact ⟨b, if_pos rfl, hle⟩
  | none =>
    obtain ⟨c, hc, hopt⟩ := hB.tys t x hx
    have hle' : Le { b with tys := (t, x) :: b.tys } B :=
      ⟨hle.ops, hle.vals, hle.attrs, AL.get_cons_forall hle.tys hx⟩
    simp only [hc]
    cases c with
    | none => exact ⟨_, rfl, hle'⟩
    | some c => exact ⟨_, if_pos (of_decide_eq_true hopt), hle'⟩

theorem bindVal_complete {v : Nat} {x : Val} (hle : Le b B) (hB : Holds p ir B) (hx : AL.get B.vals v = some x) :
    ∃ b', bindVal p ir b v x = some b' ∧ Le b' B := by
  unfold bindVal
  cases hg : AL.get b.vals v with
  | some y => obtain rfl := AL.get_le_eq hle.vals hg hx; exact ⟨b, if_pos rfl, hle⟩
  | none =>
    obtain ⟨c, hc, hty⟩ := hB.vals v x hx
    simp only [hc]
    cases c with
    | none => exact ⟨_, rfl, hle.ops, AL.get_cons_forall hle.vals hx, hle.attrs, hle.tys⟩
    | some t =>
      obtain ⟨ty, h1, h2⟩ := hty t rfl
      obtain ⟨b1, hb1, hle1⟩ := bindTy_complete (b := b) hle hB h2
      simp only [h1, hb1]
      exact ⟨_, rfl, hle1.ops, AL.get_cons_forall hle1.vals hx, hle1.attrs, hle1.tys⟩

theorem bindAttr_complete {a : Nat} {x : Attr} (hle : Le b B) (hB : Holds p ir B)
    (hx : AL.get B.attrs a = some x) : ∃ b', bindAttr p b a x = some b' ∧ Le b' B := by
  unfold bindAttr
  cases hg : AL.get b.attrs a with
  | some y => obtain rfl := AL.get_le_eq hle.attrs hg hx; exact ⟨b, if_pos rfl, hle⟩
  | none =>
    obtain ⟨ap, hap, hopt, hty⟩ := hB.attrs a x hx
    simp only [hap, hopt, if_true]
    cases hapty : ap.ty with
    | none => exact ⟨_, rfl, hle.ops, hle.vals, AL.get_cons_forall hle.attrs hx, hle.tys⟩
    | some t =>
      obtain ⟨ty, h1, h2⟩ := hty t hapty
      obtain ⟨b1, hb1, hle1⟩ := bindTy_complete (b := b) hle hB h2
      simp only [h1, hb1]
      exact ⟨_, rfl, hle1.ops, hle1.vals, AL.get_cons_forall hle1.attrs hx, hle1.tys⟩

theorem matchAttrs_complete {x : Op} (hB : Holds p ir B) :
    ∀ (l : List (Nat × Nat)) {b : Binding}, Le b B →
      (∀ n a, (n, a) ∈ l → ∃ av, x.attr n = some av ∧ AL.get B.attrs a = some av) →
      ∃ b', matchAttrs p x b l = some b' ∧ Le b' B ∧ b'.ops = b.ops := by
  intro l
  induction l with
  | nil => intro b hle _; exact ⟨b, rfl, hle, rfl⟩
  | cons na r ih =>
    intro b hle hall
    obtain ⟨n, a⟩ := na
    obtain ⟨av, h1, h2⟩ := hall n a (List.mem_cons_self ..)
    obtain ⟨b1, hb1, hle1⟩ := bindAttr_complete (b := b) hle hB h2
    obtain ⟨b2, hb2, hle2, e2⟩ := ih hle1 (fun n' a' hm => hall n' a' (List.mem_cons_of_mem _ hm))
    exact ⟨b2, by simp only [matchAttrs, h1, hb1, hb2], hle2, e2.trans (bindAttr_frame hb1)⟩

theorem matchResults_complete (hB : Holds p ir B) :
    ∀ {ts : List Nat} {xs : List Ty}, All2 (fun t ty => AL.get B.tys t = some ty) ts xs → ∀ {b : Binding}, Le b B →
      ∃ b', matchResults p b ts xs = some b' ∧ Le b' B ∧ b'.ops = b.ops := by
  intro ts xs hall
  induction hall with
  | nil => intro b hle; exact ⟨b, rfl, hle, rfl⟩
  | cons h1 _ ih =>
    intro b hle
    obtain ⟨b1, hb1, hle1⟩ := bindTy_complete (b := b) hle hB h1
    obtain ⟨b2, hb2, hle2, e2⟩ := ih hle1
    exact ⟨b2, by simp only [matchResults, hb1, hb2], hle2, e2.trans (bindTy_frame hb1).1⟩

theorem matchOperands_complete
    {i : Nat} (hB : Holds p ir B)
    (hrec : ∀ b j o, j < i → Le b B → AL.get B.ops j = some o →
      ∃ b', rec b j o = some b' ∧ Le b' B ∧ Above i b b') :
    ∀ {rs : List ORef} {xs : List Val}, All2 (OperandOk B) rs xs → (∀ j idx, ORef.res j idx ∈ rs → j < i) →
      ∀ {b : Binding}, Le b B → ∃ b', matchOperands p ir rec b rs xs = some b' ∧ Le b' B ∧ Above i b b' := by
  intro rs xs hall
  induction hall with
  | nil => intro _ b hle; exact ⟨b, rfl, hle, .of_eq rfl⟩
  | @cons r x rs xs h1 _ ih =>
    intro hlt b hle
    have hlt' : ∀ j idx, ORef.res j idx ∈ rs → j < i := fun j idx hm => hlt j idx (List.mem_cons_of_mem _ hm)
    cases r with
    | val v =>
      obtain ⟨b1, hb1, hle1⟩ := bindVal_complete (b := b) hle hB h1
      obtain ⟨b2, hb2, hle2, k2⟩ := ih hlt' hle1
      exact ⟨b2, by simp only [matchOperands, hb1, hb2], hle2, (Above.of_eq (bindVal_frame hb1)).trans k2⟩
    | res j idx =>
      obtain ⟨o, e, ho⟩ := h1
      subst e
      obtain ⟨b1, hb1, hle1, k1⟩ := hrec b j o (hlt j idx (List.mem_cons_self ..)) hle ho
      obtain ⟨b2, hb2, hle2, k2⟩ := ih hlt' hle1
      exact ⟨b2, by simp only [matchOperands, if_true, hb1, hb2], hle2, k1.trans k2⟩

/-- A run at node `i` binds, besides `i`, only operation nodes below `i` (`WFPat`: `pdl.result` operands refer to
earlier operations). -/
theorem matchOp_complete (hwf : WFPat p) (hB : Holds p ir B) :
    ∀ fuel i o b, i < fuel → Le b B → AL.get B.ops i = some o →
      ∃ b', matchOp p ir fuel b i o = some b' ∧ Le b' B ∧ Above (i + 1) b b' := by
  intro fuel
  induction fuel with
  | zero => intro i o b h; omega
  | succ fuel ih =>
    intro i o b hi hle ho
    simp only [matchOp]
    cases hg : AL.get b.ops i with
    | some o' => obtain rfl := AL.get_le_eq hle.ops hg ho; exact ⟨b, if_pos rfl, hle, .of_eq rfl⟩
    | none =>
      obtain ⟨pat, x, hpat, hx, hname, hA, hO, hR⟩ := hB.ops i o ho
      obtain ⟨b1, hb1, hle1, e1⟩ := matchAttrs_complete (x := x) hB pat.attrs hle hA
      obtain ⟨b2, hb2, hle2, k2⟩ := matchOperands_complete (rec := fun b' j o' => matchOp p ir fuel b' j o') (i := i) hB
        (fun b j o hj hle ho => (ih j o b (by omega) hle ho).imp fun _ h => ⟨h.1, h.2.1, h.2.2.mono hj⟩)
        hO (hwf i pat hpat) hle1
      obtain ⟨b3, hb3, hle3, e3⟩ := matchResults_complete hB hR hle2
      have k3 : Above i b b3 := ((Above.of_eq e1).trans k2).trans (.of_eq e3)
      -- the stages left every key from `i` on alone, so `i` is still free
      have hnone3 : AL.get b3.ops i = none := (k3 i (Nat.le_refl i)).trans hg
      exact ⟨{ b3 with ops := (i, o) :: b3.ops }, by simp only [hpat, hx, hname, if_true, hb1, hb2, hb3, hnone3],
        ⟨AL.get_cons_forall hle3.ops ho, hle3.vals, hle3.attrs, hle3.tys⟩,
        fun k hk => by rw [AL.get_cons, if_neg (by omega)]; exact k3 k (by omega)⟩

theorem matchRoot_complete {o : OpId} (hwf : WFPat p)
    (hB : Holds p ir B) (ho : AL.get B.ops p.root = some o) :
    ∃ b, matchRoot p ir o = some b ∧ Le b B := by
  -- the root is bound in `B`, so the pattern has an operation there
  have hne : p.ops ≠ [] := by
    obtain ⟨pat, _, hpat, _⟩ := hB.ops _ _ ho
    rintro e; simp [e] at hpat
  unfold matchRoot
  simp only [hne, if_false]
  exact (matchOp_complete hwf hB _ _ _ _ (by unfold Pattern.root; omega)
    ⟨fun _ _ h => by simp at h, fun _ _ h => by simp at h, fun _ _ h => by simp at h, fun _ _ h => by simp at h⟩ ho).imp
    fun _ h => ⟨h.1, h.2.1⟩

end Xdsl.PDL
