import XdslModel.OpDef
import XdslProofs.C10
import XdslProofs.Lemmas.OpDefVerifyOp
/-!
# C10 — constraint part: "every piece, property and attribute satisfies its constraint with
consistent constraint variables"

`verifyPieces` (in `Lemmas/OpDefConstraints.lean`) is the sequence of `constr.verify(piece, ctx)`
calls `OpDef.verify` makes with its single `ConstraintContext`; `RangeC.Sat σ c piece` is the
declarative reading: the piece satisfies `c` when the constraint variables have the values `σ`.
-/
namespace Xdsl.OpDef

/-- **one shared context = one consistent assignment.**  For definitions in which every variable
name is declared with one base constraint (`WF`; a `ClassVar` shared by its uses), checking the
pieces one after the other against a shared, initially empty `ConstraintContext` succeeds exactly
when there is a single assignment of the variables under which every piece satisfies its
constraint — independently of the order in which the pieces are visited. -/
theorem verifyPieces_iff_assignment (decl rdecl : Nat → BaseC) (ps : List (RangeC × List Nat))
    (wf : ∀ p ∈ ps, p.1.WF decl rdecl) :
    (∃ ctx', verifyPieces ps {} = some ctx') ↔ ∃ σ : Assign, ∀ p ∈ ps, p.1.Sat σ p.2 :=
  ⟨fun ⟨_, h⟩ => ⟨_, ((verifyPieces_checks ps wf).sound (Ctx.inv_empty decl rdecl) h).2.2⟩,
    fun ⟨σ, hs⟩ => ((verifyPieces_checks ps wf).complete (Ctx.empty_le σ) hs).imp fun _ h => h.1⟩

/-- Without the well-formedness hypothesis the equivalence fails (and so does the code): the same
variable name declared once with `eq 0` and once with `eq 1` lets `[0]`, `[0]` through, although no
assignment satisfies the second declaration. -/
theorem verifyPieces_illformed_counterexample :
    (verifyPieces [(.single (.var 0 (.eq 0)), [0]), (.single (.var 0 (.eq 1)), [0])] {}).isSome = true
    ∧ ¬ ∃ σ : Assign, ∀ p ∈ [(RangeC.single (.var 0 (.eq 0)), [0]), (RangeC.single (.var 0 (.eq 1)), [0])],
        p.1.Sat σ p.2 := by
  refine ⟨by decide, ?_⟩
  rintro ⟨σ, h⟩
  obtain ⟨a, ha, -, hb⟩ := h (RangeC.single (.var 0 (.eq 1)), [0]) (by simp)
  simp only [List.cons.injEq, and_true] at ha
  subst ha
  simp [BaseC.accepts] at hb

/-- **a loop behind `verify_variadic_size`.**  `irdl_op_verify_arg_list` and `irdl_op_verify_regions`
first check the sizes and then run a loop that reads segment `i` through accessor `i`.  Under
any segmentation every accessor returns its piece of it, so the loop can be described (`P`) in terms
of the pieces; the whole succeeds exactly when some segmentation exists for which `P` holds, and
fails only with what the loop fails with. -/
theorem sizeGuard_iff {α : Type} (cd : ConstructDef) (xs : List α) (attr : SizeAttr)
    (wf : wfDef cd.kinds cd.opt = true) (loop : Except VErr Ctx) (P : List Nat → Ctx → Prop)
    (hloop : ∀ sizes,
      (∀ j, j < cd.segs.length → accessor cd.kinds cd.opt attr xs j = .ok (segAt sizes xs j)) →
      (∀ ctx', loop = .ok ctx' ↔ P sizes ctx') ∧ ∀ e, loop = .error e → e = .verify) :
    (∀ ctx', (if !verifySizes cd.kinds cd.opt xs.length attr then .error .verify else loop) = .ok ctx' ↔
      ∃ sizes, Segmented cd xs.length attr sizes ∧ P sizes ctx')
    ∧ ∀ e, (if !verifySizes cd.kinds cd.opt xs.length attr then .error .verify else loop) = .error e →
      e = .verify := by
  have hiff := verify_iff_segmentation cd.kinds cd.opt xs.length attr wf
  have hl := fun sizes (hseg : Segmented cd xs.length attr sizes) => hloop sizes fun j hj =>
    accessor_eq_segment cd.kinds cd.opt attr xs wf sizes hseg.1 hseg.2.1 hseg.2.2 j
      (by simpa [ConstructDef.kinds] using hj)
  cases hvs : verifySizes cd.kinds cd.opt xs.length attr with
  | false =>
    refine ⟨fun ctx' => ⟨fun h => (nomatch h), fun ⟨sizes, hseg, _⟩ => ?_⟩, fun e h => by cases h; rfl⟩
    rw [hiff.2 ⟨sizes, hseg⟩] at hvs
    cases hvs
  | true =>
    obtain ⟨sizes, hseg⟩ := hiff.1 hvs
    exact ⟨fun ctx' => ⟨fun h => ⟨sizes, hseg, ((hl sizes hseg).1 ctx').1 h⟩,
      fun ⟨sizes', hseg', hp⟩ => ((hl sizes' hseg').1 ctx').2 hp⟩, (hl sizes hseg).2⟩

/-- **operand / result list verification** (`irdl_op_verify_arg_list`) succeeds exactly when the
list has a valid segmentation and the pieces, cut by it, pass their constraints in the shared
context — and it never fails with anything but a `VerifyException`. -/
theorem verifyArgList_iff (cd : ConstructDef) (tys : List Nat) (attr : SizeAttr) (ctx : Ctx)
    (wf : wfDef cd.kinds cd.opt = true) :
    (∀ ctx', verifyArgList cd tys attr ctx = .ok ctx' ↔
      ∃ sizes, Valid cd.kinds cd.opt sizes ∧ sizes.sum = tys.length ∧ Agrees cd.opt attr sizes ∧
        verifyPieces (piecesFrom sizes tys cd.segs 0) ctx = some ctx')
    ∧ ∀ e, verifyArgList cd tys attr ctx = .error e → e = .verify := by
  have := sizeGuard_iff cd tys attr wf (verifyArgsLoop cd.kinds cd.opt attr tys cd.segs 0 ctx)
    (fun sizes ctx' => verifyPieces (piecesFrom sizes tys cd.segs 0) ctx = some ctx')
    (fun sizes hacc => by
      rw [verifyArgsLoop_eq cd.kinds cd.opt attr tys sizes cd.segs 0 ctx fun j _ hj =>
        hacc j (by omega)]
      exact ⟨fun ctx' => liftV_eq_ok _ _, liftV_error _⟩)
  simpa only [verifyArgList, Segmented, and_assoc] using this

/-- outcome of `verifyArgList` as a decidable tag -/
def outcome (r : Except VErr Ctx) : Nat :=
  match r with
  | .ok _ => 0
  | .error .verify => 1
  | .error (.py _) => 2

/-- non-vacuity: `T` shared by a single operand and a variadic one, sizes from the attribute:
accepted; inconsistent `T`: `VerifyException`; sizes not summing to the list length:
`VerifyException`. -/
example :
    outcome (verifyArgList { opt := .attrSized, segs :=
      [{ kind := .single, constr := .single (.var 0 (.oneOf [1, 2])) },
       { kind := .variadic, constr := .rangeOf (.var 0 .any) }] } [1, 1, 1] (.dense true [1, 2]) {}) = 0
    ∧ outcome (verifyArgList { opt := .attrSized, segs :=
      [{ kind := .single, constr := .single (.var 0 (.oneOf [1, 2])) },
       { kind := .variadic, constr := .rangeOf (.var 0 .any) }] } [1, 1, 2] (.dense true [1, 2]) {}) = 1
    ∧ outcome (verifyArgList { opt := .attrSized, segs :=
      [{ kind := .single, constr := .single (.var 0 (.oneOf [1, 2])) },
       { kind := .variadic, constr := .rangeOf (.var 0 .any) }] } [1, 1, 1] (.dense true [1, 3]) {}) = 1 := by
  decide

end Xdsl.OpDef
