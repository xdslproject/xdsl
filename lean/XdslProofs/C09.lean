import XdslProofs.Lemmas.ConstraintVerify
/-!
# C09 — IRDL attribute constraints accept exactly what they describe (semantics part)

"An attribute constraint accepts an attribute exactly when its definition says so: a union accepts
what some alternative accepts, an intersection what all accept, base, equality, set and parametrized
constraints check class and parameters, and constraint variables require all occurrences to be
equal."

`sat U σ c a` (in `Lemmas/Constraint.lean`) is that definition, read off the sentence: `σ` is an
assignment of the constraint variables.  `verify` is the model of the Python `verify` methods with
their shared, mutated `ConstraintContext`, the class-dispatch table of `AnyOf` and the constructor
check of `AnyOf.__init__` (`WF`).  `WellDeclared decl c`: every variable name carries one constraint
(`decl n`) which does not mention the name itself — the intended use of `VarConstraint`.
`UnivOK U`: a runtime-final class has no proper subclass (checked on the real classes every run).
-/
namespace Xdsl.Constraint

/-- **Headline.**  With an initial context whose bindings satisfy their declarations, `verify`
succeeds exactly when some assignment extending the context puts the attribute in the set the
constraint describes — for every class table with `UnivOK`, every constraint tree that the constructors
accept (`WF`) and that uses its variables as declared (`WellDeclared`), every attribute and context. -/
theorem verify_iff_sat (U : Univ) (hU : UnivOK U) (decl : Nat → C) (c : C) (hw : WF U c)
    (hd : WellDeclared decl c) (a : Attr) (ctx : Ctx) (hi : CtxInv U decl ctx) :
    (∃ ctx', verify U c a ctx = some ctx') ↔ ∃ σ, Sub ctx σ ∧ sat U σ c a := by
  constructor
  · rintro ⟨ctx', h⟩
    obtain ⟨e, _, s, _⟩ := verify_sound c a hd ctx ctx' h hi
    exact ⟨AL.get ctx', e, s⟩
  · rintro ⟨σ, hs, h⟩
    obtain ⟨ctx', h1, _⟩ := verify_complete hU c a hw h ctx hs
    exact ⟨ctx', h1⟩

/-- `constraint.verifies(attr)` (fresh context) holds exactly when the attribute is in the described
set under some assignment of the variables. -/
theorem accepts_iff_sat (U : Univ) (hU : UnivOK U) (decl : Nat → C) (c : C) (hw : WF U c)
    (hd : WellDeclared decl c) (a : Attr) : accepts U c a = true ↔ ∃ σ, sat U σ c a := by
  have := verify_iff_sat U hU decl c hw hd a [] (.nil U decl)
  unfold accepts
  rw [Option.isSome_iff_exists, this]
  constructor
  · rintro ⟨σ, _, h⟩; exact ⟨σ, h⟩
  · rintro ⟨σ, h⟩; exact ⟨σ, fun n v h => by simp at h, h⟩

/-- on success the resulting context is itself a satisfying assignment, extends the initial one and
binds only variables of the constraint -/
theorem verify_result (U : Univ) (decl : Nat → C) (c : C) (hd : WellDeclared decl c) (a : Attr)
    (ctx ctx' : Ctx) (hi : CtxInv U decl ctx) (h : verify U c a ctx = some ctx') :
    Ext ctx ctx' ∧ Frame ctx ctx' (vars c) ∧ sat U (AL.get ctx') c a ∧ CtxInv U decl ctx' :=
  verify_sound c a hd ctx ctx' h hi

/-- **A constraint that stands for a union.**  If `r` describes, under every assignment, exactly what
some member of `cs` describes, then in every admissible context `verify` succeeds on `r` exactly when
it succeeds on some member (not necessarily with the same resulting context). -/
theorem verify_union (U : Univ) (hU : UnivOK U) (decl : Nat → C) {r : C} {cs : List C} (a : Attr)
    (hs : ∀ σ, sat U σ r a ↔ ∃ c ∈ cs, sat U σ c a) (hwr : WF U r) (hdr : WellDeclared decl r)
    (hw : ∀ c ∈ cs, WF U c) (hd : ∀ c ∈ cs, WellDeclared decl c) (ctx : Ctx) (hi : CtxInv U decl ctx) :
    (∃ ctx', verify U r a ctx = some ctx') ↔ ∃ c ∈ cs, ∃ ctx', verify U c a ctx = some ctx' := by
  rw [verify_iff_sat U hU decl r hwr hdr a ctx hi]
  have each := fun c hc => verify_iff_sat U hU decl c (hw c hc) (hd c hc) a ctx hi
  constructor
  · rintro ⟨σ, hsub, h⟩
    obtain ⟨c, hc, h⟩ := (hs σ).1 h
    exact ⟨c, hc, (each c hc).2 ⟨σ, hsub, h⟩⟩
  · rintro ⟨c, hc, h⟩
    obtain ⟨σ, hsub, h⟩ := (each c hc).1 h
    exact ⟨σ, hsub, (hs σ).2 ⟨c, hc, h⟩⟩

/-- "a union accepts what some alternative accepts" — `AnyOf.verify` looks only at the alternative
its class table selects; under the disjointness the constructor enforces that is no loss. -/
theorem anyOf_sem (U : Univ) (hU : UnivOK U) (decl : Nat → C) (cs : List C) (hw : WF U (.anyOf cs))
    (hd : WellDeclared decl (.anyOf cs)) (a : Attr) (ctx : Ctx) (hi : CtxInv U decl ctx) :
    (∃ ctx', verify U (.anyOf cs) a ctx = some ctx') ↔ ∃ c ∈ cs, ∃ ctx', verify U c a ctx = some ctx' :=
  verify_union U hU decl (r := .anyOf cs) a (fun σ => satAny_iff U σ a cs) hw hd
    ((WFL_iff U cs).1 hw.2) ((WDL_iff decl cs).1 hd) ctx hi

/-- the context after a successful `AnyOf.verify` is the one produced by one of the alternatives -/
theorem anyOf_result (U : Univ) (cs : List C) (a : Attr) (ctx ctx' : Ctx)
    (h : verify U (.anyOf cs) a ctx = some ctx') : ∃ c ∈ cs, verify U c a ctx = some ctx' :=
  verify_anyOf_some U h

/-- "an intersection [accepts] what all accept": one assignment satisfies every conjunct -/
theorem allOf_sem (U : Univ) (hU : UnivOK U) (decl : Nat → C) (cs : List C) (hw : WF U (.allOf cs))
    (hd : WellDeclared decl (.allOf cs)) (a : Attr) (ctx : Ctx) (hi : CtxInv U decl ctx) :
    (∃ ctx', verify U (.allOf cs) a ctx = some ctx') ↔ ∃ σ, Sub ctx σ ∧ ∀ c ∈ cs, sat U σ c a := by
  rw [verify_iff_sat U hU decl _ hw hd a ctx hi]
  simp only [sat_allOf, satAll_iff]

/-- `AllOf.verify` checks the conjuncts in order on the same attribute, threading the context -/
theorem allOf_unfold (U : Univ) (c : C) (cs : List C) (a : Attr) (ctx : Ctx) :
    verify U (.allOf (c :: cs)) a ctx = (verify U c a ctx).bind (fun ctx' => verify U (.allOf cs) a ctx') :=
  verifyAll_cons U c cs a ctx

/-- base constraint: class test only -/
theorem base_sem (U : Univ) (d : Nat) (a : Attr) (ctx : Ctx) :
    verify U (.base d) a ctx = if isSub U a.cls d then some ctx else none := rfl

theorem eq_sem (U : Univ) (b a : Attr) (ctx : Ctx) :
    verify U (.eq b) a ctx = if a = b then some ctx else none := by
  unfold verify; simp only [Attr.beq_iff]

theorem set_sem (U : Univ) (vs : List Attr) (a : Attr) (ctx : Ctx) :
    verify U (.set vs) a ctx = if a ∈ vs then some ctx else none := by
  unfold verify; simp only [memA_iff]

/-- parametrized constraint: class test, then the parameters one by one (a different number of
parameters is a failure: `param_sem_length`) -/
theorem param_sem (U : Univ) (d : Nat) (ps : List C) (ca : Nat) (as : List Attr) (ctx : Ctx) :
    verify U (.param d ps) (.param ca as) ctx = if isSub U ca d then verifyZip U ps as ctx else none := rfl

theorem param_sem_length (U : Univ) : ∀ (ps : List C) (as : List Attr) (ctx ctx' : Ctx),
    verifyZip U ps as ctx = some ctx' → ps.length = as.length := by
  intro ps
  induction ps with
  | nil => intro as ctx ctx' h; cases as with | nil => rfl | cons _ _ => cases h
  | cons p ps ih =>
    intro as ctx ctx' h
    cases as with
    | nil => cases h
    | cons a as =>
      rw [verifyZip_cons] at h
      cases h1 : verify U p a ctx with
      | none => rw [h1] at h; cases h
      | some c1 => rw [h1] at h; exact congrArg (· + 1) (ih as c1 ctx' h)

/-- after any successful occurrence the name is bound to the attribute, so that every later
occurrence (with whatever constraint) accepts exactly that attribute -/
theorem var_sem (U : Univ) (n : Nat) (c : C) (a : Attr) (ctx ctx' : Ctx)
    (h : verify U (.var n c) a ctx = some ctx') :
    AL.get ctx' n = some a ∧
      ∀ c2 b, verify U (.var n c2) b ctx' = if b = a then some ctx' else none := by
  have hb : AL.get ctx' n = some a := by
    cases hg : AL.get ctx n with
    | some v =>
      rw [verify_var_bound U c a hg] at h
      split at h
      · rename_i e; cases h; rw [hg, e]
      · cases h
    | none =>
      rw [verify_var_unbound U c a hg] at h
      obtain ⟨ctx1, _, e⟩ := Option.map_eq_some_iff.1 h
      rw [← e, AL.get_set, if_pos rfl]
  exact ⟨hb, fun c2 b => verify_var_bound U c2 b hb⟩

/-- `get_bases` is sound: an accepted attribute's exact class is one of the bases (this is what
makes the dispatch table of `AnyOf` lossless) -/
theorem bases_sound (U : Univ) (hU : UnivOK U) (decl : Nat → C) (c : C) (hw : WF U c)
    (hd : WellDeclared decl c) (a : Attr) (ctx ctx' : Ctx) (hi : CtxInv U decl ctx)
    (h : verify U c a ctx = some ctx') (b : List Nat) (hb : bases U c = some b) : a.cls ∈ b := by
  obtain ⟨_, _, s, _⟩ := verify_sound c a hd ctx ctx' h hi
  exact bases_sat U _ a hU c b hw s hb

/-! ### non-vacuity -/

/-- 0: a final parameterless type below the abstract class 3; 1: a final two-parameter attribute;
2: a final data attribute; 3: an abstract class -/
def U0 : Univ :=
  [⟨true, true, 0, [3]⟩, ⟨true, true, 2, []⟩, ⟨true, false, 0, []⟩, ⟨false, false, 0, []⟩]

theorem U0_ok : UnivOK U0 := univOK_of_supers (by decide)

/-- the union `eq d7 | Pair[T, T]` (`d7` a data attribute, `T` a variable bounded by the abstract
class 3) is well-formed ... -/
example : WF U0 (.anyOf [.eq (.data 2 7), .param 1 [.var 0 (.base 3), .var 0 (.base 3)]]) := by
  simp only [WF, WFL, and_true]; decide
/-- ... accepts `Pair(t, t)` (`t` the parameterless type 0) binding `T`, rejects a pair with different
components -/
example : verify U0 (.anyOf [.eq (.data 2 7), .param 1 [.var 0 (.base 3), .var 0 (.base 3)]])
    (.param 1 [.param 0 [], .param 0 []]) [] = some [(0, .param 0 [])] := by decide
example : accepts U0 (.anyOf [.eq (.data 2 7), .param 1 [.var 0 (.base 3), .var 0 (.base 3)]])
    (.param 1 [.param 0 [], .data 2 7]) = false := by decide
/-- a non-disjoint union is refused by the constructor -/
example : checkAnyOf U0 [.eq (.param 0 []), .base 0] = false := by decide
example : checkAnyOf U0 [.base 3, .base 0] = false := by decide

end Xdsl.Constraint
