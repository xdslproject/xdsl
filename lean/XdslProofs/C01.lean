import XdslProofs.Lemmas.IRStepAll
import XdslProofs.Lemmas.IRStream
import XdslModel.IRPartial
/-!
# C01 — IR edits keep the op/block/region tree and use-def chains consistent

"After any sequence of successful IR edits … every operation, block and region is found exactly
once in its container in both forward and backward order and points back to that container. Every
value's use list and every block's predecessor list contains exactly the (user, position) pairs
that appear in operand and successor lists, and argument/result positions match their index in
their owner."

Model: `XdslModel/DLL.lean` (one generic intrusive doubly-linked-list library), `XdslModel/IRStore.lean`
(the store and every public mutator as pointer updates), `XdslModel/IRApi.lean` (the `Call` language
of histories), `XdslModel/DLLStream.lean` and `XdslModel/IRPartial.lean` (Parts 1b and 3b).  Lemmas:
`XdslProofs/Lemmas/{AL,DLL,DLLStream,Except,List,IRStore,IRStream,IRUses,IRSubtree,IRErase,IRStepAll}.lean`.

Part 1 — the list library, proved completely: every primitive preserves the representation
invariant `DLL.WF` and refines the corresponding operation on abstract lists.
Part 1b — collection arguments (`Block | Iterable[Block]`) are traversed once: the hand-written
single-pass loops of `Region.add_block` / `Region.insert_block_before` (`XdslModel/DLLStream.lean`)
agree on every node and container with the one-block-at-a-time model functions that the harness
compares the real methods with, for every argument form (list, tuple, generator, iterator, …).
Part 2 — what the store invariant `Inv` says (the property's sentence, clause by clause).
Part 3 — the empty universe, where every history starts, satisfies `Inv`.
Part 3b — the state that a raising `Block.add_ops`, `Block.insert_ops_before` or `Region.add_block` leaves
behind (the elements before the rejected one stay inserted; `XdslModel/IRPartial.lean`) satisfies `Inv`.
Part 4 — the 13 erasing call kinds: the subtree walk of `drop_all_references` from a detached object
terminates, is duplicate-free and parent-closed (`erase_walk`), dropping it preserves `Inv`
(`inv_dropTree`), hence `inv_step` / `inv_history` over all 58 call kinds.  The only hypothesis is the
contract of `Operation.drop_all_references` (called on a detached operation; without it the property
is false, `dropAllReferences_attached_counterexample`).  No acyclicity of the parent relation is
needed: an object has one parent and a detached root has none, so the walk below a detached root
cannot reach a cycle.  `inv_step_unconditional` / `inv_history_unconditional`: the 57 other call kinds without
hypothesis; `inv_step_partial` / `inv_history_partial`: their restriction to the 45 call kinds in `covered`.
-/
namespace Xdsl.C01
open Xdsl Xdsl.DLL Xdsl.IR

/-! ## Part 1 — the generic doubly-linked-list library -/

/-- "found … in both forward and backward order": under the representation invariant the backward
traversal of every container is the reverse of its forward traversal, and the traversal is the
abstract list. -/
theorem dll_forward_backward {s : L} {f : Nat → List Nat} (h : WF s f) (c : Nat) :
    s.toList c = f c ∧ s.toListBack c = (s.toList c).reverse :=
  ⟨h.toList_eq c, h.toListBack_eq_reverse c⟩

/-- "found exactly once … and points back to that container": no duplicates, no node in two
containers, membership = parent pointer, and nodes outside every list have null links. -/
theorem dll_exactly_once {s : L} {f : Nat → List Nat} (h : WF s f) :
    (∀ c, (s.toList c).Nodup) ∧
    (∀ c n, n ∈ s.toList c ↔ (s.nd n).parent = some c) ∧
    (∀ n, (s.nd n).parent = none → s.nd n = {}) := by
  refine ⟨h.nodup_toList, fun c n => ?_, fun n => h.nd_of_parent_none⟩
  rw [h.toList_eq]; exact h.mem_iff_parent c n

/-- a primitive that rewrites the list of one container `c` to `l`: what the traversals show afterwards -/
theorem toList_of_update {s s' : L} {f : Nat → List Nat} (h : WF s f) {c : Nat} {l : List Nat}
    (hw : WF s' (Function.update f c l)) :
    (∃ f', WF s' f') ∧ s'.toList c = l ∧ ∀ d, d ≠ c → s'.toList d = s.toList d :=
  ⟨⟨_, hw⟩, by rw [hw.toList_eq, Function.update_self],
    fun d hd => by rw [hw.toList_eq, h.toList_eq, Function.update_of_ne hd]⟩

/-- `Block.insert_op_before` / `Region.insert_block_before` on the list level:
`toList (insertBefore s c ex new) = List-insert-before (toList s) ex new`. -/
theorem dll_insertBefore {s : L} {f : Nat → List Nat} (h : WF s f) {c ex new : Nat}
    (hex : (s.nd ex).parent = some c) (hnew : (s.nd new).parent = none) :
    (∃ f', WF (s.insertBefore c ex new) f') ∧
    (s.insertBefore c ex new).toList c = insBefore (s.toList c) ex new ∧
    ∀ d, d ≠ c → (s.insertBefore c ex new).toList d = s.toList d := by
  rw [h.toList_eq c]
  exact toList_of_update h (h.insertBefore ((h.mem_iff_parent c ex).mpr hex) (h.not_mem_of_parent_none hnew))

/-- `Block.insert_op_after` on the list level -/
theorem dll_insertAfter {s : L} {f : Nat → List Nat} (h : WF s f) {c ex new : Nat}
    (hex : (s.nd ex).parent = some c) (hnew : (s.nd new).parent = none) :
    (∃ f', WF (s.insertAfter c ex new) f') ∧
    (s.insertAfter c ex new).toList c = insAfter (s.toList c) ex new ∧
    ∀ d, d ≠ c → (s.insertAfter c ex new).toList d = s.toList d := by
  rw [h.toList_eq c]
  exact toList_of_update h (h.insertAfter ((h.mem_iff_parent c ex).mpr hex) (h.not_mem_of_parent_none hnew))

/-- `Block.add_op` / `Region.add_block`: append -/
theorem dll_pushBack {s : L} {f : Nat → List Nat} (h : WF s f) {c new : Nat}
    (hnew : (s.nd new).parent = none) :
    (∃ f', WF (s.pushBack c new) f') ∧ (s.pushBack c new).toList c = s.toList c ++ [new] ∧
    ∀ d, d ≠ c → (s.pushBack c new).toList d = s.toList d := by
  rw [h.toList_eq c]
  exact toList_of_update h (h.pushBack (c := c) (h.not_mem_of_parent_none hnew))

/-- `IRWithUses.add_use`: prepend -/
theorem dll_pushFront {s : L} {f : Nat → List Nat} (h : WF s f) {c new : Nat}
    (hnew : (s.nd new).parent = none) :
    (∃ f', WF (s.pushFront c new) f') ∧ (s.pushFront c new).toList c = new :: s.toList c ∧
    ∀ d, d ≠ c → (s.pushFront c new).toList d = s.toList d := by
  rw [h.toList_eq c]
  exact toList_of_update h (h.pushFront (c := c) (h.not_mem_of_parent_none hnew))

/-- `Block.detach_op` / `Region.detach_block` / `IRWithUses.remove_use`: erase, and the removed
node ends with null links -/
theorem dll_remove {s : L} {f : Nat → List Nat} (h : WF s f) {c n : Nat}
    (hn : (s.nd n).parent = some c) :
    (∃ f', WF (s.remove c n) f') ∧ (s.remove c n).toList c = (s.toList c).erase n ∧
    (∀ d, d ≠ c → (s.remove c n).toList d = s.toList d) ∧ (s.remove c n).nd n = {} := by
  rw [h.toList_eq c]
  obtain ⟨e1, e2, e3⟩ := toList_of_update h (h.remove ((h.mem_iff_parent c n).mpr hn))
  exact ⟨e1, e2, e3, by simp [L.remove]⟩

/-- `Block.split_before`: the list of `c` is cut before `n`; the suffix becomes the list of the
(empty) container `c'` -/
theorem dll_splitBefore {s : L} {f : Nat → List Nat} (h : WF s f) {c n c' : Nat} {a b : List Nat}
    (hab : s.toList c = a ++ n :: b) (hc' : s.toList c' = []) (hcc : c ≠ c') :
    (∃ f', WF (s.splitBefore c n c') f') ∧ (s.splitBefore c n c').toList c = a ∧
    (s.splitBefore c n c').toList c' = n :: b ∧
    ∀ d, d ≠ c → d ≠ c' → (s.splitBefore c n c').toList d = s.toList d := by
  rw [h.toList_eq] at hab hc'
  have hw := h.splitBefore hab hc' hcc
  refine ⟨⟨_, hw⟩, ?_, ?_, fun d h1 h2 => ?_⟩
  · rw [hw.toList_eq, Function.update_of_ne hcc, Function.update_self]
  · rw [hw.toList_eq, Function.update_self]
  · rw [hw.toList_eq, h.toList_eq, Function.update_of_ne h2, Function.update_of_ne h1]

/-- `Region.move_blocks`: the whole list of `src` is appended to `dst` -/
theorem dll_spliceAllBack {s : L} {f : Nat → List Nat} (h : WF s f) {src dst : Nat} (hsd : src ≠ dst) :
    (∃ f', WF (s.spliceAllBack src dst) f') ∧ (s.spliceAllBack src dst).toList src = [] ∧
    (s.spliceAllBack src dst).toList dst = s.toList dst ++ s.toList src ∧
    ∀ d, d ≠ src → d ≠ dst → (s.spliceAllBack src dst).toList d = s.toList d := by
  have hw := h.spliceAllBack hsd
  refine ⟨⟨_, hw⟩, ?_, ?_, fun d h1 h2 => ?_⟩
  · rw [hw.toList_eq, Function.update_of_ne hsd, Function.update_self]
  · rw [hw.toList_eq, h.toList_eq, h.toList_eq, Function.update_self]
  · rw [hw.toList_eq, h.toList_eq, Function.update_of_ne h2, Function.update_of_ne h1]

/-- `Region.move_blocks_before`: the whole list of `src` is put before `t` in `dst` -/
theorem dll_spliceAllBefore {s : L} {f : Nat → List Nat} (h : WF s f) {src dst t : Nat} {a b : List Nat}
    (hsd : src ≠ dst) (hab : s.toList dst = a ++ t :: b) :
    (∃ f', WF (s.spliceAllBefore src dst t) f') ∧ (s.spliceAllBefore src dst t).toList src = [] ∧
    (s.spliceAllBefore src dst t).toList dst = a ++ (s.toList src ++ t :: b) ∧
    ∀ d, d ≠ src → d ≠ dst → (s.spliceAllBefore src dst t).toList d = s.toList d := by
  rw [h.toList_eq] at hab
  have hw := h.spliceAllBefore hsd hab
  refine ⟨⟨_, hw⟩, ?_, ?_, fun d h1 h2 => ?_⟩
  · rw [hw.toList_eq, Function.update_of_ne hsd, Function.update_self]
  · rw [hw.toList_eq, h.toList_eq, Function.update_self]
  · rw [hw.toList_eq, h.toList_eq, Function.update_of_ne h2, Function.update_of_ne h1]

/-- non-vacuity: a concrete pointer structure built by the primitives, traversed both ways -/
example :
    let s := ((((({} : L).pushBack 0 1).pushBack 0 2).insertBefore 0 2 3).pushFront 0 4).remove 0 1
    s.toList 0 = [4, 3, 2] ∧ s.toListBack 0 = [2, 3, 4] ∧ s.nd 1 = {} := by decide +kernel

example : ∃ f, WF ((({} : L).pushBack 0 1).pushBack 0 2) f :=
  ⟨_, (wf_empty.pushBack (c := 0) (new := 1) (by simp)).pushBack (c := 0) (new := 2) (by
    intro d; by_cases h : d = 0 <;> simp [h])⟩

/-! ## Part 1b — a collection argument is traversed exactly once

`Region.add_block`, `Region.insert_block_before` (and through them `insert_block_after`,
`insert_block`, `Region.__init__`, `Rewriter.insert_block`, `Builder.create_block`) accept
`Block | Iterable[Block]`: a list, a tuple, but also a generator or any other one-shot iterator.
The methods therefore consume `iter(blocks)` once with `next`, link every block behind the previous
one and repair the outer link at `StopIteration`.  `XdslModel/DLLStream.lean` has the pointer writes of
exactly that loop; the theorems say that it yields, on every node and container, what inserting the
yielded blocks one at a time yields — the function the real methods are compared with by the harness,
which passes every argument form. -/

/-- `Region.insert_block_before(blocks, t)` on the list level: the blocks are found, in the order
they were yielded, right before `t`; other containers are untouched; the result is well-formed. -/
theorem dll_insertStreamBefore {s : L} {f : Nat → List Nat} (h : WF s f) {c t : Nat} {bs : List Nat}
    (ht : (s.nd t).parent = some c) (hn : bs.Nodup) (hfree : ∀ b ∈ bs, (s.nd b).parent = none) :
    (∃ f', WF (s.insertStreamBefore c t bs) f') ∧
    (s.insertStreamBefore c t bs).toList c = bs.foldl (fun l b => insBefore l t b) (s.toList c) ∧
    (∀ d, d ≠ c → (s.insertStreamBefore c t bs).toList d = s.toList d) ∧
    L.Ext (s.insertStreamBefore c t bs) (bs.foldl (fun s b => s.insertBefore c t b) s) := by
  obtain ⟨hext, hw⟩ := h.insertStreamBefore ((h.mem_iff_parent c t).mpr ht) hn
    (fun b hb => h.not_mem_of_parent_none (hfree b hb))
  rw [h.toList_eq c]
  obtain ⟨e1, e2, e3⟩ := toList_of_update h hw
  exact ⟨e1, e2, e3, hext⟩

/-- `Region.add_block(blocks)` on the list level: the yielded blocks are appended in order -/
theorem dll_appendStream {s : L} {f : Nat → List Nat} (h : WF s f) {c : Nat} {bs : List Nat}
    (hn : bs.Nodup) (hfree : ∀ b ∈ bs, (s.nd b).parent = none) :
    (∃ f', WF (s.appendStream c bs) f') ∧ (s.appendStream c bs).toList c = s.toList c ++ bs ∧
    (∀ d, d ≠ c → (s.appendStream c bs).toList d = s.toList d) ∧
    L.Ext (s.appendStream c bs) (bs.foldl (fun s b => s.pushBack c b) s) := by
  obtain ⟨hext, hw⟩ := h.appendStream (c := c) hn (fun b hb => h.not_mem_of_parent_none (hfree b hb))
  rw [h.toList_eq c]
  obtain ⟨e1, e2, e3⟩ := toList_of_update h hw
  exact ⟨e1, e2, e3, hext⟩

/-- On consistent IR a successful `Region.insert_block_before` (model function `insertBlockBefore`, the
`_attach_block` guard before every block) leaves exactly the block links of the single-pass loop, the
blocks are listed in yield order before `t`, and they were pairwise distinct. -/
theorem insert_block_before_single_pass {s s' : IRStore} (h : Inv s) {r t : Nat} {bs : List Nat}
    (hok : s.insertBlockBefore r bs t = .ok s') :
    L.Ext (s.blockL.insertStreamBefore r t bs) s'.blockL ∧
    s'.blocksOf r = bs.foldl (fun l b => insBefore l t b) (s.blocksOf r) ∧ bs.Nodup :=
  insertBlockBefore_single_pass h s' hok

/-- the same for `Region.add_block` -/
theorem add_block_single_pass {s s' : IRStore} (h : Inv s) {r : Nat} {bs : List Nat}
    (hok : s.addBlock r bs = .ok s') :
    L.Ext (s.blockL.appendStream r bs) s'.blockL ∧ s'.blocksOf r = s.blocksOf r ++ bs ∧ bs.Nodup :=
  addBlock_single_pass h s' hok

/-- What a second pass over an exhausted one-shot iterator leaves behind — every block attached
(`_attach_block` sets the parent) but none linked — is not a consistent structure: no family of lists
is represented by it. -/
theorem attach_without_link_counterexample :
    ¬ ∃ f, WF ((({} : L).pushBack 0 1).setParent 5 (some 0)) f := by
  rintro ⟨f, h⟩
  have h5 : 5 ∈ f 0 := (h.mem_iff_parent 0 5).mpr (by decide)
  rw [← h.toList_eq 0] at h5
  revert h5
  decide

/-- non-vacuity: the loops on concrete structures (target first / in the middle; empty / non-empty
region; empty argument) -/
example :
    let s := (({} : L).pushBack 0 1).pushBack 0 2
    (s.insertStreamBefore 0 2 [5, 6]).toList 0 = [1, 5, 6, 2] ∧
    (s.insertStreamBefore 0 2 [5, 6]).toListBack 0 = [2, 6, 5, 1] ∧
    (s.insertStreamBefore 0 1 [5, 6]).toList 0 = [5, 6, 1, 2] ∧
    (s.insertStreamBefore 0 1 [5, 6]).toListBack 0 = [2, 1, 6, 5] ∧
    (s.insertStreamBefore 0 1 []).toList 0 = [1, 2] ∧
    (s.appendStream 0 [5, 6]).toList 0 = [1, 2, 5, 6] ∧
    (s.appendStream 0 [5, 6]).toListBack 0 = [6, 5, 2, 1] ∧
    (({} : L).appendStream 0 [5, 6]).toList 0 = [5, 6] ∧
    (({} : L).appendStream 0 [5, 6]).toListBack 0 = [6, 5] := by decide +kernel

/-! ## Part 2 — what the store invariant says -/

theorem exactly_once_in {l : L} {f : Nat → List Nat} (h : WF l f) (c : Nat) :
    (l.toList c).Nodup ∧ l.toListBack c = (l.toList c).reverse ∧
    (∀ n, n ∈ l.toList c ↔ (l.nd n).parent = some c) ∧
    (∀ n, (l.nd n).parent = none → (l.nd n).next = none ∧ (l.nd n).prev = none) := by
  have := dll_exactly_once h
  refine ⟨this.1 c, h.toListBack_eq_reverse c, this.2.1 c, fun n hn => ?_⟩
  rw [this.2.2 n hn]; exact ⟨rfl, rfl⟩

/-- "every operation … is found exactly once in its container in both forward and backward order
and points back to that container" -/
theorem ops_exactly_once {s : IRStore} (h : Inv s) (b : Nat) :
    (s.opsOf b).Nodup ∧ s.opL.toListBack b = (s.opsOf b).reverse ∧
    (∀ o, o ∈ s.opsOf b ↔ s.opParent o = some b) ∧
    (∀ o, s.opParent o = none → (s.opL.nd o).next = none ∧ (s.opL.nd o).prev = none) := by
  obtain ⟨a, ha⟩ := h
  exact exactly_once_in ha.opL b

/-- the same for blocks in regions -/
theorem blocks_exactly_once {s : IRStore} (h : Inv s) (r : Nat) :
    (s.blocksOf r).Nodup ∧ s.blockL.toListBack r = (s.blocksOf r).reverse ∧
    (∀ b, b ∈ s.blocksOf r ↔ s.blockParent b = some r) ∧
    (∀ b, s.blockParent b = none → (s.blockL.nd b).next = none ∧ (s.blockL.nd b).prev = none) := by
  obtain ⟨a, ha⟩ := h
  exact exactly_once_in ha.blockL r

/-- the same for regions in operations (a tuple: listed once, and listed iff it points back) -/
theorem regions_exactly_once {s : IRStore} (h : Inv s) {o : Nat} {d : OpData}
    (hd : AL.get s.ops o = some d) :
    d.regions.Nodup ∧ ∀ r, r ∈ d.regions ↔ s.regionParent r = some o := by
  obtain ⟨a, ha⟩ := h
  have := ha.regions! o
  rwa [op!_of_get hd] at this

/-- "Every value's use list … contains exactly the (user, position) pairs that appear in operand
… lists": a pair is in the use list iff that operand position holds the value, and no pair occurs
twice. -/
theorem uses_exact {s : IRStore} (h : Inv s) (v : Nat) :
    ((s.vuseL.toList v).map s.use!).Nodup ∧
    ∀ o i, (o, i) ∈ (s.vuseL.toList v).map s.use! ↔
      ∃ d, AL.get s.ops o = some d ∧ d.operands[i]? = some v := by
  obtain ⟨a, ha⟩ := h
  rw [ha.vuseL.toList_eq]
  exact ha.operandUses.exact v (ha.vuseL.rep v).nodup

/-- "… and every block's predecessor list contains exactly the (user, position) pairs that appear in
… successor lists" -/
theorem block_uses_exact {s : IRStore} (h : Inv s) (b : Nat) :
    ((s.buseL.toList b).map s.use!).Nodup ∧
    ∀ o i, (o, i) ∈ (s.buseL.toList b).map s.use! ↔
      ∃ d, AL.get s.ops o = some d ∧ d.successors[i]? = some b := by
  obtain ⟨a, ha⟩ := h
  rw [ha.buseL.toList_eq]
  exact ha.successorUses.exact b (ha.buseL.rep b).nodup

/-- "argument/result positions match their index in their owner" -/
theorem indices_match {s : IRStore} (h : Inv s) :
    (∀ o d i v, AL.get s.ops o = some d → d.results[i]? = some v →
      (s.val! v).index = i ∧ (s.val! v).owner = o ∧ (s.val! v).kind = .result) ∧
    (∀ b d i v, AL.get s.blocks b = some d → d.args[i]? = some v →
      (s.val! v).index = i ∧ (s.val! v).owner = b ∧ (s.val! v).kind = .arg) := by
  obtain ⟨a, ha⟩ := h
  constructor
  · intro o d i v hd hv
    simp [IRStore.val!, ha.results o d i v hd hv]
  · intro b d i v hd hv
    simp [IRStore.val!, ha.args b d i v hd hv]

/-! ## Part 3 — the empty universe -/

/-- the empty universe (where every history of the harness starts) is consistent -/
theorem inv_empty : Inv {} := ⟨_, invA_empty⟩

/-! ## Part 3b — the state a raising multi-element call leaves behind

"calls that raise are skipped": skipping does not undo.  `Block.add_ops`, `Block.insert_ops_before`,
`Region.add_block` run one step per element; when a later element is rejected the elements before it
stay inserted, and that state (`XdslModel/IRPartial.lean`: `foldLeft`) is what later calls work on.
It is consistent, and it is the state of the successful call when no step raises. -/

/-- an invariant of every successful step holds of the state left behind, raising or not -/
theorem foldLeft_inv {α : Type} (P : IRStore → Prop) (f : IRStore → α → R) (l : List α)
    (step : ∀ s x s', x ∈ l → P s → f s x = .ok s' → P s') : ∀ s, P s → P (IRStore.foldLeft f s l) := by
  induction l with
  | nil => intro s hp; exact hp
  | cons x r ih =>
    intro s hp
    unfold IRStore.foldLeft
    cases hx : f s x with
    | error e => exact hp
    | ok s' =>
      exact ih (fun t y t' hy => step t y t' (List.mem_cons_of_mem _ hy)) s'
        (step s x s' (List.mem_cons_self ..) hp hx)

/-- when no step raises, the state left behind is the result of the call -/
theorem foldLeft_of_ok {α : Type} (f : IRStore → α → R) (l : List α) :
    ∀ s s', l.foldlM f s = .ok s' → IRStore.foldLeft f s l = s' := by
  induction l with
  | nil => intro s s' h; simp [List.foldlM] at h; exact h
  | cons x r ih =>
    intro s s' h
    unfold IRStore.foldLeft
    cases hx : f s x with
    | error e => simp [List.foldlM, hx] at h
    | ok t => simp [List.foldlM, hx] at h; exact ih t s' h

theorem foldLeft_succ {α : Type} {s : IRStore} {f : IRStore → α → R} {l : List α} (h : Inv s)
    (step : ∀ t x, x ∈ l → Succ s t → Sat (f t x) (Succ t)) : Succ s (IRStore.foldLeft f s l) :=
  foldLeft_inv (Succ s) f l (fun t x t' hx ht e => ht.trans (step t x hx ht t' e)) s (Succ.refl h)

/-- `Block.add_ops(ops)` that raises (or not) leaves consistent IR: the ops before the rejected one
are appended, in both directions. -/
theorem add_ops_raising_state_inv {s : IRStore} (h : Inv s) {b : Nat} {ops : List Nat}
    (hr : ∀ o ∈ ops, regO s o) (hb : regB s b) : Inv (s.addOpsLeft b ops) :=
  (foldLeft_succ h fun _ x hx ht => sat_addOp ht.inv (ht.mono.o x (hr x hx)) (ht.mono.b b hb)).inv

/-- the same for `Block.insert_ops_before(ops, existing_op)` -/
theorem insert_ops_before_raising_state_inv {s : IRStore} (h : Inv s) {b ex : Nat} {ops : List Nat}
    (hr : ∀ o ∈ ops, regO s o) : Inv (s.insertOpsBeforeLeft b ops ex) :=
  (foldLeft_succ h fun _ x hx ht => sat_insertOpBefore ht.inv (ht.mono.o x (hr x hx))).inv

/-- the same for `Region.add_block(blocks)` (with 'fix: Region.add_block / insert_block_before repair
the outer link when a later block is rejected': the blocks before the rejected one stay appended) -/
theorem add_block_raising_state_inv {s : IRStore} (h : Inv s) {r : Nat} {bs : List Nat}
    (hbs : ∀ b ∈ bs, regB s b) (hr : regR s r) : Inv (s.addBlockLeft r bs) :=
  (foldLeft_succ h fun _ x hx ht => sat_addBlock ht.inv (bs := [x])
    (fun _ hb => List.eq_of_mem_singleton hb ▸ ht.mono.b x (hbs x hx)) (ht.mono.r r hr)).inv

/-- a successful `add_ops` is the state left behind -/
theorem add_ops_left_of_ok {s s' : IRStore} {b : Nat} {ops : List Nat} (hok : s.addOps b ops = .ok s') :
    s.addOpsLeft b ops = s' := foldLeft_of_ok _ ops s s' hok

/-! ## Part 4 — erasure, and all 58 call kinds -/

/-- **The subtree walk of `drop_all_references`.**  From a detached, registered object `root` the
fuel-bounded walk `subtreeOf` (fuel `3 · size`) does not run out of fuel and returns a list `T`
that is duplicate-free, contains `root`, consists of registered objects, and is parent-closed both
ways: an object with a parent is in `T` iff its parent is (so `T` is exactly the set of objects
below `root`).  No acyclicity assumption: cycles elsewhere in the store are out of reach of a
detached root. -/
theorem erase_walk {s : IRStore} (h : Inv s) {root : Ref} (hroot : s.parentRef root = none)
    (hreg : Reg s root) :
    (s.subtreeOf root).Nodup ∧ root ∈ s.subtreeOf root ∧ (∀ y ∈ s.subtreeOf root, Reg s y) ∧
    ∀ c p, s.parentRef c = some p → (c ∈ s.subtreeOf root ↔ p ∈ s.subtreeOf root) := by
  obtain ⟨a, ha⟩ := h
  have T := subtreeOf_spec ha hroot hreg
  exact ⟨T.nodup, T.root, T.reg, T.closed⟩

/-- `drop_all_references` over the subtree of a detached object preserves the invariant (the uses
held by the erased operations leave the use lists of all values and blocks — inside and outside
the subtree —, the link fields of everything in the subtree are nulled). -/
theorem inv_dropTree {s : IRStore} (h : Inv s) {root : Ref} (hroot : s.parentRef root = none)
    (hreg : Reg s root) : Inv (s.dropTree root) :=
  (h.dropTree hroot hreg).inv

/-- what "erasing removes exactly the uses of the erased operations" means for one operation:
after `drop_all_references` of `o` alone, a use is in a value's use list iff it was there before and
is not one of the `Use` objects of `o` (for block use lists the same follows from `UseInv.removeAll`
applied to `successorUses`). -/
theorem dropOne_uses {s : IRStore} {a : Abs} (ha : InvA s a) {o : Nat} {d : OpData}
    (hd : AL.get s.ops o = some d) (v u : Nat) :
    u ∈ (s.dropOne (.op o)).vuseL.toList v ↔ u ∈ s.vuseL.toList v ∧ u ∉ d.operandUses := by
  obtain ⟨f1, w1, m1⟩ := ha.operandUses.removeAll ha.vuseL hd
  rw [dropOne_op, op!_of_get hd]
  show u ∈ L.toList _ v ↔ _
  rw [w1.toList_eq, ha.vuseL.toList_eq, m1]

/-- **One step, every call kind.**  A successful call preserves the invariant.  `contract s c` is
`true` for every call except `drop_all_references o`, where it says that `o` is detached (the
harness' `contract_ok`; `dropAllReferences_attached_counterexample` shows that it cannot be dropped). -/
theorem inv_step {s s' : IRStore} {c : Call} (h : Inv s) (hcon : contract s c = true)
    (hok : s.exec c = .ok s') : Inv s' := by
  exact (sat_exec h hcon s' hok).inv

/-- the 57 call kinds other than `drop_all_references`: no hypothesis at all -/
theorem inv_step_unconditional {s s' : IRStore} {c : Call} (h : Inv s)
    (hc : ∀ o, c ≠ .dropAllReferences o) (hok : s.exec c = .ok s') : Inv s' :=
  inv_step h (contract_of_ne hc) hok

/-- the contract holds at every call of the history, in the state in which the call is made -/
def contracted (s : IRStore) : List Call → Bool
  | [] => true
  | c :: cs => contract s c && contracted (s.run [c]) cs

theorem succ_run {s : IRStore} (h : Inv s) (cs : List Call) (hc : contracted s cs = true) :
    Succ s (s.run cs) := by
  induction cs generalizing s with
  | nil => exact Succ.refl h
  | cons c r ih =>
    simp only [contracted, Bool.and_eq_true] at hc
    have h1 : Succ s (s.run [c]) := by
      show Succ s (match s.exec c with
        | .ok s' => s'
        | .error _ => s)
      cases hx : s.exec c with
      | ok s' => exact sat_exec h hc.1 s' hx
      | error _ => exact Succ.refl h
    exact h1.trans (ih h1.inv hc.2)

/-- **All histories, all 58 call kinds**: "After any sequence of successful IR edits …" (calls that
raise are skipped) the store is consistent. -/
theorem inv_history {s : IRStore} (h : Inv s) (cs : List Call) (hc : contracted s cs = true) :
    Inv (s.run cs) :=
  (succ_run h cs hc).inv

/-- histories without `Operation.drop_all_references` need no hypothesis -/
theorem inv_history_unconditional {s : IRStore} (h : Inv s) (cs : List Call)
    (hc : ∀ c ∈ cs, ∀ o, c ≠ .dropAllReferences o) : Inv (s.run cs) := by
  refine inv_history h cs ?_
  clear h
  induction cs generalizing s with
  | nil => rfl
  | cons c r ih =>
    simp only [contracted, Bool.and_eq_true]
    exact ⟨contract_of_ne (hc c List.mem_cons_self), ih fun c' hc' => hc c' (List.mem_cons_of_mem _ hc')⟩

/-- **One step.**  A successful call among the `covered` ones preserves the invariant.
Covered (45 of the 58 call kinds of the harness: everything except the erasure of operations, blocks
and regions): `new_op, new_block, new_region`; every `Block`
list method (`insert_op_before/after, add_op, add_ops, insert_ops_before/after, detach_op,
split_before`) and `Operation.detach`; every `Region` list method (`add_block,
insert_block_before/after, insert_block, detach_block` by block and by index, `move_blocks,
move_blocks_before`); `op.operands[i] = v`, `op.operands = […]`, `op.successors[i] = b`,
`op.successors = […]`, `Operation.add_region`, `Operation.detach_region` (by region and by index),
`Block.insert_arg`, `Block.erase_arg` (safe and with an `ErasedSSAValue`),
`SSAValue.replace_all_uses_with/replace_uses_with_if`;
`Rewriter.insert_op/insert_block/inline_region/move_region_contents_to_new_regions/
replace_value_with_new_type`;
`PatternRewriter.insert/inline_region/move_region_contents_to_new_regions/replace_uses_with_if/
insert_block_argument/erase_block_argument/replace_all_uses_with/replace_value_with_new_type` and
`Builder.create_block`.

The remaining 13 call kinds (the erasure of operations, blocks and regions: `erase_op, block_erase,
erase_block, erase_block_idx, region_erase, op_erase, drop_all_references, rw_erase_op, rw_replace_op,
rw_inline_block, pr_erase, pr_replace, pr_inline_block`) are not `covered`.  Since `drop_all_references` is
among them, this is `inv_step_unconditional` restricted to fewer call kinds. -/
theorem inv_step_partial {s s' : IRStore} {c : Call} (h : Inv s) (hc : covered c = true)
    (hok : s.exec c = .ok s') : Inv s' :=
  inv_step_unconditional h (fun _ e => by subst e; exact Bool.false_ne_true hc) hok

/-- **All histories** (of covered calls): "After any sequence of successful IR edits …" with
"calls that raise are skipped" (`IRStore.run` keeps the state when a call returns an error). -/
theorem inv_history_partial {s : IRStore} (h : Inv s) (cs : List Call)
    (hc : ∀ c ∈ cs, covered c = true) : Inv (s.run cs) :=
  inv_history_unconditional h cs fun c hm _ e => by subst e; exact Bool.false_ne_true (hc _ hm)

/-- non-vacuity: a history from the empty universe that creates blocks with arguments, operations
with results, operands, successors and a nested region, moves things around, and retargets
operands (incl. a negative index) — all calls succeed, all are covered, so `Inv` holds at the end;
and what the final store shows. -/
def demo : List Call := [
  .newBlock 0 [0] [], .newBlock 1 [] [],
  .newOp 0 0 [1, 2] [0] [] [], .newOp 1 0 [] [1, 2] [] [],
  .addOps 0 [0, 1],
  .newOp 2 1 [] [2, 1] [1, 0] [], .addOp 1 2,
  .newRegion 0 [0, 1],
  .newOp 3 0 [3] [] [] [0],
  .newOp 4 0 [4] [3] [] [],
  .insertOpBefore 0 4 1,
  .setOperand 1 (-1) 4,
  .replaceAllUsesWith 1 0,
  .splitBefore 0 1 2 [5],
  .setSuccessor 2 (-1) 2,
  .opDetach 4,
  .newRegion 1 [],
  .moveBlocks 0 1 ]

example : Inv (IRStore.run {} demo) := inv_history_partial inv_empty demo (by decide)

example :
    let s := IRStore.run {} demo
    s.blocksOf 1 = [0, 2, 1] ∧ s.blockL.toListBack 1 = [1, 2, 0] ∧ s.opsOf 0 = [0] ∧ s.opsOf 2 = [1] ∧
    s.opParent 4 = none ∧ (s.op! 1).operands = [0, 4] ∧ (s.op! 2).operands = [2, 0] ∧ (s.op! 2).successors = [1, 2] ∧
    (s.vuseL.toList 0).map s.use! = [(1, 0), (2, 1), (0, 0)] ∧ (s.buseL.toList 2).map s.use! = [(2, 1)] := by
  decide +kernel

/-- The contract of `inv_step` is necessary: `Operation.drop_all_references` on an operation that
is still attached leaves the block listing an operation whose parent pointer is null (in the model
and in xDSL alike). -/
theorem dropAllReferences_attached_counterexample :
    let cs : List Call := [.newBlock 0 [] [], .newOp 0 0 [] [] [] [], .addOp 0 0, .dropAllReferences 0]
    Inv (IRStore.run {} (cs.take 3)) ∧ ¬ Inv (IRStore.run {} cs) := by
  refine ⟨inv_history inv_empty _ (by decide), fun h => ?_⟩
  have h1 := (ops_exactly_once h 0).2.2.1 0
  have h2 : (0 : Nat) ∈ (IRStore.run {} [.newBlock 0 [] [], .newOp 0 0 [] [] [] [], .addOp 0 0,
    .dropAllReferences 0]).opsOf 0 := by decide
  have h3 : (IRStore.run {} [.newBlock 0 [] [], .newOp 0 0 [] [] [] [], .addOp 0 0,
    .dropAllReferences 0]).opParent 0 = none := by decide
  rw [h1.mp h2] at h3
  cases h3

/-- non-vacuity: a history that erases an operation with a nested region whose result is still used
(`Rewriter.erase_op`, unsafe), replaces an operation (`Rewriter.replace_op`), drops the references
of a detached operation, erases a block out of a region and a whole region — every call succeeds,
the contract holds, so `Inv` holds at the end; and what the final store shows. -/
def demoErase : List Call := [
  .newBlock 0 [0] [],
  .newOp 0 0 [1] [0] [] [],
  .newOp 1 0 [] [1, 0] [] [],
  .newBlock 1 [] [1],
  .newRegion 0 [1],
  .newOp 2 0 [2] [1] [] [0],
  .addOps 0 [0, 2],
  .newOp 3 0 [] [2] [] [],
  .addOp 0 3,
  .rwEraseOp 2 false,
  .newOp 4 0 [3] [] [] [],
  .rwReplaceOp 0 ⟨[4], false⟩ none true,
  .newOp 5 0 [4] [0] [] [],
  .dropAllReferences 5,
  .newBlock 2 [5] [],
  .newOp 6 0 [] [5, 3] [2] [],
  .newBlock 3 [] [6],
  .newRegion 1 [2, 3],
  .eraseBlock 1 3 true,
  .regionErase 1 ]

example : Inv (IRStore.run {} demoErase) := inv_history inv_empty demoErase (by decide +kernel)

example :
    let s := IRStore.run {} demoErase
    s.opsOf 0 = [4, 3] ∧ s.opL.toListBack 0 = [3, 4] ∧ s.blocksOf 1 = [] ∧
    (s.vuseL.toList 0).map s.use! = [] ∧ (s.vuseL.toList 1).map s.use! = [] ∧
    (s.vuseL.toList 3).map s.use! = [] ∧ (s.vuseL.toList (E_BASE + 2)).map s.use! = [(3, 0)] ∧
    (s.buseL.toList 2).map s.use! = [] ∧ s.deadO = [6, 5, 0, 2, 1] ∧ s.deadB = [2, 3, 1] ∧ s.deadR = [1, 0] := by
  decide +kernel

end Xdsl.C01
