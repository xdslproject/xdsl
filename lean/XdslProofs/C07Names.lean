import XdslModel.ValueNames
/-!
# C07 — parsing fails only with diagnostics (name hints of values and blocks)

"… either returns IR or reports a parse or verification diagnostic; it never … escapes with an
internal error such as a ValueError …"

Every SSA value and block the parser creates gets its textual name as `name_hint` through a setter
that raises `ValueError` on names it does not like; the parser asks `is_valid_name` first.
`XdslModel/ValueNames.lean` models the guard, the setter and the suffix stripping, with the
`ValueError` as an explicit outcome.  For every identifier (every list of code points):

* `valueHint_no_error`, `blockHint_no_error` — the guarded setter never raises: the outcome of the
  four parser sites is a hint or no hint;
* `strip_suffix` / `stripped_prefix` — the hint is an initial part of the name (that what is cut
  off is the trailing `_<digits>` groups is how `strip` is defined and what the examples below
  show; no theorem says it), so `stripped_valid_or_empty`: it is empty or again a valid name;
* `valueHint_cases` — the outcome in terms of the name.

Tied to `/repo` by parsing every identifier shape (all strings over a letter, a digit, `_`, `$`, `.`,
`-` up to length 3, sampled beyond) as a result name and as a block label and comparing the
`name_hint` of the parsed value / block with the model (`harness/props/c07.py`, stream `ident`).
-/
namespace Xdsl.ValueNames

/-- the setter raises only on names the guard rejects -/
theorem setHint_error_iff (name : List Nat) : setHint name = .valueError ↔ validName name = false := by
  unfold setHint
  cases validName name <;> simp

/-- "never escapes with … a ValueError": result / argument names -/
theorem valueHint_no_error (name : List Nat) : valueHint name ≠ .valueError := by
  unfold valueHint setHint
  cases h : validName name <;> simp

/-- "never escapes with … a ValueError": block labels and successor references -/
theorem blockHint_no_error (name : List Nat) : blockHint name ≠ .valueError := by
  unfold blockHint setHint
  cases validName name <;> cases isDefaultBlockName name <;> simp

theorem strip_suffix (acc cs : List Nat) : ∃ d, acc ++ cs = d ++ strip acc cs := by
  induction cs generalizing acc with
  | nil => exact ⟨[], by simp [strip]⟩
  | cons c cs ih =>
    unfold strip
    split
    · obtain ⟨d, hd⟩ := ih (acc ++ [c])
      exact ⟨d, by simpa using hd⟩
    · split
      · obtain ⟨d, hd⟩ := ih []
        refine ⟨acc ++ c :: d, ?_⟩
        rw [List.nil_append] at hd
        rw [List.append_assoc, List.cons_append, ← hd]
      · exact ⟨[], by simp⟩

/-- the hint is an initial part of the name -/
theorem stripped_prefix (name : List Nat) : ∃ t, name = stripped name ++ t := by
  obtain ⟨d, hd⟩ := strip_suffix [] name.reverse
  refine ⟨d.reverse, ?_⟩
  have := congrArg List.reverse hd
  simpa [stripped] using this

theorem validName_prefix (p t : List Nat) (h : validName (p ++ t) = true) : p = [] ∨ validName p = true := by
  cases p with
  | nil => exact Or.inl rfl
  | cons c cs =>
    right
    simp [validName, List.all_append] at h ⊢
    exact ⟨h.1, h.2.1⟩

/-- the stored hint is empty (treated as "no hint" by the printer) or a valid name -/
theorem stripped_valid_or_empty (name : List Nat) (h : validName name = true) :
    stripped name = [] ∨ validName (stripped name) = true := by
  obtain ⟨t, ht⟩ := stripped_prefix name
  rw [ht] at h
  exact validName_prefix _ _ h

/-- the outcomes of `_register_ssa_definition` in terms of the name -/
theorem valueHint_cases (name : List Nat) :
    (validName name = false ∧ valueHint name = .hint none) ∨
    (validName name = true ∧ valueHint name = .hint (some (stripped name))) := by
  unfold valueHint setHint
  cases validName name <;> simp

/-! Non-vacuity: the boundary names. -/
-- `%_1`: valid, every character belongs to the suffix: the hint is the empty string
example : valueHint [95, 49] = .hint (some []) := by decide
-- `%_2_3`
example : valueHint [95, 50, 95, 51] = .hint (some []) := by decide
-- `%a_1_22` → `a`
example : valueHint [97, 95, 49, 95, 50, 50] = .hint (some [97]) := by decide
-- `%a1_2` → `a1`; `%a_` and `%a_1x` keep everything
example : valueHint [97, 49, 95, 50] = .hint (some [97, 49]) := by decide
example : valueHint [97, 95] = .hint (some [97, 95]) := by decide
example : valueHint [97, 95, 49, 120] = .hint (some [97, 95, 49, 120]) := by decide
-- `%0`: not a valid hint, no setter call
example : valueHint [48] = .hint none := by decide
-- `^bb0` keeps no hint, `^_7` the empty one, `^bb0x` its name
example : blockHint [98, 98, 48] = .hint none := by decide
example : blockHint [95, 55] = .hint (some []) := by decide
example : blockHint [98, 98, 48, 120] = .hint (some [98, 98, 48, 120]) := by decide
-- the setter alone does raise (on what the guard keeps away)
example : setHint [48] = .valueError := by decide

end Xdsl.ValueNames
