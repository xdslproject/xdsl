import XdslProofs.Lemmas.ArithInterp
import XdslModel.Generated.ArithInterp
/-!
# C15 — the interpreter's integer kernels compute MLIR (two's-complement `BitVec`) semantics

Every definition `Xdsl.Generated.ArithInterp.run_*` below is *regenerated from
`/repo/xdsl/interpreters/arith.py` on every check run*; the theorems are re-checked against what the
source says now.  `w` is the bit width of the operation's type, `a b` are arbitrary Python ints
(any representative of the signless value — the theorems do not even need them to be in range).

The clauses of the property this file stands for: "integer results wrap to the type width and stay in
the type's range, … signed ones as two's complement", "for every input on which MLIR defines the
result"; "unsigned predicates … interpret bit patterns as unsigned" only in part
(`run_cmpi_unsigned_partial`).
-/
namespace Xdsl.C15
open Xdsl.Generated.Comparisons Xdsl.Generated.ArithInterp

theorem ofInt_to_signed (w : Nat) (r : Int) : BitVec.ofInt w (to_signed r w) = BitVec.ofInt w r := by
  rw [to_signed_eq, BitVec.ofInt_toInt]

/-- What every kernel that ends in `to_signed` owes (bit pattern and signed range), from the bit pattern
of the integer it normalises. -/
theorem to_signed_spec {w : Nat} {r : Int} {v : BitVec w} (h : BitVec.ofInt w r = v) :
    BitVec.ofInt w (to_signed r w) = v ∧ InSignedRange w (to_signed r w) := by
  rw [ofInt_to_signed, to_signed_eq]
  exact ⟨h, toInt_inRange _⟩

/-- The shape of the six wrap-around kernels: normalise the operands, apply an integer operation `f`
that `ofInt w` carries to the bit-vector operation `g`, normalise the result. -/
theorem wrap_spec {w : Nat} {f : Int → Int → Int} {g : BitVec w → BitVec w → BitVec w}
    (hf : ∀ x y, BitVec.ofInt w (f x y) = g (BitVec.ofInt w x) (BitVec.ofInt w y)) (a b : Int) :
    BitVec.ofInt w (to_signed (f (to_signed a w) (to_signed b w)) w)
        = g (BitVec.ofInt w a) (BitVec.ofInt w b)
    ∧ InSignedRange w (to_signed (f (to_signed a w) (to_signed b w)) w) :=
  to_signed_spec (by rw [hf, ofInt_to_signed, ofInt_to_signed])

/-- `arith.addi`: wrap-around addition, result in the signed range. -/
theorem run_addi_spec (w : Nat) (a b : Int) :
    BitVec.ofInt w (run_addi w a b) = BitVec.ofInt w a + BitVec.ofInt w b
    ∧ InSignedRange w (run_addi w a b) :=
  wrap_spec (f := (· + ·)) (g := (· + ·)) BitVec.ofInt_add a b

theorem run_subi_spec (w : Nat) (a b : Int) :
    BitVec.ofInt w (run_subi w a b) = BitVec.ofInt w a - BitVec.ofInt w b
    ∧ InSignedRange w (run_subi w a b) :=
  wrap_spec (f := (· - ·)) (g := (· - ·)) (BV.ofInt_sub w) a b

theorem run_muli_spec (w : Nat) (a b : Int) :
    BitVec.ofInt w (run_muli w a b) = BitVec.ofInt w a * BitVec.ofInt w b
    ∧ InSignedRange w (run_muli w a b) :=
  wrap_spec (f := (· * ·)) (g := (· * ·)) BitVec.ofInt_mul a b

theorem run_andi_spec (w : Nat) (a b : Int) :
    BitVec.ofInt w (run_andi w a b) = BitVec.ofInt w a &&& BitVec.ofInt w b
    ∧ InSignedRange w (run_andi w a b) :=
  wrap_spec (f := Py.land) (g := (· &&& ·)) (BV.ofInt_land w) a b

theorem run_ori_spec (w : Nat) (a b : Int) :
    BitVec.ofInt w (run_ori w a b) = BitVec.ofInt w a ||| BitVec.ofInt w b
    ∧ InSignedRange w (run_ori w a b) :=
  wrap_spec (f := Py.lor) (g := (· ||| ·)) (BV.ofInt_lor w) a b

theorem run_xori_spec (w : Nat) (a b : Int) :
    BitVec.ofInt w (run_xori w a b) = BitVec.ofInt w a ^^^ BitVec.ofInt w b
    ∧ InSignedRange w (run_xori w a b) :=
  wrap_spec (f := Py.xor) (g := (· ^^^ ·)) (BV.ofInt_xor w) a b

/-- `arith.shli`: left shift by the *unsigned* value of the second operand, wrapped to the width
(MLIR leaves shifts ≥ width undefined; the equation holds for every shift amount anyway). -/
theorem run_shlsi_spec (w : Nat) (a b : Int) :
    BitVec.ofInt w (run_shlsi w a b) = BitVec.ofInt w a <<< (BitVec.ofInt w b).toNat
    ∧ InSignedRange w (run_shlsi w a b) :=
  to_signed_spec (by rw [to_unsigned_eq, RvK.ofInt_shl, ofInt_to_signed])

/-- `arith.shrsi`: arithmetic right shift of the two's-complement value. -/
theorem run_shrsi_spec (w : Nat) (a b : Int) :
    BitVec.ofInt w (run_shrsi w a b) = (BitVec.ofInt w a).sshiftRight (BitVec.ofInt w b).toNat
    ∧ InSignedRange w (run_shrsi w a b) := by
  rw [run_shrsi, to_signed_eq, to_unsigned_eq, RvK.shr_signed]
  exact ⟨BitVec.ofInt_toInt, toInt_inRange _⟩

/-! ### the signed division family

The three kernels assert `rhs != 0` (on the normalised operand).  `run_divsi` and `run_remsi` compute
`abs(lhs) // abs(rhs)`, negate it when the signs differ, and go on from there: that quotient is
`Int.tdiv lhs rhs` (`tdiv_fixup`, `Lemmas/ArithInterp.lean`), the two's-complement meaning of which is
`BitVec.sdiv`. -/

theorem to_signed_ne_zero {w : Nat} {b : Int} (hb : BitVec.ofInt w b ≠ 0) : to_signed b w ≠ 0 := by
  rw [to_signed_eq]
  exact fun e => hb (BitVec.eq_of_toInt_eq (e.trans BitVec.toInt_zero.symm))

/-- `arith.divsi`: truncating signed division, for a non-zero divisor and no `MIN / -1` overflow
(the inputs on which MLIR defines the result).  The Python `assert rhs != 0` is then satisfied. -/
theorem run_divsi_spec (w : Nat) (a b : Int)
    (hb : BitVec.ofInt w b ≠ 0)
    (hov : BitVec.ofInt w a ≠ BitVec.intMin w ∨ BitVec.ofInt w b ≠ -1#w) :
    run_divsi_pre w a b = true
    ∧ BitVec.ofInt w (run_divsi w a b) = (BitVec.ofInt w a).sdiv (BitVec.ofInt w b)
    ∧ InSignedRange w (run_divsi w a b) := by
  have hb' := to_signed_ne_zero hb
  refine ⟨by simp [run_divsi_pre, hb'], ?_⟩
  have e : run_divsi w a b = to_signed (Int.tdiv (to_signed a w) (to_signed b w)) w :=
    tdiv_fixup (to_signed · w) _ _ hb'
  rw [e]
  refine to_signed_spec ?_
  rw [to_signed_eq, to_signed_eq, ← BitVec.toInt_sdiv_of_ne_or_ne _ _ hov, BitVec.ofInt_toInt]

/-- `arith.remsi`: remainder of truncating division (sign of the dividend). -/
theorem run_remsi_spec (w : Nat) (a b : Int) (hb : BitVec.ofInt w b ≠ 0) :
    run_remsi_pre w a b = true
    ∧ run_remsi w a b = ((BitVec.ofInt w a).srem (BitVec.ofInt w b)).toInt := by
  have hb' := to_signed_ne_zero hb
  refine ⟨by simp [run_remsi_pre, hb'], ?_⟩
  have e : run_remsi w a b
      = to_signed a w - Int.tdiv (to_signed a w) (to_signed b w) * to_signed b w :=
    tdiv_fixup (fun q => to_signed a w - q * to_signed b w) _ _ hb'
  rw [e, BitVec.toInt_srem, Int.tmod_def, to_signed_eq, to_signed_eq, Int.mul_comm]

/-- `arith.remsi` in the form of the other kernels' theorems: bit pattern and signed range. -/
theorem run_remsi_range (w : Nat) (a b : Int) (hb : BitVec.ofInt w b ≠ 0) :
    BitVec.ofInt w (run_remsi w a b) = (BitVec.ofInt w a).srem (BitVec.ofInt w b)
    ∧ InSignedRange w (run_remsi w a b) := by
  rw [(run_remsi_spec w a b hb).2]
  exact ⟨BitVec.ofInt_toInt, toInt_inRange _⟩

/-- `arith.floordivsi`: floor division of the two's-complement values, wrapped. -/
theorem run_floordivsi_spec (w : Nat) (a b : Int) (hb : BitVec.ofInt w b ≠ 0) :
    run_floordivsi_pre w a b = true
    ∧ BitVec.ofInt w (run_floordivsi w a b)
        = BitVec.ofInt w (Int.fdiv (BitVec.ofInt w a).toInt (BitVec.ofInt w b).toInt)
    ∧ InSignedRange w (run_floordivsi w a b) := by
  refine ⟨by simp [run_floordivsi_pre, to_signed_ne_zero hb], ?_⟩
  refine to_signed_spec ?_
  rw [to_signed_eq, to_signed_eq, Py.floordiv]

/-- MLIR's `cmpi` predicates 0..9 on bit patterns; `Sem.cmpi` is the same table (`C15Sem.cmpi_eq_bvcmp`) -/
def bvcmp {w : Nat} (p : Int) (x y : BitVec w) : Option Bool :=
  if p = 0 then some (x == y) else if p = 1 then some (x != y)
  else if p = 2 then some (x.slt y) else if p = 3 then some (x.sle y)
  else if p = 4 then some (y.slt x) else if p = 5 then some (y.sle x)
  else if p = 6 then some (x.ult y) else if p = 7 then some (x.ule y)
  else if p = 8 then some (y.ult x) else if p = 9 then some (y.ule x)
  else none

theorem bvcmp_none {w : Nat} (p : Int) (hp : p < 0 ∨ 9 < p) (x y : BitVec w) : bvcmp p x y = none := by
  have h : ∀ k : Int, 0 ≤ k → k ≤ 9 → p ≠ k := by intro k h0 h9 e; omega
  simp [bvcmp, h 0, h 1, h 2, h 3, h 4, h 5, h 6, h 7, h 8, h 9]

/-- `arith.cmpi`, all predicates at once: the kernel is `bvcmp` on the bit patterns, whatever
representative the operands are given as — except that an *unsigned* predicate (6..9) needs them as
unsigned representatives, because the kernel compares the integers it is given (false without that
hypothesis: `run_cmpi_unsigned_counterexample`).  Kernel and table dispatch on `p` in the same order,
so the proof goes arm by arm. -/
theorem run_cmpi_spec (w : Nat) (p a b : Int)
    (h : 6 ≤ p ∧ p ≤ 9 → (0 ≤ a ∧ a < 2 ^ w) ∧ (0 ≤ b ∧ b < 2 ^ w)) :
    run_cmpi w p a b = bvcmp p (BitVec.ofInt w a) (BitVec.ofInt w b) := by
  simp only [run_cmpi, bvcmp, to_signed_eq, beq_iff_eq]
  refine ite_congr rfl (fun _ => congrArg some (BV.toInt_beq _ _)) fun _ => ?_
  refine ite_congr rfl (fun _ => congrArg (fun c => some !c) (BV.toInt_beq _ _)) fun _ => ?_
  refine ite_congr rfl (fun _ => congrArg some BitVec.slt_eq_decide.symm) fun _ => ?_
  refine ite_congr rfl (fun _ => congrArg some BitVec.sle_eq_decide.symm) fun _ => ?_
  refine ite_congr rfl (fun _ => congrArg some BitVec.slt_eq_decide.symm) fun _ => ?_
  refine ite_congr rfl (fun _ => congrArg some BitVec.sle_eq_decide.symm) fun _ => ?_
  refine ite_congr rfl (fun e => ?_) fun _ => ite_congr rfl (fun e => ?_) fun _ =>
    ite_congr rfl (fun e => ?_) fun _ => ite_congr rfl (fun e => ?_) fun _ => rfl
  all_goals obtain ⟨ha, hb⟩ := h (by omega)
  · exact congrArg some (BV.ult_of_range ha hb)
  · exact congrArg some (BV.ule_of_range ha hb)
  · exact congrArg some (BV.ult_of_range hb ha)
  · exact congrArg some (BV.ule_of_range hb ha)

/-- `arith.cmpi` for `eq`, `ne` and the signed predicates: compares bit patterns / two's-complement
values, whatever representative the operands are given as. -/
theorem run_cmpi_signed_spec (w : Nat) (p : Int) (hp : 0 ≤ p ∧ p ≤ 5) (a b : Int) :
    run_cmpi w p a b = bvcmp p (BitVec.ofInt w a) (BitVec.ofInt w b) :=
  run_cmpi_spec w p a b fun h => absurd h.1 (by omega)

/-- `arith.cmpi` unsigned predicates — **partial**.  Full statement (false of the current code, see
`run_cmpi_unsigned_counterexample` and known_findings.json): for all `a b`,
`run_cmpi w p a b = bvcmp p (ofInt w a) (ofInt w b)` for `p ∈ {6,7,8,9}`.  Proved only when both
operands are given as their unsigned representatives (`0 ≤ a, b < 2^w`); for such operands the
equation holds for every `p` (`run_cmpi_spec`), so `hp` only says which predicates are meant. -/
theorem run_cmpi_unsigned_partial (w : Nat) (p : Int) (hp : 6 ≤ p ∧ p ≤ 9) (a b : Int)
    (ha : 0 ≤ a ∧ a < 2 ^ w) (hb : 0 ≤ b ∧ b < 2 ^ w) :
    run_cmpi w p a b = bvcmp p (BitVec.ofInt w a) (BitVec.ofInt w b) :=
  run_cmpi_spec w p a b fun _ => ⟨ha, hb⟩

/-- The unsigned predicates are wrong when the operands are canonical (signed) representatives
with different signs: `ult(-1, 1) : i8` is reported true, MLIR says false (255 < 1 is false). -/
theorem run_cmpi_unsigned_counterexample :
    run_cmpi 8 6 (-1) 1 = some true
    ∧ bvcmp 6 (BitVec.ofInt 8 (-1)) (BitVec.ofInt 8 1) = some false := by
  decide

/-- non-vacuity: the hypotheses of the division theorems are met, e.g. by `7 / -2 : i4`. -/
example : BitVec.ofInt 4 (-2) ≠ 0 ∧ (BitVec.ofInt 4 7 ≠ BitVec.intMin 4 ∨ BitVec.ofInt 4 (-2) ≠ -1#4) := by
  decide
example : run_divsi 4 7 14 = -3 ∧ run_remsi 4 7 14 = 1 ∧ run_addi 4 7 1 = -8 := by decide

end Xdsl.C15
