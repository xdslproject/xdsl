import XdslProofs.Lemmas.LLVM
/-!
# C23 — the LLVM backend emits LLVM IR with the source semantics (the part a theorem can carry)

Property: *every valid llvm-dialect module that the LLVM backend translates yields LLVM IR that LLVM
accepts, and for integer and floating-point functions the compiled code returns, for every input, the
value the LLVM semantics of the source operations prescribe.*

PARTIAL by design (DESIGN.md §5 C23): "LLVM accepts" and "the compiled code returns" are verdicts of
LLVM itself and are observed per generated program by the harness (llvmlite parse + verify, MCJIT).
What is proved, for every program of the modelled subset and every input:

* the mapping tables of `convert_op.py` (op class → mnemonic, overflow/exact/disjoint/nneg flags,
  icmp and fcmp predicates through llvmlite's spelling rules, cast kinds) preserve the meaning of the
  single operations at every bit width (`convBin_sound`, `convICmp_sound`, `convFCmp_sound`,
  `convFCmp_translated`, `convCast_sound` in `Lemmas/LLVMTables.lean`; the simulation uses them);
* `conv_sound`: the translation as a whole — constants substituted through `val_map`, block arguments
  turned into phi nodes whose incoming lists are filled while the branches are converted, `cond_br` with
  two identical successors merged by selects — preserves the result of every run of the source that is
  defined (no poison, no undefined behaviour), for arbitrary control flow including loops and memory;
* the float rows of `convert_type`: a float type that is translated is emitted as the LLVM type of the same
  format (`convFloatTy_format`, `convFloatTy_injective`).

`XdslModel/LLVM.lean` models the *repaired* `_convert_condbr` (see `condbr_same_successor_counterexample`).
-/
namespace Xdsl.LLVM

/-- **Main theorem** ("returns, for every input, the value the LLVM semantics of the source operations
prescribe", on the model): if `conv` translates the function `f` to `q`, then for every fuel and every
argument list on which the run of the source is defined (it produces no poison and executes no
undefined behaviour — the inputs the property excludes), the translated function run with the same
fuel returns the same result (the same value, or both runs are still unfinished).  All programs of the
subset: any number of blocks, branches with block arguments, loops, allocas/loads/stores. -/
theorem conv_sound (f : DFunc) (q : IFunc) (h : conv f = some q) (fuel : Nat) (args : List Val)
    (hdef : semD f fuel args ≠ .ub) : semI q fuel args = semD f fuel args := by
  obtain ⟨cs, hc⟩ := conv_unpack h
  obtain ⟨e, rest, hb, hq⟩ := hc.entry
  refine run_sim hc fuel 0 args [] _ {} 0 ?_ hdef
  -- the entry block has no phis: its arguments are the parameters, bound to the same values
  intro blk bindsD hblk hbind
  rw [hb] at hblk
  cases hblk
  obtain ⟨rfl, _⟩ := bindArgs_zip _ _ _ hbind
  refine ⟨[], rfl, ?_⟩
  have := Rel_args hc.distinct (hb ▸ List.mem_cons_self) args (eD := []) (eI := [])
    (fun _ _ _ _ h => nomatch h)
  rw [hq]
  simpa only [List.append_nil, List.nil_append] using this

/-- corollary in the form the harness uses: a defined result of the source is the result of the translation -/
theorem conv_sound_val (f : DFunc) (q : IFunc) (h : conv f = some q) (fuel : Nat) (args : List Val) (v : Val)
    (hv : semD f fuel args = .ok v) : semI q fuel args = .ok v := by
  rw [← hv]; exact conv_sound f q h fuel args (by rw [hv]; simp)

/-- `f(c : i1, a : i32, b : i32)`: `cond_br c, ^1(a), ^1(b)`; `^1(x)`: `return x` -/
def sameSuccFunc : DFunc :=
  ⟨.int 32,
   [⟨[(0, .int 1), (1, .int 32), (2, .int 32)], [], .condbr 0 1 [1] 1 [2]⟩,
    ⟨[(3, .int 32)], [], .ret (.int 32) 3⟩]⟩

/-- what the pinned `_convert_condbr` emitted for it (re-read from the text): one phi with two different
entries for the single predecessor -/
def sameSuccOldOutput : IFunc :=
  ⟨.int 32, [(0, .int 1), (1, .int 32), (2, .int 32)],
   [⟨[], [], .condbr (.reg (.v 0)) 1 1⟩,
    ⟨[⟨.v 3, .int 32, [(.reg (.v 1), 0), (.reg (.v 2), 0)]⟩], [], .ret (.int 32) (.reg (.v 3))⟩]⟩

/-- LLVM's verifier rejects that phi ("multiple entries for the same basic block with different incoming
values"); and no reading of it can be right for both edges: taking the first entry returns `a` where the
source returns `b`.  The repaired translation merges the operands with `select c, a, b`. -/
theorem condbr_same_successor_counterexample :
    semD sameSuccFunc 5 [.int 1 0, .int 32 10, .int 32 20] = .ok (.int 32 20) ∧
    semI sameSuccOldOutput 5 [.int 1 0, .int 32 10, .int 32 20] = .ok (.int 32 10) ∧
    (conv sameSuccFunc).map (fun q => semI q 5 [.int 1 0, .int 32 10, .int 32 20]) = some (.ok (.int 32 20)) := by
  decide

/-- "the compiled code returns the value the LLVM semantics of the source operations prescribe" needs every
float value to keep its format: the LLVM type names of two different builtin float formats differ, so the
type named in the emitted text determines the format (what the harness' text oracle relies on). -/
theorem FloatFmt.llvmName_injective (a b : FloatFmt) (h : a.llvmName = b.llvmName) : a = b := by
  cases a <;> cases b <;> first | rfl | (revert h; decide)

/-- whenever `convert_type` translates a float type, the emitted LLVM type is the one of the same format -/
theorem convFloatTy_format (a : FloatFmt) (n : String) (h : convFloatTy a = some n) : n = a.llvmName := by
  cases a <;> simp [convFloatTy] at h <;> simp [h, FloatFmt.llvmName]

/-- hence no two float formats are translated to one LLVM type (translated = format preserved, or rejected) -/
theorem convFloatTy_injective (a b : FloatFmt) (n : String) (ha : convFloatTy a = some n)
    (hb : convFloatTy b = some n) : a = b :=
  FloatFmt.llvmName_injective a b ((convFloatTy_format a n ha).symm.trans (convFloatTy_format b n hb))

/-- the storage width does not determine the format (`f16` and `bf16` are both 16 bits wide with different
precision): a table keyed by width cannot satisfy `convFloatTy_format`. -/
theorem floatFmt_width_not_injective_counterexample :
    FloatFmt.f16.bits = FloatFmt.bf16.bits ∧ FloatFmt.f16.precision ≠ FloatFmt.bf16.precision ∧
    FloatFmt.f16.llvmName ≠ FloatFmt.bf16.llvmName := by decide

/-- `f(c : i1, a : i8, b : i8)`: `cond_br c, ^1(a), ^1(b)`; `^1(x)`: `x + (-1) nsw`, compare `ult a`,
branch back while true (a loop with a phi, an inline constant and a doubled successor). -/
def exampleFunc : DFunc :=
  ⟨.int 8,
   [⟨[(0, .int 1), (1, .int 8), (2, .int 8)], [], .condbr 0 1 [1] 1 [2]⟩,
    ⟨[(3, .int 8)], [.const 4 8 (-1), .bin .AddOp 5 8 3 4 1 false false, .icmp 6 6 8 5 1],
      .condbr 6 1 [5] 2 [5]⟩,
    ⟨[(7, .int 8)], [], .ret (.int 8) 7⟩]⟩

/-- the translation exists: the hypotheses of `conv_sound` are satisfiable, with a select for the doubled
successor, a phi with three incoming entries (two of them for the doubled edge) and the `nsw` flag -/
example : (conv exampleFunc).isSome = true := by decide

example : (conv exampleFunc).map (fun q => q.blocks.map fun b => (b.phis.map fun φ => φ.incoming.length, b.instrs.length))
    = some [([], 1), ([3], 2), ([1], 0)] := by decide

/-- a defined run through the loop: `f(false, 9, 3)` counts 3, 2, 1, 0, 255 and leaves the loop with 255, on both sides -/
example : semD exampleFunc 10 [.int 1 0, .int 8 9, .int 8 3] = .ok (.int 8 255) := by decide
example : (conv exampleFunc).map (fun q => semI q 10 [.int 1 0, .int 8 9, .int 8 3]) = some (.ok (.int 8 255)) := by
  decide

/-- an excluded input: `-128 + (-1)` overflows `nsw`, the source run is poison (`ub`) -/
example : semD exampleFunc 10 [.int 1 0, .int 8 9, .int 8 128] = .ub := by decide

/-- the table theorems are not vacuous: e.g. `add` with both flags, `ult` -/
example : convBinFlags .AddOp 3 false false = some [.nsw, .nuw] := rfl
example : convICmpPred 6 = some .ult := rfl
example : convFCmpPred 9 = some .ugt := by decide
example : convFloatTy .f16 = some "half" ∧ convFloatTy .bf16 = none := by decide

end Xdsl.LLVM
