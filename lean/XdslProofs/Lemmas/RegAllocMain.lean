import XdslProofs.Lemmas.RegAllocInv
/-!
C19: one operation of the backward walk (`HasRegisterConstraints.allocate_registers`, `At.op`), a block
walked from any point reached (`At.ops`), the initial state, and `allocate_inv`: what holds when
`allocate` has processed the terminator and the operations behind any point of the block.
-/
namespace Xdsl.RegAlloc
open Xdsl.RegMachine

/-- every result that the allocator considers constant 0 is known to be 0 where it is defined -/
def ZcOk (Zc : List ValId) : List ValId → List Op → Prop
  | _, [] => True
  | Z, o :: os =>
    (∀ d ∈ o.defs, d ∈ Zc → d ∈ Z ++ newZero true Z o) ∧ ZcOk Zc (Z ++ newZero true Z o) os

/-- `get_constant_value` follows no more moves than the validator (`newZero_mono`), and by SSA an
operation further down adds no result of `o` to the constants -/
theorem zcOk_zfold (os : List Op) :
    ∀ (ZF ZT : List ValId), (∀ x ∈ ZF, x ∈ ZT) → (defsOf os).Nodup →
      ZcOk (zfold false ZF os) ZT os := by
  induction os with
  | nil => intro _ _ _ _; trivial
  | cons o os ih =>
    intro ZF ZT hsub hnd
    simp only [defsOf, List.flatMap_cons] at hnd
    have hnd' := List.nodup_append.1 hnd
    have hsub' : ∀ x ∈ ZF ++ newZero false ZF o, x ∈ ZT ++ newZero true ZT o := by
      intro x hx
      rcases List.mem_append.1 hx with hx | hx
      · exact List.mem_append_left _ (hsub x hx)
      · exact List.mem_append_right _ (newZero_mono (fun _ => rfl) hsub hx)
    refine ⟨?_, ?_⟩
    · intro d hd hdZ
      simp only [zfold, List.foldl_cons] at hdZ
      rcases zfold_mem os _ d hdZ with h | h
      · exact hsub' d h
      · exact absurd rfl (hnd'.2.2 d hd d h)
    · simp only [zfold, List.foldl_cons]
      exact ih _ _ hsub' hnd'.2.1

theorem zcOk_suffix {Zc : List ValId} (front : List Op) :
    ∀ (os : List Op) (Z : List ValId), ZcOk Zc Z (front ++ os) → ZcOk Zc (zfold true Z front) os := by
  induction front with
  | nil => intro os Z h; exact h
  | cons o front ih => intro os Z h; exact ih os _ h.2

/-- the `Tie` of the invariant once the operations `os` have been walked -/
def TiesOn (os : List Op) (a : ValId → Reg) : Prop := ∀ o ∈ os, ∀ p ∈ o.ios, a p.1 = a p.2

theorem ties_of_check {z : Bool} {a : ValId → Reg} (os : List Op) :
    ∀ (Z L Lin : List ValId), checkOps z a Z os L = some Lin → TiesOn os a := by
  induction os with
  | nil => intro _ _ _ _ o ho; cases ho
  | cons o os ih =>
    intro Z L Lin h o' ho' p hp
    obtain ⟨L', hL', hok, _⟩ := checkOps_cons.1 h
    rcases List.mem_cons.1 ho' with rfl | ho'
    · exact (opOk_iff.1 hok).2.2.2.2 p hp
    · exact ih _ _ _ hL' o' ho' p hp

section Pairs
variable {G : Given} {s s' : St} {V M X T I D : List ValId} {ps : List (ValId × ValId)}

/-- the in/out pairs of one operation (at most one, none with a zero register); `I` their operands,
`D` their results -/
theorem At.pairs (hG : G.Ok) (hI : ps.map Prod.fst = I) (hD : ps.map Prod.snd = D) (hps : ps.length ≤ 1)
    (hzps : G.c.z = true → ps = []) (h : At G s V M X)
    (hrun : foldE (fun s p => sameReg G.c s p.1 p.2) s ps = .ok s') (hT : PW G.c.z G.a0 T)
    (hp : ∀ p ∈ ps, (p.1 ∈ G.U ∧ p.1 ∉ X) ∧ (p.2 ∈ G.U ∧ p.2 ∈ T ∧ p.2 ∉ X) ∧ p.1 ≠ p.2
      ∧ ∀ a, G.Tie a → a p.1 = a p.2) (hMT : ∀ w ∈ M, w ∈ T) :
    At G s' (I ++ (D ++ V)) (D ++ M) (I ++ X)
      ∧ Extends s s' ∧ ∀ p ∈ ps, allocOf s'.asg p.1 = allocOf s'.asg p.2 := by
  subst hI hD
  rcases eq_nil_or_singleton hps with rfl | ⟨⟨i, d⟩, rfl⟩
  · cases hrun; exact ⟨h, Extends.refl _, fun _ hp => nomatch hp⟩
  · have hz : G.c.z = false := by
      cases hzc : G.c.z with
      | false => rfl
      | true => cases hzps hzc
    obtain ⟨h1, h2, h3, h4⟩ := hp (i, d) (List.mem_cons_self ..)
    obtain ⟨h', hext, heq⟩ := h.pair hG hz (foldE_singleton hrun) hT h1 h2 h3 h4 hMT
    exact ⟨h', hext, fun p hp => by cases List.mem_singleton.1 hp; exact heq⟩

/-- the register of an in/out result goes on to its operand: the result is gone, the operand live -/
theorem At.transfers (hI : ps.map Prod.fst = I) (hD : ps.map Prod.snd = D) (hps : ps.length ≤ 1)
    (h : At G s V (D ++ M) (I ++ X))
    (hdM : ∀ p ∈ ps, p.2 ∉ M) (hiV : ∀ p ∈ ps, p.1 ∈ V)
    (heq : ∀ p ∈ ps, allocOf s.asg p.1 = allocOf s.asg p.2) : At G s V (I ++ M) (D ++ X) := by
  subst hI hD
  rcases eq_nil_or_singleton hps with rfl | ⟨⟨i, d⟩, rfl⟩
  · exact h
  · have hm : (i, d) ∈ [(i, d)] := List.mem_cons_self ..
    refine ⟨h.inv.transfer (hdM _ hm) (hiV _ hm) (heq _ hm), fun v hv => ?_⟩
    have := h.cov v hv
    simp only [List.map_cons, List.map_nil, List.singleton_append, List.mem_cons] at this ⊢
    rcases this with (e | hM) | (e | hX)
    · exact Or.inr (Or.inl e)
    · exact Or.inl (Or.inr hM)
    · exact Or.inl (Or.inl e)
    · exact Or.inr (Or.inr hX)

end Pairs

theorem allocOp_ok {c : Cfg} {Zc : List ValId} {s s' : St} {o : Op} (h : allocOp c Zc s o = .ok s') :
    ∃ s1 s2, foldE (fun s p => sameReg c s p.1 p.2) s o.ios = .ok s1
      ∧ foldE (allocValue c Zc) s1 o.outs = .ok s2
      ∧ foldE (allocValue c Zc) (o.outs.reverse.foldl (freeValue c) s2) o.ins = .ok s' := by
  unfold allocOp at h
  split at h
  · cases h
  rename_i s1 hs1
  split at h
  · cases h
  rename_i s2 hs2
  exact ⟨s1, s2, hs1, hs2, h⟩

/-- One operation (`HasRegisterConstraints.allocate_registers`): its in/out pair, its results (allocated,
then freed: gone from here on), its operands.  The operation passes the validator under every assignment
that keeps the registers reached. -/
theorem At.op {G : Given} (hG : G.Ok) {o : Op} {Z V L X : List ValId} {s s' : St}
    (h : At G s V L X) (hrun : allocOp G.c G.Zc s o = .ok s')
    (hios : o.ios.length ≤ 1) (hzios : G.c.z = true → o.ios = [])
    (hTie : ∀ a, G.Tie a → ∀ p ∈ o.ios, a p.1 = a p.2)
    (hU : ∀ v, v ∈ o.reads ∨ v ∈ o.defs → v ∈ G.U ∧ v ∉ X)
    (hgood : opOk G.c.z G.a0 Z (Z ++ newZero true Z o) o L = true)
    (hpw0 : PW G.c.z G.a0 (liveIn o L))
    (hZc : ∀ d ∈ o.defs, d ∈ G.Zc → d ∈ Z ++ newZero true Z o)
    (hRD : ∀ v ∈ o.reads, v ∉ o.defs) :
    At G s' (o.reads ++ o.defs ++ V) (liveIn o L) (o.defs ++ X) ∧ Extends s s'
      ∧ ∀ af : ValId → Reg, (∀ v r, AL.get s'.asg v = some r → af v = r) →
          opOk G.c.z af Z (Z ++ newZero true Z o) o L = true := by
  obtain ⟨s1, s2, hs1, hs2, hs3⟩ := allocOp_ok hrun
  -- `I`, `D`: operand and result of the in/out pair, if there is one
  obtain ⟨I, hI⟩ : ∃ I, o.ios.map Prod.fst = I := ⟨_, rfl⟩
  obtain ⟨D, hD⟩ : ∃ D, o.ios.map Prod.snd = D := ⟨_, rfl⟩
  have hreads : o.reads = o.ins ++ I := hI ▸ rfl
  have hdefs : o.defs = o.outs ++ D := hD ▸ rfl
  have hnd : (o.outs ++ D).Nodup := hdefs ▸ (opOk_iff.1 hgood).1
  -- the feasibility witness separates all results and all values live after the operation
  have hpwT : PW G.c.z G.a0 (o.defs ++ L) := pw_defs_append hgood (pw_step hgood hpw0)
  have hpI : ∀ {p}, p ∈ o.ios → p.1 ∈ I := fun hp => hI ▸ List.mem_map.2 ⟨_, hp, rfl⟩
  have hpD : ∀ {p}, p ∈ o.ios → p.2 ∈ D := fun hp => hD ▸ List.mem_map.2 ⟨_, hp, rfl⟩
  have hIr : ∀ v ∈ I, v ∈ o.reads := fun v hv => hreads ▸ List.mem_append_right _ hv
  have hDd : ∀ v ∈ D, v ∈ o.defs := fun v hv => hdefs ▸ List.mem_append_right _ hv
  have hout : ∀ v ∈ o.outs, v ∈ o.defs := fun v hv => hdefs ▸ List.mem_append_left _ hv
  have hin : ∀ v ∈ o.ins, v ∈ o.reads := fun v hv => hreads ▸ List.mem_append_left _ hv
  -- the in/out pair: the result is live, the operand waits
  obtain ⟨h1, e01, hpair⟩ := h.pairs hG hI hD hios hzios hs1 hpwT
    (fun p hp => ⟨hU _ (Or.inl (hIr _ (hpI hp))),
      ⟨(hU _ (Or.inr (hDd _ (hpD hp)))).1, List.mem_append_left _ (hDd _ (hpD hp)),
        (hU _ (Or.inr (hDd _ (hpD hp)))).2⟩,
      fun e => hRD _ (hIr _ (hpI hp)) (e ▸ hDd _ (hpD hp)), fun a ha => hTie a ha p hp⟩)
    (fun w hw => List.mem_append_right _ hw)
  -- the results: live where they are defined …
  obtain ⟨h2, e12⟩ := h1.alloc hG hs2 hpwT
    (fun v hv => ⟨(hU v (Or.inr (hout v hv))).1, List.mem_append_left _ (hout v hv), fun hx =>
      (List.mem_append.1 hx).elim (fun hi => hRD v (hIr v hi) (hout v hv)) (hU v (Or.inr (hout v hv))).2⟩)
    (fun w hw => (List.mem_append.1 hw).elim (fun hd => List.mem_append_left _ (hDd w hd))
      (List.mem_append_right _))
  -- … and gone above, like every value the operation overwrites (the in/out result holds its register
  -- until the operand takes it over)
  have hsub : ∀ w ∈ D ++ L.filter (fun v => !o.defs.contains v), w ∈ o.outs.reverse ++ (D ++ L) :=
    fun w hw => List.mem_append_right _ ((List.mem_append.1 hw).elim (List.mem_append_left _)
      fun hl => List.mem_append_right _ (mem_filter_not_contains.1 hl).1)
  have h2' := h2.conseq (X' := I ++ (o.outs ++ X)) (fun _ => Iff.rfl) hsub
    (fun v hv => by
      by_cases hvD : v ∈ D
      · exact Or.inl (List.mem_append_left _ hvD)
      by_cases hvo : v ∈ o.outs
      · exact Or.inr (List.mem_append_right _ (List.mem_append_left _ hvo))
      refine Or.inl (List.mem_append_right _ (mem_filter_not_contains.2 ⟨?_, fun hd => (List.mem_append.1 (hdefs ▸ hd)).elim hvo hvD⟩))
      rcases List.mem_append.1 hv with h | h
      · exact absurd (List.mem_reverse.1 h) hvo
      · exact (List.mem_append.1 h).resolve_left hvD)
    (fun v hv => (List.mem_append.1 hv).elim (List.mem_append_left _)
      fun hx => List.mem_append_right _ (List.mem_append_right _ hx))
  have hasg3 := foldl_freeValue_asg G.c o.outs.reverse s2
  have h3 := At.free hG o.outs.reverse h2'
    (fun d hd => h2.assigned (List.mem_append_left _ hd))
    (fun d hd w hw heq => by
      have hd' := List.mem_reverse.1 hd
      have hwne : w ≠ d := fun e => by
        subst e
        rcases List.mem_append.1 hw with h | h
        · exact (List.nodup_append.1 hnd).2.2 w hd' w h rfl
        · exact (mem_filter_not_contains.1 h).2 (hout w hd')
      exact heq ▸ h2.inv.pw w (hsub w hw) d (List.mem_append_left _ hd) hwne heq)
  have h3' := h3.transfers hI hD hios (fun p hp hm => (mem_filter_not_contains.1 hm).2 (hDd _ (hpD hp)))
    (fun p hp => List.mem_append_right _ (List.mem_append_left _ (hpI hp)))
    (fun p hp => by
      rw [hasg3, e12.allocOf (h1.inv.allocd _ (List.mem_append_left _ (hpI hp))),
        e12.allocOf (h1.assigned (List.mem_append_left _ (hpD hp)))]
      exact hpair p hp)
  -- the operands
  have hlive : ∀ w ∈ I ++ L.filter (fun v => !o.defs.contains v), w ∈ liveIn o L :=
    fun w hw => (List.mem_append.1 hw).elim (fun hi => mem_liveIn_reads (hIr w hi))
      fun hl => mem_liveIn_of_live (mem_filter_not_contains.1 hl).1 (mem_filter_not_contains.1 hl).2
  obtain ⟨h4, e34⟩ := h3'.alloc hG hs3 hpw0
    (fun v hv => ⟨(hU v (Or.inl (hin v hv))).1, mem_liveIn_reads (hin v hv), fun hx => by
      have hvd := hRD v (hin v hv)
      rcases List.mem_append.1 hx with h | h
      · exact hvd (hDd v h)
      · exact (List.mem_append.1 h).elim (fun h => hvd (hout v h)) (hU v (Or.inl (hin v hv))).2⟩)
    hlive
  have e2' : Extends s2 s' := fun w r hw => e34 w r (hasg3.symm ▸ hw)
  refine ⟨h4.conseq (fun v => Iff.of_eq ?_) (fun v hv => ?_)
    (fun v hv => Or.inl ((List.mem_append.1 hv).elim (fun h => mem_liveIn_reads (hin v (List.mem_reverse.1 h)))
      (hlive v)))
    (fun v hv => ?_), e01.trans (e12.trans e2'), fun af haf => ?_⟩
  · simp only [hreads, hdefs, List.mem_append, List.mem_reverse]
    ac_rfl
  · rcases mem_liveIn.1 hv with h1 | ⟨h1, h2⟩
    · rcases List.mem_append.1 (hreads ▸ h1) with h | h
      · exact List.mem_append_left _ (List.mem_reverse.2 h)
      · exact List.mem_append_right _ (List.mem_append_left _ h)
    · exact List.mem_append_right _ (List.mem_append_right _ (mem_filter_not_contains.2 ⟨h1, h2⟩))
  · rcases List.mem_append.1 hv with h | h
    · exact List.mem_append_left _ (hDd v h)
    · exact (List.mem_append.1 h).elim (fun h => List.mem_append_left _ (hout v h)) (List.mem_append_right _)
  · -- results and values live after the operation were all live when the results had their registers
    have hM : ∀ w ∈ o.defs ++ L, w ∈ o.outs.reverse ++ (D ++ L) := fun w hw => by
      simp only [hdefs, List.mem_append, List.mem_reverse, or_assoc] at hw ⊢
      exact hw
    refine h2.inv.opOk hG.st hG.ext0 hG.tie0 hgood hZc hM
      (fun w hw => af_allocOf (af_of_ext e2' haf) (h2.assigned (hM w hw))) (fun p hp => ?_)
    have hf1 := af_of_ext (e12.trans e2') haf
    rw [af_allocOf hf1 (h1.inv.allocd p.1 (List.mem_append_left _ (hpI hp))),
      af_allocOf hf1 (h1.assigned (List.mem_append_left _ (hpD hp)))]
    exact hpair p hp

/-- The operations `os` behind a point of a block, walked backwards from a state that has seen `V0`
with `L` live and `X0` gone: the values `os` defines are gone, and `os` passes the validator under every
assignment that keeps the registers reached. -/
theorem At.ops {G : Given} (hG : G.Ok) {V0 L X0 : List ValId} :
    ∀ (os : List Op) (Z : List ValId) (s0 s : St),
      (∀ o ∈ os, o.ios.length ≤ 1) → (G.c.z = true → ∀ o ∈ os, o.ios = []) →
      (∀ a, G.Tie a → TiesOn os a) → (∀ v ∈ valsOf os, v ∈ G.U ∧ v ∉ X0) →
      foldE (allocOp G.c G.Zc) s0 os.reverse = .ok s → At G s0 V0 L X0 →
      checkOps G.c.z G.a0 Z os L = some (liveBefore os L) → PW G.c.z G.a0 (liveBefore os L) →
      ZcOk G.Zc Z os → (defsOf os).Nodup → (∀ v ∈ liveBefore os L, v ∉ defsOf os) →
      At G s (valsOf os ++ V0) (liveBefore os L) (defsOf os ++ X0) ∧ Extends s0 s
        ∧ ∀ af : ValId → Reg, (∀ v r, AL.get s.asg v = some r → af v = r) →
            checkOps G.c.z af Z os L = some (liveBefore os L) := by
  intro os
  induction os with
  | nil =>
    intro Z s0 s _ _ _ _ h h0 _ _ _ _ _
    cases h
    exact ⟨h0, Extends.refl _, fun _ _ => rfl⟩
  | cons o os ih =>
    intro Z s0 s hios hzios hTie hU hrun h0 hchk hpw0 hzc hnd hld
    rw [List.reverse_cons] at hrun
    obtain ⟨s1, hs1, hlast⟩ := (foldE_append _ _ _ _ _).1 hrun
    have hop : allocOp G.c G.Zc s1 o = .ok s := foldE_singleton hlast
    obtain ⟨L', hL', hok0, _⟩ := checkOps_cons.1 hchk
    cases checkOps_eq_liveBefore _ _ _ _ hL'
    have hnd' := List.nodup_append.1 (show (o.defs ++ defsOf os).Nodup from hnd)
    have hmem : ∀ {v}, v ∈ defsOf (o :: os) ↔ v ∈ o.defs ∨ v ∈ defsOf os := List.mem_append
    have hDD : ∀ d ∈ o.defs, d ∉ defsOf os := fun d hd hd' => hnd'.2.2 d hd d hd' rfl
    have hRD : ∀ v ∈ o.reads, v ∉ o.defs ∧ v ∉ defsOf os := fun v hv =>
      not_or.1 fun h => hld v (mem_liveIn_reads hv) (hmem.2 h)
    have hUo : ∀ v, v ∈ o.reads ∨ v ∈ o.defs → v ∈ G.U ∧ v ∉ X0 := fun v hv =>
      hU v (List.mem_append_left _ (List.mem_append.2 hv))
    obtain ⟨h1, e01, hchk1⟩ := ih _ s0 s1
      (fun o' ho' => hios o' (List.mem_cons_of_mem _ ho'))
      (fun hz o' ho' => hzios hz o' (List.mem_cons_of_mem _ ho'))
      (fun a ha o' ho' => hTie a ha o' (List.mem_cons_of_mem _ ho'))
      (fun v hv => hU v (List.mem_append_right _ hv))
      hs1 h0 hL' (pw_step hok0 hpw0) hzc.2 hnd'.2.1
      (fun v hv => if hvd : v ∈ o.defs then hDD v hvd
        else fun h => hld v (mem_liveIn_of_live hv hvd) (hmem.2 (Or.inr h)))
    -- what `o` reads or defines is defined nowhere behind it, so it is not gone
    obtain ⟨h2, e12, hok2⟩ := h1.op hG hop (hios o (List.mem_cons_self ..))
      (fun hz => hzios hz o (List.mem_cons_self ..)) (fun a ha => hTie a ha o (List.mem_cons_self ..))
      (fun v hv => ⟨(hUo v hv).1, fun hx =>
        (List.mem_append.1 hx).elim (hv.elim (fun hr => (hRD v hr).2) (hDD v)) (hUo v hv).2⟩)
      hok0 hpw0 hzc.1 (fun v hv => (hRD v hv).1)
    refine ⟨?_, e01.trans e12, fun af haf => checkOps_cons.2
      ⟨_, hchk1 af (af_of_ext e12 haf), hok2 af haf, rfl⟩⟩
    simpa only [valsOf, defsOf, List.flatMap_cons, List.append_assoc, liveBefore] using h2

/-- the stack that `RegisterStack.get(pool)` builds (the `stack` of `initSt`): the pool pushed register by
register -/
def poolStack (pool : List Reg) : List Reg := pool.foldl (fun st r => r :: st.filter (· != r)) []

theorem poolStack_foldl (pool : List Reg) :
    ∀ (st : List Reg), st.Nodup →
      (pool.foldl (fun st r => r :: st.filter (· != r)) st).Nodup
      ∧ ∀ r ∈ pool.foldl (fun st r => r :: st.filter (· != r)) st, r ∈ pool ∨ r ∈ st := by
  induction pool with
  | nil => intro st hnd; exact ⟨hnd, fun r hr => Or.inr hr⟩
  | cons x xs ih =>
    intro st hnd
    simp only [List.foldl_cons]
    have hnd' : (x :: st.filter (· != x)).Nodup := by
      refine List.nodup_cons.2 ⟨?_, hnd.filter _⟩
      simp [List.mem_filter]
    obtain ⟨h1, h2⟩ := ih _ hnd'
    refine ⟨h1, ?_⟩
    intro r hr
    rcases h2 r hr with h | h
    · exact Or.inl (List.mem_cons_of_mem _ h)
    · simp only [List.mem_cons, List.mem_filter] at h
      rcases h with rfl | ⟨h, _⟩
      · exact Or.inl (List.mem_cons_self ..)
      · exact Or.inr h

theorem poolStack_nodup (pool : List Reg) : (poolStack pool).Nodup :=
  (poolStack_foldl pool [] List.nodup_nil).1

theorem poolStack_subset (pool : List Reg) : ∀ r ∈ poolStack pool, r ∈ pool := by
  intro r hr
  rcases (poolStack_foldl pool [] List.nodup_nil).2 r hr with h | h
  · exact h
  · simp at h

theorem inv_init {c : Cfg} {pool : List Reg} {pre : AL ValId Reg} {p : Prog} {Zc : List ValId}
    {Tie : (ValId → Reg) → Prop}
    (hpreLt : ∀ (v : ValId) (r : Nat), AL.get pre v = some r → r < c.infBase) :
    Inv c pre (pool.filter fun r => !(usedPre pre p).contains r) Zc Tie (initSt pool pre p) [] [] where
  ext := fun _ _ h => h
  allocd := fun _ hv => nomatch hv
  only := fun _ hv => Or.inl hv
  liveSub := fun _ hv => nomatch hv
  pw := fun _ hv => nomatch hv
  notAvail := fun _ hv => nomatch hv
  nodup := (poolStack_nodup pool).filter _
  availOk := fun r hr => by
    simp only [initSt, List.mem_filter] at hr ⊢
    exact Or.inl ⟨poolStack_subset pool r hr.1, hr.2⟩
  tbl := rfl
  infFresh := fun v r hv hge => by
    have := hpreLt v r hv
    omega
  origin := fun v r hv hp => by
    simp only [initSt] at hv
    rw [hp] at hv; cases hv

theorem allocate_ok {c : Cfg} {pool : List Reg} {pre asg : AL ValId Reg} {p : Prog}
    (h : allocate c pool pre p = .ok asg) :
    ∃ s0 s, foldE (allocValue c (zeroConsts p.ops)) (initSt pool pre p) p.rets = .ok s0
      ∧ foldE (allocOp c (zeroConsts p.ops)) s0 p.ops.reverse = .ok s ∧ s.asg = asg := by
  unfold allocate at h
  simp only at h
  split at h
  · cases h
  rename_i s0 hs0
  split at h
  · cases h
  rename_i s hs
  cases h
  exact ⟨s0, s, hs0, hs, rfl⟩

/-- When the model allocator has processed the terminator and the operations `os` behind a point of
the block (`p.ops = front ++ os`), the invariant holds with the values live at that point, and `os`
passes the validator under the assignment reached and under every extension of it. -/
theorem allocate_inv {c : Cfg} {pool : List Reg} {pre : AL ValId Reg} {p : Prog} {a0 : ValId → Reg}
    (hios : ∀ o ∈ p.ops, o.ios.length ≤ 1)
    (hzios : c.z = true → ∀ o ∈ p.ops, o.ios = [])
    (hssa : (p.args ++ defsOf p.ops).Nodup)
    (hext0 : ∀ v r, AL.get pre v = some r → a0 v = r)
    (hfeas : interferes c.z a0 p = false)
    (hpool : ∀ r : Nat, r ∈ pool → r < c.infBase ∧ (c.z = true → r ≠ 0))
    (hpreLt : ∀ (v : ValId) (r : Nat), AL.get pre v = some r → r < c.infBase)
    (hbase : c.z = true → 0 < c.infBase)
    {front os : List Op} (hsplit : p.ops = front ++ os) {s0 s : St}
    (hs0 : foldE (allocValue c (zeroConsts p.ops)) (initSt pool pre p) p.rets = .ok s0)
    (hs : foldE (allocOp c (zeroConsts p.ops)) s0 os.reverse = .ok s) :
    Inv c pre (pool.filter fun r => !(usedPre pre p).contains r) (zeroConsts p.ops) (TiesOn os) s
      (valsOf os ++ p.rets) (liveBefore os p.rets)
    ∧ ∀ sf, Extends s sf →
        checkOps c.z (allocOf sf.asg) (zfold true [] front) os p.rets = some (liveBefore os p.rets) := by
  obtain ⟨hchk, hLsub, hnd0, _⟩ := interferes_false_iff.1 hfeas
  have hpwL := pw_of_nodup_map (z := c.z) hLsub hnd0
  obtain ⟨_, hndOps, hdisj⟩ := List.nodup_append.1 hssa
  have hzc : ZcOk (zeroConsts p.ops) [] (front ++ os) :=
    (congrArg (ZcOk (zeroConsts p.ops) []) hsplit).mp
      (zeroConsts_eq p.ops ▸ zcOk_zfold p.ops [] [] (fun _ h => h) hndOps)
  rw [hsplit] at hchk hLsub hpwL hndOps hdisj
  obtain ⟨hchkOs, hchkFront⟩ := (checkOps_append front os p.rets _ _).1 hchk
  have hpwOs := pw_of_check front _ _ _ hchkFront hpwL
  have hndSplit := List.nodup_append.1
    (show (defsOf front ++ defsOf os).Nodup from List.flatMap_append ▸ hndOps)
  have hG : Given.Ok {
      c := c, pre := pre, A0 := pool.filter fun r => !(usedPre pre p).contains r,
      Zc := zeroConsts p.ops, U := valsOf p.ops ++ p.rets, Tie := TiesOn os, a0 := a0 } := {
    st := Static.of_pool hpool hpreLt hbase fun r hr => show r ∉ usedPre pre p by
      simpa only [Bool.not_eq_true', List.contains_eq_mem, decide_eq_false_iff_not] using hr
    ext0 := hext0
    tie0 := ties_of_check _ _ _ _ hchkOs }
  -- the terminator
  have h0 := (At.alloc (X := []) hG ⟨inv_init hpreLt, fun _ hv => nomatch hv⟩ hs0
    (pw_of_check os _ _ _ hchkOs hpwOs)
    (fun v hv => ⟨List.mem_append_right _ hv, hv, List.not_mem_nil⟩) (fun _ hw => nomatch hw)).1
  have hr : ∀ v, v ∈ p.rets.reverse ++ [] ↔ v ∈ p.rets := fun v => by
    rw [List.append_nil, List.mem_reverse]
  -- the operations behind the point
  obtain ⟨h1, _, hchk1⟩ := At.ops (V0 := p.rets) (L := p.rets) (X0 := []) hG os _ s0 s
    (fun o ho => hios o (hsplit ▸ List.mem_append_right _ ho))
    (fun hz o ho => hzios hz o (hsplit ▸ List.mem_append_right _ ho))
    (fun _ ha => ha)
    (fun v hv => ⟨List.mem_append_left _ (by
      rw [hsplit, valsOf, List.flatMap_append]; exact List.mem_append_right _ hv), List.not_mem_nil⟩)
    hs (h0.conseq hr (fun v hv => (hr v).2 hv) (fun v hv => Or.inl ((hr v).1 hv)) fun _ hv => hv)
    hchkOs hpwOs (zcOk_suffix front os [] hzc) hndSplit.2.1
    (fun v hv hd => by
      rcases mem_liveBefore_suffix front os p.rets v hv with h | h
      · exact hdisj v (hLsub v h) v (by rw [defsOf, List.flatMap_append]; exact List.mem_append_right _ hd) rfl
      · exact hndSplit.2.2 v h v hd rfl)
  exact ⟨h1.inv, fun sf hsf => hchk1 _ fun v r hv => allocOf_of_get (hsf v r hv)⟩

end Xdsl.RegAlloc
