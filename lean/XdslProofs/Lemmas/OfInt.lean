/-!
`BitVec.ofInt w`, an unbounded integer read at `w` bits: its unsigned reading is the remainder modulo `2^w`, its
signed reading the congruent integer of the signed range, it commutes with `-`, `2^n`, shifts and narrowing
(core has `+`, `*`, negation), and on integers in `[0, 2^w)` it carries `<`, `≤` to the unsigned order.  Two facts
about `BitVec.toInt` itself: it is injective (`toInt_beq`), and it is the low bits minus the weight of the sign
bit (`toInt_succ`).  Core Lean only, no model: every file that wraps integers to a width builds on this.
-/
namespace Xdsl.BV

theorem two_pow_cast (n : Nat) : ((2 : Int) ^ n) = (((2 : Nat) ^ n : Nat) : Int) := (Int.natCast_pow 2 n).symm

theorem two_pow_pos (n : Nat) : (0 : Int) < 2 ^ n := Int.pow_pos (by omega)

theorem pow_split (w : Nat) (hw : 1 ≤ w) : (2 : Int) ^ w = 2 * 2 ^ (w - 1) := by
  obtain ⟨n, rfl⟩ : ∃ n, w = n + 1 := ⟨w - 1, by omega⟩
  rw [Int.pow_succ, Nat.add_sub_cancel, Int.mul_comm]

theorem one_lt_two_pow (w : Nat) (hw : 1 ≤ w) : (1 : Int) < 2 ^ w := by
  have := pow_split w hw
  have := two_pow_pos (w - 1)
  omega

theorem toNat_ofInt (w : Nat) (c : Int) : ((BitVec.ofInt w c).toNat : Int) = c % 2 ^ w := by
  rw [BitVec.toNat_ofInt, ← two_pow_cast,
    Int.toNat_of_nonneg (Int.emod_nonneg _ (Int.ne_of_gt (two_pow_pos w)))]

theorem toNat_ofInt_of_range {w : Nat} {x : Int} (h : 0 ≤ x ∧ x < 2 ^ w) :
    ((BitVec.ofInt w x).toNat : Int) = x := by
  rw [toNat_ofInt, Int.emod_eq_of_lt h.1 h.2]

theorem toNat_cast_inj {w : Nat} {A B : BitVec w} : ((A.toNat : Int) = (B.toNat : Int)) ↔ A = B :=
  ⟨fun h => BitVec.eq_of_toNat_eq (Int.ofNat_inj.mp h), fun h => h ▸ rfl⟩

theorem ofInt_eq_iff (w : Nat) (a b : Int) : BitVec.ofInt w a = BitVec.ofInt w b ↔ a % 2 ^ w = b % 2 ^ w := by
  rw [← toNat_cast_inj, toNat_ofInt, toNat_ofInt]

theorem ofInt_emod (w : Nat) (c : Int) : BitVec.ofInt w (c % 2 ^ w) = BitVec.ofInt w c :=
  (ofInt_eq_iff w _ _).2 (Int.emod_emod_of_dvd c (Int.dvd_refl _))

theorem ofInt_toNat {w : Nat} (A : BitVec w) : BitVec.ofInt w (A.toNat : Int) = A := by
  rw [BitVec.ofInt_natCast, BitVec.ofNat_toNat, BitVec.setWidth_eq]

/-- The two's-complement representative is determined by congruence and range: the integer congruent
to `v` modulo `2^w` that lies in the signed range is `(BitVec.ofInt w v).toInt`.  (The range is
written without `w - 1` so that the statement holds at every width and is linear for `omega`;
for a `v` that is itself in the range, core has `BitVec.toInt_ofInt_eq_self`.) -/
theorem toInt_ofInt_eq (w : Nat) (v r : Int) (hc : r % 2 ^ w = v % 2 ^ w)
    (hlo : -(2 ^ w) ≤ 2 * r) (hhi : 2 * r < 2 ^ w) : (BitVec.ofInt w v).toInt = r := by
  rw [two_pow_cast] at hc hlo hhi
  rw [BitVec.toInt_ofInt, ← Int.emod_bmod, ← hc, Int.emod_bmod]
  exact Int.bmod_eq_of_le_mul_two (by omega) (by omega)

/-- in closed form: shift by half the modulus, reduce, shift back (`to_signed` of
`xdsl/utils/comparisons.py`; `2 ^ w / 2` and not `2 ^ (w - 1)` so that width 0 is included) -/
theorem toInt_ofInt_wrap (w : Nat) (x : Int) :
    (BitVec.ofInt w x).toInt = (x + 2 ^ w / 2) % 2 ^ w - 2 ^ w / 2 := by
  have hpos := two_pow_pos w
  have hr := Int.emod_nonneg (x + 2 ^ w / 2) (Int.ne_of_gt hpos)
  have hr' := Int.emod_lt_of_pos (x + 2 ^ w / 2) hpos
  refine toInt_ofInt_eq w x _ ?_ (by omega) (by omega)
  rw [Int.emod_sub_emod, Int.add_sub_cancel]

theorem ofInt_sub (w : Nat) (a b : Int) : BitVec.ofInt w (a - b) = BitVec.ofInt w a - BitVec.ofInt w b := by
  rw [Int.sub_eq_add_neg, BitVec.ofInt_add, BitVec.ofInt_neg, BitVec.sub_eq_add_neg]

theorem ofInt_one (w : Nat) : BitVec.ofInt w 1 = 1#w := BitVec.ofInt_natCast w 1

theorem ofInt_two_pow (w n : Nat) : BitVec.ofInt w ((2 : Int) ^ n) = BitVec.twoPow w n := by
  rw [two_pow_cast, BitVec.ofInt_natCast]
  exact BitVec.eq_of_toNat_eq (by rw [BitVec.toNat_ofNat, BitVec.toNat_twoPow])

theorem ofInt_mul_two_pow (w : Nat) (c : Int) (n : Nat) :
    BitVec.ofInt w (c * 2 ^ n) = BitVec.ofInt w c <<< n := by
  rw [BitVec.ofInt_mul, ofInt_two_pow, BitVec.shiftLeft_eq_mul_twoPow]

theorem toNat_ushiftRight {w : Nat} (A : BitVec w) (n : Nat) :
    (A.toNat : Int) / 2 ^ n = ((A >>> n).toNat : Int) := by
  rw [BitVec.toNat_ushiftRight, Nat.shiftRight_eq_div_pow, two_pow_cast]; rfl

theorem toInt_sshiftRight {w : Nat} (A : BitVec w) (n : Nat) :
    A.toInt / 2 ^ n = (A.sshiftRight n).toInt := by
  rw [BitVec.toInt_sshiftRight, Int.shiftRight_eq_div_pow]; rfl

theorem setWidth_ofInt_of_le (wi w : Nat) (h : w ≤ wi) (a : Int) :
    (BitVec.ofInt wi a).setWidth w = BitVec.ofInt w a := by
  rw [← toNat_cast_inj, BitVec.toNat_setWidth, Int.natCast_emod, toNat_ofInt, toNat_ofInt, two_pow_cast wi]
  exact Int.emod_emod_of_dvd a (Int.natCast_dvd_natCast.mpr (Nat.pow_dvd_pow 2 h))

theorem ult_of_range {w : Nat} {a b : Int} (ha : 0 ≤ a ∧ a < 2 ^ w) (hb : 0 ≤ b ∧ b < 2 ^ w) :
    decide (a < b) = (BitVec.ofInt w a).ult (BitVec.ofInt w b) :=
  decide_eq_decide.mpr (by
    rw [← Int.ofNat_lt, toNat_ofInt_of_range ha, toNat_ofInt_of_range hb])

theorem ule_of_range {w : Nat} {a b : Int} (ha : 0 ≤ a ∧ a < 2 ^ w) (hb : 0 ≤ b ∧ b < 2 ^ w) :
    decide (a ≤ b) = (BitVec.ofInt w a).ule (BitVec.ofInt w b) :=
  decide_eq_decide.mpr (by
    rw [← Int.ofNat_le, toNat_ofInt_of_range ha, toNat_ofInt_of_range hb])

theorem toInt_beq {w : Nat} (x y : BitVec w) : (x.toInt == y.toInt) = (x == y) := by
  rw [Bool.eq_iff_iff, beq_iff_eq, beq_iff_eq, BitVec.toInt_inj]

/-- Core has the other reading of `toInt`, `BitVec.toInt_eq_msb_cond`: the unsigned value, minus
`2^(k+1)` if the sign bit is set. -/
theorem toInt_succ {k : Nat} (x : BitVec (k + 1)) :
    x.toInt = ((x.setWidth k).toNat : Int) - if x.msb then (2 : Int) ^ k else 0 := by
  have e : x.toNat = (x.msb.toNat <<< k) + (x.setWidth k).toNat := by
    rw [← BitVec.toNat_cons', BitVec.cons_msb_setWidth]
  rw [BitVec.toInt_eq_msb_cond, e, Nat.pow_succ]
  cases x.msb <;> simp [Nat.shiftLeft_eq] <;> omega

end Xdsl.BV
