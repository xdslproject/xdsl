import XdslModel.Loops
import XdslProofs.Lemmas.Loops
/-!
C16 — "The semantics-preserving structural transformations (structured-to-unstructured control flow
conversion, affine lowering, loop range folding, flattening and unrolling, loop-invariant code
motion, control-flow hoisting and symref elimination) turn every valid program they accept into one
that returns the same results and performs the same effects, in the same order, for every input."

Theorems on the model `XdslModel/Loops.lean`.  A loop body is an arbitrary partial state
transformer `Int → σ → Option σ` (`σ` = loop-carried values + effect log, `none` = undefined), so
every equation below is "same results and same effects in the same order, or both undefined", for
all bounds, steps, bodies and initial states.  The passes as run are tied to these cores by
correspondence and by translation validation (harness/props/c16.py).
-/
namespace Xdsl.C16
open Xdsl.Loops

/-- "loops with constant and symbolic bounds and steps (including zero-trip and negative ranges)":
the operational loop (test, body, increment — `Sem.runFor`) is the iteration of the body over the
first `tripCount lb ub step` induction values, for every amount of fuel that suffices. -/
theorem forRun_eq_forLoop {σ : Type} (ub step : Int) (hs : 0 < step) (body : Int → σ → Option σ) :
    ∀ (fuel : Nat) (lb : Int) (s : σ), tripCount lb ub step < fuel →
      forRun ub step body fuel lb s = forLoop lb ub step body s := by
  intro fuel lb
  induction lb using loop_induction (ub := ub) hs generalizing fuel with
  | empty lb hlt =>
    intro s h
    obtain ⟨f, rfl⟩ : ∃ f, fuel = f + 1 := ⟨fuel - 1, by omega⟩
    show (if lb < ub then _ else some s) = _
    rw [if_neg hlt, forLoop_zero_trip hs hlt]
  | peel lb hlt ih =>
    intro s h
    obtain ⟨f, rfl⟩ : ∃ f, fuel = f + 1 := ⟨fuel - 1, by omega⟩
    rw [tripCount_succ hs hlt] at h
    show (if lb < ub then (body lb s).bind (forRun ub step body f (lb + step)) else _) = _
    rw [if_pos hlt, forLoop_unfold hs hlt]
    exact congrArg _ (funext fun s' => ih f s' (by omega))

/-- zero-trip and negative ranges: nothing is executed -/
theorem for_zero_trip {σ : Type} (lb ub step : Int) (hs : 0 < step) (h : ub ≤ lb)
    (body : Int → σ → Option σ) (s : σ) : forLoop lb ub step body s = some s :=
  forLoop_zero_trip hs (by omega) body s

example : forLoop 0 5 2 logBody [] = some [0, 2, 4] := by decide +kernel
example : forLoop 3 (-2) 1 logBody [] = some [] := by decide +kernel
example : forRun 5 2 logBody 4 0 [] = some [0, 2, 4] := by decide +kernel

/-- "loop range folding": `for i in [lb,ub) step s { body (i + c) }` = `for i in [lb+c, ub+c) step s
{ body i }`, for every `c` (constant or symbolic). -/
theorem range_fold_add {σ : Type} (lb ub step c : Int) (body : Int → σ → Option σ) (s : σ) :
    forLoop (lb + c) (ub + c) step body s = forLoop lb ub step (fun i => body (i + c)) s := by
  unfold forLoop
  split
  · rfl
  · rw [tripCount_add, ivs_add, iter_map]

/-- "loop range folding" by a factor `c > 0`: `for i in [lb,ub) step s { body (i * c) }` =
`for i in [lb*c, ub*c) step s*c { body i }` (including step ≤ 0: both undefined). -/
theorem range_fold_mul {σ : Type} (lb ub step c : Int) (hc : 0 < c) (body : Int → σ → Option σ) (s : σ) :
    forLoop (lb * c) (ub * c) (step * c) body s = forLoop lb ub step (fun i => body (i * c)) s := by
  by_cases hs : 0 < step
  · rw [forLoop_pos (Int.mul_pos hs hc), forLoop_pos hs, tripCount_mul _ _ _ _ hc, ivs_mul, iter_map]
  · rw [forLoop_nonpos (Int.mul_nonpos_of_nonpos_of_nonneg (by omega) (by omega)), forLoop_nonpos (by omega)]

/-- the sign hypothesis is needed: with `c = 0` the folded loop has step 0 (undefined) while the
source runs; with `c < 0` the folded loop has a negative step.  (What the unfixed pass did.) -/
theorem range_fold_mul_counterexample :
    forLoop (0 * 0) (3 * 0) (1 * 0) logBody [] ≠ forLoop 0 3 1 (fun i => logBody (i * 0)) []
    ∧ forLoop (0 * -1) (3 * -1) (1 * -1) logBody [] ≠ forLoop 0 3 1 (fun i => logBody (i * -1)) [] := by
  decide +kernel

/-- the pass step as modelled (`foldStep`, fixed code: `muli` only by a constant > 0; `addi` by any
loop-invariant value `v`): whenever it folds, the loop over the new bounds with the use replaced by
the induction variable behaves like the original loop. -/
theorem foldStep_sound {σ : Type} (op : FoldOp) (lb ub step : Int) (c : Option Int) (v : Int)
    (hv : ∀ k, c = some k → v = k) (lb' ub' step' : Int)
    (h : foldStep op lb ub step c v = some (lb', ub', step')) (body : Int → σ → Option σ) (s : σ) :
    forLoop lb' ub' step' body s = forLoop lb ub step (fun i => body (op.apply i v)) s := by
  revert h
  fun_cases foldStep op lb ub step c v <;> intro h <;> cases h
  · exact range_fold_add lb ub step v body s
  · rename_i k hpos
    obtain rfl := hv k rfl
    exact range_fold_mul lb ub step v hpos body s

example : foldStep .mul 1 5 2 (some 3) 3 = some (3, 15, 6) := by decide +kernel
example : foldStep .mul 1 5 2 (some 0) 0 = none := by decide +kernel
example : foldStep .mul 1 5 2 none 7 = none := by decide +kernel

theorem pyRangeLen_eq_tripCount (lb ub step : Int) (hs : 0 < step) :
    pyRangeLen lb ub step = tripCount lb ub step := by
  unfold pyRangeLen tripCount
  rw [if_pos hs]
  by_cases h : lb < ub
  · rw [if_pos h, if_pos ⟨h, hs⟩]
  · rw [if_neg h, if_neg (fun hh => h hh.1)]

theorem seqRun_map {σ : Type} (body : Int → σ → Option σ) (l : List Int) (s : σ) :
    seqRun (l.map body) s = iter body l s := by
  induction l generalizing s with
  | nil => rfl
  | cons a r ih =>
    simp only [List.map, seqRun, iter]
    congr 1; funext s'; exact ih s'

/-- "unrolling": the sequence of body copies emitted for Python's `range(lb, ub, step)` (one per
element, induction variable replaced by the constant) behaves like the loop, for every positive
step — including the zero-trip case, where nothing is emitted. -/
theorem unroll_sound {σ : Type} (lb ub step : Int) (hs : 0 < step) (body : Int → σ → Option σ) (s : σ) :
    seqRun (unrolled lb ub step body) s = forLoop lb ub step body s := by
  unfold unrolled pyRange
  rw [seqRun_map, pyRangeLen_eq_tripCount _ _ _ hs, forLoop_pos hs]

theorem unroll_zero_trip {σ : Type} (lb ub step : Int) (hs : 0 < step) (h : ub ≤ lb)
    (body : Int → σ → Option σ) : unrolled lb ub step body = [] := by
  unfold unrolled pyRange
  rw [pyRangeLen_eq_tripCount _ _ _ hs, tripCount_of_not_lt (by omega)]; rfl

example : pyRange 0 7 3 = [0, 3, 6] := by decide +kernel
example : pyRange 4 4 1 = [] := by decide +kernel

theorem cfRun_exit {σ : Type} (ub step : Int) (body : Int → σ → Option σ) (n : Nat) (i : Int) (s : σ) :
    cfRun ub step body n ⟨.exit, i, s⟩ = some ⟨.exit, i, s⟩ := by
  induction n with
  | zero => rfl
  | succ n ih => exact ih

theorem cfRun_header_exit {σ : Type} {ub step : Int} (body : Int → σ → Option σ) {i : Int} (h : ¬ i < ub)
    (n : Nat) (s : σ) : cfRun ub step body (n + 1) ⟨.header, i, s⟩ = some ⟨.exit, i, s⟩ := by
  show cfRun ub step body n ⟨if i < ub then .body else .exit, i, s⟩ = _
  rw [if_neg h, cfRun_exit]

theorem cfRun_header_body {σ : Type} {ub step : Int} (body : Int → σ → Option σ) {i : Int} (h : i < ub)
    (n : Nat) (s : σ) :
    cfRun ub step body (n + 2) ⟨.header, i, s⟩
      = (body i s).bind fun s' => cfRun ub step body n ⟨.header, i + step, s'⟩ := by
  show cfRun ub step body (n + 1) ⟨if i < ub then .body else .exit, i, s⟩ = _
  rw [if_pos h]
  show ((body i s).map _).bind _ = _
  cases body i s <;> rfl

/-- "structured-to-unstructured control flow conversion": the header/body/exit CFG built by
`ForLowering` (header: compare and branch; body: loop body, increment, branch back) reaches its exit
block after `2 * tripCount + 1` steps — and stays there — with exactly the state the structured
loop produces; it is undefined exactly when the loop is.  Iterations are peeled from the front
(`loop_induction`): two steps from the header (`cfRun_header_body`) are one unfolding of the loop. -/
theorem for_to_cf_sound {σ : Type} (ub step : Int) (hs : 0 < step) (body : Int → σ → Option σ) :
    ∀ (k : Nat) (lb : Int) (s : σ) (n : Nat), tripCount lb ub step = k → 2 * k + 1 ≤ n →
      (cfRun ub step body n ⟨.header, lb, s⟩).map (fun c => (c.pc, c.st))
        = (forLoop lb ub step body s).map (fun s' => (PC.exit, s')) := by
  intro k lb
  induction lb using loop_induction (ub := ub) hs generalizing k with
  | empty lb hlt =>
    intro s n hk hn
    obtain ⟨m, rfl⟩ : ∃ m, n = m + 1 := ⟨n - 1, by omega⟩
    rw [forLoop_zero_trip hs hlt, cfRun_header_exit body hlt]
    rfl
  | peel lb hlt ih =>
    intro s n hk hn
    rw [tripCount_succ hs hlt] at hk
    obtain ⟨m, rfl⟩ : ∃ m, n = m + 2 := ⟨n - 2, by omega⟩
    rw [forLoop_unfold hs hlt, cfRun_header_body body hlt]
    cases body lb s with
    | none => rfl
    | some s' => exact ih _ s' m rfl (by omega)

example : (cfRun 5 2 logBody 7 ⟨.header, 0, []⟩).map (fun c => (c.pc, c.st)) = some (.exit, [0, 2, 4]) := by decide +kernel

/-- "loop-invariant code motion … loop-invariant and loop-variant operations": a side-effect-free
computation `e` on values defined outside the loop may be evaluated once in front of the loop if it
is total (speculatable, `e.isSome`) — then also for zero-trip loops — or if the loop runs at least
once.  `pre`/`post` are the (possibly effectful, loop-variant) parts of the body before and after. -/
theorem licm_sound {σ α : Type} (lb ub step : Int) (e : Option α) (pre : Int → σ → Option σ)
    (post : α → Int → σ → Option σ) (s : σ) (h : e.isSome ∨ 0 < tripCount lb ub step) :
    loopWithInv lb ub step e pre post s = loopHoisted lb ub step e pre post s := by
  cases e with
  | some v => rfl
  | none =>
    -- the body is undefined whatever `pre` does, and it runs at least once
    show forLoop lb ub step (fun i s => (pre i s).bind fun _ => none) s = none
    by_cases hs : 0 < step
    · rw [forLoop_unfold hs (lt_of_tripCount_pos (h.resolve_left (by simp))), bind_const_none]
      rfl
    · exact forLoop_nonpos (by omega) _ _

/-- a computation that may be undefined (e.g. a division by a possibly-zero value: not
speculatable) must not be hoisted out of a zero-trip loop: the source is defined, the target is not. -/
theorem licm_counterexample :
    loopWithInv 0 0 1 (none : Option Int) (fun _ s => some s) (fun v i s => logBody (v + i) s) []
      ≠ loopHoisted 0 0 1 (none : Option Int) (fun _ s => some s) (fun v i s => logBody (v + i) s) [] := by
  decide +kernel

/-- nor may an effectful operation: hoisted out of a zero-trip loop its effect appears once instead
of never (and out of a two-trip loop once instead of twice). -/
theorem licm_effect_counterexample :
    forLoop 0 0 1 (fun _ s => logBody 7 s) [] ≠ (logBody 7 []).bind (forLoop 0 0 1 (fun _ s => some s))
    ∧ forLoop 0 2 1 (fun _ s => logBody 7 s) [] ≠ (logBody 7 []).bind (forLoop 0 2 1 (fun _ s => some s)) := by
  decide +kernel

/-- "control-flow hoisting": the side-effect-free computations of both branches may be evaluated in
front of the conditional when each is total on the path where it was not evaluated before
(speculatable ops: always). -/
theorem hoist_if_sound {σ α β : Type} (c : Bool) (e1 : Option α) (e2 : Option β) (k1 : α → σ → Option σ)
    (k2 : β → σ → Option σ) (s : σ) (h1 : c = false → e1.isSome) (h2 : c = true → e2.isSome) :
    ifWithOps c e1 e2 k1 k2 s = ifHoisted c e1 e2 k1 k2 s := by
  cases c with
  | true =>
    obtain ⟨v2, rfl⟩ := Option.isSome_iff_exists.1 (h2 rfl)
    rfl
  | false =>
    obtain ⟨v1, rfl⟩ := Option.isSome_iff_exists.1 (h1 rfl)
    rfl

theorem hoist_if_counterexample :
    ifWithOps true (some 1) (none : Option Int) (fun v s => logBody v s) (fun v s => logBody v s) []
      ≠ ifHoisted true (some 1) (none : Option Int) (fun v s => logBody v s) (fun v s => logBody v s) [] := by
  decide +kernel

end Xdsl.C16
