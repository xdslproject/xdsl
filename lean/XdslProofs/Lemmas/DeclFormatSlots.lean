import XdslProofs.Lemmas.DeclFormatTrace
import XdslProofs.Lemmas.AL
/-!
C05, the state after parsing, segments: the structural slots (operands, operand types, result types, regions, successors) of
the state `replayD fmt op {}` hold the operation's own lists.
-/
namespace Xdsl.DeclFormat

theorem get_foldl_set (l : List Nat) (m : AL Nat (List Nat)) (f : Nat → List Nat) (i : Nat) :
    AL.get (l.foldl (fun m j => AL.set m j (f j)) m) i = if i ∈ l then some (f i) else AL.get m i := by
  split <;> rename_i h
  · obtain ⟨_, _, rfl, e⟩ := AL.get_foldl_set_of_mem id f m ⟨i, h, rfl⟩
    exact e
  · exact AL.get_foldl_set_of_not_mem id f l m fun j hj e => h (e ▸ hj)

theorem get_setAll (m : AL Nat (List Nat)) (segs : List (List Nat)) (i : Nat) :
    AL.get (setAll m segs) i = if i < segs.length then some (seg segs i) else AL.get m i := by
  unfold setAll
  rw [get_foldl_set]
  simp [seg]

def AgreeM (segs : List (List Nat)) (m : AL Nat (List Nat)) : Prop :=
  ∀ i xs, AL.get m i = some xs → xs = seg segs i

/-- everything the state holds in family `fam` is the operation's own list -/
def AgreeF (fam : Fam) (op : OpInst) (st : PState) : Prop :=
  ∀ i xs, AL.get (getF fam st) i = some xs → xs = seg (opF fam op) i

theorem agreeF_iff (fam : Fam) (op : OpInst) (st : PState) :
    AgreeF fam op st ↔ AgreeM (opF fam op) (getF fam st) := Iff.rfl

theorem agreeF_init (fam : Fam) (op : OpInst) : AgreeF fam op {} := by
  intro i xs hx
  cases fam <;> cases hx

def HasF (fam : Fam) (i : Nat) (st : PState) : Prop := (AL.get (getF fam st) i).isSome = true

/-! ### writing the operation's own segments

`Wr fam op st st'`: in family `fam`, `st'` differs from `st` only in slots that now hold the operation's
own segment.  Every action of `trace` is such a step, for a valid instance (what `set_empty` writes is
what the instance has there: `GroupCons`).  Both "what is there is the operation's" (`AgreeF`) and "what
was set stays set" (`HasF`) are preserved along `Wr`. -/

def Wr (fam : Fam) (op : OpInst) (st st' : PState) : Prop :=
  ∀ i, AL.get (getF fam st') i = AL.get (getF fam st) i ∨
    AL.get (getF fam st') i = some (seg (opF fam op) i)

theorem Wr.refl {fam : Fam} {op : OpInst} {st : PState} : Wr fam op st st := fun _ => Or.inl rfl

theorem Wr.trans {fam : Fam} {op : OpInst} {a b c : PState} (h1 : Wr fam op a b) (h2 : Wr fam op b c) :
    Wr fam op a c := fun i => by
  rcases h2 i with h | h
  · rw [h]; exact h1 i
  · exact Or.inr h

theorem Wr.of_eq {fam : Fam} {op : OpInst} {st st' : PState} (h : getF fam st' = getF fam st) :
    Wr fam op st st' := fun _ => Or.inl (by rw [h])

theorem Wr.agree {fam : Fam} {op : OpInst} {st st' : PState} (h : Wr fam op st st')
    (ha : AgreeF fam op st) : AgreeF fam op st' := fun i xs hx => by
  rcases h i with e | e
  · exact ha i xs (e ▸ hx)
  · exact (Option.some.inj (e ▸ hx)).symm

theorem Wr.has {fam : Fam} {op : OpInst} {st st' : PState} (h : Wr fam op st st') {i : Nat}
    (hs : HasF fam i st) : HasF fam i st' := by
  unfold HasF at *
  rcases h i with e | e <;> rw [e]
  · exact hs
  · rfl

theorem wr_setF (fam fam' : Fam) (op : OpInst) (st : PState) (j : Nat) (v : List Nat)
    (hv : fam' = fam → v = seg (opF fam op) j) : Wr fam op st (setF fam' st j v) := by
  by_cases h : fam = fam'
  · subst h
    intro i
    rw [getF_setF, AL.get_set]
    by_cases hij : i = j
    · subst hij; rw [if_pos rfl, hv rfl]; exact Or.inr rfl
    · rw [if_neg hij]; exact Or.inl rfl
  · exact Wr.of_eq (getF_setF_ne h st j v)

/-- an aggregate directive writes all segments of family `fam'` at once -/
theorem wr_setAll {fam : Fam} {op : OpInst} {st st' : PState} (fam' : Fam)
    (h : ∀ f, getF f st' = if f = fam' then setAll (getF f st) (opF f op) else getF f st) :
    Wr fam op st st' := by
  intro i
  rw [h fam]
  split
  · rw [get_setAll]
    split
    · exact Or.inr rfl
    · exact Or.inl rfl
  · exact Or.inl rfl

theorem wr_replayTy (op : OpInst) (r : TyRef) (st : PState) (fam : Fam) : Wr fam op st (replayTy op r st) := by
  cases r with
  | operands => exact wr_setAll .operandTys (fun f => by cases f <;> rfl)
  | results => exact wr_setAll .resultTys (fun f => by cases f <;> rfl)
  | operand i k => exact wr_setF fam .operandTys op st i _ (fun h => by subst h; rfl)
  | result i k => exact wr_setF fam .resultTys op st i _ (fun h => by subst h; rfl)

theorem getF_setDict (fam : Fam) (isProp : Bool) (st : PState) (n : String) (v : Nat) :
    getF fam (setDict isProp st n v) = getF fam st := by
  cases isProp <;> cases fam <;> rfl

theorem wr_replayS (D : Defs) (op : OpInst) (d : SDir) (st : PState) (fam : Fam) :
    Wr fam op st (replayS D op d st) := by
  cases d using SDir.segCases with
  | seg fam' i k =>
    rw [replayS_segD]
    exact wr_setF fam fam' op st i _ (fun h => by subst h; rfl)
  | attr name isProp optional dflt =>
    rw [replayS_attr]
    cases attrOut op name isProp optional dflt with
    | none => exact Wr.refl
    | some v => exact Wr.of_eq (getF_setDict ..)
  | unitAttr name isProp u => exact Wr.of_eq (getF_setDict ..)
  | attrDict w res exp => exact Wr.of_eq (by cases fam <;> rfl)
  | operandsAll => exact wr_setAll .operands (fun f => by cases f <;> rfl)
  | operandTysAll => exact wr_setAll .operandTys (fun f => by cases f <;> rfl)
  | resultTysAll => exact wr_setAll .resultTys (fun f => by cases f <;> rfl)
  | funcTy ins outs => exact (wr_replayTy op ins st fam).trans (wr_replayTy op outs _ fam)
  | _ => exact Wr.refl

theorem setEmptyS_segD (st : PState) (fam : Fam) (i : Nat) (k : Kind) :
    setEmptyS st (segD fam i k) =
      if k = .single ∧ (fam = .operands ∨ fam = .succs) then st else setF fam st i (emptyVal fam k) := by
  cases fam <;> cases k <;> rfl

theorem wr_setEmptyS (op : OpInst) (d : SDir) (st : PState) (fam : Fam) (hfrag : inFragment d = true)
    (he : emptyS op d) : Wr fam op st (setEmptyS st d) := by
  cases d using SDir.segCases with
  | seg fam' i k =>
    rw [setEmptyS_segD]
    split
    · exact Wr.refl
    · exact wr_setF fam fam' op st i _ (fun h => by subst h; exact ((emptyS_segD op _ i k).mp he).symm)
  | operandsAll => cases hfrag
  | _ => exact Wr.refl

theorem wr_step {D : Defs} {op : OpInst} {fmt : List Dir} (fam : Fam) (hfrag : fragD fmt = true)
    (hv : ValidD D op fmt) {a : Act} (ha : a ∈ trace op fmt) (st : PState) : Wr fam op st (step D op st a) := by
  cases a with
  | run d => exact wr_replayS D op d st fam
  | skip d =>
    obtain ⟨he, hf⟩ := skip_ok hfrag hv ha
    exact wr_setEmptyS op d st fam hf he

theorem wr_replayD (D : Defs) (op : OpInst) (fmt : List Dir) (st : PState) (fam : Fam)
    (hfrag : fragD fmt = true) (hv : ValidD D op fmt) : Wr fam op st (replayD D op fmt st) := by
  rw [replayD_eq]
  exact foldl_rel (fun _ => Wr.refl) Wr.trans (fun _ ha => wr_step fam hfrag hv ha) st

theorem agreeF_replayD (D : Defs) (op : OpInst) (fmt : List Dir) (st : PState) (fam : Fam)
    (hfrag : fragD fmt = true) (hv : ValidD D op fmt) (h : AgreeF fam op st) :
    AgreeF fam op (replayD D op fmt st) :=
  (wr_replayD D op fmt st fam hfrag hv).agree h

theorem hasF_setF (fam : Fam) (st : PState) (i : Nat) (v : List Nat) : HasF fam i (setF fam st i v) := by
  unfold HasF
  rw [getF_setF, AL.get_set, if_pos rfl]
  rfl

theorem hasF_setAll {fam : Fam} {st st' : PState} {i : Nat} {segs : List (List Nat)}
    (h : getF fam st' = setAll (getF fam st) segs) (hi : i < segs.length) : HasF fam i st' := by
  unfold HasF
  rw [h, get_setAll, if_pos hi]
  rfl

theorem pos_ite {p : Prop} [Decidable p] (h : 0 < if p then 1 else 0) : p := by
  by_cases e : p
  · exact e
  · simp [e] at h

theorem hasF_replayTy_hit (op : OpInst) (r : TyRef) (st : PState) (fam : Fam) (i : Nat)
    (hb : tyRefBindN fam i r > 0) (hi : i < (opF fam op).length) : HasF fam i (replayTy op r st) := by
  cases r with
  | operands => obtain rfl := pos_ite hb; exact hasF_setAll rfl hi
  | results => obtain rfl := pos_ite hb; exact hasF_setAll rfl hi
  | operand j k => obtain ⟨rfl, rfl⟩ := pos_ite hb; exact hasF_setF .operandTys st j _
  | result j k => obtain ⟨rfl, rfl⟩ := pos_ite hb; exact hasF_setF .resultTys st j _

def bindsS (fam : Fam) (i : Nat) (d : SDir) : Bool := decide (bindN fam i d > 0)

theorem bindN_segD (fam fam' : Fam) (i j : Nat) (k : Kind) :
    bindN fam i (segD fam' j k) = if fam = fam' ∧ j = i then 1 else 0 := by
  cases fam' <;> rfl

theorem bindsS_frag {fam : Fam} {i : Nat} {d : SDir} (hfrag : inFragment d = true)
    (hb : bindsS fam i d = true) : ∃ k, d = segD fam i k := by
  have hb : bindN fam i d > 0 := of_decide_eq_true hb
  cases d using SDir.segCases with
  | seg fam' j k =>
    rw [bindN_segD] at hb
    obtain ⟨rfl, rfl⟩ := pos_ite hb
    exact ⟨k, rfl⟩
  | operandsAll => cases hfrag
  | operandTysAll => cases hfrag
  | resultTysAll => cases hfrag
  | funcTy a b => cases hfrag
  | _ => cases hb

theorem hasF_replayS_hit (D : Defs) (op : OpInst) (d : SDir) (st : PState) (fam : Fam) (i : Nat)
    (hb : bindsS fam i d = true) (hi : i < (opF fam op).length) : HasF fam i (replayS D op d st) := by
  have hb : bindN fam i d > 0 := of_decide_eq_true hb
  cases d using SDir.segCases with
  | seg fam' j k =>
    rw [bindN_segD] at hb
    obtain ⟨rfl, rfl⟩ := pos_ite hb
    rw [replayS_segD]
    exact hasF_setF fam st j _
  | operandsAll => obtain rfl := pos_ite hb; exact hasF_setAll rfl hi
  | operandTysAll => obtain rfl := pos_ite hb; exact hasF_setAll rfl hi
  | resultTysAll => obtain rfl := pos_ite hb; exact hasF_setAll rfl hi
  | funcTy ins outs =>
    have hb' : tyRefBindN fam i ins + tyRefBindN fam i outs > 0 := hb
    by_cases h1 : tyRefBindN fam i outs > 0
    · exact hasF_replayTy_hit op outs _ fam i h1 hi
    · exact (wr_replayTy op outs _ fam).has (hasF_replayTy_hit op ins st fam i (by omega) hi)
  | _ => cases hb

/-- inside a group `set_empty` reaches the slot the directive writes -/
theorem hasF_setEmptyS_hit (st : PState) (fam : Fam) (i : Nat) (k : Kind)
    (hg : okInGroup (segD fam i k) = true) : HasF fam i (setEmptyS st (segD fam i k)) := by
  have : ¬ (k = .single ∧ (fam = .operands ∨ fam = .succs)) := by
    rintro ⟨rfl, rfl | rfl⟩ <;> cases hg
  rw [setEmptyS_segD, if_neg this]
  exact hasF_setF fam st i _

/-- some directive of the format (at top level or inside a group) writes slot `(fam, i)` -/
def bindsD (fam : Fam) (i : Nat) : List Dir → Bool
  | [] => false
  | .s d :: ds => bindsS fam i d || bindsD fam i ds
  | .group _ f r e :: ds => (f :: r).any (bindsS fam i) || e.any (bindsS fam i) || bindsD fam i ds

theorem bindsD_eq_any (fam : Fam) (i : Nat) (fmt : List Dir) :
    bindsD fam i fmt = (allS fmt).any (bindsS fam i) := by
  induction fmt with
  | nil => rfl
  | cons d ds ih =>
    cases d with
    | s d => simp [bindsD, allS, ih]
    | group a f r e => simp [bindsD, allS, ih, Bool.or_assoc]

/-- a bound slot is written whichever branch runs: by the directive itself, or by `set_empty` -/
theorem hasF_replayD (D : Defs) (op : OpInst) (fmt : List Dir) (K : List Cls) (st : PState) (fam : Fam) (i : Nat)
    (hwf : wfD fmt K = true) (hv : ValidD D op fmt)
    (hb : bindsD fam i fmt = true) (hi : i < (opF fam op).length) :
    HasF fam i (replayD D op fmt st) := by
  rw [bindsD_eq_any] at hb
  obtain ⟨d, hd, hbd⟩ := List.any_eq_true.mp hb
  have hfrag := fragD_of_wfD fmt K hwf
  rw [replayD_eq]
  have keep : ∀ b ∈ trace op fmt, ∀ s, HasF fam i s → HasF fam i (step D op s b) :=
    fun b hb s => (wr_step fam hfrag hv hb s).has
  rcases mem_trace_iff.mpr hd with h | h
  · exact foldl_hit keep h (fun s => hasF_replayS_hit D op d s fam i hbd hi) st
  · have hg : okInGroup d = true := act_ok hwf hv h
    obtain ⟨k, rfl⟩ := bindsS_frag (inFragment_of_okInGroup hg) hbd
    exact foldl_hit keep h (fun s => hasF_setEmptyS_hit s fam i k hg) st

theorem slot_replayD (D : Defs) (op : OpInst) (fmt : List Dir) (K : List Cls) (fam : Fam) (i : Nat)
    (hwf : wfD fmt K = true) (hv : ValidD D op fmt) (hi : i < (opF fam op).length) :
    (bindsD fam i fmt = true → AL.get (getF fam (replayD D op fmt {})) i = some (seg (opF fam op) i)) ∧
    ∀ xs, AL.get (getF fam (replayD D op fmt {})) i = some xs → xs = seg (opF fam op) i := by
  have ha := agreeF_replayD D op fmt {} fam (fragD_of_wfD fmt K hwf) hv (agreeF_init fam op)
  refine ⟨fun hb => ?_, ha i⟩
  have hs : HasF fam i (replayD D op fmt {}) := hasF_replayD D op fmt K {} fam i hwf hv hb hi
  unfold HasF at hs
  cases h : AL.get (getF fam (replayD D op fmt {})) i with
  | none => rw [h] at hs; cases hs
  | some xs => rw [ha i xs h]

end Xdsl.DeclFormat
