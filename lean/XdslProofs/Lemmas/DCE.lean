import XdslModel.DCE
import XdslProofs.Lemmas.PostOrder
import XdslProofs.Lemmas.List
/-!
Lemmas for C13: what a liveness pass visits (`vcells`); the least live set `LV`; the one invariant
lemma of a pass (`pass_inv`), whose instances are "a pass only extends the live set", "keeps it
duplicate-free" and "every member of the live set is justified"; the closure of the live set once a
pass adds nothing; the `while changed` loop.  The structural arguments go through two induction
principles: `vcells_induct` (from a visited cell back along the calls of `pass` that reach it) and
`LV.nested` (from the top region down through the regions of live operations).
-/
namespace Xdsl.DCE
open Xdsl.Graph

/-- all operation cells of the tree (pre-order, as `allHdrs`) -/
def allCells : T → List (Hdr × T)
  | .nil => []
  | .op h rs next => (h, rs) :: (allCells rs ++ allCells next)
  | .block ops next => allCells ops ++ allCells next
  | .region bs next => allCells bs ++ allCells next

/-- the operation cells a pass run on `t` handles itself (those of nested regions are handled by
the recursive call, if the operation is live): operations of reachable blocks -/
def vcells : T → Option Nat → List (Hdr × T)
  | .nil, _ => []
  | .op h rs next, _ => (h, rs) :: vcells next none
  | .block ops _, some 0 => vcells ops none
  | .block _ next, some (k + 1) => vcells next (some k)
  | .block _ _, none => []
  | .region bs next, _ => (reachSet bs).flatMap (fun b => vcells bs (some b)) ++ vcells next none

/-- **The least live set.**  An operation of a reachable block of the top region, or of a region of
a live operation, is live when it is not would-be-trivially-dead or when an operation using one of
its results is live. -/
inductive LV (P : T) : Hdr → T → Prop
  | base_top {h rs} : (h, rs) ∈ vcells P none → wbd h rs = false → LV P h rs
  | base_in {h rs h' rs'} : LV P h' rs' → (h, rs) ∈ vcells rs' none → wbd h rs = false → LV P h rs
  | user_top {h rs u urs} : (h, rs) ∈ vcells P none → LV P u urs → h.id ∈ u.operands → LV P h rs
  | user_in {h rs h' rs' u urs} : LV P h' rs' → (h, rs) ∈ vcells rs' none → LV P u urs →
      h.id ∈ u.operands → LV P h rs

/-- the operation is visited: it sits in a reachable block of the top region or of a region of a
live operation -/
def Vis (P : T) (c : Hdr × T) : Prop :=
  c ∈ vcells P none ∨ ∃ h' rs', LV P h' rs' ∧ c ∈ vcells rs' none

def LiveId (P : T) (i : Nat) : Prop := ∃ h rs, LV P h rs ∧ h.id = i

/-! The four constructors of `LV` are two rules read at the two kinds of place `Vis` joins. -/

theorem LV.of_vis_base {P : T} {h : Hdr} {rs : T} (hv : Vis P (h, rs)) (hw : wbd h rs = false) :
    LV P h rs := by
  rcases hv with hv | ⟨h', rs', hl, hv⟩
  · exact .base_top hv hw
  · exact .base_in hl hv hw

theorem LV.of_vis_user {P : T} {h u : Hdr} {rs urs : T} (hv : Vis P (h, rs)) (hu : LV P u urs)
    (hm : h.id ∈ u.operands) : LV P h rs := by
  rcases hv with hv | ⟨h', rs', hl, hv⟩
  · exact .user_top hv hu hm
  · exact .user_in hl hv hu hm

theorem LV.vis {P : T} {h : Hdr} {rs : T} (hl : LV P h rs) : Vis P (h, rs) := by
  cases hl with
  | base_top hv _ => exact Or.inl hv
  | base_in hl' hv _ => exact Or.inr ⟨_, _, hl', hv⟩
  | user_top hv _ _ => exact Or.inl hv
  | user_in hl' hv _ _ => exact Or.inr ⟨_, _, hl', hv⟩

/-- A property of trees that holds of `P` and passes from a tree to the regions of the live
operations it shows, holds of the tree that shows a given live operation. -/
theorem LV.nested {P : T} {R : T → Prop} (top : R P)
    (down : ∀ {t h rs}, R t → (h, rs) ∈ vcells t none → LV P h rs → R rs) {h : Hdr} {rs : T}
    (hl : LV P h rs) : ∃ t, R t ∧ (h, rs) ∈ vcells t none := by
  induction hl with
  | base_top hv _ => exact ⟨P, top, hv⟩
  | user_top hv _ _ _ => exact ⟨P, top, hv⟩
  | base_in hl' hv _ ih =>
    obtain ⟨t, ht, hc⟩ := ih
    exact ⟨_, down ht hc hl', hv⟩
  | user_in hl' hv _ _ ih _ =>
    obtain ⟨t, ht, hc⟩ := ih
    exact ⟨_, down ht hc hl', hv⟩

@[simp] theorem allIds_nil : allIds .nil = [] := rfl
@[simp] theorem allIds_op (h : Hdr) (rs next : T) :
    allIds (.op h rs next) = h.id :: (allIds rs ++ allIds next) := by simp [allIds, allHdrs]
@[simp] theorem allIds_block (ops next : T) :
    allIds (.block ops next) = allIds ops ++ allIds next := by simp [allIds, allHdrs]
@[simp] theorem allIds_region (bs next : T) :
    allIds (.region bs next) = allIds bs ++ allIds next := by simp [allIds, allHdrs]

theorem ws_op {h : Hdr} {rs next : T} {s : Srt} :
    ws (.op h rs next) s = true ↔ s = .ops ∧ ws rs .regions = true ∧ ws next .ops = true := by
  cases s <;> simp [ws]

theorem ws_block {ops next : T} {s : Srt} :
    ws (.block ops next) s = true ↔ s = .blocks ∧ ws ops .ops = true ∧ ws next .blocks = true := by
  cases s <;> simp [ws]

theorem ws_region {bs next : T} {s : Srt} :
    ws (.region bs next) s = true ↔ s = .regions ∧ ws bs .blocks = true ∧ ws next .regions = true := by
  cases s <;> simp [ws]

theorem allCells_map_fst (t : T) : (allCells t).map Prod.fst = allHdrs t := by
  induction t with
  | nil => rfl
  | op h a b iha ihb | block a b iha ihb | region a b iha ihb => simp [allCells, allHdrs, iha, ihb]

theorem mem_allHdrs_of_cell {t : T} {h : Hdr} {rs : T} (hc : (h, rs) ∈ allCells t) :
    h ∈ allHdrs t := by
  rw [← allCells_map_fst]; exact List.mem_map.mpr ⟨(h, rs), hc, rfl⟩

theorem mem_allIds_of_cell {t : T} {h : Hdr} {rs : T} (hc : (h, rs) ∈ allCells t) :
    h.id ∈ allIds t :=
  List.mem_map.mpr ⟨h, mem_allHdrs_of_cell hc, rfl⟩

/-- Induction over what a pass visits: a property of `(t, sel)` that holds at an operation list
headed by `c` and passes from where `pass` recurs to where it was called holds wherever `c` is
visited. -/
theorem vcells_induct {c : Hdr × T} {M : T → Option Nat → Prop}
    (head : ∀ next sel, M (.op c.1 c.2 next) sel)
    (tail : ∀ h rs next sel, M next none → M (.op h rs next) sel)
    (blk0 : ∀ ops next, c ∈ vcells ops none → M ops none → M (.block ops next) (some 0))
    (blkS : ∀ ops next k, M next (some k) → M (.block ops next) (some (k + 1)))
    (regB : ∀ bs next sel b, b ∈ reachSet bs → M bs (some b) → M (.region bs next) sel)
    (regN : ∀ bs next sel, M next none → M (.region bs next) sel) :
    ∀ t sel, c ∈ vcells t sel → M t sel := by
  intro t
  induction t with
  | nil => intro sel hc; cases hc
  | op h rs next _ ihn =>
    intro sel hc
    rcases List.mem_cons.mp hc with rfl | hc
    · exact head next sel
    · exact tail h rs next sel (ihn none hc)
  | block ops next iho ihn =>
    intro sel hc
    match sel with
    | none => cases hc
    | some 0 => exact blk0 ops next hc (iho none hc)
    | some (k + 1) => exact blkS ops next k (ihn (some k) hc)
  | region bs next ihb ihn =>
    intro sel hc
    rcases List.mem_append.mp hc with hc | hc
    · obtain ⟨b, hb, hc⟩ := List.mem_flatMap.mp hc
      exact regB bs next sel b hb (ihb (some b) hc)
    · exact regN bs next sel (ihn none hc)

theorem vcells_cells {h : Hdr} {rs t : T} {sel : Option Nat} (hc : (h, rs) ∈ vcells t sel) :
    (h, rs) :: allCells rs ⊆ allCells t :=
  vcells_induct (c := (h, rs)) (M := fun t _ => (h, rs) :: allCells rs ⊆ allCells t)
    (fun _ _ => List.cons_subset_cons _ (List.subset_append_left _ _))
    (fun _ _ _ _ ih => ih.trans ((List.subset_append_right _ _).trans (List.subset_cons_self _ _)))
    (fun _ _ _ ih => ih.trans (List.subset_append_left _ _))
    (fun _ _ _ ih => ih.trans (List.subset_append_right _ _))
    (fun _ _ _ _ _ ih => ih.trans (List.subset_append_left _ _))
    (fun _ _ _ ih => ih.trans (List.subset_append_right _ _)) t sel hc

theorem vcells_sub {t : T} {sel : Option Nat} {c : Hdr × T} (hc : c ∈ vcells t sel) : c ∈ allCells t :=
  vcells_cells hc List.mem_cons_self

theorem LV.cells {P : T} {h : Hdr} {rs : T} (hl : LV P h rs) : (h, rs) :: allCells rs ⊆ allCells P := by
  obtain ⟨t, ht, hc⟩ := hl.nested (R := fun t => allCells t ⊆ allCells P) (List.Subset.refl _)
    (fun ht hc _ => ((List.subset_cons_self _ _).trans (vcells_cells hc)).trans ht)
  exact (vcells_cells hc).trans ht

theorem LV.mem {P : T} {h : Hdr} {rs : T} (hl : LV P h rs) : (h, rs) ∈ allCells P :=
  hl.cells List.mem_cons_self

theorem Vis.mem {P : T} {c : Hdr × T} (hv : Vis P c) : c ∈ allCells P := by
  rcases hv with hv | ⟨h', rs', hl, hv⟩
  · exact vcells_cells hv List.mem_cons_self
  · exact hl.cells (List.mem_cons_of_mem _ (vcells_cells hv List.mem_cons_self))

theorem cell_unique {P : T} (hnd : (allIds P).Nodup) {c d : Hdr × T} (hc : c ∈ allCells P)
    (hd : d ∈ allCells P) (hid : c.1.id = d.1.id) : c = d := by
  have h : ((allCells P).map fun c => c.1.id).Nodup := by
    have : ((allCells P).map fun c => c.1.id) = allIds P := by
      unfold allIds; rw [← allCells_map_fst, List.map_map]; rfl
    rw [this]; exact hnd
  exact inj_of_nodup_map (fun c : Hdr × T => c.1.id) _ h c hc d hd hid

theorem hasLiveUser_iff {root : T} {live : List Nat} {i : Nat} :
    hasLiveUser root live i = true ↔ ∃ u ∈ allHdrs root, i ∈ u.operands ∧ u.id ∈ live := by
  simp [hasLiveUser]

theorem pass_guard_iff {P : T} {h : Hdr} {rs : T} {l : List Nat} :
    (!wbd h rs || hasLiveUser P l h.id) = true ↔ (wbd h rs = false ∨ hasLiveUser P l h.id = true) := by
  simp

/-- **The invariant lemma of a pass.**  `Q` (of the live set) survives a pass over cells that satisfy
`V` if it survives marking a visited operation, and `V` passes to the cells of the regions of an
operation the pass finds or makes live. -/
theorem pass_inv {P : T} {Q : List Nat → Prop} {V : Hdr × T → Prop}
    (enter : ∀ {h rs l}, V (h, rs) → Q l → h.id ∈ l → ∀ c ∈ vcells rs none, V c)
    (mark : ∀ {h rs l}, V (h, rs) → Q l → h.id ∉ l →
      (wbd h rs = false ∨ hasLiveUser P l h.id = true) → Q (h.id :: l) ∧ ∀ c ∈ vcells rs none, V c)
    (t : T) (sel : Option Nat) (live : List Nat) (hv : ∀ c ∈ vcells t sel, V c) (hq : Q live) :
    Q (pass P t sel live) := by
  fun_induction pass P t sel live with
  | case1 => exact hq
  | case2 h rs next _ live l1 hm ihn ihr =>
    have hq1 := ihn (fun c hc => hv c (List.mem_cons_of_mem _ hc)) hq
    exact ihr (enter (hv _ List.mem_cons_self) hq1 (List.contains_iff_mem.mp hm)) hq1
  | case3 h rs next _ live l1 hm hc ihn ihr =>
    have hq1 := ihn (fun c hc => hv c (List.mem_cons_of_mem _ hc)) hq
    obtain ⟨hq2, hv2⟩ := mark (hv _ List.mem_cons_self) hq1 (fun h' => hm (List.contains_iff_mem.mpr h'))
      (pass_guard_iff.mp hc)
    exact ihr hv2 hq2
  | case4 h rs next _ live l1 _ _ ihn => exact ihn (fun c hc => hv c (List.mem_cons_of_mem _ hc)) hq
  | case5 ops next live ih => exact ih hv hq
  | case6 ops next k live ih => exact ih hv hq
  | case7 => exact hq
  | case8 bs next _ live ihb ihn =>
    refine ihn (fun c hc => hv c (List.mem_append_right _ hc)) ?_
    refine foldl_inv Q (fun b hb l hl => ihb l b (fun c hc => hv c ?_) hl) live hq
    exact List.mem_append_left _ (List.mem_flatMap.mpr ⟨b, hb, hc⟩)

/-- the case where nothing is asked of the visited cells -/
theorem pass_inv_cons {P : T} {Q : List Nat → Prop} (mark : ∀ {i l}, Q l → i ∉ l → Q (i :: l))
    (t : T) (sel : Option Nat) (live : List Nat) (hq : Q live) : Q (pass P t sel live) :=
  pass_inv (V := fun _ => True) (fun _ _ _ _ _ => trivial)
    (fun _ hq hm _ => ⟨mark hq hm, fun _ _ => trivial⟩) t sel live (fun _ _ => trivial) hq

theorem pass_suffix (P t : T) (sel : Option Nat) (live : List Nat) : live <:+ pass P t sel live :=
  pass_inv_cons (Q := (live <:+ ·)) (fun hl _ => hl.trans (List.suffix_cons _ _)) t sel live
    (List.suffix_refl _)

/-- every member of the live set is justified: it is the id of an operation of the least live set -/
def Just (P : T) (live : List Nat) : Prop := ∀ i ∈ live, LiveId P i

theorem Just.cell {P : T} (hnd : (allIds P).Nodup) {live : List Nat} (hj : Just P live) {c : Hdr × T}
    (hc : c ∈ allCells P) (hm : c.1.id ∈ live) : LV P c.1 c.2 := by
  obtain ⟨h, rs, hl, hid⟩ := hj _ hm
  cases cell_unique hnd hl.mem hc hid
  exact hl

theorem pass_just {P : T} (hnd : (allIds P).Nodup) {t : T} {sel : Option Nat} {live : List Nat}
    (hv : ∀ c ∈ vcells t sel, Vis P c) (hj : Just P live) : Just P (pass P t sel live) := by
  refine pass_inv (Q := Just P) (V := Vis P)
    (fun hvh hj hm c hc => Or.inr ⟨_, _, hj.cell hnd hvh.mem hm, hc⟩) ?_ t sel live hv hj
  intro h rs l hvh hj _ hc
  have hl : LV P h rs := by
    rcases hc with hw | hu
    · exact .of_vis_base hvh hw
    · -- the live user is a cell of `P`, hence in the least live set
      obtain ⟨u, hu, hop, hul⟩ := hasLiveUser_iff.mp hu
      obtain ⟨cu, hcu, rfl⟩ := List.mem_map.mp (allCells_map_fst P ▸ hu)
      exact .of_vis_user hvh (hj.cell hnd hcu hul) hop
  refine ⟨fun i hi => ?_, fun c hc => Or.inr ⟨h, rs, hl, hc⟩⟩
  rcases List.mem_cons.mp hi with rfl | hi
  · exact ⟨h, rs, hl, rfl⟩
  · exact hj i hi

/-- the live set is closed under the two liveness rules on everything a pass visits from `t` -/
def Closed (P : T) (live : List Nat) : T → Option Nat → Prop
  | .nil, _ => True
  | .op h rs next, _ =>
    Closed P live next none
      ∧ ((wbd h rs = false ∨ hasLiveUser P live h.id = true) → h.id ∈ live)
      ∧ (h.id ∈ live → Closed P live rs none)
  | .block ops _, some 0 => Closed P live ops none
  | .block _ next, some (k + 1) => Closed P live next (some k)
  | .block _ _, none => True
  | .region bs next, _ => (∀ b ∈ reachSet bs, Closed P live bs (some b)) ∧ Closed P live next none

theorem suffix_sandwich {α : Type} {a b c : List α} (h1 : a <:+ b) (h2 : b <:+ c) (h : c = a) : b = a :=
  (h1.eq_of_length (Nat.le_antisymm h1.length_le (h ▸ h2.length_le))).symm

/-- extensive steps whose composition returns to `l` each fix `l` -/
theorem foldl_fix {α β : Type} (f : List α → β → List α) (hf : ∀ l b, l <:+ f l b) (bs : List β)
    (l : List α) (h : bs.foldl f l = l) : ∀ b ∈ bs, f l b = l := by
  induction bs with
  | nil => intro b hb; cases hb
  | cons b bs ih =>
    have hrest : f l b <:+ bs.foldl f (f l b) :=
      foldl_rel List.suffix_refl List.IsSuffix.trans (fun b' _ l' => hf l' b') _
    have hfb : f l b = l := suffix_sandwich (hf l b) hrest h
    intro b' hb'
    rcases List.mem_cons.mp hb' with rfl | hb'
    · exact hfb
    · exact ih (by rw [List.foldl_cons, hfb] at h; exact h) b' hb'

theorem pass_fix {P t : T} {sel : Option Nat} {live : List Nat} (hp : pass P t sel live = live) :
    Closed P live t sel := by
  fun_induction pass P t sel live with
  | case1 => trivial
  | case2 h rs next _ live l1 hm ihn ihr =>
    -- already live: both the rest of the block and the regions add nothing
    have h1 : l1 = live := suffix_sandwich (pass_suffix P next none live) (pass_suffix P rs none _) hp
    exact ⟨ihn h1, fun _ => List.contains_iff_mem.mp (h1 ▸ hm), fun _ => h1 ▸ ihr (hp.trans h1.symm)⟩
  | case3 h rs next _ live l1 _ _ ihn ihr =>
    -- newly live: the set grew
    have := (pass_suffix P rs none (h.id :: l1)).length_le
    rw [hp, List.length_cons] at this
    exact absurd (Nat.lt_of_lt_of_le (Nat.lt_succ_of_le (pass_suffix P next none live).length_le) this)
      (Nat.lt_irrefl _)
  | case4 h rs next _ live l1 hm hc ihn =>
    have hp : l1 = live := hp
    rw [hp] at hm hc
    exact ⟨ihn hp, fun hor => absurd (pass_guard_iff.mpr hor) hc,
      fun hx => absurd (List.contains_iff_mem.mpr hx) hm⟩
  | case5 ops next live ih => exact ih hp
  | case6 ops next k live ih => exact ih hp
  | case7 => trivial
  | case8 bs next _ live ihb ihn =>
    have hs : live <:+ (reachSet bs).foldl (fun l b => pass P bs (some b) l) live :=
      foldl_rel List.suffix_refl List.IsSuffix.trans (fun b _ l => pass_suffix P bs (some b) l) live
    have h1 := suffix_sandwich hs (pass_suffix P next none _) hp
    exact ⟨fun b hb => ihb live b (foldl_fix _ (fun l b => pass_suffix P bs (some b) l) _ live h1 b hb),
      h1 ▸ ihn (hp.trans h1.symm)⟩

theorem closed_mem {P t : T} {live : List Nat} {sel : Option Nat} (hcl : Closed P live t sel)
    {h : Hdr} {rs : T} (hc : (h, rs) ∈ vcells t sel) :
    ((wbd h rs = false ∨ hasLiveUser P live h.id = true) → h.id ∈ live)
      ∧ (h.id ∈ live → Closed P live rs none) :=
  vcells_induct (c := (h, rs)) (M := fun t sel => Closed P live t sel →
      ((wbd h rs = false ∨ hasLiveUser P live h.id = true) → h.id ∈ live)
      ∧ (h.id ∈ live → Closed P live rs none))
    (fun _ _ hcl => hcl.2) (fun _ _ _ _ ih hcl => ih hcl.1)
    (fun _ _ _ ih hcl => ih hcl) (fun _ _ _ ih hcl => ih hcl)
    (fun _ _ _ b hb ih hcl => ih (hcl.1 b hb)) (fun _ _ _ ih hcl => ih hcl.2) t sel hc hcl

/-- a closed live set contains the least live set -/
theorem LV.sub_closed {P : T} {live : List Nat} (hcl : Closed P live P none) {h : Hdr} {rs : T}
    (hl : LV P h rs) : h.id ∈ live ∧ Closed P live rs none := by
  have key : ∀ {t h rs}, Closed P live t none → (h, rs) ∈ vcells t none →
      (wbd h rs = false ∨ hasLiveUser P live h.id = true) → h.id ∈ live ∧ Closed P live rs none :=
    fun ht hv hor => let ⟨a, b⟩ := closed_mem ht hv; ⟨a hor, b (a hor)⟩
  have user : ∀ {i u urs}, LV P u urs → i ∈ u.operands → u.id ∈ live → hasLiveUser P live i = true :=
    fun hu hop hul => hasLiveUser_iff.mpr ⟨_, mem_allHdrs_of_cell hu.mem, hop, hul⟩
  induction hl with
  | base_top hv hw => exact key hcl hv (Or.inl hw)
  | base_in _ hv hw ih => exact key ih.2 hv (Or.inl hw)
  | user_top hv hu hop ihu => exact key hcl hv (Or.inr (user hu hop ihu.1))
  | user_in _ hv hu hop ih ihu => exact key ih.2 hv (Or.inr (user hu hop ihu.1))

theorem Closed.rule {P : T} {live : List Nat} (hcl : Closed P live P none) {h : Hdr} {rs : T}
    (hv : Vis P (h, rs)) (hg : wbd h rs = false ∨ hasLiveUser P live h.id = true) : h.id ∈ live := by
  rcases hv with hv | ⟨h', rs', hl', hv⟩
  · exact (closed_mem hcl hv).1 hg
  · exact (closed_mem (hl'.sub_closed hcl).2 hv).1 hg

/-- The live set is duplicate-free and inside the `#operations` ids, so it can grow at most that
often: with more fuel than that the loop ends, at a fixpoint of `pass`. -/
theorem liveLoop_spec {P : T} (hnd : (allIds P).Nodup) (fuel : Nat) {live : List Nat} (n : Nat)
    (hn : live.Nodup) (hj : Just P live) (hlt : (allIds P).length < fuel + live.length) :
    (liveLoop P fuel live n).2.2 = true
      ∧ pass P P none (liveLoop P fuel live n).1 = (liveLoop P fuel live n).1
      ∧ Just P (liveLoop P fuel live n).1 := by
  fun_induction liveLoop P fuel live n with
  | case1 live n =>
    have := hn.length_le_of_subset fun i hi => let ⟨_, _, hl, e⟩ := hj i hi; e ▸ mem_allIds_of_cell hl.mem
    omega
  | case2 fuel live n l' heq =>
    have hfix : l' = live := ((pass_suffix P P none live).eq_of_length (beq_iff_eq.mp heq).symm).symm
    exact ⟨rfl, by rw [hfix]; exact hfix, pass_just hnd (fun _ hc => Or.inl hc) hj⟩
  | case3 fuel live n l' hne ih =>
    have hle : live.length ≤ l'.length := (pass_suffix P P none live).length_le
    have hne : l'.length ≠ live.length := fun e => hne (beq_iff_eq.mpr e)
    exact ih (pass_inv_cons (fun hl hm => List.nodup_cons.mpr ⟨hm, hl⟩) P none live hn)
      (pass_just hnd (fun _ hc => Or.inl hc) hj) (by omega)

theorem liveSet_spec {P : T} (hnd : (allIds P).Nodup) :
    (liveLoop P ((allHdrs P).length + 1) [] 0).2.2 = true
      ∧ pass P P none (liveSet P) = liveSet P ∧ Just P (liveSet P) :=
  liveLoop_spec hnd _ 0 List.nodup_nil (fun _ hi => nomatch hi) (by simp [allIds])

theorem liveSet_closed {P : T} (hnd : (allIds P).Nodup) : Closed P (liveSet P) P none :=
  pass_fix (liveSet_spec hnd).2.1

theorem live_iff {P : T} (hnd : (allIds P).Nodup) (i : Nat) : i ∈ liveSet P ↔ LiveId P i := by
  constructor
  · exact fun h => (liveSet_spec hnd).2.2 i h
  · rintro ⟨h, rs, hl, rfl⟩
    exact (hl.sub_closed (liveSet_closed hnd)).1

end Xdsl.DCE
