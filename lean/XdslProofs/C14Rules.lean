import XdslProofs.C14
import XdslModel.ArithRules
/-!
# C14 (C) — every rewrite rule of `canonicalization_patterns/arith.py` preserves evaluation

For the two integer patterns and `SignlessIntegerBinaryOperation.fold` (`Preserves`):
`rule e = some e' → ∀ env v, eval e env = some v → eval e' env = some v` over `BitVec w` at every
width `w ≥ 1` ("the source run is defined ⇒ the target gives the same value"; `none` is poison /
undefined behaviour of the reference semantics `Sem.intBin`).  The cmpi and select patterns are stated
on the operands, the float patterns on float expressions (`FE`; the constant fold up to `FEq`, which
identifies NaNs); each has a statement of its own further down.

The integer rules are parametrised by the fold kernels; `generated` packages the kernels regenerated
from `/repo`, `generated_sound` is leg (B) (`C14.lean`) in the form of `Sound`, `ref_sound` carries it
over to the driver's hand-written copy, which `ref_pyOp`, `ref_normalize`, `ref_isRightUnit`,
`ref_isRightZero` identify with them.
-/
namespace Xdsl.C14
open Xdsl Xdsl.ArithRules Xdsl.Sem Xdsl.SemMeta Xdsl.Generated Xdsl.Generated.ArithPyOps Xdsl.Generated.BuiltinInt
open Xdsl.Generated.Comparisons

/-- what the rules need from the kernels (`fold` at every width, the others at `w ≥ 1`) -/
structure Sound (K : Kernels) : Prop where
  fold : ∀ op f, K.pyOp op = some f → ∀ (w : Nat) (a b : Int),
    intBin op (BitVec.ofInt w a) (BitVec.ofInt w b) = .val (BitVec.ofInt w (f a b))
  norm : ∀ (w : Nat), 1 ≤ w → ∀ r, ∃ d, K.normalize w r = some d ∧ BitVec.ofInt w d = BitVec.ofInt w r
  unit : ∀ op (w : Nat) c, 1 ≤ w → K.isRightUnit op w c = true → ∀ x : BitVec w,
    intBin op x (BitVec.ofInt w c) = .val x ∨ intBin op x (BitVec.ofInt w c) = .ub
  lunit : ∀ op (w : Nat) c, 1 ≤ w → commutative op = true → K.isRightUnit op w c = true → ∀ x : BitVec w,
    intBin op (BitVec.ofInt w c) x = .val x
  zero : ∀ op (w : Nat) c, 1 ≤ w → K.isRightZero op w c = true → ∀ x : BitVec w,
    intBin op x (BitVec.ofInt w c) = .val (BitVec.ofInt w c)

def Preserves (w : Nat) (rule : E → Option E) : Prop :=
  ∀ e e', rule e = some e' → ∀ (env : Nat → BitVec w) v, eval w env e = some v → eval w env e' = some v

/-- the `Commutative` trait is justified by the reference semantics -/
theorem intBin_comm (op : String) (h : commutative op = true) {w : Nat} (x y : BitVec w) :
    intBin op x y = intBin op y x := by
  simp only [commutative, Bool.or_eq_true, decide_eq_true_eq] at h
  rcases h with (((rfl | rfl) | rfl) | rfl) | rfl
  · rw [intBin_addi, intBin_addi, BitVec.add_comm]
  · rw [intBin_muli, intBin_muli, BitVec.mul_comm]
  · rw [intBin_andi, intBin_andi, BitVec.and_comm]
  · rw [intBin_ori, intBin_ori, BitVec.or_comm]
  · rw [intBin_xori, intBin_xori, BitVec.xor_comm]

theorem comm_defined (op : String) (h : commutative op = true) {w : Nat} (x y : BitVec w) :
    ∃ v, intBin op x y = .val v := by
  simp only [commutative, Bool.or_eq_true, decide_eq_true_eq] at h
  rcases h with (((rfl | rfl) | rfl) | rfl) | rfl
  · exact ⟨_, intBin_addi x y⟩
  · exact ⟨_, intBin_muli x y⟩
  · exact ⟨_, intBin_andi x y⟩
  · exact ⟨_, intBin_ori x y⟩
  · exact ⟨_, intBin_xori x y⟩

/-- why `fold` may test `is_right_unit` on the left operand of a `Commutative` operation -/
theorem lunit_of_unit {op : String} {w : Nat} {c x : BitVec w}
    (hu : intBin op x c = .val x ∨ intBin op x c = .ub) (hc : commutative op = true) :
    intBin op c x = .val x := by
  rw [intBin_comm op hc]
  obtain ⟨v, hv⟩ := comm_defined op hc x c
  exact hu.resolve_right (by rw [hv]; exact nofun)

theorem eval_bin {w : Nat} {env : Nat → BitVec w} {op : String} {a b : E} {v : BitVec w} :
    eval w env (.bin op a b) = some v ↔
      ∃ x y, eval w env a = some x ∧ eval w env b = some y ∧ intBin op x y = .val v := by
  constructor
  · intro h
    rw [eval] at h
    split at h
    · rename_i x y hx hy
      split at h
      · rename_i v' hv; cases h; exact ⟨x, y, hx, hy, hv⟩
      · cases h
    · cases h
  · rintro ⟨x, y, hx, hy, hxy⟩
    simp only [eval, hx, hy, hxy]

/-- What one application of an integer pattern does.  Between them `constProp`, `zeroOrUnitRight` and `fold`
perform five rewrites (`constProp_step`, `zeroOrUnitRight_step`, `fold_step`); each rests on one field of
`Sound` (`foldConst` on two, `fold` and `norm`; `commute` on the reference semantics alone). -/
inductive Step (K : Kernels) (w : Nat) : E → E → Prop
  /-- `IntegerAttr(py_operation(a, b), type, truncate_bits=True)` -/
  | foldConst {idx op f a b e'} : K.pyOp op = some f → ArithRules.mkConst K w idx (f a b) = some e' →
      Step K w (.bin op (.const a) (.const b)) e'
  | commute {op a r} : commutative op = true → Step K w (.bin op (.const a) r) (.bin op r (.const a))
  | rightZero {op a c} : K.isRightZero op w c = true → Step K w (.bin op a (.const c)) (.const c)
  | rightUnit {op a c} : K.isRightUnit op w c = true → Step K w (.bin op a (.const c)) a
  /-- `fold` tests `is_right_unit` on the left operand of a `Commutative` operation -/
  | leftUnit {op c b} : commutative op = true → K.isRightUnit op w c = true →
      Step K w (.bin op (.const c) b) b

section
variable {K : Kernels} (hK : Sound K) {w : Nat} (hw : 1 ≤ w) {env : Nat → BitVec w}
include hK hw

theorem mkConst_eval {idx : Bool} {r : Int} {e : E} (h : ArithRules.mkConst K w idx r = some e) :
    eval w env e = some (BitVec.ofInt w r) := by
  unfold ArithRules.mkConst at h
  split at h
  · cases h; rfl
  · obtain ⟨d, hd, he⟩ := hK.norm w hw r
    rw [hd] at h; cases h
    rw [eval, he]

/-- The only place where `Sound` meets `eval`: every rewrite of `Step` preserves evaluation. -/
theorem Step.sound {e e' : E} (h : Step K w e e') {v : BitVec w} (hv : eval w env e = some v) :
    eval w env e' = some v := by
  cases h <;> obtain ⟨x, y, hx, hy, hxy⟩ := eval_bin.mp hv
  case foldConst hf hr =>
    cases hx; cases hy
    rw [hK.fold _ _ hf] at hxy; cases hxy
    exact mkConst_eval hK hw hr
  case commute hc => exact eval_bin.mpr ⟨y, x, hy, hx, intBin_comm _ hc x y ▸ hxy⟩
  case rightZero hz =>
    cases hy
    rw [hK.zero _ _ _ hw hz x] at hxy; cases hxy
    rfl
  case rightUnit hu =>
    cases hy
    rcases hK.unit _ _ _ hw hu x with h1 | h1 <;> rw [h1] at hxy <;> cases hxy
    exact hx
  case leftUnit hc hu =>
    cases hx
    rw [hK.lunit _ _ _ hw hc hu y] at hxy; cases hxy
    exact hy

end

section
variable {K : Kernels} {w : Nat} {idx : Bool} {e e' : E}

theorem constProp_step (h : constProp K w idx e = some e') : Step K w e e' := by
  revert h
  fun_cases constProp K w idx e <;> intro h
  · exact .foldConst ‹_› h
  · cases h
  · cases h; exact .commute ‹_›
  all_goals cases h

theorem zeroOrUnitRight_step (h : zeroOrUnitRight K w e = some e') : Step K w e e' := by
  revert h
  fun_cases zeroOrUnitRight K w e <;> intro h <;> cases h
  · exact .rightZero ‹_›
  · exact .rightUnit ‹_›

theorem isConst_some {e : E} {c : Int} (h : isConst e = some c) : e = .const c := by
  cases e <;> cases h; rfl

/-- `fold` rewrites in three ways: both operands constant; a right unit on the right; for a commutative
operation, a right unit on the left (the model function tests the last one in two places) -/
theorem fold_step (h : ArithRules.fold K w idx e = some e') : Step K w e e' := by
  have comm_of {op} : ¬ (!commutative op) = true → commutative op = true := by simp
  revert h
  -- of the eleven branches of `fold` four return `some _`; `cases h` closes the others
  fun_cases ArithRules.fold K w idx e <;> intro h <;> cases h
  · rename_i both hboth
    simp only [both] at hboth
    split at hboth
    · rename_i ha hb
      obtain ⟨f, hf, hr⟩ := Option.bind_eq_some_iff.mp hboth
      cases isConst_some ha; cases isConst_some hb
      exact .foldConst hf hr
    · cases hboth
  · rename_i hb hu _ _
    cases isConst_some hb; exact .rightUnit hu
  · rename_i hc _ ha hu _ _ _
    cases isConst_some ha; exact .leftUnit (comm_of hc) hu
  · rename_i hc _ ha hu _ _ _
    cases isConst_some ha; exact .leftUnit (comm_of hc) hu

end

section
variable {K : Kernels} (hK : Sound K) {w : Nat} (hw : 1 ≤ w)
include hK hw

theorem constProp_preserves (idx : Bool) : Preserves w (constProp K w idx) :=
  fun _ _ h _ _ => (constProp_step h).sound hK hw

theorem zeroOrUnitRight_preserves : Preserves w (zeroOrUnitRight K w) :=
  fun _ _ h _ _ => (zeroOrUnitRight_step h).sound hK hw

theorem fold_preserves (idx : Bool) : Preserves w (ArithRules.fold K w idx) :=
  fun _ _ h _ _ => (fold_step h).sound hK hw

end

/-- dispatch table: which class of `xdsl/dialects/arith.py` overrides which kernel -/
def generated : Kernels where
  pyOp op :=
    if op = "arith.addi" then some AddiOp_py_operation
    else if op = "arith.subi" then some SubiOp_py_operation
    else if op = "arith.muli" then some MuliOp_py_operation
    else if op = "arith.andi" then some AndIOp_py_operation
    else if op = "arith.ori" then some OrIOp_py_operation
    else if op = "arith.xori" then some XOrIOp_py_operation
    else none
  isRightUnit op w c :=
    if op = "arith.addi" then AddiOp_is_right_unit w c
    else if op = "arith.subi" then SubiOp_is_right_unit w c
    else if op = "arith.ori" then OrIOp_is_right_unit w c
    else if op = "arith.xori" then XOrIOp_is_right_unit w c
    else if op = "arith.shli" then ShLIOp_is_right_unit w c
    else if op = "arith.shrui" then ShRUIOp_is_right_unit w c
    else if op = "arith.shrsi" then ShRSIOp_is_right_unit w c
    else if op = "arith.muli" then MuliOp_is_right_unit w c
    else if op = "arith.divui" then DivUIOp_is_right_unit w c
    else if op = "arith.divsi" then DivSIOp_is_right_unit w c
    else if op = "arith.floordivsi" then FloorDivSIOp_is_right_unit w c
    else if op = "arith.ceildivsi" then CeilDivSIOp_is_right_unit w c
    else if op = "arith.ceildivui" then CeilDivUIOp_is_right_unit w c
    else false
  isRightZero op w c :=
    if op = "arith.muli" then MuliOp_is_right_zero w c
    else if op = "arith.andi" then AndIOp_is_right_zero w c
    else false
  normalize w v := normalized_value_signless w v true

/-- one step through an `if` chain (`split` takes time exponential in the length of the chain) -/
theorem of_ite_eq {α : Type} {p : Prop} [Decidable p] {a b c : α} {Q : Prop} (h : (if p then a else b) = c)
    (h1 : p → a = c → Q) (h2 : ¬ p → b = c → Q) : Q := by
  by_cases hp : p
  · exact h1 hp (by rwa [if_pos hp] at h)
  · exact h2 hp (by rwa [if_neg hp] at h)

/-- Each field of `generated_sound` walks the `if` chain of the dispatch table; in the branch of an
operation the claim is the theorem of `C14.lean` for that operation (for `fold`: `pyOp_sound` with the two
facts its `*_fold` has).  `unit` stands apart because `lunit` is derived from it (`lunit_of_unit`). -/
theorem generated_unit (op : String) (w : Nat) (c : Int) (hw : 1 ≤ w) (hu : generated.isRightUnit op w c = true)
    (x : BitVec w) : intBin op x (BitVec.ofInt w c) = .val x ∨ intBin op x (BitVec.ofInt w c) = .ub := by
  simp only [generated] at hu
  refine of_ite_eq hu (by rintro rfl hu; exact Or.inl (addi_right_unit w c hu x)) fun _ hu => ?_
  refine of_ite_eq hu (by rintro rfl hu; exact Or.inl (subi_right_unit w c hu x)) fun _ hu => ?_
  refine of_ite_eq hu (by rintro rfl hu; exact Or.inl (ori_right_unit w c hu x)) fun _ hu => ?_
  refine of_ite_eq hu (by rintro rfl hu; exact Or.inl (xori_right_unit w c hu x)) fun _ hu => ?_
  refine of_ite_eq hu (by rintro rfl hu; exact Or.inl (shli_right_unit w hw c hu x)) fun _ hu => ?_
  refine of_ite_eq hu (by rintro rfl hu; exact Or.inl (shrui_right_unit w hw c hu x)) fun _ hu => ?_
  refine of_ite_eq hu (by rintro rfl hu; exact Or.inl (shrsi_right_unit w hw c hu x)) fun _ hu => ?_
  refine of_ite_eq hu (by rintro rfl hu; exact Or.inl (muli_right_unit w hw c hu x)) fun _ hu => ?_
  refine of_ite_eq hu (by rintro rfl hu; exact Or.inl (divui_right_unit w hw c hu x)) fun _ hu => ?_
  refine of_ite_eq hu (by rintro rfl hu; exact divsi_right_unit w hw c hu x) fun _ hu => ?_
  refine of_ite_eq hu (by rintro rfl hu; exact floordivsi_right_unit w hw c hu x) fun _ hu => ?_
  refine of_ite_eq hu (by rintro rfl hu; exact ceildivsi_right_unit w hw c hu x) fun _ hu => ?_
  refine of_ite_eq hu (by rintro rfl hu; exact Or.inl (ceildivui_right_unit w hw c hu x)) fun _ hu => ?_
  cases hu

theorem generated_sound : Sound generated where
  fold := by
    intro op f hf w a b
    simp only [generated] at hf
    refine of_ite_eq hf (by rintro rfl ⟨⟩; exact pyOp_sound intBin_addi BitVec.ofInt_add a b) fun _ hf => ?_
    refine of_ite_eq hf (by rintro rfl ⟨⟩; exact pyOp_sound intBin_subi (BV.ofInt_sub w) a b) fun _ hf => ?_
    refine of_ite_eq hf (by rintro rfl ⟨⟩; exact pyOp_sound intBin_muli BitVec.ofInt_mul a b) fun _ hf => ?_
    refine of_ite_eq hf (by rintro rfl ⟨⟩; exact pyOp_sound intBin_andi (BV.ofInt_land w) a b) fun _ hf => ?_
    refine of_ite_eq hf (by rintro rfl ⟨⟩; exact pyOp_sound intBin_ori (BV.ofInt_lor w) a b) fun _ hf => ?_
    refine of_ite_eq hf (by rintro rfl ⟨⟩; exact pyOp_sound intBin_xori (BV.ofInt_xor w) a b) fun _ hf => ?_
    cases hf
  norm := fun w hw r => ⟨_, RvK.normalized_eq w hw r true (Or.inl rfl), BitVec.ofInt_toInt⟩
  unit := generated_unit
  lunit := fun op w c hw hc hu x => lunit_of_unit (generated_unit op w c hw hu x) hc
  zero := by
    intro op w c hw hz x
    simp only [generated] at hz
    refine of_ite_eq hz (by rintro rfl hz; exact muli_right_zero w c hz x) fun _ hz => ?_
    refine of_ite_eq hz (by rintro rfl hz; exact andi_right_zero w c hz x) fun _ hz => ?_
    cases hz

theorem ref_pyOp (op : String) : Kernels.ref.pyOp op = generated.pyOp op := rfl

theorem ref_normalize (w : Nat) (hw : 1 ≤ w) (v : Int) :
    Kernels.ref.normalize (w : Int) v = generated.normalize (w : Int) v :=
  (RvK.normalized_eq w hw v true (Or.inl rfl)).symm

theorem oneRef_eq (w : Nat) (hw : 1 ≤ w) : oneRef (w : Int) = normalized_one (w : Int) := by
  rw [oneRef, Int.toNat_natCast, normalized_one_eq w hw]

/-- `Kernels.ref` groups the operations that share a unit under one `if`, `generated` has one `if`
per class, in the same order -/
theorem ite_or {α : Type} {p q : Prop} [Decidable p] [Decidable q] (x y : α) :
    (if p ∨ q then x else y) = if p then x else if q then x else y := by
  by_cases hp : p <;> by_cases hq : q <;> simp [hp, hq]

theorem ref_isRightZero (op : String) (w c : Int) : Kernels.ref.isRightZero op w c = generated.isRightZero op w c := by
  simp only [Kernels.ref, Bool.or_eq_true, decide_eq_true_eq, ite_or]
  rfl

theorem ref_isRightUnit (op : String) (w : Nat) (hw : 1 ≤ w) (c : Int) :
    Kernels.ref.isRightUnit op w c = generated.isRightUnit op w c := by
  simp only [Kernels.ref, Bool.or_eq_true, decide_eq_true_eq, ite_or, oneRef_eq w hw]
  rfl

/-- `Sound` carries over to the hand-written kernels of the driver model along the four `ref_*` equations -/
theorem ref_sound : Sound Kernels.ref where
  fold := fun op f hf w a b => generated_sound.fold op f (by rw [← ref_pyOp]; exact hf) w a b
  norm := fun w hw r => by rw [ref_normalize w hw]; exact generated_sound.norm w hw r
  unit := fun op w c hw hu x => generated_sound.unit op w c hw (by rw [← ref_isRightUnit op w hw]; exact hu) x
  lunit := fun op w c hw hc hu x => generated_sound.lunit op w c hw hc (by rw [← ref_isRightUnit op w hw]; exact hu) x
  zero := fun op w c hw hz x => generated_sound.zero op w c hw (by rw [← ref_isRightZero]; exact hz) x

/-- the three integer rules, instantiated with the regenerated kernels, are sound at every width -/
theorem integer_rules_preserve (w : Nat) (hw : 1 ≤ w) (idx : Bool) :
    Preserves w (constProp generated w idx) ∧ Preserves w (zeroOrUnitRight generated w)
      ∧ Preserves w (ArithRules.fold generated w idx) :=
  ⟨constProp_preserves generated_sound hw idx, zeroOrUnitRight_preserves generated_sound hw,
    fold_preserves generated_sound hw idx⟩

/-- `ApplyCmpiPredicateToEqualOperands`: `cmpi p x x` is the constant `cmpiSame p`, at every width.
On equal operands the six comparisons are constants (the reflexive ones true, the strict ones false),
so `Sem.cmpi p x x` is a table in `p`, which `cmpiSame` lists. -/
theorem cmpi_same_sound (w : Nat) (x : BitVec w) (p : Int) (r : Bool) (h : Sem.cmpi p x x = some r) :
    r = cmpiSame p := by
  have hlt : x.slt x = false := by simp [BitVec.slt]
  have hle : x.sle x = true := by simp [BitVec.sle]
  have ult : x.ult x = false := by simp [BitVec.ult]
  have ule : x.ule x = true := by simp [BitVec.ule]
  revert h
  fun_cases Sem.cmpi p x x <;> rintro ⟨⟩ <;> subst p <;>
    simp only [hlt, hle, ult, ule, beq_self_eq_true, bne_self_eq_false] <;> rfl

/-- the constant built by the pattern, `BoolAttr.from_bool(val)`, denotes `val` -/
theorem cmpi_same_const (b : Bool) : BitVec.ofInt 1 (if b then -1 else 0) = (if b then 1#1 else 0#1) := by
  cases b <;> rfl

/-- An `i1` constant whose data lies in the signless range `[-1, 2)` (what `IntegerAttr.verify`
enforces) is the pattern `1` exactly when the data is truthy in Python. -/
theorem i1_ofInt (c : Int) (hc : -1 ≤ c ∧ c < 2) : BitVec.ofInt 1 c = if c ≠ 0 then 1#1 else 0#1 := by
  have : c = -1 ∨ c = 0 ∨ c = 1 := by omega
  rcases this with rfl | rfl | rfl <;> rfl

/-- `SelectConstPattern`: for an `i1` constant whose data lies in the signless range `[-1, 2)`
(what `IntegerAttr.verify` enforces), Python truthiness of the data is the i1 pattern. -/
theorem select_const_sound {α : Type} (c : Int) (hc : -1 ≤ c ∧ c < 2) (a b : α) :
    selSem (BitVec.ofInt 1 c) a b = selectConst c a b := by
  rw [selSem, selectConst, i1_ofInt c hc]
  by_cases h : c = 0 <;> simp [h]

theorem selSem_one_zero (x : BitVec 1) : selSem x 1#1 0#1 = x := by
  rcases BitVec.eq_zero_or_eq_one x with rfl | rfl <;> rfl

theorem selSem_zero_one (x : BitVec 1) : selSem x 0#1 1#1 = x ^^^ 1#1 := by
  rcases BitVec.eq_zero_or_eq_one x with rfl | rfl <;> rfl

/-- `SelectTrueFalsePattern`: `select x, true, false = x` and `select x, false, true = x xor true`. -/
theorem select_true_false_sound (l r : Int) (hl : -1 ≤ l ∧ l < 2) (hr : -1 ≤ r ∧ r < 2) (x : BitVec 1) :
    match selectTrueFalse l r with
    | some (.inl _) => selSem x (BitVec.ofInt 1 l) (BitVec.ofInt 1 r) = x
    | some (.inr r') => Sem.intBin "arith.xori" x (BitVec.ofInt 1 r') = .val (selSem x (BitVec.ofInt 1 l) (BitVec.ofInt 1 r))
    | none => True := by
  rw [selectTrueFalse]
  by_cases h1 : l ≠ 0 ∧ r = 0
  · rw [if_pos h1]
    show selSem x _ _ = x
    rw [i1_ofInt l hl, i1_ofInt r hr, if_pos h1.1, if_neg (not_not_intro h1.2), selSem_one_zero]
  · rw [if_neg h1]
    by_cases h2 : l = 0 ∧ r ≠ 0
    · rw [if_pos h2]
      show Sem.intBin "arith.xori" x _ = .val (selSem x _ _)
      rw [i1_ofInt l hl, i1_ofInt r hr, if_neg (not_not_intro h2.1), if_pos h2.2, selSem_zero_one, intBin_xori]
    · rw [if_neg h2]; trivial

/-- `SelectSamePattern`: `select c, y, y = y`. -/
theorem select_same_sound {α : Type} (c : BitVec 1) (y : α) : selSem c y y = y := ite_self y

/-- IEEE facts about the relations used by `select_cmpf_to_minmax_sound` -/
structure OrdLaws {F : Type} (O : FloatOrd F) : Prop where
  /-- on non-NaN operands exactly one of `<`, `==`, `>` holds -/
  tri : ∀ a b, O.isNaN a = false → O.isNaN b = false →
    (O.lt a b = true ∧ O.eq a b = false ∧ O.lt b a = false)
    ∨ (O.lt a b = false ∧ O.eq a b = true ∧ O.lt b a = false)
    ∨ (O.lt a b = false ∧ O.eq a b = false ∧ O.lt b a = true)
  /-- `==` identifies only +0 and -0 -/
  eq_same : ∀ a b, O.eq a b = true → ¬ (O.isZero a = true ∧ O.isZero b = true) → a = b
  pzero_zero : O.isZero O.pzero = true
  nzero_zero : O.isZero O.nzero = true

/-- when the pattern fires, the predicate is of the "greater" group (`ogt oge ugt uge`) and the result
`maximumf`, or of the "less" group (`olt ole ult ule`) and the result `minimumf` -/
theorem selectCmpf_some {p : Int} {nnan nsz same : Bool} {mm : MinMax}
    (h : selectCmpf p nnan nsz same = some mm) :
    (mm = .maximumf ∧ (((p = 2 ∨ p = 3) ∨ p = 9) ∨ p = 10))
      ∨ (mm = .minimumf ∧ (((p = 4 ∨ p = 5) ∨ p = 11) ∨ p = 12)) := by
  unfold selectCmpf at h
  refine of_ite_eq h nofun fun _ h => ?_
  refine of_ite_eq h nofun fun _ h => ?_
  simp only [Bool.or_eq_true, decide_eq_true_eq] at h
  refine of_ite_eq h (fun hp h => Or.inl ⟨(Option.some.inj h).symm, hp⟩) fun _ h => ?_
  exact of_ite_eq h (fun hp h => Or.inr ⟨(Option.some.inj h).symm, hp⟩) nofun

section
variable {F : Type} {O : FloatOrd F} (L : OrdLaws O) {a b : F} (ha : O.isNaN a = false) (hb : O.isNaN b = false)
include L ha hb

/-- non-NaN operands are ordered: the "unordered" disjunct of the `u..` predicates is off -/
theorem ordered : (O.lt a b || O.eq a b || O.lt b a) = true := by
  rcases L.tri a b ha hb with ⟨h1, h2, h3⟩ | ⟨h1, h2, h3⟩ | ⟨h1, h2, h3⟩ <;> rw [h1, h2, h3] <;> rfl

/-- `ogt`/`ugt` are `>`, `oge`/`uge` are `> or ==` -/
theorem cmpf_greater {p : Int} (hp : ((p = 2 ∨ p = 3) ∨ p = 9) ∨ p = 10) {c : Bool} (hc : O.cmpf p a b = some c) :
    c = O.lt b a ∨ c = (O.lt b a || O.eq a b) := by
  have hun := ordered L ha hb
  rcases hp with ((rfl | rfl) | rfl) | rfl <;>
    simp only [FloatOrd.cmpf, cmpfTable, hun, Bool.not_true, Bool.or_false, Int.reduceEq, ↓reduceIte,
      Option.some.injEq] at hc
  · exact Or.inl hc.symm
  · exact Or.inr hc.symm
  · exact Or.inl hc.symm
  · exact Or.inr hc.symm

/-- `olt`/`ult` are `<`, `ole`/`ule` are `< or ==` -/
theorem cmpf_less {p : Int} (hp : ((p = 4 ∨ p = 5) ∨ p = 11) ∨ p = 12) {c : Bool} (hc : O.cmpf p a b = some c) :
    c = O.lt a b ∨ c = (O.lt a b || O.eq a b) := by
  have hun := ordered L ha hb
  rcases hp with ((rfl | rfl) | rfl) | rfl <;>
    simp only [FloatOrd.cmpf, cmpfTable, hun, Bool.not_true, Bool.or_false, Int.reduceEq, ↓reduceIte,
      Option.some.injEq] at hc
  · exact Or.inl hc.symm
  · exact Or.inr hc.symm
  · exact Or.inl hc.symm
  · exact Or.inr hc.symm

omit ha hb in
/-- selecting by `s or ==` is selecting by `s`: off the zeros `==` is identity -/
theorem select_weak {s c : Bool} (hc : c = s ∨ c = (s || O.eq a b))
    (hz : ¬ (O.isZero a = true ∧ O.isZero b = true)) : (if c then a else b) = if s then a else b := by
  rcases hc with rfl | rfl
  · rfl
  · cases he : O.eq a b
    · rw [Bool.or_false]
    · cases L.eq_same a b he hz; rw [ite_self, ite_self]

omit L in
/-- off the zeros `maximumf`/`minimumf` of non-NaN operands select by the strict relation -/
theorem minmax_strict (hz : ¬ (O.isZero a = true ∧ O.isZero b = true)) :
    O.maximumf a b = (if O.lt b a then a else b) ∧ O.minimumf a b = (if O.lt a b then a else b) := by
  have hz' : (O.isZero a && O.isZero b) = false := by simpa using hz
  simp only [FloatOrd.maximumf, FloatOrd.minimumf, ha, hb, hz', Bool.or_self, Bool.false_eq_true, if_false,
    and_self]

end

/-- **`SelectFoldCmpfPattern`**: when the rule fires (`nnan` and `nsz` present), for operands that are
not NaN (a NaN operand is poison under `nnan`): `select (cmpf p a b) a b` *is* `maximumf a b` /
`minimumf a b` unless both operands are zeros, and in that case both sides are zeros (they may
differ in the sign of zero only, which `nsz` declares insignificant). -/
theorem select_cmpf_to_minmax_sound {F : Type} (O : FloatOrd F) (L : OrdLaws O)
    (p : Int) (nnan nsz : Bool) (mm : MinMax) (h : selectCmpf p nnan nsz true = some mm)
    (a b : F) (ha : O.isNaN a = false) (hb : O.isNaN b = false)
    (c : Bool) (hc : O.cmpf p a b = some c) :
    (¬ (O.isZero a = true ∧ O.isZero b = true) → (if c then a else b) = O.minmax mm a b)
    ∧ ((O.isZero a = true ∧ O.isZero b = true) →
        O.isZero (if c then a else b) = true ∧ O.isZero (O.minmax mm a b) = true) := by
  have hp := selectCmpf_some h
  constructor
  · intro hz
    obtain ⟨hmax, hmin⟩ := minmax_strict ha hb hz
    rcases hp with ⟨rfl, hp⟩ | ⟨rfl, hp⟩
    · exact (select_weak L (cmpf_greater L ha hb hp hc) hz).trans hmax.symm
    · exact (select_weak L (cmpf_less L ha hb hp hc) hz).trans hmin.symm
  · rintro ⟨hza, hzb⟩
    constructor
    · cases c <;> assumption
    · rcases hp with ⟨rfl, -⟩ | ⟨rfl, -⟩ <;>
        simp only [FloatOrd.minmax, FloatOrd.maximumf, FloatOrd.minimumf, ha, hb, hza, hzb, Bool.or_self,
          Bool.and_self, Bool.false_eq_true, if_false, if_true] <;>
        split <;> first | exact L.pzero_zero | exact L.nzero_zero

/-! ### a four-point float model: `nnan` alone does not license the rewrite -/

/-- `-0`, `+0`, `1`, `NaN` with the IEEE relations -/
inductive Tiny where
  | nz | pz | one | nan
deriving DecidableEq, Repr

def Tiny.rank : Tiny → Nat
  | .nz => 0 | .pz => 0 | .one => 1 | .nan => 0

def tinyOrd : FloatOrd Tiny where
  lt a b := a != .nan && b != .nan && decide (a.rank < b.rank)
  eq a b := a != .nan && b != .nan && decide (a.rank = b.rank)
  isNaN a := a == .nan
  isZero a := a == .nz || a == .pz
  neg a := a == .nz
  nan := .nan
  pzero := .pz
  nzero := .nz

theorem tiny_laws : OrdLaws tinyOrd where
  tri := by intro a b; cases a <;> cases b <;> decide
  eq_same := by intro a b; cases a <;> cases b <;> decide
  pzero_zero := rfl
  nzero_zero := rfl

/-- **counterexample for `nnan` without `nsz`** (the seeded weakening of the guard): in a float model
satisfying the IEEE laws, with `a = +0`, `b = -0` (no NaN involved, so `nnan` licenses nothing):
`cmpf ogt a b` is false, the select yields `-0`, but `maximumf a b` is `+0`. -/
theorem select_cmpf_nnan_only_counterexample :
    ∃ (F : Type) (O : FloatOrd F) (_ : OrdLaws O) (a b : F),
      O.isNaN a = false ∧ O.isNaN b = false ∧ O.cmpf 2 a b = some false
      ∧ (if false then a else b) ≠ O.maximumf a b
      ∧ selectCmpf 2 true false true = none :=
  ⟨Tiny, tinyOrd, tiny_laws, .pz, .nz, by decide, by decide, by decide, by decide, by decide⟩

/-- what the fold needs from IEEE-754 arithmetic (`I` = the MLIR operations) relative to the Python
primitives `P`.  The conclusions are up to `FEq`, which identifies NaNs (payload and sign of a NaN
are not observable). -/
structure IEEELaws {F : Type} (P : PyFloat F) (I : FOp → F → F → F) : Prop where
  add : ∀ l r, P.add l r = I .addf l r
  sub : ∀ l r, P.sub l r = I .subf l r
  mul : ∀ l r, P.mul l r = I .mulf l r
  /-- Python `/` is IEEE division whenever it does not raise -/
  div : ∀ l r, P.eqZero r = false → P.div l r = I .divf l r
  nan_isNaN : P.isNaN P.nan = true
  /-- `0/0` and `NaN/0` are NaN -/
  div_zero_nan : ∀ l r, P.eqZero r = true → (P.eqZero l || P.isNaN l) = true → P.isNaN (I .divf l r) = true
  /-- a non-zero non-NaN number divided by a signed zero is the infinity with the product sign -/
  div_zero_inf : ∀ l r, P.eqZero r = true → (P.eqZero l || P.isNaN l) = false →
    I .divf l r = P.mul (P.copysign P.inf l) (P.copysign P.one r)

def FEq {F : Type} (P : PyFloat F) (x y : F) : Prop := x = y ∨ (P.isNaN x = true ∧ P.isNaN y = true)

/-- `_fold_const_operation` (as repaired): the folded constant is the IEEE result of the operation,
including division by signed zeros and NaN operands. -/
theorem fold_float_sound {F : Type} (P : PyFloat F) (I : FOp → F → F → F) (L : IEEELaws P I)
    (op : FOp) (l r : F) : FEq P (foldFloat P op l r) (I op l r) := by
  cases op
  · exact Or.inl (L.add l r)
  · exact Or.inl (L.sub l r)
  · exact Or.inl (L.mul l r)
  · simp only [foldFloat]
    cases hz : P.eqZero r
    · simp only [Bool.false_eq_true, if_false]; exact Or.inl (L.div l r hz)
    · simp only [if_true]
      cases hn : (P.eqZero l || P.isNaN l)
      · simp only [Bool.false_eq_true, if_false]; exact Or.inl (L.div_zero_inf l r hz hn).symm
      · simp only [if_true]; exact Or.inr ⟨L.nan_isNaN, L.div_zero_nan l r hz hn⟩

/-- `FoldConstConstOp` preserves evaluation up to NaN identification. -/
theorem foldConstConst_preserves {F : Type} (P : PyFloat F) (I : FOp → F → F → F) (L : IEEELaws P I)
    (e e' : FE F) (h : foldConstConst P e = some e') (env : Nat → F) :
    FEq P (e'.eval I env) (e.eval I env) := by
  unfold foldConstConst at h
  split at h
  · cases h; simp only [FE.eval]; exact fold_float_sound P I L _ _ _
  · cases h

theorem FE.isConst_some {F : Type} {e : FE F} {c : F} (h : e.isConst = some c) : e = .const c := by
  cases e <;> cases h; rfl

/-- `FoldConstsByReassociation`: under the licence of `fastmath<reassoc>` — the operation may be
treated as associative and commutative — `(c1 op x) op c2` (any operand order) equals
`fold(c1, c2) op x`.  Without both flags the rule does not fire (`reassociate_needs_flags`). -/
theorem reassociate_preserves {F : Type} (P : PyFloat F) (I : FOp → F → F → F)
    (hadd : ∀ l r, P.add l r = I .addf l r) (hmul : ∀ l r, P.mul l r = I .mulf l r)
    (assoc : ∀ op, op = .addf ∨ op = .mulf → ∀ a b c, I op (I op a b) c = I op a (I op b c))
    (comm : ∀ op, op = .addf ∨ op = .mulf → ∀ a b, I op a b = I op b a)
    (e e' : FE F) (h : reassociate P e = some e') (env : Nat → F) :
    e'.eval I env = e.eval I env := by
  cases e with
  | var i => cases h
  | const c => cases h
  | bin op fu l r =>
    rw [reassociate] at h
    have hop' : op = .addf ∨ op = .mulf := by
      refine Decidable.byContradiction fun hn => ?_
      rw [if_pos (not_or.mp hn)] at h; cases h
    rw [if_neg (fun hn => hop'.elim hn.1 hn.2)] at h
    have hfold : ∀ a b, foldFloat P op a b = I op a b := by
      intro a b
      rcases hop' with rfl | rfl
      · exact hadd a b
      · exact hmul a b
    -- `pick inner other`: the local function of `reassociate`, tried on both operand orders
    extract_lets pick at h
    have key : ∀ inner other res, pick inner other = some res →
        res.eval I env = I op (inner.eval I env) (other.eval I env) := by
      intro inner other res hres
      simp only [pick] at hres
      split at hres
      · rename_i op' fo a b c2 hoc
        cases FE.isConst_some hoc
        split at hres
        · cases hres
        · rename_i hcond
          obtain rfl : op' = op := Decidable.not_not.mp (not_or.mp hcond).1
          split at hres <;> cases hres
          · rename_i c1 _ hc1
            cases FE.isConst_some hc1
            simp only [FE.eval, hfold]
            rw [assoc _ hop', assoc _ hop', comm _ hop' (b.eval I env) c2]
          · rename_i c1 _ hc1
            cases FE.isConst_some hc1
            simp only [FE.eval, hfold]
            rw [comm _ hop' (a.eval I env) c1, assoc _ hop', assoc _ hop', comm _ hop' (a.eval I env) c2]
      · cases hres
    split at h
    · rename_i e1 h1
      cases h
      rw [key r l _ h1, FE.eval, comm _ hop']
    · exact key l r _ h

/-- without `reassoc` on both operations nothing is rewritten -/
theorem reassociate_needs_flags {F : Type} (P : PyFloat F) (op : FOp) (fu fo : Bool) (x : FE F) (c1 c2 : F)
    (h : fu = false ∨ fo = false) :
    reassociate P (.bin op fu (.bin op fo (.const c1) x) (.const c2)) = none := by
  rcases h with h | h <;> subst h <;> simp [reassociate, FE.isConst]

/-! ## any sequence of sound rules is sound (the greedy driver applies rules one after another) -/

/-- apply the listed rules in order, each where it fires -/
def applySeq : List (E → Option E) → E → E
  | [], e => e
  | r :: rs, e => applySeq rs ((r e).getD e)

theorem rewrite_seq_preserves (w : Nat) (rules : List (E → Option E)) (h : ∀ r ∈ rules, Preserves w r)
    (e : E) (env : Nat → BitVec w) (v : BitVec w) (hv : eval w env e = some v) :
    eval w env (applySeq rules e) = some v := by
  induction rules generalizing e with
  | nil => exact hv
  | cons r rs ih =>
    simp only [applySeq]
    apply ih (fun r' hr' => h r' (List.mem_cons_of_mem _ hr'))
    cases hr : r e with
    | none => simpa using hv
    | some e' => simpa using h r (List.mem_cons_self) e e' hr env v hv

/-! ## non-vacuity -/
example : constProp Kernels.ref 8 false (.bin "arith.addi" (.const 127) (.const 1)) = some (.const (-128)) := by decide
example : zeroOrUnitRight Kernels.ref 1 (.bin "arith.muli" (.var 0) (.const (-1))) = some (.var 0) := by decide
example : ArithRules.fold Kernels.ref 8 false (.bin "arith.xori" (.const 0) (.var 1)) = some (.var 1) := by decide
example : selectTrueFalse 0 (-1) = some (.inr (-1)) := by decide

end Xdsl.C14
