import XdslModel.Worklist
import XdslProofs.Lemmas.ALInverts
/-!
Helper lemmas for the worklist part of C12 (`xdsl/utils/worklist.py`): the representation invariant,
the shape of a stack around `dropMissing` (`l` is `dropMissing l` plus tombstones on top; `dropMissing l` is
empty or ends in a live item), and what blanking a slot does to the abstract stack.
-/
namespace Xdsl.Worklist

/-- `map x = i` exactly when slot `i` of the stack holds `x` (the invariant the Python comments state). -/
def Inv (s : WL) : Prop := ∀ x i, AL.get s.map x = some i ↔ s.stack[i]? = some (some x)

theorem Inv.inverts {s : WL} (h : Inv s) : AL.Inverts s.map s.stack := h

theorem dm_decomp (l : List (Option Nat)) : ∃ k, l = dropMissing l ++ List.replicate k none := by
  fun_induction dropMissing l with
  | case1 => exact ⟨0, rfl⟩
  | case2 x r hd hx ih =>
    obtain ⟨k, hk⟩ := ih
    obtain rfl : x = none := Option.isNone_iff_eq_none.mp hx
    exact ⟨k + 1, by rw [hk, hd]; rfl⟩
  | case3 x r hd _ ih => exact ih.imp fun k hk => by rw [hk, hd]; rfl
  | case4 x r _ ih => exact ih.imp fun k hk => congrArg (x :: ·) hk

theorem dm_last (l : List (Option Nat)) :
    dropMissing l = [] ∨ ∃ init x, dropMissing l = init ++ [some x] := by
  fun_induction dropMissing l with
  | case1 => exact Or.inl rfl
  | case2 => exact Or.inl rfl
  | case3 x r _ hx _ =>
    cases x with
    | none => exact absurd rfl hx
    | some y => exact Or.inr ⟨[], y, rfl⟩
  | case4 x r hne ih =>
    rcases ih with h | ⟨init, y, h⟩
    · exact absurd h hne
    · exact Or.inr ⟨x :: init, y, by rw [h]; rfl⟩

theorem unsnoc_append (init : List (Option Nat)) (a : Option Nat) :
    unsnoc? (init ++ [a]) = some (init, a) := by
  induction init with
  | nil => rfl
  | cons x r ih =>
    cases r with
    | nil => simp [unsnoc?]
    | cons y t => simp only [List.cons_append] at ih ⊢; simp [unsnoc?, ih]

theorem filterMap_replicate_none (k : Nat) :
    (List.replicate k (none : Option Nat)).filterMap id = [] := by
  induction k with
  | zero => rfl
  | succ n ih => simp [List.replicate_succ, ih]

theorem getElem?_replicate_none (k i : Nat) (x : Nat) :
    (List.replicate k (none : Option Nat))[i]? ≠ some (some x) := by
  intro h
  have := List.mem_of_getElem? h
  simp at this

theorem filterMap_dm (l : List (Option Nat)) :
    (dropMissing l).filterMap id = l.filterMap id := by
  obtain ⟨k, hk⟩ := dm_decomp l
  conv => rhs; rw [hk]
  rw [List.filterMap_append, filterMap_replicate_none, List.append_nil]

theorem getElem?_dm (l : List (Option Nat)) (i x : Nat) :
    (dropMissing l)[i]? = some (some x) ↔ l[i]? = some (some x) := by
  obtain ⟨k, hk⟩ := dm_decomp l
  conv => rhs; rw [hk]
  rw [List.getElem?_append]
  split
  · rfl
  · rename_i h
    constructor
    · intro h2
      have : (dropMissing l)[i]? = none := by simp at h; simp [h]
      rw [this] at h2; cases h2
    · intro h2; exact absurd h2 (getElem?_replicate_none _ _ _)

theorem mem_abs_iff (s : WL) (x : Nat) : x ∈ abs s ↔ ∃ i : Nat, s.stack[i]? = some (some x) := by
  simp only [abs, List.mem_reverse, List.mem_filterMap, id]
  constructor
  · rintro ⟨a, ha, rfl⟩
    obtain ⟨i, hi⟩ := List.getElem?_of_mem ha
    exact ⟨i, hi⟩
  · rintro ⟨i, hi⟩
    exact ⟨some x, List.mem_of_getElem? hi, rfl⟩

theorem mem_abs_iff_map (s : WL) (h : Inv s) (x : Nat) :
    x ∈ abs s ↔ (AL.get s.map x).isSome = true := by
  rw [mem_abs_iff]
  constructor
  · rintro ⟨i, hi⟩; rw [(h x i).mpr hi]; rfl
  · intro hx
    cases hg : AL.get s.map x with
    | none => rw [hg] at hx; cases hx
    | some i => exact ⟨i, (h x i).mp hg⟩

theorem filterMap_set_none (l : List (Option Nat)) (i x : Nat)
    (hi : l[i]? = some (some x)) (huniq : ∀ j, l[j]? = some (some x) → j = i) :
    (l.set i none).filterMap id = (l.filterMap id).filter (fun y => !decide (y = x)) := by
  induction l generalizing i with
  | nil => cases hi
  | cons a r ih =>
    cases i with
    | zero =>
      obtain rfl : a = some x := Option.some.inj hi
      -- `x` is in no later slot, so the filter keeps all of the rest
      have hx : ∀ y ∈ r.filterMap id, (!decide (y = x)) = true := by
        intro y hy
        obtain ⟨b, hb, e⟩ := List.mem_filterMap.mp hy
        obtain ⟨j, hj⟩ := List.getElem?_of_mem hb
        simp only [Bool.not_eq_true', decide_eq_false_iff_not]
        rintro rfl
        exact absurd (huniq (j + 1) (hj.trans (congrArg some e))) (Nat.succ_ne_zero j)
      show r.filterMap id = (x :: r.filterMap id).filter _
      rw [List.filter_cons_of_neg (by simp), List.filter_eq_self.mpr hx]
    | succ i' =>
      have ih' := ih i' hi fun j hj => Nat.succ.inj (huniq (j + 1) hj)
      cases a with
      | none => exact ih'
      | some y =>
        have hy : y ≠ x := fun e => absurd (huniq 0 (e ▸ rfl)) (Nat.succ_ne_zero i').symm
        show y :: (r.set i' none).filterMap id = (y :: r.filterMap id).filter _
        rw [List.filter_cons_of_pos (by simpa using hy), ih']

end Xdsl.Worklist
