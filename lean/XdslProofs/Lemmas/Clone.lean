import XdslModel.Clone
import XdslProofs.Lemmas.AL
/-!
C02, phase 1 of the clone algorithm (`c1`): the vocabulary of the property theorems; what a piece of
phase 1 does to the state, in two notions that compose along the sequence of calls (`Frame`: which
keys of the two mappers may have changed; `Alloc`: where the identities of the produced copy come
from), `c1` being the composition of its pieces in both; and that the output of `c1` is the source
renamed by the final mappers (operands still missing).  Property theorems are in
`XdslProofs/C02.lean` and `XdslProofs/C02Op.lean`.
-/
namespace Xdsl.Clone

/-- identities carried by an op: the op itself, its two dict objects, its results -/
def hdrIds (h : OpHdr) : List Nat := h.id :: h.aref :: h.pref :: h.results.map Prod.fst

/-- every identity that occurs as a *definition* in the tree (ops, dicts, results, blocks, args) -/
def ids : {k : Kind} → T k → List Nat
  | _, .nil => []
  | _, .op h rs nx => hdrIds h ++ (ids rs ++ ids nx)
  | _, .block h ops nx => (h.id :: h.args.map Prod.fst) ++ (ids ops ++ ids nx)
  | _, .region bs nx => ids bs ++ ids nx

/-- identities of the blocks of a block chain itself (empty for other chains) -/
def directIds : {k : Kind} → T k → List Nat
  | _, .block h _ nx => h.id :: directIds nx
  | _, _ => []

def dlen : {k : Kind} → T k → Nat
  | _, .block _ _ nx => 1 + dlen nx
  | _, _ => 0

/-- identities of the blocks that get *registered* in `block_mapper` while `c1` runs over the tree:
all blocks of all regions inside it (the blocks of a block chain itself are registered by the
enclosing region cell, before `c1` enters the chain). -/
def regd : {k : Kind} → T k → List Nat
  | _, .nil => []
  | _, .op _ rs nx => regd rs ++ regd nx
  | _, .block _ ops nx => regd ops ++ regd nx
  | _, .region bs nx => (directIds bs ++ regd bs) ++ regd nx

def blockIds {k : Kind} (t : T k) : List Nat := directIds t ++ regd t

def succsOf : {k : Kind} → T k → List Nat
  | _, .nil => []
  | _, .op h rs nx => h.succs ++ (succsOf rs ++ succsOf nx)
  | _, .block _ ops nx => succsOf ops ++ succsOf nx
  | _, .region bs nx => succsOf bs ++ succsOf nx

def operandsOf : {k : Kind} → T k → List Nat
  | _, .nil => []
  | _, .op h rs nx => h.operands ++ (operandsOf rs ++ operandsOf nx)
  | _, .block _ ops nx => operandsOf ops ++ operandsOf nx
  | _, .region bs nx => operandsOf bs ++ operandsOf nx

/-- No op refers to a block that is created (registered in `block_mapper`) only *after* the op has
been cloned.  `Operation.verify` enforces more: a successor is a block of the op's own region,
and those are all registered before any op of the region is cloned. -/
def SuccOK : {k : Kind} → T k → Prop
  | _, .nil => True
  | _, .op h rs nx =>
    (∀ s ∈ h.succs, s ∉ regd rs ∧ s ∉ regd nx) ∧ (∀ s ∈ succsOf rs, s ∉ regd nx) ∧ SuccOK rs ∧ SuccOK nx
  | _, .block _ ops nx => (∀ s ∈ succsOf ops, s ∉ regd nx) ∧ SuccOK ops ∧ SuccOK nx
  | _, .region bs nx => (∀ s ∈ succsOf bs, s ∉ regd nx) ∧ SuccOK bs ∧ SuccOK nx

/-- `t'` is `t` with every defined value renamed by `fv`, every block by `fb`, references renamed
accordingly (`co = true`) or operands dropped (`co = false`, the state after phase 1); names, types
and dict *contents* equal.  Op identities and dict identities of `t'` are unconstrained here
(freshness is a separate statement). -/
def Iso (co : Bool) (fv fb : Nat → Nat) : {k : Kind} → T k → T k → Prop
  | _, .nil, .nil => True
  | _, .op h rs nx, .op h' rs' nx' =>
    h'.name = h.name ∧ h'.attrs = h.attrs ∧ h'.props = h.props
      ∧ h'.results = h.results.map (fun p => (fv p.1, p.2))
      ∧ h'.operands = (if co then h.operands.map fv else [])
      ∧ h'.succs = h.succs.map fb ∧ Iso co fv fb rs rs' ∧ Iso co fv fb nx nx'
  | _, .block h ops nx, .block h' ops' nx' =>
    h'.id = fb h.id ∧ h'.args = h.args.map (fun p => (fv p.1, p.2))
      ∧ Iso co fv fb ops ops' ∧ Iso co fv fb nx nx'
  | _, .region bs nx, .region bs' nx' => Iso co fv fb bs bs' ∧ Iso co fv fb nx nx'
  | _, _, _ => False

/-- The source is a real IR tree: every value and every block is defined once (distinct objects),
and no op branches to a block that is created only after the op has been cloned (`SuccOK`; implied
by `Operation.verify`'s "successor belongs to the op's own region"). -/
structure SrcOK {k : Kind} (t : T k) : Prop where
  vals : (defVals t).Nodup
  blocks : (blockIds t).Nodup
  succ : SuccOK t

/-- every identity defined in `u` existed before the call -/
def Old (st : St) {k : Kind} (u : T k) : Prop := ∀ i ∈ ids u, i < st.next

/-- what `c1 nb` relies on when it enters a block chain: the enclosing region cell has registered the `j`-th block of
the chain as `nb + j` (`regBlocks_reg`) -/
def Reg (bm : AL Nat Nat) (nb : Nat) : {k : Kind} → T k → Prop
  | _, .block h _ nx => AL.get bm h.id = some nb ∧ Reg bm (nb + 1) nx
  | _, _ => True

theorem mapVal_of_get {m : AL Nat Nat} {k v : Nat} (h : AL.get m k = some v) : mapVal m k = v := by
  simp [mapVal, h]

theorem mapVal_congr {m m' : AL Nat Nat} {k : Nat} (h : AL.get m' k = AL.get m k) :
    mapVal m' k = mapVal m k := by
  simp [mapVal, h]

theorem cloneVals_next (vm : AL Nat Nat) (n : Nat) (vs : List (Nat × Nat)) :
    (cloneVals vm n vs).2.2 = n + vs.length := by
  induction vs generalizing vm n with
  | nil => simp [cloneVals]
  | cons p r ih =>
    obtain ⟨v, ty⟩ := p
    simp only [cloneVals, List.length_cons]
    rw [ih]; omega

theorem cloneVals_ids (vm : AL Nat Nat) (n : Nat) (vs : List (Nat × Nat)) :
    (cloneVals vm n vs).1.map Prod.fst = List.range' n vs.length := by
  induction vs generalizing vm n with
  | nil => simp [cloneVals]
  | cons p r ih =>
    obtain ⟨v, ty⟩ := p
    simp only [cloneVals, List.length_cons, List.map_cons, List.range'_succ]
    rw [ih]

theorem cloneVals_frame (vm : AL Nat Nat) (n : Nat) (vs : List (Nat × Nat)) (k : Nat)
    (hk : k ∉ vs.map Prod.fst) : AL.get (cloneVals vm n vs).2.1 k = AL.get vm k := by
  induction vs generalizing vm n with
  | nil => simp [cloneVals]
  | cons p r ih =>
    obtain ⟨v, ty⟩ := p
    simp only [List.map_cons, List.mem_cons, not_or] at hk
    simp only [cloneVals]
    rw [ih _ _ hk.2, AL.get_set]
    simp [hk.1]

theorem cloneVals_map (vm : AL Nat Nat) (n : Nat) (vs : List (Nat × Nat))
    (nd : (vs.map Prod.fst).Nodup) :
    (cloneVals vm n vs).1 = vs.map (fun p => (mapVal (cloneVals vm n vs).2.1 p.1, p.2)) := by
  induction vs generalizing vm n with
  | nil => simp [cloneVals]
  | cons p r ih =>
    obtain ⟨v, ty⟩ := p
    simp only [List.map_cons, List.nodup_cons] at nd
    simp only [cloneVals, List.map_cons]
    rw [← ih _ _ nd.2]
    have : AL.get (cloneVals (AL.set vm v n) (n + 1) r).2.1 v = some n := by
      rw [cloneVals_frame _ _ _ _ nd.1, AL.get_set]; simp
    rw [mapVal_of_get this]

theorem cloneVals_map_of {vm vm' : AL Nat Nat} {n : Nat} {vs : List (Nat × Nat)}
    (nd : (vs.map Prod.fst).Nodup)
    (h : ∀ v ∈ vs.map Prod.fst, mapVal vm' v = mapVal (cloneVals vm n vs).2.1 v) :
    (cloneVals vm n vs).1 = vs.map (fun p => (mapVal vm' p.1, p.2)) := by
  rw [cloneVals_map _ _ _ nd]
  exact List.map_congr_left fun p hp => by rw [h p.1 (List.mem_map_of_mem hp)]

theorem cloneVals_get_ge (vm : AL Nat Nat) (n : Nat) (vs : List (Nat × Nat)) (k : Nat)
    (hk : k ∈ vs.map Prod.fst) :
    ∃ m, AL.get (cloneVals vm n vs).2.1 k = some m ∧ n ≤ m ∧ m < n + vs.length := by
  induction vs generalizing vm n with
  | nil => simp at hk
  | cons p r ih =>
    obtain ⟨v, ty⟩ := p
    simp only [cloneVals, List.length_cons]
    by_cases hr : k ∈ r.map Prod.fst
    · obtain ⟨m, h1, h2, h3⟩ := ih (AL.set vm v n) (n + 1) hr
      exact ⟨m, h1, by omega, by omega⟩
    · have : k = v := by
        simp only [List.map_cons, List.mem_cons] at hk
        rcases hk with h | h
        · exact h
        · exact absurd h hr
      subst this
      refine ⟨n, ?_, by omega, by omega⟩
      rw [cloneVals_frame _ _ _ _ hr, AL.get_set]; simp

theorem regBlocks_next {k : Kind} (bm : AL Nat Nat) (n : Nat) (t : T k) :
    (regBlocks bm n t).2 = n + dlen t := by
  fun_induction regBlocks bm n t with
  | case1 bm n h ops nx ih => rw [ih, dlen]; omega
  | case2 => simp [dlen, *]

theorem regBlocks_frame {k : Kind} (bm : AL Nat Nat) (n : Nat) (t : T k) (b : Nat)
    (hb : b ∉ directIds t) : AL.get (regBlocks bm n t).1 b = AL.get bm b := by
  fun_induction regBlocks bm n t with
  | case1 bm n h ops nx ih =>
    rw [directIds, List.mem_cons, not_or] at hb
    rw [ih hb.2, AL.get_set, if_neg hb.1]
  | case2 => rfl

theorem regBlocks_reg {k : Kind} (bm : AL Nat Nat) (n : Nat) (t : T k)
    (nd : (directIds t).Nodup) : Reg (regBlocks bm n t).1 n t := by
  fun_induction regBlocks bm n t with
  | case1 bm n h ops nx ih =>
    rw [directIds, List.nodup_cons] at nd
    refine ⟨?_, ih nd.2⟩
    rw [regBlocks_frame _ _ _ _ nd.1, AL.get_set, if_pos rfl]
  | case2 => simp [Reg, *]

theorem regBlocks_get_ge {k : Kind} (bm : AL Nat Nat) (n : Nat) (t : T k) (b : Nat)
    (hb : b ∈ directIds t) :
    ∃ m, AL.get (regBlocks bm n t).1 b = some m ∧ n ≤ m ∧ m < n + dlen t := by
  fun_induction regBlocks bm n t with
  | case1 bm n h ops nx ih =>
    rw [dlen]
    by_cases hr : b ∈ directIds nx
    · obtain ⟨m, h1, h2, h3⟩ := ih hr
      exact ⟨m, h1, by omega, by omega⟩
    · obtain rfl : b = h.id := (List.mem_cons.mp hb).resolve_right hr
      exact ⟨n, by rw [regBlocks_frame _ _ _ _ hr, AL.get_set, if_pos rfl], by omega, by omega⟩
  | case2 => simp [directIds, *] at hb

theorem Reg_congr {k : Kind} {bm bm' : AL Nat Nat} {nb : Nat} (t : T k)
    (h : ∀ b ∈ directIds t, AL.get bm' b = AL.get bm b) (r : Reg bm nb t) : Reg bm' nb t := by
  fun_induction Reg bm nb t with
  | case1 nb hd ops nx ih =>
    rw [directIds, List.forall_mem_cons] at h
    exact ⟨h.1 ▸ r.1, ih h.2 r.2⟩
  | case2 => simp [Reg, *]

/-! Only block chains have blocks of their own: on op and region chains the notions that speak of them are trivial. -/

theorem directIds_of_ne {k : Kind} (t : T k) (hk : k ≠ .blocks := by decide) : directIds t = [] := by
  cases t with
  | block => exact absurd rfl hk
  | _ => rfl

theorem dlen_of_ne {k : Kind} (t : T k) (hk : k ≠ .blocks := by decide) : dlen t = 0 := by
  cases t with
  | block => exact absurd rfl hk
  | _ => rfl

theorem Reg_of_ne {k : Kind} (bm : AL Nat Nat) (nb : Nat) (t : T k) (hk : k ≠ .blocks := by decide) :
    Reg bm nb t := by
  cases t with
  | block => exact absurd rfl hk
  | _ => simp [Reg]

theorem blockIds_of_ne {k : Kind} (t : T k) (hk : k ≠ .blocks := by decide) : blockIds t = regd t := by
  rw [blockIds, directIds_of_ne t hk, List.nil_append]

theorem mem_defBlocks {k : Kind} (t : T k) (b : Nat) : b ∈ defBlocks t ↔ b ∈ blockIds t := by
  induction t with
  | nil => simp [defBlocks, blockIds, directIds, regd]
  | op h rs nx ih1 ih2 =>
    simp only [defBlocks, blockIds, directIds, regd, List.mem_append, ih1, ih2,
      directIds_of_ne rs, directIds_of_ne nx, List.nil_append]
  | region bs nx ih1 ih2 =>
    simp only [defBlocks, blockIds, directIds, regd, List.mem_append, ih1, ih2,
      directIds_of_ne nx, List.nil_append]
  | block h ops nx ih1 ih2 =>
    simp only [defBlocks, blockIds, directIds, regd, List.mem_append, List.mem_cons, ih1, ih2,
      directIds_of_ne ops, List.not_mem_nil, false_or]
    constructor
    · rintro (h | h | h | h) <;> simp [h]
    · rintro ((h | h) | h | h) <;> simp [h]

@[simp] theorem cloneHdr_bm (st : St) (h : OpHdr) (co : Bool) : (cloneHdr st h co).2.bm = st.bm := rfl
@[simp] theorem cloneHdr_vm (st : St) (h : OpHdr) (co : Bool) :
    (cloneHdr st h co).2.vm = (cloneVals st.vm (st.next + 3) h.results).2.1 := rfl
@[simp] theorem cloneHdr_next (st : St) (h : OpHdr) (co : Bool) :
    (cloneHdr st h co).2.next = st.next + 3 + h.results.length := by
  simp [cloneHdr, cloneVals_next]

/-- from `s` to `s'` only the values `vs` and the blocks `bs` were (re)registered -/
structure Frame (vs bs : List Nat) (s s' : St) : Prop where
  vm : ∀ v, v ∉ vs → AL.get s'.vm v = AL.get s.vm v
  bm : ∀ b, b ∉ bs → AL.get s'.bm b = AL.get s.bm b

theorem Frame.refl (s : St) : Frame [] [] s s := ⟨fun _ _ => rfl, fun _ _ => rfl⟩

theorem Frame.trans {v₁ b₁ v₂ b₂ : List Nat} {s s' s'' : St} (h₁ : Frame v₁ b₁ s s')
    (h₂ : Frame v₂ b₂ s' s'') : Frame (v₁ ++ v₂) (b₁ ++ b₂) s s'' :=
  ⟨fun v hv => (h₂.vm v fun h => hv (List.mem_append_right _ h)).trans
      (h₁.vm v fun h => hv (List.mem_append_left _ h)),
    fun b hb => (h₂.bm b fun h => hb (List.mem_append_right _ h)).trans
      (h₁.bm b fun h => hb (List.mem_append_left _ h))⟩

theorem frame_cloneVals (st : St) (n : Nat) (vs : List (Nat × Nat)) :
    Frame (vs.map Prod.fst) [] st
      { st with vm := (cloneVals st.vm n vs).2.1, next := (cloneVals st.vm n vs).2.2 } :=
  ⟨fun v hv => cloneVals_frame st.vm n vs v hv, fun _ _ => rfl⟩

theorem frame_regBlocks {k : Kind} (st : St) (t : T k) :
    Frame [] (directIds t) st
      { st with bm := (regBlocks st.bm st.next t).1, next := (regBlocks st.bm st.next t).2 } :=
  ⟨fun _ _ => rfl, fun b hb => regBlocks_frame st.bm st.next t b hb⟩

theorem c1_frame {k : Kind} (t : T k) (nb : Nat) (st : St) :
    Frame (defVals t) (regd t) st (c1 nb st t).2 := by
  fun_induction c1 nb st t with
  | case1 => exact Frame.refl _
  | case2 _ st h rs nx a x1 x2 ih1 ih2 =>
    exact (frame_cloneVals st (st.next + 3) h.results).trans (ih1.trans ih2)
  | case3 _ st bs nx r x1 x2 ih1 ih2 => exact ((frame_regBlocks st bs).trans ih1).trans ih2
  | case4 nb st h ops nx a x1 x2 ih1 ih2 =>
    exact (frame_cloneVals st st.next h.args).trans (ih1.trans ih2)

theorem Iso_congr {co : Bool} {fv fb fv' fb' : Nat → Nat} {k : Kind} (t t' : T k)
    (hv : ∀ v ∈ defVals t, fv' v = fv v) (ho : co = true → ∀ v ∈ operandsOf t, fv' v = fv v)
    (hb : ∀ b ∈ defBlocks t, fb' b = fb b) (hs : ∀ b ∈ succsOf t, fb' b = fb b)
    (i : Iso co fv fb t t') : Iso co fv' fb' t t' := by
  fun_induction Iso co fv fb t t' with
  | case1 => trivial
  | case2 h rs nx h' rs' nx' ih1 ih2 =>
    simp only [defVals, operandsOf, defBlocks, succsOf, List.forall_mem_append] at hv ho hb hs
    obtain ⟨i1, i2, i3, i4, i5, i6, i7, i8⟩ := i
    refine ⟨i1, i2, i3, ?_, ?_, ?_, ih1 hv.2.1 (fun c => (ho c).2.1) hb.1 hs.2.1 i7,
      ih2 hv.2.2 (fun c => (ho c).2.2) hb.2 hs.2.2 i8⟩
    · rw [i4]
      exact List.map_congr_left fun p hp => by rw [hv.1 p.1 (List.mem_map_of_mem hp)]
    · rw [i5]
      cases co
      · rfl
      · exact List.map_congr_left fun v hv' => ((ho rfl).1 v hv').symm
    · rw [i6]
      exact List.map_congr_left fun s hs' => (hs.1 s hs').symm
  | case3 h ops nx h' ops' nx' ih1 ih2 =>
    simp only [defVals, operandsOf, defBlocks, succsOf, List.forall_mem_append, List.forall_mem_cons] at hv ho hb hs
    obtain ⟨i1, i2, i3, i4⟩ := i
    refine ⟨by rw [i1, hb.1], ?_, ih1 hv.2.1 (fun c => (ho c).1) hb.2.1 hs.1 i3,
      ih2 hv.2.2 (fun c => (ho c).2) hb.2.2 hs.2 i4⟩
    rw [i2]
    exact List.map_congr_left fun p hp => by rw [hv.1 p.1 (List.mem_map_of_mem hp)]
  | case4 bs nx bs' nx' ih1 ih2 =>
    simp only [defVals, operandsOf, defBlocks, succsOf, List.forall_mem_append] at hv ho hb hs
    exact ⟨ih1 hv.1 (fun c => (ho c).1) hb.1 hs.1 i.1, ih2 hv.2 (fun c => (ho c).2) hb.2 hs.2 i.2⟩
  | case5 => exact i.elim

theorem Iso_frame {k : Kind} {t t' : T k} {vs bs : List Nat} {s s' : St} (fr : Frame vs bs s s')
    (i : Iso false (mapVal s.vm) (mapVal s.bm) t t')
    (hv : ∀ v ∈ defVals t, v ∉ vs) (hb : ∀ b ∈ defBlocks t, b ∉ bs) (hs : ∀ b ∈ succsOf t, b ∉ bs) :
    Iso false (mapVal s'.vm) (mapVal s'.bm) t t' :=
  Iso_congr t t' (fun v h => mapVal_congr (fr.vm v (hv v h))) nofun
    (fun b h => mapVal_congr (fr.bm b (hb b h))) (fun b h => mapVal_congr (fr.bm b (hs b h))) i

theorem c1_iso {k : Kind} (t : T k) (nb : Nat) (st : St)
    (ndv : (defVals t).Nodup) (ndb : (blockIds t).Nodup) (ok : SuccOK t) (reg : Reg st.bm nb t) :
    Iso false (mapVal (c1 nb st t).2.vm) (mapVal (c1 nb st t).2.bm) t (c1 nb st t).1 := by
  fun_induction c1 nb st t with
  | case1 => trivial
  | case2 _ st h rs nx a x1 x2 ih1 ih2 =>
    simp only [defVals, List.nodup_append] at ndv
    obtain ⟨ndr, ⟨ndrs, ndnx, dj1⟩, dj2⟩ := ndv
    simp only [blockIds, directIds, regd, List.nil_append, List.nodup_append] at ndb
    obtain ⟨nbrs, nbnx, djb⟩ := ndb
    obtain ⟨ok1, ok2, ok3, ok4⟩ := ok
    -- each piece is `Iso` w.r.t. the state it ended in; the pieces after it register nothing it defines (`Nodup`) or
    -- branches to (`SuccOK`), so `Iso_frame` carries it to the final state
    have i1 := ih1 ndrs (blockIds_of_ne rs ▸ nbrs) ok3 (Reg_of_ne _ _ _)
    have i2 := ih2 ndnx (blockIds_of_ne nx ▸ nbnx) ok4 (Reg_of_ne _ _ _)
    have f2 := c1_frame nx 0 x1.2
    have f12 := (c1_frame rs 0 a.2).trans f2
    simp only [Iso]
    refine ⟨rfl, rfl, rfl, ?_, rfl, ?_, ?_, i2⟩
    · exact cloneVals_map_of (vm := st.vm) (n := st.next + 3) ndr fun v hm =>
        mapVal_congr (f12.vm v fun hh => dj2 _ hm _ hh rfl)
    · exact List.map_congr_left fun s hs => (mapVal_congr (f12.bm s fun hh =>
        (List.mem_append.mp hh).elim (ok1 s hs).1 (ok1 s hs).2)).symm
    · exact Iso_frame f2 i1 (fun v hv hh => dj1 _ hv _ hh rfl)
        (fun b hb hh => djb _ (by rwa [mem_defBlocks, blockIds_of_ne rs] at hb) _ hh rfl) ok2
  | case3 _ st bs nx r x1 x2 ih1 ih2 =>
    simp only [defVals, List.nodup_append] at ndv
    obtain ⟨ndbs, ndnx, dj1⟩ := ndv
    simp only [blockIds, directIds, regd, List.nil_append, List.nodup_append] at ndb
    obtain ⟨⟨ndd, ndrg, djd⟩, nbnx, djb⟩ := ndb
    obtain ⟨ok1, ok2, ok3⟩ := ok
    have i1 := ih1 ndbs (List.nodup_append.mpr ⟨ndd, ndrg, djd⟩) ok2 (regBlocks_reg _ _ _ ndd)
    have i2 := ih2 ndnx (blockIds_of_ne nx ▸ nbnx) ok3 (Reg_of_ne _ _ _)
    simp only [Iso]
    exact ⟨Iso_frame (c1_frame nx 0 x1.2) i1 (fun v hv hh => dj1 _ hv _ hh rfl)
      (fun b hb hh => djb _ ((mem_defBlocks bs b).mp hb) _ hh rfl) ok1, i2⟩
  | case4 nb st h ops nx a x1 x2 ih1 ih2 =>
    simp only [defVals, List.nodup_append] at ndv
    obtain ⟨nda, ⟨ndops, ndnx, dj1⟩, dj2⟩ := ndv
    simp only [blockIds, directIds, regd, List.nodup_append, List.nodup_cons, List.mem_cons,
      List.mem_append] at ndb
    obtain ⟨⟨hid, nddn⟩, ⟨nbops, nbnx, djb⟩, djc⟩ := ndb
    obtain ⟨ok1, ok2, ok3⟩ := ok
    obtain ⟨reg1, reg2⟩ := reg
    have f1 := c1_frame ops 0 ⟨a.2.1, st.bm, a.2.2⟩
    have f2 := c1_frame nx (nb + 1) x1.2
    have f12 := f1.trans f2
    have i1 := ih1 ndops (blockIds_of_ne ops ▸ nbops) ok2 (Reg_of_ne _ _ _)
    have i2 := ih2 ndnx
      (List.nodup_append.mpr ⟨nddn, nbnx, fun a ha b hb => djc a (Or.inr ha) b (Or.inr hb)⟩) ok3
      (Reg_congr nx (fun b hb => f1.bm b fun hh => djc b (Or.inr hb) b (Or.inl hh) rfl) reg2)
    simp only [Iso]
    refine ⟨?_, ?_, ?_, i2⟩
    · exact ((mapVal_congr (f12.bm h.id fun hh => (List.mem_append.mp hh).elim
        (fun hh => djc _ (Or.inl rfl) _ (Or.inl hh) rfl) (fun hh => djc _ (Or.inl rfl) _ (Or.inr hh) rfl))).trans
          (mapVal_of_get reg1)).symm
    · exact cloneVals_map_of nda fun v hm => mapVal_congr (f12.vm v fun hh => dj2 _ hm _ hh rfl)
    · exact Iso_frame f2 i1 (fun v hv hh => dj1 _ hv _ hh rfl)
        (fun b hb hh => djb _ (by rwa [mem_defBlocks, blockIds_of_ne ops] at hb) _ hh rfl) ok1

/-- The identities `l` of a copy made while the allocator went from `lo` to `hi`: the blocks of the
chain itself carry the `d` pending identities `nb, nb + 1, …` (created by the enclosing region cell
before it entered the chain), everything else was allocated on the way; nothing occurs twice when
the pending ones were allocated earlier. -/
structure Alloc (nb d lo hi : Nat) (l : List Nat) : Prop where
  le : lo ≤ hi
  mem : ∀ i ∈ l, (nb ≤ i ∧ i < nb + d) ∨ (lo ≤ i ∧ i < hi)
  nodup : nb + d ≤ lo → l.Nodup

namespace Alloc
variable {nb d lo mid hi : Nat} {l l₁ l₂ : List Nat}

theorem nil : Alloc nb 0 lo lo [] := ⟨Nat.le_refl _, nofun, fun _ => List.nodup_nil⟩

theorem bounds (h : Alloc 0 0 lo hi l) : ∀ i ∈ l, lo ≤ i ∧ i < hi :=
  fun i hi => (h.mem i hi).resolve_left fun c => Nat.not_lt_zero _ c.2

theorem range' (n len : Nat) : Alloc 0 0 n (n + len) (List.range' n len) :=
  ⟨Nat.le_add_right _ _, fun _ hi => Or.inr (List.mem_range'_1.mp hi), fun _ => List.nodup_range' 1⟩

theorem of_zero (h : Alloc 0 0 lo hi l) : Alloc nb 0 lo hi l :=
  ⟨h.le, fun i hi => Or.inr (h.bounds i hi), fun _ => h.nodup (Nat.zero_le _)⟩

theorem append (h₁ : Alloc 0 0 lo mid l₁) (h₂ : Alloc nb d mid hi l₂) :
    Alloc nb d lo hi (l₁ ++ l₂) := by
  have m₁ := h₁.bounds
  refine ⟨Nat.le_trans h₁.le h₂.le, fun i hi => ?_, fun hn => ?_⟩
  · rcases List.mem_append.mp hi with hi | hi
    · exact Or.inr ⟨(m₁ i hi).1, Nat.lt_of_lt_of_le (m₁ i hi).2 h₂.le⟩
    · exact (h₂.mem i hi).imp_right fun c => ⟨Nat.le_trans h₁.le c.1, c.2⟩
  · refine List.nodup_append.mpr ⟨h₁.nodup (Nat.zero_le _), h₂.nodup (Nat.le_trans hn h₁.le),
      fun a ha b hb e => ?_⟩
    have := m₁ a ha
    have := h₂.mem b hb
    omega

/-- the region cell: the block identities it created just before are part of what it allocated -/
theorem absorb (h : Alloc lo d mid hi l) (e : mid = lo + d) : Alloc 0 0 lo hi l := by
  subst e
  exact ⟨Nat.le_trans (Nat.le_add_right _ _) h.le,
    fun i hi => Or.inr ((h.mem i hi).elim (fun c => ⟨c.1, Nat.lt_of_lt_of_le c.2 h.le⟩)
      fun c => ⟨Nat.le_trans (Nat.le_add_right _ _) c.1, c.2⟩),
    fun _ => h.nodup (Nat.le_refl _)⟩

/-- the block cell: its own identity is the first pending one -/
theorem cons_pend (h : Alloc (nb + 1) d lo hi l) : Alloc nb (1 + d) lo hi (nb :: l) := by
  refine ⟨h.le, fun i hi => ?_, fun hn => List.nodup_cons.mpr ⟨fun hm => ?_, h.nodup (by omega)⟩⟩
  · rcases List.mem_cons.mp hi with rfl | hi
    · exact Or.inl ⟨Nat.le_refl _, by omega⟩
    · exact (h.mem i hi).imp_left fun c => by omega
  · have := h.mem nb hm
    omega

end Alloc

theorem cloneHdr_alloc (st : St) (h : OpHdr) (co : Bool) :
    Alloc 0 0 st.next (cloneHdr st h co).2.next (hdrIds (cloneHdr st h co).1) := by
  have e : hdrIds (cloneHdr st h co).1 = List.range' st.next (3 + h.results.length) := by
    simp [hdrIds, cloneHdr, cloneVals_ids, List.range'_succ, Nat.add_comm 3]
  rw [e, cloneHdr_next, Nat.add_assoc]
  exact Alloc.range' _ _

theorem cloneVals_alloc (vm : AL Nat Nat) (n : Nat) (vs : List (Nat × Nat)) :
    Alloc 0 0 n (cloneVals vm n vs).2.2 ((cloneVals vm n vs).1.map Prod.fst) := by
  rw [cloneVals_ids, cloneVals_next]
  exact Alloc.range' _ _

theorem c1_alloc {k : Kind} (t : T k) (nb : Nat) (st : St) :
    Alloc nb (dlen t) st.next (c1 nb st t).2.next (ids (c1 nb st t).1) := by
  fun_induction c1 nb st t with
  | case1 => exact Alloc.nil
  | case2 _ st h rs nx a x1 x2 ih1 ih2 =>
    rw [dlen_of_ne rs] at ih1
    rw [dlen_of_ne nx] at ih2
    exact ((cloneHdr_alloc st h false).append (ih1.append ih2)).of_zero
  | case3 _ st bs nx r x1 x2 ih1 ih2 =>
    rw [dlen_of_ne nx] at ih2
    exact ((ih1.absorb (regBlocks_next st.bm st.next bs)).append ih2).of_zero
  | case4 nb st h ops nx a x1 x2 ih1 ih2 =>
    rw [dlen_of_ne ops] at ih1
    exact ((cloneVals_alloc st.vm st.next h.args).append (ih1.append ih2)).cons_pend

end Xdsl.Clone
