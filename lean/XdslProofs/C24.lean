import XdslProofs.Lemmas.Dominance
/-!
# C24 — property theorems (dominance part)

"For every region control-flow graph, a block A is reported to dominate a reachable block B exactly
when every path from the entry block to B passes through A (every block dominates itself; strict
dominance excludes equality), regardless of unreachable blocks elsewhere in the region."

`g : Graph` is any list of successor lists (blocks `0 … g.length-1`, entry `0`); no well-formedness
assumption is needed (only `dom_relabel` / `strict_relabel` ask for `WF g`, to invert the renumbering).
`Path g 0 b l` : `l` is the block sequence of a path entry ⇝ `b`.
The model is the FIXED `DominanceInfo.__init__` (see `XdslModel/Dominance.lean`).
-/
namespace Xdsl.Dominance
open Xdsl.Graph

/-- **Any sound start table gives the same answer.**  The loop may start from any table that
satisfies the invariant (`Inv`: entry row `{entry}`, every row contains all path-based dominators of
its block, refining a row only removes members, rows are increasing lists of blocks of the region): it
then stops within `n·n + 1` passes with exactly the path-based relation.  `init` (every other row = all
blocks) is one such table; a start table that *omits* a dominator is not (see
`prefix_start_counterexample`). -/
theorem dominance_from_sound_start (g : Graph) (d : Dom) (hi : Inv g d) {a b : Nat}
    (hb : b < g.length) :
    (iterate g (g.length * g.length + 1) d).2 = true ∧
    (dominates (iterate g (g.length * g.length + 1) d).1 a b = true ↔
      a < g.length ∧ ∀ l, Path g 0 b l → a ∈ l) := by
  have ⟨hc, hi', hf⟩ := iterate_spec (g.length * g.length + 1) d hi (by have := size_le hi; omega)
  exact ⟨hc, hi'.dominates_iff hf hb⟩

theorem dominance_eq (g : Graph) (hn : 0 < g.length) :
    dominance g = iterate g (g.length * g.length + 1) (init g.length) := by
  unfold dominance; rw [if_neg (by omega)]

/-- The `while changed` loop of `DominanceInfo.__init__` terminates: for every graph the model
leaves the loop within its fuel (`n·n + 1` passes), so the `converged` flag is never `false`. -/
theorem dominance_converges (g : Graph) : (dominance g).2 = true := by
  by_cases hn : g.length = 0
  · unfold dominance; rw [if_pos hn]
  · have hn : 0 < g.length := by omega
    rw [dominance_eq g hn]
    exact (dominance_from_sound_start g _ (inv_init g hn) (a := 0) hn).1

/-- For every block `b` of the region (reachable or not): `a` is reported to dominate `b` exactly
when `a` is a block of the region and every path from the entry to `b` passes through `a`. -/
theorem dom_iff_paths_all (g : Graph) {a b : Nat} (hb : b < g.length) :
    dominates (dominance g).1 a b = true ↔ a < g.length ∧ ∀ l, Path g 0 b l → a ∈ l := by
  have hn : 0 < g.length := by omega
  rw [dominance_eq g hn]
  exact (dominance_from_sound_start g _ (inv_init g hn) hb).2

/-- "a block A is reported to dominate a reachable block B exactly when every path
from the entry block to B passes through A … regardless of unreachable blocks elsewhere". -/
theorem dom_iff_paths (g : Graph) {a b : Nat} (hb : b < g.length) (hr : Reach g 0 b) :
    dominates (dominance g).1 a b = true ↔ ∀ l, Path g 0 b l → a ∈ l := by
  rw [dom_iff_paths_all g hb]
  constructor
  · exact fun h => h.2
  · intro h
    obtain ⟨l, hl⟩ := hr
    exact ⟨hl.lt hb a (h l hl), h⟩

/-- An unreachable block is reported as dominated by every block of the region (the convention of
the path definition, and of MLIR/LLVM); the property sentence leaves this case open. -/
theorem dom_unreachable (g : Graph) {a b : Nat} (hb : b < g.length) (hr : ¬ Reach g 0 b) :
    dominates (dominance g).1 a b = true ↔ a < g.length := by
  rw [dom_iff_paths_all g hb]
  exact ⟨fun h => h.1, fun h => ⟨h, fun l hl => absurd ⟨l, hl⟩ hr⟩⟩

/-- "every block dominates itself" -/
theorem dom_self (g : Graph) {b : Nat} (hb : b < g.length) :
    dominates (dominance g).1 b b = true :=
  (dom_iff_paths_all g hb).mpr ⟨hb, fun _ hl => hl.last_mem⟩

theorem strictlyDominates_iff (g : Graph) {a b : Nat} (hb : b < g.length) :
    strictlyDominates (dominance g).1 a b = true ↔
      a ≠ b ∧ a < g.length ∧ ∀ l, Path g 0 b l → a ∈ l := by
  unfold strictlyDominates
  by_cases h : a = b
  · simp [h]
  · rw [if_neg h, dom_iff_paths_all g hb]; simp [h]

/-- "strict dominance excludes equality": `strictly_dominates(a, b)` holds exactly
when `a ≠ b` and every path from the entry to the reachable block `b` passes through `a`. -/
theorem strict_iff (g : Graph) {a b : Nat} (hb : b < g.length) (hr : Reach g 0 b) :
    strictlyDominates (dominance g).1 a b = true ↔ a ≠ b ∧ ∀ l, Path g 0 b l → a ∈ l := by
  rw [strictlyDominates_iff g hb]
  obtain ⟨l, hl⟩ := hr
  exact ⟨fun h => ⟨h.1, h.2.2⟩, fun h => ⟨h.1, hl.lt hb a (h.2 l hl), h.2⟩⟩

/-- The entry block dominates every block of the region, reachable or not (`entry_dominates`), and is
dominated only by itself (`dom_entry`). -/
theorem entry_dominates (g : Graph) {b : Nat} (hb : b < g.length) :
    dominates (dominance g).1 0 b = true :=
  (dom_iff_paths_all g hb).mpr ⟨by omega, fun _ hl => hl.root_mem⟩

theorem dom_entry (g : Graph) (hn : 0 < g.length) {a : Nat} :
    dominates (dominance g).1 a 0 = true ↔ a = 0 := by
  rw [dom_iff_paths g hn (Reach.refl g 0)]
  constructor
  · intro h; simpa using h [0] .root
  · rintro rfl l hl; exact hl.root_mem

/-- **Order independence.** "For every region control-flow graph": the answer is a property of the
graph, not of the order in which the region lists its blocks.  If `g'` is `g` with the blocks after
the entry listed in any other order (`π` renumbers, `π 0 = 0`), then `dominates (π a) (π b)` on `g'`
is `dominates a b` on `g` — also when a loop is listed before the block that guards it. -/
theorem dom_relabel {g g' : Graph} {π σ : Nat → Nat} (h : Relabel g g' π σ) (hwf : WF g)
    (h0 : π 0 = 0) {a b : Nat} (ha : a < g.length) (hb : b < g.length) :
    dominates (dominance g').1 (π a) (π b) = dominates (dominance g).1 a b := by
  rw [Bool.eq_iff_iff, dom_iff_paths_all g' (h.len ▸ h.lt b hb), dom_iff_paths_all g hb]
  exact and_congr (iff_of_true (h.len ▸ h.lt a ha) ha) (h.pathDom_iff hwf h0 ha hb)

theorem strict_relabel {g g' : Graph} {π σ : Nat → Nat} (h : Relabel g g' π σ) (hwf : WF g)
    (h0 : π 0 = 0) {a b : Nat} (ha : a < g.length) (hb : b < g.length) :
    strictlyDominates (dominance g').1 (π a) (π b) = strictlyDominates (dominance g).1 a b := by
  unfold strictlyDominates
  by_cases hab : a = b
  · simp [hab]
  · have : π a ≠ π b := fun e => hab (by rw [← h.left a ha, e, h.left b hb])
    rw [if_neg hab, if_neg this, dom_relabel h hwf h0 ha hb]

/-- the start table "row of the i-th block = the blocks listed up to and including it" (it assumes
that a dominator is always listed before the blocks it dominates) -/
def prefixStart (n : Nat) : Dom := (List.range n).map fun b => List.range (b + 1)

/-- Why the rows must start from ALL blocks.  Region order `entry, A, B, C, exit` with
`entry → C → A ⇄ B → exit`: the loop `{A, B}` is listed before the block `C` that guards it.  Started
from `prefixStart` the refinement loop stops, but at a table in which `C` dominates neither `A`, `B`
nor `exit`; started from `init` it reports all three (as `dom_iff_paths` demands: every path from the
entry to `A` passes through `C`). -/
theorem prefix_start_counterexample :
    let g : Graph := [[3], [2], [1, 4], [1], []]
    (iterate g 26 (prefixStart 5)).2 = true
    ∧ dominates (iterate g 26 (prefixStart 5)).1 3 1 = false
    ∧ dominates (iterate g 26 (prefixStart 5)).1 3 2 = false
    ∧ dominates (iterate g 26 (prefixStart 5)).1 3 4 = false
    ∧ dominates (dominance g).1 3 1 = true ∧ dominates (dominance g).1 3 2 = true
    ∧ dominates (dominance g).1 3 4 = true
    ∧ (∀ l, Path g 0 1 l → 3 ∈ l) := by
  intro g
  have e : iterate g 26 (prefixStart 5) = ([[0], [0, 1], [0, 1, 2], [0, 3], [0, 1, 2, 4]], true) := by
    decide +kernel
  have e' : (dominance g).1 = [[0], [0, 1, 3], [0, 1, 2, 3], [0, 3], [0, 1, 2, 3, 4]] := by
    decide +kernel
  have h31 : dominates (dominance g).1 3 1 = true := by rw [e']; rfl
  rw [e]
  refine ⟨rfl, rfl, rfl, rfl, h31, by rw [e']; rfl, by rw [e']; rfl, ?_⟩
  exact ((dom_iff_paths_all g (by decide)).mp h31).2

/-- Started from `prefixStart` the loop need not even stop: on `1 → 4 → 2 → 1` (a cycle listed out of
order, unreachable from the entry `0`) the rows chase each other — after two passes the table
alternates between two values for ever — so the loop never exits, whatever the fuel; from `init` it
always stops (`dominance_converges`). -/
theorem prefix_start_diverges (fuel : Nat) :
    (iterate [[], [4], [1], [], [2]] fuel (prefixStart 5)).2 = false := by
  -- the tables after 0, 1, 2, 3 passes; the fourth pass gives the third table again
  let orbit : List Dom := [prefixStart 5,
    [[0], [0, 1, 2], [0, 1, 2, 3, 4], [0, 1, 2, 3, 4], [0, 1, 2, 4]],
    [[0], [0, 1, 2, 3, 4], [0, 1, 2, 4], [0, 1, 2, 3, 4], [0, 1, 2, 3, 4]],
    [[0], [0, 1, 2, 4], [0, 1, 2, 3, 4], [0, 1, 2, 3, 4], [0, 1, 2, 4]]]
  have h : ∀ d ∈ orbit, (sweep [[], [4], [1], [], [2]] d).2 = true
      ∧ (sweep [[], [4], [1], [], [2]] d).1 ∈ orbit := by decide +kernel
  exact iterate_diverges (· ∈ orbit) h fuel _ (List.mem_cons_self ..)

/-- non-vacuity of `dom_relabel`: the region of `prefix_start_counterexample` is the natural listing
`entry, C, A, B, exit` (`[[1], [2], [3], [2, 4], []]`) relisted by `π = (0 1 2 3 4 ↦ 0 3 1 2 4)`. -/
example : Relabel [[1], [2], [3], [2, 4], []] [[3], [2], [1, 4], [1], []]
    (fun u => [0, 3, 1, 2, 4].getD u 0) (fun u => [0, 2, 3, 1, 4].getD u 0) where
  len := by decide +kernel
  lt := by decide +kernel
  lt' := by decide +kernel
  left := by decide +kernel
  right := by decide +kernel
  succ := by decide +kernel

/-- `^0 → ^1`, `^2 → ^1` with `^2` unreachable (the failing input of the pinned code): the
hypotheses of `dom_iff_paths` hold for `b = 1`, and the entry is reported to dominate `^1`. -/
example : Reach [[1], [], [1]] 0 1 ∧ 1 < [[1], [], [1]].length
    ∧ dominates (dominance [[1], [], [1]]).1 0 1 = true
    ∧ dominates (dominance [[1], [], [1]]).1 2 1 = false :=
  ⟨⟨[0, 1], .snoc .root (by unfold Edge; decide)⟩, by decide +kernel, by decide +kernel, by decide +kernel⟩

/-- a diamond with a back edge: `0→1,2; 1→3; 2→3; 3→1`: only the entry (and 3) dominates 3 -/
example : (dominance [[1, 2], [3], [3], [1]]).1 = [[0], [0, 1], [0, 2], [0, 3]] := by decide +kernel

end Xdsl.Dominance
