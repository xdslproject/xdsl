import XdslProofs.Lemmas.X86Poly
import XdslProofs.Lemmas.OfInt
/-!
The symbolic executor of `XdslModel.X86` abstracts the machine (`Inv`, kept by every step that
`symStep` accepts), and the source polynomial describes the source program (`Rel`).  The stack part of
the invariant, `Stk`, is stated relative to an arbitrary base address, so that the frame proofs
(`X86Frame`, `X86Prologue`) use it as well.
-/
namespace Xdsl.X86

@[simp] theorem setReg_reg (σ : St) (r : Nat) (v : W) (x : Nat) :
    (setReg σ r v).reg x = if x = r then v else σ.reg x := rfl
@[simp] theorem setReg_mem (σ : St) (r : Nat) (v : W) : (setReg σ r v).mem = σ.mem := rfl
@[simp] theorem setMem_reg (σ : St) (a v : W) : (setMem σ a v).reg = σ.reg := rfl
@[simp] theorem setMem_mem (σ : St) (a v : W) (x : W) :
    (setMem σ a v).mem x = if x = a then v else σ.mem x := rfl

theorem St.ext' {σ₁ σ₂ : St} (hr : ∀ r, σ₁.reg r = σ₂.reg r) (hm : ∀ a, σ₁.mem a = σ₂.mem a) : σ₁ = σ₂ := by
  cases σ₁; cases σ₂
  simp only [St.mk.injEq]
  exact ⟨funext hr, funext hm⟩

theorem setReg_self (σ : St) (r : Nat) : setReg σ r (σ.reg r) = σ := by
  apply St.ext'
  · intro x; simp only [setReg_reg]; split <;> simp_all
  · intro a; rfl

/-! ### truncation is a ring homomorphism and forgets what `wr` adds

`wr` at sizes `w`, `b` splices the low bits of the result into the old value:
`old - low old + low v`.  With the size a variable, `trunc_splice` is ring reasoning plus
`trunc_setWidth`. -/

theorem bits_le (sz : Sz) : sz.bits ≤ 64 := by cases sz <;> decide

theorem trunc_add (sz : Sz) (a b : W) : trunc sz (a + b) = trunc sz a + trunc sz b :=
  BitVec.setWidth_add a b (bits_le sz)

theorem trunc_mul (sz : Sz) (a b : W) : trunc sz (a * b) = trunc sz a * trunc sz b :=
  BitVec.setWidth_mul a b (bits_le sz)

theorem trunc_sub (sz : Sz) (a b : W) : trunc sz (a - b) = trunc sz a - trunc sz b := by
  rw [BitVec.eq_sub_iff_add_eq, ← trunc_add, BitVec.sub_add_cancel]

theorem trunc_aluOp (op : Alu) (sz : Sz) (a a' b : W) (h : trunc sz a = trunc sz a') :
    trunc sz (aluOp op a b) = trunc sz (aluOp op a' b) := by
  cases op
  · simp only [aluOp, trunc_add, h]
  · simp only [aluOp, trunc_sub, h]
  · simp only [aluOp, trunc_mul, h]
  · simp only [aluOp, trunc, BitVec.setWidth_and] at h ⊢; rw [h]
  · simp only [aluOp, trunc, BitVec.setWidth_or] at h ⊢; rw [h]
  · simp only [aluOp, trunc, BitVec.setWidth_xor] at h ⊢; rw [h]

theorem trunc_setWidth (sz : Sz) (x : BitVec sz.bits) : trunc sz (x.setWidth 64) = x := by
  rw [trunc, BitVec.setWidth_setWidth_of_le x (bits_le sz), BitVec.setWidth_eq]

theorem trunc_splice (sz : Sz) (old : W) (x : BitVec sz.bits) :
    trunc sz (old - (trunc sz old).setWidth 64 + x.setWidth 64) = x := by
  rw [trunc_add, trunc_sub, trunc_setWidth, trunc_setWidth, BitVec.sub_self, BitVec.zero_add]

theorem trunc_wr (sz : Sz) (old v : W) : trunc sz (wr sz old v) = trunc sz v := by
  cases sz
  · rfl
  · exact trunc_setWidth .d _
  · exact trunc_splice .w old _
  · exact trunc_splice .b old _

theorem wr_congr (sz : Sz) (old : W) {v v' : W} (h : trunc sz v = trunc sz v') :
    wr sz old v = wr sz old v' := by
  cases sz
  · exact (BitVec.setWidth_eq v).symm.trans (h.trans (BitVec.setWidth_eq v'))
  all_goals simp only [trunc, Sz.bits] at h; simp only [wr, h]

/-- except at 32 bits (zero extension), writing a register's own value back changes nothing -/
theorem wr_self (sz : Sz) (hd : sz ≠ .d) (old : W) : wr sz old old = old := by
  cases sz
  · rfl
  · exact absurd rfl hd
  · exact BitVec.sub_add_cancel ..
  · exact BitVec.sub_add_cancel ..

theorem trunc_ofInt (sz : Sz) (c : Int) : trunc sz (BitVec.ofInt 64 c) = BitVec.ofInt sz.bits c :=
  BV.setWidth_ofInt_of_le 64 sz.bits (bits_le sz) c

def below (a : W) (i : Nat) : W := a - BitVec.ofNat 64 (8 * i)

@[simp] theorem below_zero (a : W) : below a 0 = a := BitVec.sub_zero a

theorem below_succ (a : W) (i : Nat) : below a (i + 1) = below a i - 8#64 := by
  rw [below, below, Nat.mul_succ, BitVec.ofNat_add, BitVec.sub_sub]

theorem below_add_ofInt (a : W) (n : Nat) (k : Int) :
    below a n + BitVec.ofInt 64 (k + 8 * (n : Int)) = a + BitVec.ofInt 64 k := by
  have : (8 * (n : Int)) = ((8 * n : Nat) : Int) := by simp
  rw [below, this, BitVec.ofInt_add, BitVec.ofInt_natCast, BitVec.add_comm (BitVec.ofInt 64 k),
    ← BitVec.add_assoc, BitVec.sub_add_cancel]

theorem add_ne_below (a : W) (m i : Nat) (h0 : 0 < m + 8 * i) (h : m + 8 * i < 2 ^ 64) :
    a + BitVec.ofNat 64 m ≠ below a i := by
  intro e
  have : BitVec.ofNat 64 (m + 8 * i) = 0#64 := by
    rw [BitVec.ofNat_add, ← BitVec.add_right_inj a, ← BitVec.add_assoc, e, below,
      BitVec.sub_add_cancel, BitVec.add_zero]
  have := congrArg BitVec.toNat this
  rw [BitVec.toNat_ofNat, Nat.mod_eq_of_lt h] at this
  simp at this
  omega

theorem below_ne (a : W) (i : Nat) (h1 : 1 ≤ i) (h2 : i ≤ 4096) : a ≠ below a i := by
  have := add_ne_below a 0 i (by omega) (by omega)
  rwa [BitVec.add_zero] at this

theorem push_slot_ne (rsp0 : W) (i : Nat) (k : Int) (h1 : 1 ≤ i) (h2 : i ≤ 4096) (hk : 0 ≤ k)
    (hk2 : k < 4294967296) : rsp0 + BitVec.ofInt 64 k ≠ below rsp0 i := by
  obtain ⟨m, rfl⟩ := Int.eq_ofNat_of_zero_le hk
  exact add_ne_below rsp0 m i (by omega) (by omega)

theorem step_pop (d : Nat) (σ : St) :
    step (.pop d) σ = setReg (retStep σ) d (σ.mem (σ.reg RSP)) := rfl

/-- relative to a base address `a`: `rsp` is `n` qwords below `a`, and memory outside the `N` qwords
below `a` (all that a push may write: `Stk.push` asks for `n < N`) holds what `μ` holds there -/
structure Stk (a : W) (μ : W → W) (N n : Nat) (σ : St) : Prop where
  rsp : σ.reg RSP = below a n
  cap : N ≤ depthCap
  out : ∀ x, (∀ i, 1 ≤ i → i ≤ N → x ≠ below a i) → σ.mem x = μ x

namespace Stk
variable {a : W} {μ : W → W} {N n : Nat} {σ σ' : St}

theorem entry (σ : St) (hN : N ≤ depthCap) : Stk (σ.reg RSP) σ.mem N 0 σ :=
  ⟨(below_zero _).symm, hN, fun _ _ => rfl⟩

theorem of_eq (h : Stk a μ N n σ) (hr : σ'.reg RSP = σ.reg RSP) (hm : σ'.mem = σ.mem) :
    Stk a μ N n σ' :=
  ⟨hr.trans h.rsp, h.cap, hm ▸ h.out⟩

theorem push (h : Stk a μ N n σ) (hn : n < N) (r : Nat) : Stk a μ N (n + 1) (step (.push r) σ) := by
  have hsp : σ.reg RSP - 8#64 = below a (n + 1) := by rw [h.rsp, below_succ]
  refine ⟨by simp [step, hsp], h.cap, fun x hx => ?_⟩
  have : x ≠ σ.reg RSP - 8#64 := hsp ▸ hx (n + 1) (Nat.le_add_left ..) hn
  simp [step, this, h.out x hx]

theorem ret (h : Stk a μ N (n + 1) σ) : Stk a μ N n (retStep σ) :=
  ⟨by simp [retStep, h.rsp, below_succ, BitVec.sub_add_cancel], h.cap, h.out⟩

theorem setReg (h : Stk a μ N n σ) {d : Nat} (hd : d ≠ RSP) (v : W) : Stk a μ N n (setReg σ d v) :=
  h.of_eq (if_neg (Ne.symm hd)) rfl

theorem pop (h : Stk a μ N (n + 1) σ) {d : Nat} (hd : d ≠ RSP) : Stk a μ N n (step (.pop d) σ) :=
  h.ret.setReg hd _

/-- a load at offset `k + 8n` from `rsp` reads the caller's slot at offset `k` from `a`, which is
outside the `N` qwords -/
theorem load (h : Stk a μ N n σ) (k : Int) (hk : 0 ≤ k) (hk2 : k < 4294967296) :
    σ.mem (addr σ (k + 8 * (n : Int))) = μ (a + BitVec.ofInt 64 k) := by
  rw [addr, h.rsp, below_add_ofInt]
  exact h.out _ fun i h1 h2 => push_slot_ne a i k h1 (Nat.le_trans h2 h.cap) hk hk2

end Stk

theorem slotOf_some {nstack depth j : Nat} {k : Int} (h : slotOf nstack depth k = some j) :
    j < nstack ∧ k = ((8 * (j + 1) : Nat) : Int) + 8 * (depth : Int) := by
  simp only [slotOf, Option.ite_none_right_eq_some, Option.some.injEq] at h
  omega

@[simp] theorem Sym.set_reg (S : Sym) (r : Nat) (p : Option Poly) (x : Nat) :
    (S.set r p).reg x = if x = r then p else S.reg x := rfl
@[simp] theorem Sym.set_depth (S : Sym) (r : Nat) (p : Option Poly) : (S.set r p).depth = S.depth := rfl

/-- the SysV argument vector of the entry state, at the width of the function -/
def envOf (sz : Sz) (σ0 : St) : Nat → BitVec sz.bits := fun i => trunc sz (argOf σ0 i)

/-- the symbolic state `S` describes the machine state `σ` reached from the entry state `σ0`.
`rsp` never has a polynomial (`sp`), so moving it breaks no claim of `regs`: `Inv.restack`. -/
structure Inv (sz : Sz) (σ0 σ : St) (S : Sym) : Prop where
  stk : Stk (σ0.reg RSP) σ0.mem depthCap S.depth σ
  regs : ∀ r p, S.reg r = some p → trunc sz (σ.reg r) = evalPoly (envOf sz σ0) p
  sp : S.reg RSP = none

theorem Inv.set {sz : Sz} {σ0 σ : St} {S : Sym} (I : Inv sz σ0 σ S)
    (d : Nat) (hd : d ≠ RSP) (v : W) (q : Option Poly)
    (hv : ∀ p, q = some p → trunc sz v = evalPoly (envOf sz σ0) p) :
    Inv sz σ0 (setReg σ d v) (S.set d q) := by
  refine ⟨I.stk.setReg hd v, ?_, ?_⟩
  · intro r p hp
    rw [Sym.set_reg] at hp
    rw [setReg_reg]
    split at hp
    · next hr => rw [if_pos hr]; exact hv p hp
    · next hr => rw [if_neg hr]; exact I.regs r p hp
  · rw [Sym.set_reg, if_neg (Ne.symm hd)]; exact I.sp

/-- every register-writing instruction goes through `wr`, which `trunc` forgets -/
theorem Inv.write {sz : Sz} {σ0 σ : St} {S : Sym} (I : Inv sz σ0 σ S)
    (d : Nat) (hd : d ≠ RSP) (v : W) (p : Poly)
    (hv : trunc sz v = evalPoly (envOf sz σ0) p) :
    Inv sz σ0 (setReg σ d (wr sz (σ.reg d) v)) (S.set d (some p)) :=
  I.set d hd _ (some p) fun _ e => Option.some.inj e ▸ (trunc_wr sz _ v).trans hv

theorem Inv.restack {sz : Sz} {σ0 σ σ' : St} {S : Sym} (I : Inv sz σ0 σ S) {n : Nat}
    (hs : Stk (σ0.reg RSP) σ0.mem depthCap n σ') (hreg : ∀ r, r ≠ RSP → σ'.reg r = σ.reg r) :
    Inv sz σ0 σ' { S with depth := n } := by
  refine ⟨hs, fun r p hp => ?_, I.sp⟩
  have hr : r ≠ RSP := fun e => by rw [e, I.sp] at hp; cases hp
  rw [hreg r hr]
  exact I.regs r p hp

theorem symStep_sound {sz : Sz} {nstack : Nat} (hn : nstack ≤ stackArgCap) {σ0 σ : St} {S S' : Sym}
    (I : Inv sz σ0 σ S) (i : Instr) (h : symStep sz nstack i S = some S') :
    Inv sz σ0 (step i σ) S' := by
  revert h
  -- the ten branches in which `symStep` answers `some`, in the order of its definition
  fun_cases symStep sz nstack i S <;> intro h <;> cases h
  next sz' d s hg p hp => -- mov
    obtain ⟨rfl, hd⟩ := hg
    exact I.write d hd _ p (I.regs s p hp)
  next sz' d imm hg => -- movi
    obtain ⟨rfl, hd⟩ := hg
    exact I.write d hd _ _ (by rw [trunc_ofInt, evalPoly_pconst])
  next sz' d k hg j hj => -- load
    obtain ⟨rfl, hd⟩ := hg
    obtain ⟨hjn, rfl⟩ := slotOf_some hj
    refine I.write d hd _ _ ?_
    have hcap : stackArgCap = 4096 := rfl
    rw [I.stk.load _ (by omega) (by omega), BitVec.ofInt_natCast, evalPoly_pvar, envOf, argOf,
      if_neg (by omega), Nat.add_sub_cancel_left]
  next sz' d s hg p q hq hp => -- alu add
    obtain ⟨rfl, hd⟩ := hg
    refine I.write d hd _ _ ?_
    rw [evalPoly_pclean, evalPoly_padd, ← I.regs d p hp, ← I.regs s q hq, aluOp, trunc_add]
  next sz' d s hg p q hq hp => -- alu sub
    obtain ⟨rfl, hd⟩ := hg
    refine I.write d hd _ _ ?_
    rw [evalPoly_pclean, evalPoly_padd, evalPoly_pneg, ← I.regs d p hp, ← I.regs s q hq,
      ← BitVec.sub_eq_add_neg, aluOp, trunc_sub]
  next sz' d s hg p q hq hp r hr => -- alu imul
    obtain ⟨rfl, hd⟩ := hg
    refine I.write d hd _ _ ?_
    rw [evalPoly_pmul? _ p q r hr, ← I.regs d p hp, ← I.regs s q hq, aluOp, trunc_mul]
  next s hc => -- push
    exact I.restack (I.stk.push hc s) fun r hr => by simp [step, hr]
  next d hg => -- pop
    obtain ⟨n, hn⟩ : ∃ n, S.depth = n + 1 := ⟨S.depth - 1, by omega⟩
    have I' := I.restack (n := S.depth - 1) (σ' := retStep σ) (by rw [hn]; exact (hn ▸ I.stk).ret)
      fun r hr => by simp [retStep, hr]
    exact I'.set d hg.1 _ none nofun
  next => exact I -- ret
  next => exact I -- label

theorem symRun_sound {sz : Sz} {nstack : Nat} (hn : nstack ≤ stackArgCap) {σ0 : St} (a : List Instr) :
    ∀ {σ : St} {S : Sym} {p : Poly}, Inv sz σ0 σ S → symRun sz nstack a S = some p →
      ∃ σ', run a σ = some σ' ∧ trunc sz (σ'.reg RAX) = evalPoly (envOf sz σ0) p := by
  intro σ S p I h
  fun_induction symRun sz nstack a S generalizing σ
  next => cases h
  next => -- ret
    exact ⟨retStep σ, rfl, (congrArg (trunc sz) (if_neg (by decide))).trans (I.regs RAX p h)⟩
  next i _ _ hi _ hS' ih => rw [run.eq_3 _ _ _ hi]; exact ih (symStep_sound hn I i hS') h
  next => cases h

theorem argIdx_argReg {r i : Nat} (h : argIdx r = some i) : i < 6 ∧ argReg i = r := by
  unfold argIdx at h
  split at h <;> simp at h <;> subst h <;> decide

theorem Inv_init (sz : Sz) (nargs : Nat) (σ0 : St) : Inv sz σ0 σ0 (symInit nargs) := by
  refine ⟨Stk.entry σ0 (Nat.le_refl _), ?_, by simp [symInit, RSP, argIdx]⟩
  intro r p hp
  simp only [symInit] at hp
  split at hp
  · next i hi =>
    split at hp
    · cases hp
      obtain ⟨h6, hr⟩ := argIdx_argReg hi
      simp [envOf, argOf, h6, hr]
    · cases hp
  · cases hp

/-- the polynomial list describes the value list (entries without polynomial are unconstrained) -/
def Rel {w : Nat} (env : Nat → BitVec w) (P : List (Option Poly)) (V : List (BitVec w)) : Prop :=
  P.length = V.length ∧ ∀ x ∈ P.zip V, ∀ p, x.1 = some p → x.2 = evalPoly env p

theorem Rel.get {w : Nat} {env : Nat → BitVec w} {P : List (Option Poly)} {V : List (BitVec w)}
    (R : Rel env P V) {a : Nat} {x : Option Poly} (h : P[a]? = some x) :
    ∃ v, V[a]? = some v ∧ ∀ p, x = some p → v = evalPoly env p := by
  obtain ⟨ha, rfl⟩ := List.getElem?_eq_some_iff.mp h
  have hv : a < V.length := R.1 ▸ ha
  exact ⟨V[a], List.getElem?_eq_getElem hv, R.2 (P[a], V[a])
    (List.mem_of_getElem? (List.getElem?_zip_eq_some.mpr ⟨h, List.getElem?_eq_getElem hv⟩))⟩

theorem Rel.snoc {w : Nat} {env : Nat → BitVec w} {P : List (Option Poly)} {V : List (BitVec w)}
    (R : Rel env P V) (x : Option Poly) (v : BitVec w) (h : ∀ p, x = some p → v = evalPoly env p) :
    Rel env (P ++ [x]) (V ++ [v]) := by
  refine ⟨by simp [R.1], ?_⟩
  rw [List.zip_append R.1]
  intro y hy
  rcases List.mem_append.mp hy with hy | hy
  · exact R.2 y hy
  · cases List.mem_singleton.mp hy; exact h

theorem Rel.init {w : Nat} (env : Nat → BitVec w) (n : Nat) :
    Rel env ((List.range n).map fun i => some (pvar i)) ((List.range n).map env) := by
  refine ⟨by simp, ?_⟩
  rw [List.zip_map']
  intro x hx p hp
  obtain ⟨i, _, rfl⟩ := List.mem_map.mp hx
  cases hp
  exact (evalPoly_pvar env i).symm

theorem polyOps_sound {w : Nat} (env : Nat → BitVec w) (ops : List SOp) :
    ∀ (P P' : List (Option Poly)) (V : List (BitVec w)), Rel env P V → polyOps ops P = some P' →
      ∃ V', evalOps ops V = some V' ∧ Rel env P' V' := by
  intro P P' V R h
  fun_induction polyOps ops P generalizing V
  next => cases h; exact ⟨V, rfl, R⟩
  next ih => exact ih _ (R.snoc _ _ (by intro p hp; cases hp; simp)) h -- const
  next hx hy ih => -- add
    obtain ⟨va, hva, ha⟩ := R.get hx
    obtain ⟨vb, hvb, hb⟩ := R.get hy
    simp only [evalOps, hva, hvb]
    refine ih _ (R.snoc _ _ fun p hp => ?_) h
    split at hp <;> cases hp
    rw [evalPoly_pclean, evalPoly_padd, ← ha _ rfl, ← hb _ rfl]
  next => cases h
  next hx hy ih => -- mul
    obtain ⟨va, hva, ha⟩ := R.get hx
    obtain ⟨vb, hvb, hb⟩ := R.get hy
    simp only [evalOps, hva, hvb]
    refine ih _ (R.snoc _ _ fun p hp => ?_) h
    split at hp
    · rw [evalPoly_pmul? env _ _ p hp, ← ha _ rfl, ← hb _ rfl]
    · cases hp
  next => cases h

theorem srcPoly_sound (s : Src) (env : Nat → BitVec s.sz.bits) (q : Poly) (h : srcPoly s = some q) :
    evalSrc s env = some (evalPoly env q) := by
  revert h
  fun_cases srcPoly s <;> intro h <;> cases h
  next vals hv hq =>
    obtain ⟨V', hV', R'⟩ := polyOps_sound env s.ops _ _ _ (Rel.init env s.nargs) hv
    obtain ⟨v, hv', hq'⟩ := R'.get hq
    simp only [evalSrc, hV', hv', hq' q rfl]

end Xdsl.X86
