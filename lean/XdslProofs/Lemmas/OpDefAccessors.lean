import XdslProofs.Lemmas.OpDef
/-!
Each accessor family returns the declared segment (`segAt`) on lists that have a valid segmentation.

All accessors compute a start position and hand it to `pyIndex` or `pySlice`.  What those return when
the start is the prefix sum of the sizes is said once (`pyIndex_segAt`, `pyIndex_neg_segAt`,
`pySlice_segAt`); the proof for an accessor family then only has to show that its start *is* the
prefix sum, which for the same-size and default families is `prefixSum_mkSizes_cast`.
-/
namespace Xdsl.OpDef

theorem prefix_add_le : ∀ (sizes : List Nat) (i : Nat), i < sizes.length →
    prefixSum sizes i + sizes.getD i 0 ≤ sizes.sum
  | [], i, h => by simp at h
  | s :: ss, 0, _ => by simp [prefixSum]
  | s :: ss, i + 1, h => by
    have := prefix_add_le ss i (by simpa using h)
    simp only [prefixSum, List.take_succ_cons, List.sum_cons, List.getD_cons_succ] at this ⊢
    omega

theorem segAt_cons_zero {α : Type} (s : Nat) (ss : List Nat) (xs : List α) :
    segAt (s :: ss) xs 0 = xs.take s := by
  simp [segAt, prefixSum]

theorem segAt_cons_succ {α : Type} (s : Nat) (ss : List Nat) (xs : List α) (j : Nat) :
    segAt (s :: ss) xs (j + 1) = segAt ss (xs.drop s) j := by
  simp only [segAt, prefixSum, List.take_succ_cons, List.sum_cons, List.getD_cons_succ, List.drop_drop]

theorem flatten_segAt {α : Type} : ∀ (sizes : List Nat) (xs : List α), sizes.sum = xs.length →
    ((List.range sizes.length).map (segAt sizes xs)).flatten = xs
  | [], xs, h => by
    have : xs = [] := List.eq_nil_of_length_eq_zero (by simpa using h.symm)
    simp [this]
  | s :: ss, xs, h => by
    rw [List.length_cons, List.range_succ_eq_map, List.map_cons, List.flatten_cons, segAt_cons_zero,
      List.map_map]
    have : (segAt (s :: ss) xs ∘ Nat.succ) = segAt ss (xs.drop s) := by
      funext j; exact segAt_cons_succ s ss xs j
    rw [this, flatten_segAt ss (xs.drop s) (by simp at h ⊢; omega), List.take_append_drop]

theorem length_segAt {α : Type} (sizes : List Nat) (xs : List α) (h : sizes.sum = xs.length)
    (i : Nat) (hi : i < sizes.length) : (segAt sizes xs i).length = sizes.getD i 0 := by
  have := prefix_add_le sizes i hi
  simp only [segAt, List.length_take, List.length_drop]
  omega

theorem segAt_map_length {α : Type} : ∀ (segs : List (List α)) (i : Nat), i < segs.length →
    segAt (segs.map List.length) segs.flatten i = segs.getD i []
  | [], i, h => by simp at h
  | a :: r, 0, _ => by
    rw [List.map_cons, List.flatten_cons, segAt_cons_zero]
    simp
  | a :: r, j + 1, h => by
    rw [List.map_cons, List.flatten_cons, segAt_cons_succ]
    simp only [List.drop_left', List.getD_cons_succ]
    exact segAt_map_length r j (by simpa using h)

theorem take_one_drop {α : Type} (xs : List α) (p : Nat) (h : p < xs.length) :
    (xs.drop p).take 1 = [xs[p]] := by
  induction xs generalizing p with
  | nil => simp at h
  | cons x r ih =>
    cases p with
    | zero => simp
    | succ q => simpa using ih q (by simpa using h)

theorem pyIndex_nat {α : Type} (xs : List α) (p : Nat) (h : p < xs.length) :
    pyIndex xs p = .ok ((xs.drop p).take 1) := by
  unfold pyIndex
  simp only [Int.not_lt.2 (Int.natCast_nonneg p), if_false, Int.toNat_natCast]
  rw [List.getElem?_eq_getElem h, take_one_drop xs p h]

theorem pyIndex_neg {α : Type} (xs : List α) (i : Int) (p : Nat) (hi : i < 0)
    (hp : i + (xs.length : Int) = (p : Int)) (h : p < xs.length) :
    pyIndex xs i = .ok ((xs.drop p).take 1) := by
  rw [← pyIndex_nat xs p h]
  unfold pyIndex
  simp only [hi, if_true, hp, Int.not_lt.2 (Int.natCast_nonneg p), if_false]

theorem pyClamp_nat (n p : Nat) (h : p ≤ n) : pyClamp n p = p := by
  unfold pyClamp
  simp only [Int.not_lt.2 (Int.natCast_nonneg p), if_false, Int.toNat_natCast]
  omega

theorem pySlice_nat {α : Type} (xs : List α) (p s : Nat) (h : p + s ≤ xs.length) :
    pySlice xs p ((p : Int) + s) = (xs.drop p).take s := by
  simp only [pySlice]
  rw [pyClamp_nat xs.length p (by omega), ← Int.natCast_add, pyClamp_nat xs.length (p + s) h]
  congr 1
  omega

section
variable {α : Type} {sizes : List Nat} {xs : List α} {i : Nat}

theorem pyIndex_segAt (hs : sizes.sum = xs.length) (hi : i < sizes.length)
    (h1 : sizes.getD i 0 = 1) (a : Int) (ha : a = (prefixSum sizes i : Nat)) :
    pyIndex xs a = .ok (segAt sizes xs i) := by
  have := prefix_add_le sizes i hi
  rw [segAt, h1, ha]
  exact pyIndex_nat xs _ (by omega)

theorem pyIndex_neg_segAt (hs : sizes.sum = xs.length) (hi : i < sizes.length)
    (h1 : sizes.getD i 0 = 1) (a : Int) (ha : a < 0)
    (hp : a + (xs.length : Int) = (prefixSum sizes i : Nat)) :
    pyIndex xs a = .ok (segAt sizes xs i) := by
  have := prefix_add_le sizes i hi
  rw [segAt, h1]
  exact pyIndex_neg xs a _ ha hp (by omega)

theorem pySlice_segAt (hs : sizes.sum = xs.length) (hi : i < sizes.length) (a b : Int)
    (ha : a = (prefixSum sizes i : Nat)) (hb : b = a + (sizes.getD i 0 : Nat)) :
    pySlice xs a b = segAt sizes xs i := by
  have := prefix_add_le sizes i hi
  rw [hb, ha]
  exact pySlice_nat xs _ _ (by omega)

theorem segAt_eq_nil (h0 : sizes.getD i 0 = 0) : segAt sizes xs i = [] := by
  rw [segAt, h0, List.take_zero]

end

/-- attribute-sized accessors: the start is the sum of the stored sizes before `i` -/
theorem accAttr_spec {α : Type} (defs : List Seg) (xs : List α) (sizes : List Nat)
    (hk : KindsOk defs sizes) (hs : sizes.sum = xs.length) (i : Nat) (hi : i < defs.length) :
    accAttr defs (sizes.map Int.ofNat) xs i = .ok (segAt sizes xs i) := by
  have hi' : i < sizes.length := by rw [hk.length_eq]; exact hi
  have hstart : ((sizes.map Int.ofNat).take i).sum = ((prefixSum sizes i : Nat) : Int) := by
    rw [← List.map_take, sum_map_ofNat]; rfl
  have hget : (sizes.map Int.ofNat)[i]? = some ((sizes.getD i 0 : Nat) : Int) := by
    simp [List.getD, List.getElem?_eq_getElem hi']
  have hkind := hk.getD i hi
  unfold accAttr
  simp only [hstart, hget, List.getElem?_eq_getElem hi]
  cases hd : defs[i] <;> rw [hd] at hkind
  · exact pyIndex_segAt hs hi' hkind _ rfl
  · have : sizes.getD i 0 = 0 ∨ sizes.getD i 0 = 1 := by have : _ ≤ 1 := hkind; omega
    rcases this with h0 | h1
    · simp only [h0, segAt_eq_nil h0]; rfl
    · simp only [h1]; exact pyIndex_segAt hs hi' h1 _ rfl
  · exact congrArg _ (pySlice_segAt hs hi' _ _ rfl rfl)

/-- in a same-size list, position `i` starts after `i` segments of which the variable ones
have `k` elements instead of one -/
theorem prefixSum_mkSizes_cast (k : Nat) (defs : List Seg) (i : Nat) (hi : i ≤ defs.length) :
    ((prefixSum (mkSizes k defs) i : Nat) : Int)
      = (i : Int) + numVariadic (defs.take i) * ((k : Int) - 1) := by
  rw [prefixSum, take_mkSizes, sum_mkSizes_cast, List.length_take, Nat.min_eq_left hi]

theorem numVariadic_take_add_le (defs : List Seg) (i : Nat) (hi : i < defs.length) :
    numVariadic (defs.take i) + (if defs[i].isVariadic then 1 else 0) ≤ numVariadic defs := by
  have := (List.take_sublist (i + 1) defs).countP_le (p := Seg.isVariadic)
  rw [List.take_succ_eq_append_getElem hi, List.countP_append, List.countP_singleton] at this
  exact this

theorem optional_le_one {k : Nat} {defs : List Seg} (hk : KindsOk defs (mkSizes k defs)) {i : Nat}
    (hi : i < defs.length) (hd : defs[i] = .optional) : k ≤ 1 :=
  (kindsOk_mkSizes_iff k defs).1 hk (List.any_eq_true.2 ⟨_, List.getElem_mem hi, by rw [hd]; rfl⟩)

theorem accSame_spec {α : Type} (defs : List Seg) (xs : List α) (k : Nat)
    (hk : KindsOk defs (mkSizes k defs)) (hv : 0 < numVariadic defs)
    (hs : (mkSizes k defs).sum = xs.length) (i : Nat) (hi : i < defs.length) :
    accSame defs xs i = .ok (segAt (mkSizes k defs) xs i) := by
  have hi' : i < (mkSizes k defs).length := by rw [length_mkSizes]; exact hi
  have hsz := getD_mkSizes k defs i hi
  have hn := sum_mkSizes_cast k defs
  have hst := prefixSum_mkSizes_cast k defs i hi.le
  rw [hs] at hn
  -- the quotient the accessors compute is `k - 1`, and with it their start is the prefix sum
  have hdiff : ((xs.length : Int) - (defs.length : Int)) / (numVariadic defs : Int) = (k : Int) - 1 := by
    rw [hn, add_sub_cancel_left, Int.mul_ediv_cancel_left _ (by omega)]
  unfold accSame
  simp only [hdiff, ← hst, List.getElem?_eq_getElem hi]
  cases hd : defs[i] <;> simp only [hd, Seg.isVariadic, if_true, Bool.false_eq_true, if_false] at hsz ⊢
  · exact pyIndex_segAt hs hi' hsz _ rfl
  · rcases Nat.le_one_iff_eq_zero_or_eq_one.1 (optional_le_one hk hi hd) with rfl | rfl
    · rw [if_neg (by omega), segAt_eq_nil hsz]
    · rw [if_pos (by omega)]
      exact pyIndex_segAt hs hi' hsz _ (by omega)
  · exact congrArg _ (pySlice_segAt hs hi' _ _ rfl (by omega))

/-- default accessors (at most one variable segment, so none before a variable one and the list is
`k - 1` longer than the definitions) -/
theorem accDefault_spec {α : Type} (defs : List Seg) (xs : List α) (k : Nat)
    (hk : KindsOk defs (mkSizes k defs)) (hv : numVariadic defs ≤ 1)
    (hs : (mkSizes k defs).sum = xs.length) (i : Nat) (hi : i < defs.length) :
    accDefault defs xs i = .ok (segAt (mkSizes k defs) xs i) := by
  have hi' : i < (mkSizes k defs).length := by rw [length_mkSizes]; exact hi
  have hsz := getD_mkSizes k defs i hi
  have hn := sum_mkSizes_cast k defs
  have hst := prefixSum_mkSizes_cast k defs i hi.le
  have henc := numVariadic_take_add_le defs i hi
  rw [hs] at hn
  unfold accDefault
  simp only [List.getElem?_eq_getElem hi]
  cases hd : defs[i] <;>
    simp only [hd, Seg.isVariadic, if_true, Bool.false_eq_true, if_false] at hsz henc ⊢
  · split
    · rename_i h0
      rw [h0] at hst
      exact pyIndex_segAt hs hi' hsz _ (by omega)
    · obtain ⟨h1, hnv⟩ : numVariadic (defs.take i) = 1 ∧ numVariadic defs = 1 := by omega
      rw [h1] at hst
      rw [hnv] at hn
      exact pyIndex_neg_segAt hs hi' hsz _ (by omega) (by omega)
  · obtain ⟨h0, hnv⟩ : numVariadic (defs.take i) = 0 ∧ numVariadic defs = 1 := by omega
    rw [h0] at hst
    rw [hnv] at hn
    rcases Nat.le_one_iff_eq_zero_or_eq_one.1 (optional_le_one hk hi hd) with rfl | rfl
    · rw [if_neg (by omega), segAt_eq_nil hsz]
    · rw [if_pos (by omega)]
      exact pyIndex_segAt hs hi' hsz _ (by omega)
  · obtain ⟨h0, hnv⟩ : numVariadic (defs.take i) = 0 ∧ numVariadic defs = 1 := by omega
    rw [h0] at hst
    rw [hnv] at hn
    exact congrArg _ (pySlice_segAt hs hi' _ _ (by omega) (by omega))

end Xdsl.OpDef
