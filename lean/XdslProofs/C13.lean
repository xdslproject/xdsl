import XdslProofs.Lemmas.DCEComplete
import XdslProofs.Lemmas.DCEEff
/-!
# C13 — property theorems (liveness, deletion, the `dce` pass)

"Dead-code elimination (the dce pass and the trivial-dead removal performed during greedy rewriting)
removes only operations whose results are unused and that are not terminators, symbols or operations
with possibly observable effects, plus blocks that are unreachable; program results are unchanged,
and after the dce pass no removable operation or unreachable block remains."

`P : T` is the region handed to `region_dce` (the module body), with unique operation ids
(`(allIds P).Nodup`) and well-sorted (`ws P .regions`).  `LV P h rs` is the least live set
(`Lemmas/DCE.lean`): the operation cell `(h, rs)` sits in a block that the post-order iteration of
its region yields, that region being the top region or a region of a live operation, and it is not
would-be-trivially-dead or a live operation uses one of its results.  The model is the FIXED code
(see `XdslModel/DCE.lean`).  Result preservation is in `C13Sem.lean` (one block of region-free
operations) and `C13SemCFG.lean` (whole modules, on the reference semantics `Sem`).
-/
namespace Xdsl.DCE
open Xdsl.Graph

/-- "…that are not terminators, symbols or operations with possibly observable effects": an
operation that `would_be_trivially_dead` accepts is no terminator, no symbol operation, its effects
are known, and each of them is a `READ` or an `ALLOC` of a value defined by the operation itself or
inside it. -/
theorem wbd_spec {h : Hdr} {rs : T} (hw : wbd h rs = true) :
    h.term = false ∧ h.sym = false ∧ ∃ es, opEff h (effAll rs) = some es ∧
      ∀ e ∈ es, e = .read ∨ ∃ o, e = .allocOn o ∧ o ∈ h.id :: allIds rs := by
  obtain ⟨ht, hs, es, hes, hok⟩ := wbd_iff.mp hw
  exact ⟨ht, hs, es, hes, fun e he => effOk_iff.mp (hok e he)⟩

/-- an operation without `MemoryEffect` trait (unknown effects) is never would-be-trivially-dead:
where the pass visits it, it stays (`LV.of_vis_base`, `dce_sound`) -/
theorem wbd_unknown {h : Hdr} {rs : T} (hu : h.eff = none) : wbd h rs = false := by
  simp [wbd, resultOnlyEffects, opEff, hu]

/-- nor is an operation with recursive effects that contains (directly, in any block of its regions)
an operation with unknown effects -/
theorem wbd_recursive_unknown {h : Hdr} {rs : T} (hr : h.recursive = true) (hu : effAll rs = none) :
    wbd h rs = false := by
  cases he : h.eff <;> simp [wbd, resultOnlyEffects, opEff, he, hr, hu]

/-- "…operations with possibly observable effects", for an operation with recursive effects: NO
position inside it is exempt.  `would_be_trivially_dead` accepts it exactly if it is no terminator, no
symbol operation, its own declared effects are harmless, and EVERY operation directly in a block of
one of its regions (`directCells`: every region, every block of the region — reached or not —, every
operation of the block) has known effects (computed the same way, so this descends through nested
operations with recursive effects) that are all harmless: `READ`, or `ALLOC` of a value defined by
the operation or inside it. -/
theorem wbd_recursive_iff {h : Hdr} {rs : T} (hr : h.recursive = true) :
    wbd h rs = true ↔ h.term = false ∧ h.sym = false ∧
      (∃ own, h.eff = some own ∧ ∀ e ∈ own, effOk (h.id :: allIds rs) e = true) ∧
      ∀ c ∈ directCells rs, ∃ ce, opEff c.1 (effAll c.2) = some ce ∧
        ∀ e ∈ ce, effOk (h.id :: allIds rs) e = true := by
  rw [wbd_iff, opEff_recursive hr, effAll_forall]

/-- read from the other side: one operation with an unknown or observable effect — in whichever
region, block and position — keeps the enclosing operation with recursive effects from being
would-be-trivially-dead -/
theorem wbd_recursive_child_observable {h : Hdr} {rs : T} (hr : h.recursive = true) {c : Hdr × T}
    (hc : c ∈ directCells rs)
    (hobs : ∀ ce, opEff c.1 (effAll c.2) = some ce → ∃ e ∈ ce, effOk (h.id :: allIds rs) e = false) :
    wbd h rs = false := by
  cases hw : wbd h rs
  · rfl
  · obtain ⟨ce, h1, h2⟩ := ((wbd_recursive_iff hr).mp hw).2.2.2 c hc
    obtain ⟨e, he, hf⟩ := hobs ce h1
    rw [h2 e he] at hf; cases hf

/-- known effects: every direct child has known effects, all of them counted -/
theorem effAll_some_children (t : T) : ∀ es, effAll t = some es →
    ∀ c ∈ directCells t, ∃ ce, opEff c.1 (effAll c.2) = some ce ∧ ∀ e ∈ ce, e ∈ es := by
  intro es hes c hc
  rw [effAll_eq_joinAll] at hes
  exact joinAll_some hes _ (List.mem_map.mpr ⟨c, hc, rfl⟩)

/-- nothing else is counted: every effect of the union comes from a direct child -/
theorem effAll_some_origin (t : T) : ∀ es, effAll t = some es →
    ∀ e ∈ es, ∃ c ∈ directCells t, ∃ ce, opEff c.1 (effAll c.2) = some ce ∧ e ∈ ce := by
  intro es hes e he
  rw [effAll_eq_joinAll] at hes
  obtain ⟨ce, hm, hce⟩ := joinAll_origin hes e he
  obtain ⟨c, hc, heq⟩ := List.mem_map.mp hm
  exact ⟨c, hc, ce, heq, hce⟩

/-- unknown exactly when one direct child is unknown -/
theorem effAll_none_iff (t : T) :
    effAll t = none ↔ ∃ c ∈ directCells t, opEff c.1 (effAll c.2) = none := by
  rw [effAll_eq_joinAll, joinAll_none, List.mem_map]

/-- The `while live_set.changed` loop ends within `#operations + 1` passes. -/
theorem liveness_converges {P : T} (hnd : (allIds P).Nodup) :
    (liveLoop P ((allHdrs P).length + 1) [] 0).2.2 = true :=
  (liveSet_spec hnd).1

/-- The set the loop computes is exactly the least live set. -/
theorem live_iff_least {P : T} (hnd : (allIds P).Nodup) (i : Nat) :
    i ∈ liveSet P ↔ ∃ h rs, LV P h rs ∧ h.id = i :=
  live_iff hnd i

/-- **dce_sound.**  `region_dce` keeps every operation of the least live set: every operation it
removes is outside the least set that contains the visited operations that are not
would-be-trivially-dead and is closed under "a live operation uses its result". -/
theorem dce_sound {P : T} (hnd : (allIds P).Nodup) (hws : ws P .regions = true) {h : Hdr} {rs : T}
    (hl : LV P h rs) : h.id ∈ allIds (dceOnce P).1 := by
  rcases dceOnce_cases P with e | e <;> rw [e]
  · exact mem_allIds_of_cell hl.mem
  · exact LV.kept hws (fun h rs hl => (live_iff hnd _).mpr ⟨h, rs, hl, rfl⟩) hl

/-- the same, read from the removed side -/
theorem dce_sound_removed {P : T} (hnd : (allIds P).Nodup) (hws : ws P .regions = true) {i : Nat}
    (hrem : i ∉ allIds (dceOnce P).1) : ¬ LiveId P i := by
  rintro ⟨h, rs, hl, rfl⟩
  exact hrem (dce_sound hnd hws hl)

/-- "…removes only operations whose results are unused and that are not terminators, symbols or
operations with possibly observable effects": a visited operation (one in a block reached from the
entry of the top region or of a region of a kept operation) that is not in the least live set is
would-be-trivially-dead, and no live operation uses a result of it.  An operation that is not visited
(it sits in a block that is not reached, or inside an operation that is not live) is outside this
statement. -/
theorem removed_is_dead {P : T} {h : Hdr} {rs : T} (hv : Vis P (h, rs)) (hn : ¬ LV P h rs) :
    wbd h rs = true ∧ ∀ u urs, LV P u urs → h.id ∉ u.operands := by
  constructor
  · cases hw : wbd h rs
    · exact absurd (LV.of_vis_base hv hw) hn
    · rfl
  · intro u urs hu hm
    exact hn (LV.of_vis_user hv hu hm)

/-- In terms of the computed set: a visited operation that `region_dce` does not mark live is no
terminator, no symbol operation, has only unobservable effects, and none of its results is used by
an operation marked live. -/
theorem removed_is_dead_computed {P : T} (hnd : (allIds P).Nodup) {h : Hdr} {rs : T}
    (hv : Vis P (h, rs)) (hn : h.id ∉ liveSet P) :
    h.term = false ∧ h.sym = false ∧ wbd h rs = true
      ∧ ∀ u ∈ allHdrs P, u.id ∈ liveSet P → h.id ∉ u.operands := by
  have hcl := liveSet_closed hnd
  have hw : wbd h rs = true := by
    cases hw : wbd h rs
    · exact absurd (hcl.rule hv (Or.inl hw)) hn
    · rfl
  exact ⟨(wbd_spec hw).1, (wbd_spec hw).2.1, hw, fun u hu hul hm =>
    hn (hcl.rule hv (Or.inr (hasLiveUser_iff.mpr ⟨u, hu, hm, hul⟩)))⟩

/-- "…plus blocks that are unreachable": `delete_dead` erases a block only if it is not the entry
block and none of its operations is live.  A block that the post-order iteration of a visited region
yields and that holds an operation that is not would-be-trivially-dead (its terminator, in
well-formed IR) has a live operation, hence is kept: every removed block of a visited region that
ends in a terminator is unreachable. -/
theorem reachable_block_kept {P : T} (hnd : (allIds P).Nodup) {bs : T} (hw : ws bs .blocks = true)
    {k : Nat} (hvis : ∀ c ∈ vcells bs (some k), Vis P c) {h : Hdr} {rs : T}
    (hc : (h, rs) ∈ vcells bs (some k)) (hnw : wbd h rs = false) :
    anyLive (liveSet P) (blockAt bs k) = true :=
  anyLive_blockAt hw hc ((live_iff hnd _).mpr ⟨h, rs, .of_vis_base (hvis _ hc) hnw, rfl⟩)

/-- the same, read from the removed side: a block of a visited region that `delete_dead` finds
without live operation although it holds an operation that is not would-be-trivially-dead (its
terminator) is not yielded by the post-order iteration from the entry block, i.e. it is unreachable -/
theorem removed_block_unreachable {P : T} (hnd : (allIds P).Nodup) {bs : T} (hw : ws bs .blocks = true)
    {k : Nat} (hvis : k ∈ reachSet bs → ∀ c ∈ vcells bs (some k), Vis P c)
    (hdead : anyLive (liveSet P) (blockAt bs k) = false) {h : Hdr} {rs : T}
    (hc : (h, rs) ∈ vcells bs (some k)) (hnw : wbd h rs = false) : k ∉ reachSet bs := by
  intro hk
  have := reachable_block_kept hnd hw (hvis hk) hc hnw
  rw [hdead] at this
  cases this

/-- no dangling use: a visited operation whose result is used by a kept (live) operation is kept -/
theorem kept_operands_kept {P : T} (hnd : (allIds P).Nodup) (hws : ws P .regions = true)
    {h u : Hdr} {rs urs : T} (hu : LV P u urs) (hv : Vis P (h, rs)) (hm : h.id ∈ u.operands) :
    h.id ∈ allIds (dceOnce P).1 :=
  dce_sound hnd hws (LV.of_vis_user hv hu hm)

/-- **dce_complete.**  `DeadCodeElimination.apply` (`while region_dce(op.body): pass`) ends within
`size + 1` calls; in the module it leaves, every operation belongs to the least live set of that
module ("no removable operation remains") and every block other than an entry block is yielded by
the post-order iteration from the entry block of its region ("no unreachable block remains"; by
`postorder_spec` of C24 the yielded blocks are exactly the reachable ones). -/
theorem dce_complete {P : T} (hnd : (allIds P).Nodup) :
    (dce P).2.2 = true
      ∧ (∀ i ∈ allIds (dce P).1, LiveId (dce P).1 i)
      ∧ AllReach (dce P).1 true [] 0 := by
  obtain ⟨h1, h2⟩ := dceLoop_spec (size P + 1) P 0 (Nat.lt_succ_self _)
  exact ⟨h1, fixpoint_spec ((dceLoop_sublist _ P 0).nodup hnd) h2⟩

/-- the pass does not create operations: every id in what it leaves is an id of the input (they
even form a sub-list of the input's ids: `dceLoop_sublist`) -/
theorem dce_ids_sub : ∀ fuel t n, ∀ i ∈ allIds (dceLoop fuel t n).1, i ∈ allIds t :=
  fun fuel t n _ hi => (dceLoop_sublist fuel t n).subset hi

/-- With well-formed region graphs in the result (`wfT`: successors inside their region), "yielded by
the post-order iteration" is reachability (`postorder_spec`, C24): every block of every region that
the pass leaves is reachable from the entry block of its region. -/
theorem dce_complete_reachable {P : T} (hnd : (allIds P).Nodup) (hwf : wfT (dce P).1 = true) :
    AllReachG (dce P).1 [] 0 :=
  allReachG_of _ true [] 0 [] hwf (fun _ hb => nomatch hb) (fun _ => rfl) (dce_complete hnd).2.2

/-- the modules the pass goes through: `dceSteps k P` is the module after `k` calls of `region_dce` -/
def dceSteps : Nat → T → T
  | 0, t => t
  | k + 1, t => dceSteps k (dceOnce t).1

theorem dceSteps_succ (k : Nat) (t : T) : dceSteps (k + 1) t = (dceOnce (dceSteps k t)).1 := by
  induction k generalizing t with
  | zero => rfl
  | succ k ih => simp only [dceSteps] at ih ⊢; exact ih _

/-- the module the pass leaves is one of them -/
theorem dce_is_step : ∀ fuel t n, ∃ k, (dceLoop fuel t n).1 = dceSteps k t := by
  intro fuel t n
  fun_induction dceLoop fuel t n with
  | case1 => exact ⟨0, rfl⟩
  | case2 fuel t n r _ ih => exact let ⟨k, hk⟩ := ih; ⟨k + 1, hk⟩
  | case3 => exact ⟨1, rfl⟩

/-- **dce_pass_sound.**  At every call of `region_dce` made by `DeadCodeElimination.apply`, every
operation of the least live set of the current module is kept (`dce_sound` for each step; unique ids
and well-sortedness are invariants of the loop). -/
theorem dce_pass_sound {P : T} (hnd : (allIds P).Nodup) (hws : ws P .regions = true) (k : Nat)
    {h : Hdr} {rs : T} (hl : LV (dceSteps k P) h rs) : h.id ∈ allIds (dceSteps (k + 1) P) := by
  have inv : ∀ k, (allIds (dceSteps k P)).Nodup ∧ ws (dceSteps k P) .regions = true := by
    intro k
    induction k with
    | zero => exact ⟨hnd, hws⟩
    | succ k ih => rw [dceSteps_succ]; exact ⟨(dceOnce_sublist _).nodup ih.1, dceOnce_ws ih.2⟩
  rw [dceSteps_succ]
  exact dce_sound (inv k).1 (inv k).2 hl

/-- `is_trivially_dead(op)`: no result of the operation has a use anywhere, and it is
would-be-trivially-dead (hence no terminator, no symbol, no observable effect: `wbd_spec`). -/
theorem trivDead_spec {root : T} {h : Hdr} {rs : T} (ht : trivDead root h rs = true) :
    wbd h rs = true ∧ ∀ u ∈ allHdrs root, h.id ∉ u.operands := by
  simp only [trivDead, isUsed, Bool.and_eq_true, Bool.not_eq_true', List.any_eq_false,
    List.contains_iff_mem] at ht
  exact ⟨ht.2, fun u hu => by simpa using ht.1 u hu⟩

/-- **triv_sound.**  Every operation that one sweep of the trivially-dead erasure removes is a
trivially dead operation or is nested in one. -/
theorem triv_sound (P : T) {i : Nat} (hi : i ∈ allIds P) (hrem : i ∉ allIds (trivDel P P)) :
    ∃ h rs, (h, rs) ∈ allCells P ∧ i ∈ h.id :: allIds rs ∧ wbd h rs = true
      ∧ ∀ u ∈ allHdrs P, h.id ∉ u.operands := by
  refine Classical.byContradiction fun hne => hrem (trivDel_keeps P P (fun c hc ht hm => hne ?_) hi)
  exact ⟨c.1, c.2, hc, hm, trivDead_spec ht⟩

/-- The erasure reaches its fixpoint within `size + 1` sweeps, and then no operation of the module
is trivially dead. -/
theorem triv_complete (P : T) : (triv P).2 = true
    ∧ ∀ h rs, (h, rs) ∈ allCells (triv P).1 → trivDead (triv P).1 h rs = false := by
  obtain ⟨h1, h2⟩ := trivLoop_spec (size P + 1) P (Nat.lt_succ_self _)
  exact ⟨h1, (size_trivDel_le_and_none_dead _ _).2 h2⟩

/-! ## Non-vacuity -/

private def hPure (i : Nat) (us : List Nat) : Hdr := ⟨i, us, false, false, some [], false, []⟩
private def hWrite (i : Nat) (us : List Nat) : Hdr := ⟨i, us, false, false, some [.write], false, []⟩
private def hTerm (i : Nat) (us : List Nat) (ss : List Nat) : Hdr := ⟨i, us, true, false, none, false, ss⟩
private def hYield (i : Nat) (us : List Nat) : Hdr := ⟨i, us, true, false, some [], false, []⟩
private def hRec (i : Nat) (us : List Nat) : Hdr := ⟨i, us, false, false, some [], true, []⟩

/-- `%0 = pure; %1 = rec { %2 = pure(%0); yield(%2) }; term` (a dead `scf.if` using an outer value,
the minimal failing input of the pinned code: it kept `%0`): one call removes `%0` and `%1`, the
second call finds nothing. -/
example : dce (.region (.block (.op (hPure 0 []) .nil (.op (hRec 1 [])
      (.region (.block (.op (hPure 2 [0]) .nil (.op (hYield 3 [2]) .nil .nil)) .nil) .nil)
      (.op (hTerm 4 [] []) .nil .nil))) .nil) .nil)
    = (.region (.block (.op (hTerm 4 [] []) .nil .nil) .nil) .nil, 2, true) := by decide

/-- a write inside the `rec` operation keeps it, its contents and the outer value it uses -/
example : (dce (.region (.block (.op (hPure 0 []) .nil (.op (hRec 1 [])
      (.region (.block (.op (hWrite 2 [0]) .nil (.op (hYield 3 []) .nil .nil)) .nil) .nil)
      (.op (hTerm 4 [] []) .nil .nil))) .nil) .nil)).2 = (1, true) := by decide

private def hRead (i : Nat) (us : List Nat) : Hdr := ⟨i, us, false, false, some [.read], false, []⟩

/-- `rec { read; yield }, { write; yield }` (an `scf.if` whose then-region loads and whose else-region
stores) is not would-be-trivially-dead; with two loading regions it is -/
example : wbd (hRec 0 []) (.region (.block (.op (hRead 1 []) .nil (.op (hYield 2 []) .nil .nil)) .nil)
      (.region (.block (.op (hWrite 3 []) .nil (.op (hYield 4 []) .nil .nil)) .nil) .nil)) = false := by decide
example : wbd (hRec 0 []) (.region (.block (.op (hRead 1 []) .nil (.op (hYield 2 []) .nil .nil)) .nil)
      (.region (.block (.op (hRead 3 []) .nil (.op (hYield 4 []) .nil .nil)) .nil) .nil)) = true := by decide

/-- the write in the second block of the third region, below a nested `rec` whose first region reads -/
example : wbd (hRec 0 []) (.region (.block (.op (hRead 1 []) .nil (.op (hYield 2 []) .nil .nil)) .nil)
      (.region (.block (.op (hYield 3 []) .nil .nil) .nil)
      (.region (.block (.op (hYield 4 []) .nil .nil) (.block (.op (hRec 5 [])
        (.region (.block (.op (hRead 6 []) .nil (.op (hYield 7 []) .nil .nil)) .nil)
        (.region (.block (.op (hWrite 8 []) .nil (.op (hYield 9 []) .nil .nil)) .nil) .nil))
        (.op (hYield 10 []) .nil .nil)) .nil)) .nil))) = false := by decide

/-- dead use cycle `%0 = pure(%1); %1 = pure(%0)`, an unreachable block `^1` (with a write) that
branches to the reachable `^2`: the cycle and `^1` go, the successor of the entry terminator is renamed -/
example : dce (.region (.block (.op (hPure 0 [1]) .nil (.op (hPure 1 [0]) .nil
      (.op (hTerm 2 [] [2]) .nil .nil))) (.block (.op (hWrite 3 []) .nil (.op (hTerm 4 [] [2]) .nil .nil))
      (.block (.op (hTerm 5 [] []) .nil .nil) .nil))) .nil)
    = (.region (.block (.op (hTerm 2 [] [1]) .nil .nil) (.block (.op (hTerm 5 [] []) .nil .nil) .nil)) .nil,
       2, true) := by decide

/-- the walker-style erasure does not remove the cycle (each member has a use) but removes an unused chain -/
example : (triv (.region (.block (.op (hPure 0 [1]) .nil (.op (hPure 1 [0]) .nil (.op (hPure 6 []) .nil
      (.op (hPure 7 [6]) .nil (.op (hTerm 2 [] []) .nil .nil))))) .nil) .nil)).1
    = .region (.block (.op (hPure 0 [1]) .nil (.op (hPure 1 [0]) .nil
        (.op (hTerm 2 [] []) .nil .nil))) .nil) .nil := by decide

end Xdsl.DCE
