import XdslProofs.Lemmas.List
/-!
List facts used by the e-graph proofs (C28) that say nothing about e-graphs: invariants of `foldl`
loops, tests along `zipIdx`, `mapM` into `Option`.  No Mathlib.
-/
namespace Xdsl.EGraph

/-- a loop `for i, x in enumerate(l, k)`: an invariant of the counter, the items still to come and
the state -/
theorem foldl_zipIdx_inv {α β : Type} (f : β → α × Nat → β) (Q : Nat → List α → β → Prop)
    (step : ∀ k x l b, Q k (x :: l) b → Q (k + 1) l (f b (x, k))) :
    ∀ (l : List α) (k : Nat) (b : β), Q k l b → Q (k + l.length) [] ((l.zipIdx k).foldl f b) := by
  intro l
  induction l with
  | nil => exact fun _ _ h => h
  | cons x l ih =>
    intro k b h
    rw [List.zipIdx_cons, List.foldl_cons, List.length_cons, Nat.add_comm l.length 1, ← Nat.add_assoc]
    exact ih (k + 1) (f b (x, k)) (step k x l b h)

theorem all_zipIdx_iff {α : Type} (p : α → Nat → Bool) : ∀ (l : List α) (k : Nat),
    (l.zipIdx k).all (fun q => p q.1 q.2) = true ↔
      ∀ pre x suf, l = pre ++ x :: suf → p x (k + pre.length) = true := by
  intro l
  induction l with
  | nil => exact fun _ => ⟨fun _ pre _ _ e => absurd e (by simp), fun _ => rfl⟩
  | cons y l ih =>
    intro k
    rw [List.zipIdx_cons, List.all_cons, Bool.and_eq_true, ih (k + 1)]
    have hk : ∀ pre : List α, k + (y :: pre).length = k + 1 + pre.length := fun pre => by
      rw [List.length_cons]; omega
    constructor
    · rintro ⟨hy, hl⟩ pre x suf e
      match pre, e with
      | [], e => cases e; exact hy
      | _ :: pre, e => cases e; rw [hk]; exact hl pre x suf rfl
    · intro h
      exact ⟨h [] y l rfl, fun pre x suf e => hk pre ▸ h (y :: pre) x suf (by rw [e]; rfl)⟩

theorem nodup_of_map {α β : Type} (f : α → β) {l : List α} (h : (l.map f).Nodup) : l.Nodup := by
  unfold List.Nodup at *
  rw [List.pairwise_map] at h
  exact h.imp (fun hne e => hne (congrArg f e))

variable {α β : Type}

theorem mapM_cons_eq_some {σ : α → Option β} {x : α} {a : List α} {vs : List β} :
    (x :: a).mapM σ = some vs ↔ ∃ v ws, σ x = some v ∧ a.mapM σ = some ws ∧ vs = v :: ws := by
  rw [List.mapM_cons]
  cases hx : σ x with
  | none => simp
  | some v =>
    cases ha : a.mapM σ with
    | none => simp
    | some ws => simp [eq_comm]

theorem mapM_bound {σ : α → Option β} {a : List α} : ∀ {vs : List β}, a.mapM σ = some vs → ∀ x ∈ a, σ x ≠ none := by
  induction a with
  | nil => exact fun _ _ hx => absurd hx List.not_mem_nil
  | cons y a ih =>
    intro _ h x hx
    obtain ⟨v, ws, hy, ha, _⟩ := mapM_cons_eq_some.1 h
    rcases List.mem_cons.1 hx with rfl | hx
    · rw [hy]; exact Option.some_ne_none v
    · exact ih ha x hx

theorem mapM_some_of_bound {σ : α → Option β} (a : List α) : (∀ x ∈ a, σ x ≠ none) →
    ∃ vs, a.mapM σ = some vs ∧ vs.length = a.length := by
  induction a with
  | nil => exact fun _ => ⟨[], rfl, rfl⟩
  | cons x a ih =>
    intro h
    obtain ⟨vs, hvs, hl⟩ := ih fun y hy => h y (List.mem_cons_of_mem _ hy)
    obtain ⟨v, hv⟩ := Option.ne_none_iff_exists'.1 (h x List.mem_cons_self)
    exact ⟨v :: vs, mapM_cons_eq_some.2 ⟨v, vs, hv, hvs, rfl⟩, congrArg (· + 1) hl⟩

end Xdsl.EGraph
