import XdslModel.OpDef
import XdslProofs.C10Constraints
/-!
# C10 — the whole of `OpDef.verify`

"An operation defined with IRDL passes verification exactly when its operand, result, region and
successor lists can be split into the declared segments (…) and every piece, property and
attribute satisfies its constraint with consistent constraint variables."
-/
namespace Xdsl.OpDef

/-- the definition was accepted by `irdl_op_definition` -/
def WfOp (d : Def) : Prop :=
  wfDef d.operands.kinds d.operands.opt = true ∧ wfDef d.results.kinds d.results.opt = true ∧
  wfDef d.regions.kinds d.regions.opt = true ∧ wfDef d.successors.kinds d.successors.opt = true

/-- every constraint-carrying piece of the operation, in the order `OpDef.verify` visits them:
operand segments, result segments, entry-block arguments of the regions (segment by segment),
present properties, present attributes -/
def allPieces (d : Def) (o : Inst) (sO sR sG : List Nat) : List (RangeC × List Nat) :=
  piecesFrom sO o.operands d.operands.segs 0 ++ (piecesFrom sR o.results d.results.segs 0 ++
    (regionPiecesFrom sG o.regions d.regions.segs 0 ++
      (dictPieces d.props o.props ++ dictPieces d.attrs o.attrs)))

/-- **region verification** (`irdl_op_verify_regions`) succeeds exactly when the region list has a
valid segmentation, every region of a `single_block` segment has one block and the entry-block
arguments, segment by segment, pass their constraints in the shared context — and it never fails with
anything but a `VerifyException`. -/
theorem verifyRegions_iff (cd : ConstructDef) (rs : List RegionInst) (attr : SizeAttr) (ctx : Ctx)
    (wf : wfDef cd.kinds cd.opt = true) :
    (∀ ctx', verifyRegions cd rs attr ctx = .ok ctx' ↔
      ∃ sizes, Segmented cd rs.length attr sizes ∧ SingleBlockOk sizes rs cd.segs 0 ∧
        verifyPieces (regionPiecesFrom sizes rs cd.segs 0) ctx = some ctx')
    ∧ ∀ e, verifyRegions cd rs attr ctx = .error e → e = .verify := by
  exact sizeGuard_iff cd rs attr wf (verifyRegionsLoop cd.kinds cd.opt attr rs cd.segs 0 ctx)
    (fun sizes ctx' => SingleBlockOk sizes rs cd.segs 0 ∧
      verifyPieces (regionPiecesFrom sizes rs cd.segs 0) ctx = some ctx')
    (fun sizes hacc => verifyRegionsLoop_iff cd.kinds cd.opt attr rs sizes cd.segs 0 ctx fun j _ hj =>
      hacc j (by omega))

/-- **`OpDef.verify` passes exactly when** all four lists split into their declared segments,
`single_block` regions have one block, required properties/attributes are present, no undeclared
property is present, and the constraint checks on all pieces succeed in one shared context. -/
theorem verifyOp_iff (d : Def) (o : Inst) (wf : WfOp d) :
    verifyOp d o = .ok () ↔
      ∃ sO sR sG sS,
        Segmented d.operands o.operands.length o.operandAttr sO ∧
        Segmented d.results o.results.length o.resultAttr sR ∧
        Segmented d.regions o.regions.length o.regionAttr sG ∧
        Segmented d.successors o.successors o.succAttr sS ∧
        SingleBlockOk sG o.regions d.regions.segs 0 ∧
        RequiredPresent d.props o.props ∧
        (∀ kv ∈ o.props, ∃ pd ∈ d.props, pd.name = kv.1) ∧
        RequiredPresent d.attrs o.attrs ∧
        ∃ ctx', verifyPieces (allPieces d o sO sR sG) {} = some ctx' := by
  obtain ⟨wO, wR, wG, wS⟩ := wf
  have hunk : (o.props.any fun kv => !(d.props.any fun pd => pd.name == kv.1)) = false ↔
      ∀ kv ∈ o.props, ∃ pd ∈ d.props, pd.name = kv.1 := by
    simp only [List.any_eq_false, Bool.not_eq_true', List.any_eq_false, beq_iff_eq, not_forall, not_not,
      exists_prop]
  simp only [verifyOp_ok_iff, (verifyArgList_iff _ _ _ _ wO).1, (verifyArgList_iff _ _ _ _ wR).1,
    (verifyRegions_iff _ _ _ _ wG).1, verify_iff_segmentation _ _ _ _ wS, verifyDict_iff, hunk,
    allPieces, verifyPieces_append_some, Segmented]
  constructor
  · rintro ⟨c1, ⟨sO, vO, sumO, aO, pO⟩, c2, ⟨sR, vR, sumR, aR, pR⟩, c3, ⟨sG, segG, sbG, pG⟩, ⟨sS, segS⟩,
      c4, ⟨rP, pP⟩, hU, c5, rA, pA⟩
    exact ⟨sO, sR, sG, sS, ⟨vO, sumO, aO⟩, ⟨vR, sumR, aR⟩, segG, segS, sbG, rP, hU, rA,
      c5, c1, pO, c2, pR, c3, pG, c4, pP, pA⟩
  · rintro ⟨sO, sR, sG, sS, ⟨vO, sumO, aO⟩, ⟨vR, sumR, aR⟩, segG, segS, sbG, rP, hU, rA,
      c5, c1, pO, c2, pR, c3, pG, c4, pP, pA⟩
    exact ⟨c1, ⟨sO, vO, sumO, aO, pO⟩, c2, ⟨sR, vR, sumR, aR, pR⟩, c3, ⟨sG, segG, sbG, pG⟩, ⟨sS, segS⟩,
      c4, ⟨rP, pP⟩, hU, c5, rA, pA⟩

/-- every constraint of the definition declares its variables consistently -/
def DefWF (decl rdecl : Nat → BaseC) (d : Def) : Prop :=
  (∀ sd ∈ d.operands.segs, sd.constr.WF decl rdecl) ∧ (∀ sd ∈ d.results.segs, sd.constr.WF decl rdecl) ∧
  (∀ sd ∈ d.regions.segs, sd.constr.WF decl rdecl) ∧
  (∀ pd ∈ d.props, pd.constr.WF decl) ∧ (∀ ad ∈ d.attrs, ad.constr.WF decl)

/-- **the property's first sentence.**  For a definition accepted by `irdl_op_definition` whose
constraint variables are declared consistently, `OpDef.verify` passes exactly when the four lists
split into the declared segments (non-negative sizes matching the kinds, equal for same-size, equal
to the attribute for attribute-sized, summing to the list length), the structural side conditions
hold, and there is ONE assignment of the constraint variables under which every piece, property
and attribute satisfies its constraint. -/
theorem verifyOp_iff_assignment (decl rdecl : Nat → BaseC) (d : Def) (o : Inst) (wf : WfOp d)
    (wfc : DefWF decl rdecl d) :
    verifyOp d o = .ok () ↔
      ∃ sO sR sG sS,
        Segmented d.operands o.operands.length o.operandAttr sO ∧
        Segmented d.results o.results.length o.resultAttr sR ∧
        Segmented d.regions o.regions.length o.regionAttr sG ∧
        Segmented d.successors o.successors o.succAttr sS ∧
        SingleBlockOk sG o.regions d.regions.segs 0 ∧
        RequiredPresent d.props o.props ∧
        (∀ kv ∈ o.props, ∃ pd ∈ d.props, pd.name = kv.1) ∧
        RequiredPresent d.attrs o.attrs ∧
        ∃ σ : Assign, ∀ p ∈ allPieces d o sO sR sG, p.1.Sat σ p.2 := by
  have hwf : ∀ sO sR sG, ∀ p ∈ allPieces d o sO sR sG, p.1.WF decl rdecl := by
    intro sO sR sG p hp
    obtain ⟨w1, w2, w3, w4, w5⟩ := wfc
    simp only [allPieces, List.mem_append] at hp
    rcases hp with h | h | h | h | h
    · exact forall_piecesFrom _ _ _ _ w1 p h
    · exact forall_piecesFrom _ _ _ _ w2 p h
    · exact forall_regionPiecesFrom _ _ _ _ w3 p h
    · exact forall_dictPieces _ _ w4 p h
    · exact forall_dictPieces _ _ w5 p h
  simp only [verifyOp_iff d o wf, verifyPieces_iff_assignment decl rdecl _ (hwf _ _ _)]

/-- `OpDef.verify` on an accepted definition never leaves with a Python error from the accessors
(`IndexError`, `ZeroDivisionError` of the unrepaired code): the only failure is `VerifyException`. -/
theorem verifyOp_error_is_verify (d : Def) (o : Inst) (wf : WfOp d) (e : VErr)
    (h : verifyOp d o = .error e) : e = .verify := by
  obtain ⟨wO, wR, wG, -⟩ := wf
  rw [verifyOp_eq] at h
  exact bind_error (verifyArgList_iff _ _ _ _ wO).2 (fun c1 =>
    bind_error (verifyArgList_iff _ _ _ _ wR).2 fun c2 =>
    bind_error (verifyRegions_iff _ _ _ _ wG).2 fun c3 => liftV_error _) e h

def tag (r : Except VErr Unit) : Nat :=
  match r with
  | .ok _ => 0
  | .error .verify => 1
  | .error (.py _) => 2

/-- non-vacuity of `verifyOp_iff_assignment`: one variable `T` (declared `oneOf [1, 2]`) shared by an
operand, a variadic operand, a result and a property; sizes from `operandSegmentSizes`.
Accepted with `T = 1` everywhere; rejected when the property says `2`; rejected when the sizes do
not add up (this one was accepted before the repair). -/
def exDef : Def :=
  { operands := { opt := .attrSized, segs :=
      [{ kind := .single, constr := .single (.var 0 (.oneOf [1, 2])) },
       { kind := .variadic, constr := .rangeOf (.var 0 (.oneOf [1, 2])) }] },
    results := { segs := [{ kind := .single, constr := .single (.var 0 (.oneOf [1, 2])) }] },
    props := [{ name := 0, optional := false, constr := .var 0 (.oneOf [1, 2]) }] }

def exInst (sizes : List Int) (prop : Nat) : Inst :=
  { operands := [1, 1, 1]
    operandAttr := .dense true sizes
    results := [1]
    props := [(0, prop)] }

example : tag (verifyOp exDef (exInst [1, 2] 1)) = 0 ∧ tag (verifyOp exDef (exInst [1, 2] 2)) = 1
    ∧ tag (verifyOp exDef (exInst [1, 3] 1)) = 1 := by
  decide

example : WfOp exDef ∧ DefWF (fun _ => .oneOf [1, 2]) (fun _ => .any) exDef := by
  refine ⟨⟨rfl, rfl, rfl, rfl⟩, ?_, ?_, ?_, ?_, ?_⟩ <;> simp [exDef, RangeC.WF, AttrC.WF]

end Xdsl.OpDef
