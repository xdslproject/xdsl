import XdslModel.Sem
/-!
# Fuel monotonicity of the reference semantics `XdslModel/Sem.lean`

`Le a b` ("`a` is `b`, unless `a` ran out of fuel") is the information order on outcomes.  Every
function of the mutual block `runOps / runOp / runRegion / runBlock / runFor / runWhile / callFunc`
(which also covers `affine.for`, and — through the non-recursive `stateOp` — affine.apply/load/store,
memref and symref operations) is monotone in its fuel argument for this order: `MonoAt P n m` for all
`n ≤ m` (`mono_all`).  Proved by induction on the smaller fuel with the combined statement; one
`*_step` lemma per function.  No Mathlib.
-/
namespace Xdsl.SemMeta
open Xdsl.Sem Xdsl.MiniIR

def Le {α : Type} (a b : Res α) : Prop := a = .fuel ∨ a = b

theorem Le.refl {α : Type} (a : Res α) : Le a a := Or.inr rfl
theorem Le.fuel {α : Type} (b : Res α) : Le .fuel b := Or.inl rfl
theorem Le.trans {α : Type} {a b c : Res α} (h1 : Le a b) (h2 : Le b c) : Le a c := by
  rcases h1 with h | h
  · exact Or.inl h
  · subst h; exact h2
theorem Le.eq_of_ne {α : Type} {a b : Res α} (h : Le a b) (hne : a ≠ .fuel) : b = a := by
  rcases h with h | h
  · exact absurd h hne
  · exact h.symm

structure MonoAt (P : Prog) (n m : Nat) : Prop where
  ops : ∀ st ops, Le (runOps n P st ops) (runOps m P st ops)
  op : ∀ st o, Le (runOp n P st o) (runOp m P st o)
  region : ∀ st r args, Le (runRegion n P st r args) (runRegion m P st r args)
  block : ∀ st r b args, Le (runBlock n P st r b args) (runBlock m P st r b args)
  for_ : ∀ st body w i ub step iters,
    Le (runFor n P st body w i ub step iters) (runFor m P st body w i ub step iters)
  while_ : ∀ st b a args, Le (runWhile n P st b a args) (runWhile m P st b a args)
  call : ∀ st name args, Le (callFunc n P st name args) (callFunc m P st name args)

/-- use an induction hypothesis `t : Le x x'` for the sub-call `x` that the goal's left side matches on:
either `x` ran out of fuel (then so does the left side) or `x = x'` and both sides match on `x'`. -/
local macro "subcall " t:term : tactic =>
  `(tactic| (have hsub0 := $t; rcases hsub0 with hsub | hsub <;> rw [hsub] <;> try (first | exact Le.fuel _ | exact Le.refl _)))

theorem ops_step {P : Prog} {n m : Nat} (ih : MonoAt P n m) (st : St) (ops : List Op) :
    Le (runOps (n + 1) P st ops) (runOps (m + 1) P st ops) := by
  cases ops with
  | nil => rw [runOps.eq_2 _ _ _ (by omega), runOps.eq_2 _ _ _ (by omega)]; exact Le.refl _
  | cons o rest =>
    rw [runOps, runOps]
    subcall (ih.op st o)
    split
    · exact ih.ops _ _
    all_goals exact Le.refl _

theorem op_step {P : Prog} {n m : Nat} (ih : MonoAt P n m) (st : St) (o : Op) :
    Le (runOp (n + 1) P st o) (runOp (m + 1) P st o) := by
  rw [runOp, runOp]
  split
  · exact Le.refl _
  · exact Le.refl _
  · exact Le.refl _
  rename_i args _
  split
  -- return, yield, affine.yield, condition, br, cond_br make no sub-call
  iterate 6 exact Le.refl _
  · -- func.call
    split
    · rename_i callee _
      subcall (ih.call st callee args)
    · exact Le.refl _
  · -- scf.if
    split
    · split
      · rename_i rt re _ _ _ cb _
        subcall (ih.region st (if cb = true then rt else re) [])
      · exact Le.refl _
    · exact Le.refl _
  · -- scf.for
    split
    · split
      · split
        · exact Le.refl _
        · rename_i iters body _ _ _ _ _ w l _ u _ s _ _ _ _
          subcall (ih.for_ st body w l u s iters)
      · exact Le.refl _
    · exact Le.refl _
  · -- scf.while
    split
    · rename_i before after _
      subcall (ih.while_ st before after args)
    · exact Le.refl _
  · -- affine.for
    split
    · split
      · split
        · exact Le.refl _
        · rename_i body _ _ l u s inits _ _
          subcall (ih.for_ st body 64 l u s inits)
      all_goals exact Le.refl _
    · exact Le.refl _
  · -- every other operation: `stateOp` / `pureOp`
    exact Le.refl _

theorem region_step {P : Prog} {n m : Nat} (ih : MonoAt P n m) (st : St) (r : Region) (args : List Val) :
    Le (runRegion (n + 1) P st r args) (runRegion (m + 1) P st r args) := by
  rw [runRegion, runRegion]
  split
  · exact Le.refl _
  · exact ih.block _ _ _ _

theorem block_step {P : Prog} {n m : Nat} (ih : MonoAt P n m) (st : St) (r : Region) (b : Nat)
    (args : List Val) :
    Le (runBlock (n + 1) P st r b args) (runBlock (m + 1) P st r b args) := by
  rw [runBlock, runBlock]
  split
  · exact Le.refl _
  · split
    · rename_i blk _ _ st' _
      subcall (ih.ops st' blk.ops)
      split
      · exact ih.block _ _ _ _
      · exact Le.refl _
    · exact Le.refl _

theorem for_step {P : Prog} {n m : Nat} (ih : MonoAt P n m) (st : St) (body : Region) (w : Nat)
    (i ub step : Int) (iters : List Val) :
    Le (runFor (n + 1) P st body w i ub step iters) (runFor (m + 1) P st body w i ub step iters) := by
  rw [runFor, runFor]
  split
  · subcall (ih.region st body (.int w (BitVec.ofInt w i) :: iters))
    split
    · exact ih.for_ _ _ _ _ _ _ _
    all_goals exact Le.refl _
  · exact Le.refl _

theorem while_step {P : Prog} {n m : Nat} (ih : MonoAt P n m) (st : St) (before after : Region)
    (args : List Val) :
    Le (runWhile (n + 1) P st before after args) (runWhile (m + 1) P st before after args) := by
  rw [runWhile, runWhile]
  subcall (ih.region st before args)
  split
  · split
    · rename_i st' c vs _ _
      subcall (ih.region st' after vs)
      split
      · exact ih.while_ _ _ _ _
      all_goals exact Le.refl _
    · exact Le.refl _
  all_goals exact Le.refl _

theorem call_step {P : Prog} {n m : Nat} (ih : MonoAt P n m) (st : St) (name : String) (args : List Val) :
    Le (callFunc (n + 1) P st name args) (callFunc (m + 1) P st name args) := by
  rw [callFunc, callFunc]
  split
  · exact Le.refl _
  · split
    · exact Le.refl _
    · rename_i r _
      subcall (ih.region { env := [], eff := st.eff, sym := [], mem := st.mem } r args)

theorem monoAt_zero (P : Prog) (m : Nat) : MonoAt P 0 m where
  ops := fun _ _ => by rw [runOps]; exact Le.fuel _
  op := fun _ _ => by rw [runOp]; exact Le.fuel _
  region := fun _ _ _ => by rw [runRegion]; exact Le.fuel _
  block := fun _ _ _ _ => by rw [runBlock]; exact Le.fuel _
  for_ := fun _ _ _ _ _ _ _ => by rw [runFor]; exact Le.fuel _
  while_ := fun _ _ _ _ => by rw [runWhile]; exact Le.fuel _
  call := fun _ _ _ => by rw [callFunc]; exact Le.fuel _

theorem monoAt_succ {P : Prog} {n m : Nat} (ih : MonoAt P n m) : MonoAt P (n + 1) (m + 1) where
  ops := ops_step ih
  op := op_step ih
  region := region_step ih
  block := block_step ih
  for_ := for_step ih
  while_ := while_step ih
  call := call_step ih

theorem mono_all (P : Prog) : ∀ n m : Nat, n ≤ m → MonoAt P n m := by
  intro n
  induction n with
  | zero => intro m _; exact monoAt_zero P m
  | succ n ih =>
    intro m h
    cases m with
    | zero => omega
    | succ m => exact monoAt_succ (ih m (by omega))

end Xdsl.SemMeta
