import XdslProofs.Lemmas.X86Prologue
import XdslProofs.C21
/-!
C21 — the prologue/epilogue insertion step itself (model `insertPrologue` of the repaired
`X86PrologueEpilogueInsertion._process_function`, tied to the real pass by comparing its output with
the real output on every compiled function): for EVERY register-allocated body it (a) produces a frame
that restores "all callee-saved registers and the stack pointer", and (b) leaves "the result the
source program computes" untouched — including the loads of stack-passed arguments, which is where the
pinned tree went wrong.
-/
namespace Xdsl.X86

/-- every frame built by the pass has the balanced shape `frame_sound` needs -/
theorem insertPrologue_frameOk (body : List Instr) (hp : ∀ i ∈ body, plainInstr i = true) :
    frameOk (insertPrologue body) = true := by
  have hlen := usedCS_length body
  have h4 : RSP ∉ usedCS body := by
    intro h; have := (mem_usedCS.mp h).1; simp [calleeSaved, RSP] at this
  have := frameOk_shape (usedCS body) (body.map (rebase (usedCS body).length)) []
    (by simp [depthCap]; omega) h4 (plain_rebase_ok body hp _)
  simpa [insertPrologue] using this

/-- inserting the frame changes no register outside the callee-saved set (in particular not `rax`):
for every entry state, the function with the frame returns what the bare body returns. -/
theorem insertPrologue_preserves (body : List Instr) (hp : ∀ i ∈ body, plainInstr i = true) (σ : St) :
    ∃ σo σn, run (Instr.label :: body ++ [Instr.ret]) σ = some σo ∧
      run (insertPrologue body) σ = some σn ∧
      ∀ r, r ∉ calleeSaved → r ≠ RSP → σn.reg r = σo.reg r := by
  have hlen := usedCS_length body
  have hcs : ∀ x ∈ usedCS body, x ∈ calleeSaved := fun x hx => (mem_usedCS.mp hx).1
  generalize hu : usedCS body = used at hlen hcs
  have hrun_o : run (Instr.label :: body ++ [Instr.ret]) σ = some (retStep (exec body σ)) := by
    have := run_framed [] body [] (plain_regCode hp).ne_ret σ
    simp only [List.reverse_nil, List.map_nil, List.nil_append, List.append_nil] at this
    exact this
  have hrun_n : run (insertPrologue body) σ =
      some (retStep (exec (used.map Instr.push ++ body.map (rebase used.length)
        ++ used.reverse.map Instr.pop) σ)) := by
    simp only [insertPrologue, hu]
    exact run_framed used _ [] (bodyInstrOk_regCode fun i hi => (plain_rebase_ok body hp _ i hi).1).ne_ret σ
  refine ⟨_, _, hrun_o, hrun_n, ?_⟩
  intro r hr h4
  obtain ⟨p1, p2⟩ := exec_pushes used (Stk.entry σ (N := used.length) (by simp only [depthCap]; omega))
    (Nat.le_of_eq (Nat.zero_add _))
  have S1 := exec_sim body hp ⟨p2, Nat.zero_add _ ▸ p1⟩
  have hru : r ∉ used.reverse := by
    intro h; exact hr (hcs r (by simpa using h))
  simp only [retStep, setReg_reg, if_neg h4, exec_append]
  rw [exec_pops _ _ r hru h4, S1.regs r h4]

/-- the pass output satisfies the whole SysV frame obligation, for every body and entry state -/
theorem insertPrologue_restores (body : List Instr) (hp : ∀ i ∈ body, plainInstr i = true) (σ : St) :
    ∃ σ', run (insertPrologue body) σ = some σ' ∧ σ'.reg RSP = σ.reg RSP + 8 ∧
      ∀ r ∈ calleeSaved, σ'.reg r = σ.reg r := by
  obtain ⟨σ', h1, h2, h3, _⟩ := frame_sound _ (insertPrologue_frameOk body hp) σ
  exact ⟨σ', h1, h2, h3⟩

/-- **the pass as a whole**: if the register-allocated body computes the source function (certified by
the validator on the code *before* frame insertion), then the function *with* the inserted frame, from
every entry state, returns the source result in `rax`, restores `rbx, rbp, r12–r15` and leaves
`rsp` = entry `rsp` + 8. -/
theorem prologue_pass_correct (s : Src) (body : List Instr)
    (hv : validate s (Instr.label :: body ++ [Instr.ret]) = true)
    (hp : ∀ i ∈ body, plainInstr i = true) (σ : St) :
    ∃ σ', run (insertPrologue body) σ = some σ' ∧
      evalSrc s (fun i => trunc s.sz (argOf σ i)) = some (trunc s.sz (σ'.reg RAX)) ∧
      σ'.reg RSP = σ.reg RSP + 8 ∧ ∀ r ∈ calleeSaved, σ'.reg r = σ.reg r := by
  obtain ⟨σ₁, h₁, hres⟩ := validate_sound s _ hv σ
  obtain ⟨σo, σn, ho, hn, hsame⟩ := insertPrologue_preserves body hp σ
  obtain ⟨σ₂, h₂, hsp, hcs⟩ := insertPrologue_restores body hp σ
  have e1 : σ₁ = σo := by rw [h₁] at ho; exact Option.some.inj ho
  have e2 : σ₂ = σn := by rw [h₂] at hn; exact Option.some.inj hn
  subst e1 e2
  refine ⟨σ₂, h₂, ?_, hsp, hcs⟩
  rw [hsame RAX (by decide) (by decide)]
  exact hres

/-- the pinned behaviour (loads not rebased) is *not* result-preserving: `f(a0..a6) = a6` whose body
defines `rbx` — with the frame, the unrebased `[rsp+8]` is the return-address slot. -/
theorem unrebased_load_counterexample :
    ∃ σ σo σn, run [Instr.label, .load .q 3 8, .mov .q 0 3, .ret] σ = some σo ∧
      run [Instr.label, .push 3, .load .q 3 8, .mov .q 0 3, .pop 3, .ret] σ = some σn ∧
      σn.reg RAX ≠ σo.reg RAX := by
  refine ⟨enter [0, 0, 0, 0, 0, 0, 5] [], _, _, rfl, rfl, ?_⟩
  decide +kernel

example : insertPrologue [.load .q 3 8, .mov .q 0 3]
    = [.label, .push 3, .load .q 3 16, .mov .q 0 3, .pop 3, .ret] := by decide +kernel

end Xdsl.X86
