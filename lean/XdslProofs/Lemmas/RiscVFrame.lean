import XdslProofs.Lemmas.RiscV
/-!
For `XdslProofs/C22Frame.lean`: the frame as a list of slots (`slots rs k`: register `r` of the saved list sits in word
`j` of the frame, at `slotAddr sp j`), slot addresses aligned and pairwise distinct, and what the store loop of the
prologue and the load loop of the epilogue do to such a frame (`stores_spec`, `loads_spec`).
-/
namespace Xdsl.RiscV

def slotAddr (sp : W) (j : Nat) : W := sp + imm32 ((4 * j : Nat) : Int)

def slots : List Reg → Nat → List (Reg × Nat)
  | [], _ => []
  | r :: rs, k => (r, k) :: slots rs (k + 1)

theorem slots_bound {rs : List Reg} {k : Nat} {r : Reg} {j : Nat} (h : (r, j) ∈ slots rs k) :
    k ≤ j ∧ j < k + rs.length ∧ r ∈ rs := by
  induction rs generalizing k with
  | nil => simp [slots] at h
  | cons a rs ih =>
    simp only [slots, List.mem_cons, Prod.mk.injEq] at h
    rcases h with ⟨h1, h2⟩ | h
    · subst h1; subst h2; simp
    · have := ih h
      simp only [List.length_cons, List.mem_cons]
      exact ⟨by omega, by omega, Or.inr this.2.2⟩

theorem mem_slots {rs : List Reg} (k : Nat) {r : Reg} (h : r ∈ rs) : ∃ j, (r, j) ∈ slots rs k := by
  induction rs generalizing k with
  | nil => cases h
  | cons a rs ih =>
    simp only [List.mem_cons] at h
    rcases h with rfl | h
    · exact ⟨k, by simp [slots]⟩
    · obtain ⟨j, hj⟩ := ih (k + 1) h
      exact ⟨j, by simp [slots, hj]⟩

theorem aligned_slot (sp : W) (j : Nat) (h : aligned sp = true) : aligned (slotAddr sp j) = true :=
  aligned_add h (aligned_imm32 (by omega))

/-- `1073741824 = 2^30` words: `4 * j` stays below `2^32`, so slot addresses do not wrap onto each other -/
theorem slot_inj (sp : W) (j k : Nat) (hj : j < 1073741824) (hk : k < 1073741824)
    (h : slotAddr sp j = slotAddr sp k) : j = k := by
  have := add_imm32_inj sp (by omega) (by omega) (by omega) (by omega) h
  omega

theorem get_of_regs {a b : St} (h : a.regs = b.regs) (r : Reg) : a.get r = b.get r := by
  unfold St.get; rw [h]

@[simp] theorem store_regs (s : St) (a v : W) : (s.store a v).regs = s.regs := rfl

theorem store_mem (s : St) (a v x : W) : (s.store a v).mem x = if x = a then v else s.mem x := rfl

theorem stores_spec (rs : List Reg) : ∀ (k : Nat) (s : St), aligned (s.get SP) = true →
    k + rs.length ≤ 1073741824 →
    ∃ s', exec (frameStores rs k) s = some s' ∧ s'.regs = s.regs ∧
      (∀ r j, (r, j) ∈ slots rs k → s'.mem (slotAddr (s.get SP) j) = s.get r) ∧
      (∀ x, (∀ j, k ≤ j → j < k + rs.length → x ≠ slotAddr (s.get SP) j) → s'.mem x = s.mem x) := by
  induction rs with
  | nil =>
    intro k s _ _
    exact ⟨s, rfl, rfl, by simp [slots], fun _ _ => rfl⟩
  | cons r rs ih =>
    intro k s hal hk
    simp only [List.length_cons] at hk
    have hal' : aligned (s.get SP + imm32 ((4 * k : Nat) : Int)) = true := aligned_slot _ k hal
    let s1 := s.store (slotAddr (s.get SP) k) (s.get r)
    have hget : ∀ x, s1.get x = s.get x := fun x => get_of_regs (by simp [s1]) x
    obtain ⟨s', he, hr, hm, hfr⟩ := ih (k + 1) s1 (by rw [hget]; exact hal) (by omega)
    refine ⟨s', ?_, ?_, ?_, ?_⟩
    · simp only [frameStores, exec_cons, exec1, hal', if_true, Option.bind]
      exact he
    · rw [hr]; simp [s1]
    · intro r' j hj
      simp only [slots, List.mem_cons, Prod.mk.injEq] at hj
      rcases hj with ⟨h1, h2⟩ | hj
      · subst h1; subst h2
        rw [hfr]
        · simp [s1, store_mem]
        · intro j hj1 hj2 heq
          rw [hget] at heq
          have := slot_inj _ _ _ (by omega) (by omega) heq
          omega
      · have := hm r' j hj
        rw [hget, hget] at this
        exact this
    · intro x hx
      rw [hfr]
      · have : x ≠ slotAddr (s.get SP) k := hx k (Nat.le_refl _) (by simp)
        simp [s1, store_mem, this]
      · intro j hj1 hj2
        rw [hget]
        exact hx j (by omega) (by simp only [List.length_cons]; omega)

theorem loads_spec (rs : List Reg) : ∀ (k : Nat) (u : St) (v : Reg → W), aligned (u.get SP) = true →
    (∀ r ∈ rs, r ≠ 0 ∧ r ≠ SP) →
    (∀ r j, (r, j) ∈ slots rs k → u.mem (slotAddr (u.get SP) j) = v r) →
    ∃ u', exec (frameLoads rs k) u = some u' ∧ u'.mem = u.mem ∧ (∀ r ∈ rs, u'.get r = v r) ∧
      (∀ x, x ∉ rs → u'.get x = u.get x) := by
  induction rs with
  | nil =>
    intro k u v _ _ _
    exact ⟨u, rfl, rfl, by simp, fun _ _ => rfl⟩
  | cons r rs ih =>
    intro k u v hal hreg hmem
    have hr := hreg r (List.mem_cons_self)
    have hal' : aligned (u.get SP + imm32 ((4 * k : Nat) : Int)) = true := aligned_slot _ k hal
    let u1 := u.set r (u.mem (slotAddr (u.get SP) k))
    have hsp : u1.get SP = u.get SP := get_set_ne _ _ _ _ (fun e => hr.2 e.symm)
    obtain ⟨u', he, hm, hv, hfr⟩ := ih (k + 1) u1 v (by rw [hsp]; exact hal)
      (fun x hx => hreg x (List.mem_cons_of_mem _ hx))
      (by
        intro r' j hj
        rw [hsp]
        simp only [u1, set_mem]
        exact hmem r' j (by simp [slots, hj]))
    refine ⟨u', ?_, ?_, ?_, ?_⟩
    · simp only [frameLoads, exec_cons, exec1, hal', if_true, Option.bind]
      exact he
    · rw [hm]; simp [u1]
    · intro r' hr'
      -- a register listed again further on is reloaded there, with the same value
      by_cases hin : r' ∈ rs
      · exact hv r' hin
      · obtain rfl : r' = r := by simpa [hin] using hr'
        rw [hfr _ hin]
        simp only [u1]
        rw [get_set_same _ _ _ hr.1]
        exact hmem r' k (by simp [slots])
    · intro x hx
      simp only [List.mem_cons, not_or] at hx
      rw [hfr x hx.2]
      exact get_set_ne _ _ _ _ hx.1

theorem imm32_neg_add (n : Nat) :
    imm32 (-((4 * n : Nat) : Int)) + imm32 ((4 * n : Nat) : Int) = 0#32 := by
  rw [imm32_neg, BitVec.add_comm]
  exact BitVec.add_right_neg _

end Xdsl.RiscV
