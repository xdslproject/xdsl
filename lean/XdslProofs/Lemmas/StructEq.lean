import XdslModel.StructEq
import XdslProofs.Lemmas.AL
import XdslProofs.Lemmas.List
import XdslProofs.Lemmas.Bool
/-!
C03: the vocabulary of the property theorems (`Agree`, `Iso`, `WF`, `Scoped`, `Sep`) and their lemmas.
The walk `eqT` is characterised once, against an arbitrary map `f` and an arbitrary relation `R` on the
entries of the context (`Walk`, `eqT_walk`); the positional pairing (`eqT_main`) and the identity
(`eqT_refl`) are the two instances.  At the root, the context a successful walk leaves behind makes the
final step of the repaired code (`oneToOne`) the separation `Sep a b` (`oneToOne_iff_sep`), so `structEq`
is agreement under the positional map together with `Sep` (`structEq_iff_agree`), and that is `Iso`
(`iso_imp_agree`, `agree_imp_iso`).  Property theorems are in `XdslProofs/C03.lean`.
-/
namespace Xdsl.StructEq
open Xdsl

/-- Every field of the two trees agrees under the map `f` of values and blocks: operation names,
attribute and property dictionaries, result types, operands and successors (`f`-images), nested
regions, block argument types; and definitions correspond (`f` of a result / argument / block of
`a` is the result / argument / block at the same place of `b`). -/
def Agree (f : Nat → Nat) : T → T → Prop
  | .nil, .nil => True
  | .op h rs n, .op h' rs' n' =>
    h.name = h'.name ∧ h.attrs = h'.attrs ∧ h.props = h'.props
      ∧ tys h.results = tys h'.results ∧ (ids h.results).map f = ids h'.results
      ∧ h.operands.map f = h'.operands ∧ h.succs.map f = h'.succs
      ∧ Agree f rs rs' ∧ Agree f n n'
  | .block i a o n, .block i' a' o' n' =>
    f i = i' ∧ tys a = tys a' ∧ (ids a).map f = ids a' ∧ Agree f o o' ∧ Agree f n n'
  | .region bs n, .region bs' n' => Agree f bs bs' ∧ Agree f n n'
  | _, _ => False

/-- everything the tree mentions: its definitions and its references -/
def vals (a : T) : List Nat := defs a ++ uses a

/-- `a` and `b` are isomorphic: some map of values and blocks, the identity on everything that is
not defined inside `a` and one-to-one on everything `a` mentions, makes every field agree. -/
def Iso (a b : T) : Prop :=
  ∃ f : Nat → Nat, Agree f a b ∧ (∀ u, u ∉ defs a → f u = u)
    ∧ (∀ x ∈ vals a, ∀ y ∈ vals a, f x = f y → x = y)

/-- every object is defined at one place only (holds for every real object graph) -/
def WF (a : T) : Prop := (defs a).Nodup

/-- region scoping as the walk sees it (see `scopedB`) -/
def Scoped (a : T) : Prop := scopedRoot a = true

/-- what `a` takes from outside is not a definition of `b` -/
def Sep (a b : T) : Prop := ∀ u ∈ uses a, u ∉ defs a → u ∉ defs b

/-- same tree shape as far as definitions are concerned -/
def Shape : T → T → Prop
  | .nil, .nil => True
  | .op h rs n, .op h' rs' n' => h.results.length = h'.results.length ∧ Shape rs rs' ∧ Shape n n'
  | .block _ a o n, .block _ a' o' n' => a.length = a'.length ∧ Shape o o' ∧ Shape n n'
  | .region bs n, .region bs' n' => Shape bs bs' ∧ Shape n n'
  | _, _ => False

theorem Shape.ind {motive : (a b : T) → Shape a b → Prop}
    (nil : motive .nil .nil trivial)
    (op : ∀ h rs n h' rs' n' (hl : h.results.length = h'.results.length) (hr : Shape rs rs')
      (hn : Shape n n'), motive rs rs' hr → motive n n' hn →
      motive (.op h rs n) (.op h' rs' n') (And.intro hl (And.intro hr hn)))
    (block : ∀ i a o n i' a' o' n' (hl : a.length = a'.length) (ho : Shape o o') (hn : Shape n n'),
      motive o o' ho → motive n n' hn →
      motive (.block i a o n) (.block i' a' o' n') (And.intro hl (And.intro ho hn)))
    (region : ∀ bs n bs' n' (hb : Shape bs bs') (hn : Shape n n'), motive bs bs' hb → motive n n' hn →
      motive (.region bs n) (.region bs' n') (And.intro hb hn))
    (a b : T) (hs : Shape a b) : motive a b hs := by
  fun_induction Shape a b with
  | case1 => exact nil
  | case2 _ _ _ _ _ _ ihr ihn => exact op _ _ _ _ _ _ hs.1 hs.2.1 hs.2.2 (ihr _) (ihn _)
  | case3 _ _ _ _ _ _ _ _ iho ihn => exact block _ _ _ _ _ _ _ _ hs.1 hs.2.1 hs.2.2 (iho _) (ihn _)
  | case4 _ _ _ _ ihb ihn => exact region _ _ _ _ hs.1 hs.2 (ihb _) (ihn _)
  | case5 => simp [Shape, *] at hs

theorem shape_symm {a b : T} (hs : Shape a b) : Shape b a := by
  induction a, b, hs using Shape.ind with
  | nil => trivial
  | op _ _ _ _ _ _ hl _ _ ihr ihn => exact ⟨hl.symm, ihr, ihn⟩
  | block _ _ _ _ _ _ _ _ hl _ _ iho ihn => exact ⟨hl.symm, iho, ihn⟩
  | region _ _ _ _ _ _ ihb ihn => exact ⟨ihb, ihn⟩

theorem shape_refl (a : T) : Shape a a := by
  induction a with
  | nil => trivial
  | op _ _ _ ihr ihn => exact ⟨rfl, ihr, ihn⟩
  | block _ _ _ _ iho ihn => exact ⟨rfl, iho, ihn⟩
  | region _ _ ihb ihn => exact ⟨ihb, ihn⟩

theorem nodup_iff (l : List Nat) : nodup l = true ↔ l.Nodup := by
  induction l with
  | nil => simp [nodup]
  | cons x xs ih => simp [nodup, ih, List.nodup_cons]

instance (a : T) : Decidable (WF a) := decidable_of_iff (nodup (defs a) = true) (nodup_iff _)

instance (a : T) : Decidable (Scoped a) := inferInstanceAs (Decidable (scopedRoot a = true))

theorem typesOk_iff (xs ys : List (Nat × Nat)) : typesOk xs ys = true ↔ tys xs = tys ys := by
  induction xs generalizing ys with
  | nil => cases ys <;> simp [typesOk, tys]
  | cons x xs ih =>
    cases ys with
    | nil => simp [typesOk, tys]
    | cons y ys => simpa [typesOk, tys] using fun _ => ih ys

theorem tys_length {xs ys : List (Nat × Nat)} (h : tys xs = tys ys) : xs.length = ys.length := by
  simpa [tys] using congrArg List.length h

theorem zipIds_eq_zip (xs ys : List (Nat × Nat)) : zipIds xs ys = (ids xs).zip (ids ys) := by
  induction xs generalizing ys with
  | nil => simp [zipIds, ids]
  | cons x xs ih =>
    cases ys with
    | nil => simp [zipIds, ids]
    | cons y ys => exact congrArg ((x.1, y.1) :: ·) (ih ys)

theorem ids_length (xs : List (Nat × Nat)) : (ids xs).length = xs.length := List.length_map _

theorem zipIds_map {f : Nat → Nat} {xs ys : List (Nat × Nat)} (h : xs.length = ys.length) :
    (∀ p ∈ zipIds xs ys, f p.1 = p.2) ↔ (ids xs).map f = ids ys := by
  rw [zipIds_eq_zip, forall_zip_iff_map (by simp [ids_length, h])]

theorem get_append (l1 l2 : AL Nat Nat) (k : Nat) :
    AL.get (l1 ++ l2) k = match AL.get l1 k with | some v => some v | none => AL.get l2 k := by
  induction l1 with
  | nil => simp
  | cons p r ih =>
    obtain ⟨a, b⟩ := p
    simp only [List.cons_append, AL.get_cons]
    split <;> simp_all

theorem lookup_of_get {c : Ctx} {k v : Nat} (h : AL.get c k = some v) : lookup c k = v := by
  simp [lookup, h]

theorem lookup_of_none {c : Ctx} {k : Nat} (h : AL.get c k = none) : lookup c k = k := by
  simp [lookup, h]

theorem isImage_iff {c : Ctx} {x : Nat} : isImage c x = true ↔ ∃ k, AL.get c k = some x := by
  simp only [isImage, List.any_eq_true, Bool.and_eq_true, beq_iff_eq]
  constructor
  · rintro ⟨q, _, h1, h2⟩
    exact ⟨q.1, h2 ▸ h1⟩
  · rintro ⟨k, hk⟩
    exact ⟨(k, x), AL.mem_of_get_some hk, hk, rfl⟩

theorem oneToOne_iff {c : Ctx} {a : T} :
    oneToOne c a = true ↔ ∀ u ∈ uses a, AL.get c u = none → ¬ ∃ k, AL.get c k = some u := by
  simp only [oneToOne, List.all_eq_true, or_not_imp, ← isImage_iff, ← Option.not_isSome_iff_eq_none,
    Decidable.not_imp_not]

def PId (c : Ctx) : Prop := ∀ k x, AL.get c k = some x → x = k

theorem oneToOne_pid {c : Ctx} (hc : PId c) (a : T) : oneToOne c a = true := by
  rw [oneToOne_iff]
  rintro u _ hn ⟨k, hk⟩
  obtain rfl := hc k u hk
  simp [hk] at hn

/-! ## Registration: what the context holds

The walk stores pairs taken from `pairs` and looks uses up.  What it maintains is said for an
arbitrary relation `R` between a key and its entry, so that the comparison against the positional
pairing (`R k x := p[k] = x`) and reflexivity (`R k x := x = k`) are instances of one statement;
each registration loop keeps it, by the loop's own recursion. -/

def Reg (c : Ctx) (k : Nat) : Prop := AL.get c k ≠ none

/-- every entry of `c` is an entry of `p`: the field `entries` of `Inv R r c` for `R k x := p[k] = x` -/
def Sub (c p : Ctx) : Prop := ∀ k x, AL.get c k = some x → AL.get p k = some x

structure Inv (R : Nat → Nat → Prop) (r : List Nat) (c : Ctx) : Prop where
  entries : ∀ k x, AL.get c k = some x → R k x
  reg : ∀ k ∈ r, Reg c k

namespace Inv
variable {R : Nat → Nat → Prop} {r r' : List Nat} {c : Ctx}

theorem mono (h : Inv R r c) (hr : r' ⊆ r) : Inv R r' c := ⟨h.entries, fun k hk => h.reg k (hr hk)⟩

theorem set {x y : Nat} (h : Inv R r c) (hxy : R x y) : Inv R (r ++ [x]) (AL.set c x y) := by
  refine ⟨fun k v hk => ?_, fun k hk => ?_⟩
  · rcases AL.get_set_eq_some.mp hk with ⟨rfl, rfl⟩ | ⟨_, hk⟩
    · exact hxy
    · exact h.entries k v hk
  · unfold Reg
    rw [AL.get_set]
    split
    · simp
    · rename_i ne
      exact h.reg k ((List.mem_append.mp hk).resolve_right fun hx => ne (List.mem_singleton.mp hx))

/-- equal lengths: `zip` truncates, and every id of `xs` has to end up registered -/
theorem regVals {xs ys : List (Nat × Nat)} (h : Inv R r c) (hl : xs.length = ys.length)
    (hp : ∀ q ∈ zipIds xs ys, R q.1 q.2) : Inv R (r ++ ids xs) (regVals xs ys c) := by
  induction xs generalizing ys r c with
  | nil => simpa [StructEq.regVals, ids] using h
  | cons x xs ih =>
    cases ys with
    | nil => cases hl
    | cons y ys =>
      obtain ⟨x, _⟩ := x
      obtain ⟨y, _⟩ := y
      simp only [zipIds, List.forall_mem_cons] at hp
      exact (ih (h.set hp.1) (Nat.succ.inj hl) hp.2).mono (by simp [ids])

theorem preOps {o o' : T} (hs : Shape o o') : ∀ {r c}, Inv R r c →
    (∀ q ∈ pairs o o', R q.1 q.2) → Inv R (r ++ preKeysOps o) (preOps o o' c) := by
  induction o, o', hs using Shape.ind with
  | op h _ n h' _ n' hl _ _ _ ihn =>
    intro r c hc hp
    simp only [pairs, List.forall_mem_append] at hp
    exact (ihn (hc.regVals hl hp.1) hp.2.2).mono (by simp [preKeysOps])
  | _ => intro r c hc _; exact hc.mono (by simp [preKeysOps])

theorem addBlock {i i' : Nat} {a a' : List (Nat × Nat)} {o o' : T} (hc : Inv R r c)
    (hl : a.length = a'.length) (ho : Shape o o') (hi : R i i')
    (ha : ∀ q ∈ zipIds a a', R q.1 q.2) (hpo : ∀ q ∈ pairs o o', R q.1 q.2) :
    Inv R (r ++ (i :: (ids a ++ preKeysOps o))) (addBlock i a o i' a' o' c) :=
  (preOps ho ((hc.set hi).regVals hl ha) hpo).mono (by simp)

theorem preBlocks {b b' : T} (hs : Shape b b') : ∀ {r c}, Inv R r c →
    (∀ q ∈ pairs b b', R q.1 q.2) → Inv R (r ++ preKeysBlocks b) (preBlocks b b' c) := by
  induction b, b', hs using Shape.ind with
  | block i a o n i' a' o' n' hl ho _ _ ihn =>
    intro r c hc hp
    simp only [pairs, List.forall_mem_cons, List.forall_mem_append] at hp
    exact (ihn (hc.addBlock hl ho hp.1 hp.2.1 hp.2.2.1) hp.2.2.2).mono (by simp [preKeysBlocks])
  | _ => intro r c hc _; exact hc.mono (by simp [preKeysBlocks])

theorem lookup {f : Nat → Nat} (hR : ∀ k x, R k x → f k = x) {u : Nat} (h : Inv R r c)
    (hu : u ∈ r ∨ f u = u) : lookup c u = f u := by
  cases hc : AL.get c u with
  | some x => rw [lookup_of_get hc, hR u x (h.entries u x hc)]
  | none => rw [lookup_of_none hc, hu.resolve_left fun hr => h.reg u hr hc]

end Inv

theorem shape_defs_length {a b : T} (hs : Shape a b) : (defs a).length = (defs b).length := by
  induction a, b, hs using Shape.ind with
  | nil => rfl
  | op _ _ _ _ _ _ hl _ _ ihr ihn => simp only [defs, List.length_append, ids_length, hl, ihr, ihn]
  | block _ _ _ _ _ _ _ _ hl _ _ iho ihn =>
    simp only [defs, List.length_cons, List.length_append, ids_length, hl, iho, ihn]
  | region _ _ _ _ _ _ ihb ihn => simp only [defs, List.length_append, ihb, ihn]

theorem pairs_eq_zip {a b : T} (hs : Shape a b) : pairs a b = (defs a).zip (defs b) := by
  induction a, b, hs using Shape.ind with
  | nil => rfl
  | op h _ _ h' _ _ hl hr _ ihr ihn =>
    rw [pairs, defs, defs, List.zip_append ((ids_length _).trans (hl.trans (ids_length _).symm)),
      List.zip_append (shape_defs_length hr), zipIds_eq_zip, ihr, ihn]
  | block _ a _ _ _ a' _ _ hl ho _ iho ihn =>
    rw [pairs, defs, defs, List.zip_cons_cons,
      List.zip_append ((ids_length _).trans (hl.trans (ids_length _).symm)),
      List.zip_append (shape_defs_length ho), zipIds_eq_zip, iho, ihn]
  | region _ _ _ _ hb _ ihb ihn =>
    rw [pairs, defs, defs, List.zip_append (shape_defs_length hb), ihb, ihn]

theorem pairs_map_iff {f : Nat → Nat} {a b : T} (hs : Shape a b) :
    (∀ q ∈ pairs a b, f q.1 = q.2) ↔ (defs a).map f = defs b := by
  rw [pairs_eq_zip hs, forall_zip_iff_map (shape_defs_length hs)]

theorem shape_pairs_fst {a b : T} (hs : Shape a b) : (pairs a b).map Prod.fst = defs a := by
  rw [pairs_eq_zip hs, List.map_fst_zip (Nat.le_of_eq (shape_defs_length hs))]

theorem shape_pairs_snd {a b : T} (hs : Shape a b) : (pairs a b).map Prod.snd = defs b := by
  rw [pairs_eq_zip hs, List.map_snd_zip (Nat.le_of_eq (shape_defs_length hs).symm)]

theorem pairs_self (a : T) : ∀ q ∈ pairs a a, q.2 = q.1 := fun q hq =>
  ((pairs_map_iff (f := id) (shape_refl a)).mpr (List.map_id _) q hq).symm

/-! ## `Agree f a b` says that `b` is `a` renamed by `f` -/

theorem ids_mapIds (f : Nat → Nat) (l : List (Nat × Nat)) : ids (mapIds f l) = (ids l).map f := by
  simp [ids, mapIds, List.map_map, Function.comp_def]

theorem mapIds_eq_iff {f : Nat → Nat} {l l' : List (Nat × Nat)} :
    mapIds f l = l' ↔ tys l = tys l' ∧ (ids l).map f = ids l' := by
  induction l generalizing l' with
  | nil => cases l' <;> simp [mapIds, tys, ids]
  | cons x l ih =>
    cases l' with
    | nil => simp [mapIds, tys]
    | cons y l' =>
      have := ih (l' := l')
      simp only [mapIds, tys, ids] at this
      simp only [mapIds, tys, ids, List.map_cons, List.cons.injEq, this, Prod.ext_iff]
      constructor
      · rintro ⟨⟨a, b⟩, c, d⟩; exact ⟨⟨b, c⟩, a, d⟩
      · rintro ⟨⟨b, c⟩, a, d⟩; exact ⟨⟨a, b⟩, c, d⟩

theorem agree_iff_mapT {f : Nat → Nat} {a b : T} : Agree f a b ↔ mapT f a = b := by
  induction a generalizing b with
  | nil => cases b <;> simp [Agree, mapT]
  | op h rs n ihr ihn =>
    cases b <;> simp only [Agree, mapT, T.op.injEq, reduceCtorEq]
    rename_i h' rs' n'
    obtain ⟨_, _, _, _, _, _⟩ := h'
    simp only [OpHdr.mk.injEq, mapIds_eq_iff, ihr, ihn]
    constructor
    · rintro ⟨a1, a2, a3, a4, a5, a6, a7, a8, a9⟩; exact ⟨⟨a1, a6, ⟨a4, a5⟩, a2, a3, a7⟩, a8, a9⟩
    · rintro ⟨⟨a1, a6, ⟨a4, a5⟩, a2, a3, a7⟩, a8, a9⟩; exact ⟨a1, a2, a3, a4, a5, a6, a7, a8, a9⟩
  | block i a o n iho ihn =>
    cases b <;> simp only [Agree, mapT, T.block.injEq, reduceCtorEq, mapIds_eq_iff, iho, ihn, and_assoc]
  | region bs n ihb ihn =>
    cases b <;> simp only [Agree, mapT, T.region.injEq, reduceCtorEq, ihb, ihn]

theorem agree_mapT (f : Nat → Nat) (a : T) : Agree f a (mapT f a) := agree_iff_mapT.mpr rfl

theorem mapIds_congr {f g : Nat → Nat} {l : List (Nat × Nat)} (h : ∀ u ∈ ids l, f u = g u) :
    mapIds f l = mapIds g l :=
  List.map_congr_left fun p hp => by rw [h p.1 (List.mem_map_of_mem hp)]

theorem mapT_congr {f g : Nat → Nat} (a : T) (hd : ∀ u ∈ defs a, f u = g u)
    (hu : ∀ u ∈ uses a, f u = g u) : mapT f a = mapT g a := by
  induction a with
  | nil => rfl
  | op h rs n ihr ihn =>
    simp only [defs, uses, List.forall_mem_append] at hd hu
    simp only [mapT, mapIds_congr hd.1, List.map_congr_left hu.1, List.map_congr_left hu.2.1,
      ihr hd.2.1 hu.2.2.1, ihn hd.2.2 hu.2.2.2]
  | block i a o n iho ihn =>
    simp only [defs, uses, List.forall_mem_append, List.forall_mem_cons] at hd hu
    simp only [mapT, hd.1, mapIds_congr hd.2.1, iho hd.2.2.1 hu.1, ihn hd.2.2.2 hu.2]
  | region bs n ihb ihn =>
    simp only [defs, uses, List.forall_mem_append] at hd hu
    simp only [mapT, ihb hd.1 hu.1, ihn hd.2 hu.2]

theorem mapT_id (a : T) : mapT id a = a := by
  induction a with
  | nil => rfl
  | op h rs n ihr ihn => simp [mapT, mapIds, ihr, ihn]
  | block i a o n iho ihn => simp [mapT, mapIds, iho, ihn]
  | region bs n ihb ihn => simp [mapT, ihb, ihn]

theorem mapT_mapT (f g : Nat → Nat) (a : T) : mapT g (mapT f a) = mapT (g ∘ f) a := by
  induction a with
  | nil => rfl
  | op h rs n ihr ihn => simp [mapT, mapIds, ihr, ihn]
  | block i a o n iho ihn => simp [mapT, mapIds, iho, ihn]
  | region bs n ihb ihn => simp [mapT, ihb, ihn]

theorem mapT_inv {f g : Nat → Nat} (a : T) (hd : ∀ u ∈ defs a, g (f u) = u)
    (hu : ∀ u ∈ uses a, g (f u) = u) : mapT g (mapT f a) = a :=
  (mapT_mapT f g a).trans ((mapT_congr (f := g ∘ f) (g := id) a hd hu).trans (mapT_id a))

theorem uses_mapT (f : Nat → Nat) (a : T) : uses (mapT f a) = (uses a).map f := by
  induction a with
  | nil => rfl
  | op h rs n ihr ihn => simp only [mapT, uses, ihr, ihn, List.map_append]
  | block i a o n iho ihn => simp only [mapT, uses, iho, ihn, List.map_append]
  | region bs n ihb ihn => simp only [mapT, uses, ihb, ihn, List.map_append]

theorem defs_mapT (f : Nat → Nat) (a : T) : defs (mapT f a) = (defs a).map f := by
  induction a with
  | nil => rfl
  | op h rs n ihr ihn => simp only [mapT, defs, ihr, ihn, ids_mapIds, List.map_append]
  | block i a o n iho ihn => simp only [mapT, defs, iho, ihn, ids_mapIds, List.map_append, List.map_cons]
  | region bs n ihb ihn => simp only [mapT, defs, ihb, ihn, List.map_append]

theorem mapIds_length (f : Nat → Nat) (l : List (Nat × Nat)) : l.length = (mapIds f l).length :=
  (List.length_map _).symm

theorem shape_mapT (f : Nat → Nat) (a : T) : Shape a (mapT f a) := by
  induction a with
  | nil => trivial
  | op h rs n ihr ihn => exact ⟨mapIds_length f _, ihr, ihn⟩
  | block i a o n iho ihn => exact ⟨mapIds_length f _, iho, ihn⟩
  | region bs n ihb ihn => exact ⟨ihb, ihn⟩

theorem agree_shape {f : Nat → Nat} {a b : T} (h : Agree f a b) : Shape a b :=
  agree_iff_mapT.mp h ▸ shape_mapT f a

theorem agree_defs {f : Nat → Nat} {a b : T} (h : Agree f a b) : (defs a).map f = defs b :=
  agree_iff_mapT.mp h ▸ (defs_mapT f a).symm

theorem agree_uses {f : Nat → Nat} {a b : T} (h : Agree f a b) : (uses a).map f = uses b :=
  agree_iff_mapT.mp h ▸ (uses_mapT f a).symm

theorem agree_congr {f g : Nat → Nat} {a b : T} (hd : ∀ u ∈ defs a, f u = g u)
    (hu : ∀ u ∈ uses a, f u = g u) (h : Agree f a b) : Agree g a b :=
  agree_iff_mapT.mpr ((mapT_congr a hd hu).symm.trans (agree_iff_mapT.mp h))

theorem agree_symm {f g : Nat → Nat} {a b : T} (hd : ∀ u ∈ defs a, g (f u) = u)
    (hu : ∀ u ∈ uses a, g (f u) = u) (h : Agree f a b) : Agree g b a :=
  agree_iff_mapT.mpr (agree_iff_mapT.mp h ▸ mapT_inv a hd hu)

theorem agreeB_iff (f : Nat → Nat) (a b : T) : agreeB f a b = true ↔ Agree f a b := by
  fun_induction agreeB f a b with
  | case1 => simp [Agree]
  | case2 h rs n h' rs' n' ihr ihn => simp [Agree, ihr, ihn, and_assoc]
  | case3 i a o n i' a' o' n' iho ihn => simp [Agree, iho, ihn, and_assoc]
  | case4 bs n bs' n' ihb ihn => simp [Agree, ihb, ihn]
  | case5 => simp [Agree, *]

theorem eqT_op (h : OpHdr) (rs n : T) (h' : OpHdr) (rs' n' : T) (c : Ctx) :
    eqT (.op h rs n) (.op h' rs' n') c =
      if hdrOk h h' = true ∧ usesOk (regVals h.results h'.results c) h.operands h'.operands = true
          ∧ usesOk (regVals h.results h'.results c) h.succs h'.succs = true then
        (eqT rs rs' (regVals h.results h'.results c)).bind (eqT n n')
      else none := by
  simp only [eqT, Bool.and_eq_true]
  cases eqT rs rs' (regVals h.results h'.results c) <;>
    by_cases h1 : hdrOk h h' = true <;> simp [h1]

theorem eqT_block (i : Nat) (a : List (Nat × Nat)) (o n : T) (i' : Nat) (a' : List (Nat × Nat))
    (o' n' : T) (c : Ctx) :
    eqT (.block i a o n) (.block i' a' o' n') c =
      if typesOk a a' = true then (eqT o o' (addBlock i a o i' a' o' c)).bind (eqT n n')
      else none := by
  rw [eqT]
  cases eqT o o' (addBlock i a o i' a' o' c) <;> rfl

theorem eqT_region (bs n bs' n' : T) (c : Ctx) :
    eqT (.region bs n) (.region bs' n') c = (eqT bs bs' (preBlocks bs bs' c)).bind (eqT n n') := by
  rw [eqT]
  cases eqT bs bs' (preBlocks bs bs' c) <;> rfl

theorem hdrOk_iff (h h' : OpHdr) :
    hdrOk h h' = true ↔ h.name = h'.name ∧ h.attrs = h'.attrs ∧ h.props = h'.props
      ∧ tys h.results = tys h'.results := by
  simp [hdrOk, typesOk_iff, and_assoc]

theorem eqT_shape (a b : T) : ∀ (c c' : Ctx), eqT a b c = some c' → Shape a b := by
  fun_induction Shape a b with
  | case1 => intros; trivial
  | case2 h rs n h' rs' n' ihr ihn =>
    intro c c' he
    rw [eqT_op, Option.ite_none_right_eq_some, Option.bind_eq_some_iff] at he
    obtain ⟨hc, c2, e2, e3⟩ := he
    exact ⟨tys_length ((hdrOk_iff h h').mp hc.1).2.2.2, ihr _ _ e2, ihn _ _ e3⟩
  | case3 i a o n i' a' o' n' iho ihn =>
    intro c c' he
    rw [eqT_block, Option.ite_none_right_eq_some, Option.bind_eq_some_iff] at he
    obtain ⟨hc, c2, e2, e3⟩ := he
    exact ⟨tys_length ((typesOk_iff a a').mp hc), iho _ _ e2, ihn _ _ e3⟩
  | case4 bs n bs' n' ihb ihn =>
    intro c c' he
    rw [eqT_region, Option.bind_eq_some_iff] at he
    obtain ⟨c2, e2, e3⟩ := he
    exact ⟨ihb _ _ e2, ihn _ _ e3⟩
  | case5 => intro c c' he; simp [eqT, *] at he

theorem usesOk_iff {c : Ctx} {f : Nat → Nat} {us : List Nat} (us' : List Nat)
    (h : ∀ u ∈ us, lookup c u = f u) : usesOk c us us' = true ↔ us.map f = us' := by
  induction us generalizing us' with
  | nil => cases us' <;> simp [usesOk]
  | cons u us ih =>
    cases us' with
    | nil => simp [usesOk]
    | cons u' us' =>
      simp [usesOk, h u List.mem_cons_self, ih us' fun v hv => h v (List.mem_cons_of_mem _ hv)]

theorem scopedB_op (d r : List Nat) (h : OpHdr) (rs n : T) :
    scopedB d r (.op h rs n) = true ↔
      (∀ u ∈ h.operands ++ h.succs, u ∈ r ++ ids h.results ∨ u ∉ d)
        ∧ scopedB d (r ++ ids h.results) rs = true
        ∧ scopedB d (r ++ ids h.results ++ defs rs) n = true := by
  simp [scopedB, and_assoc, or_imp, forall_and]

theorem scopedB_nil (r : List Nat) (a : T) : scopedB [] r a = true := by
  induction a generalizing r <;> simp [scopedB, *]

/-- What the walk does on `s`, `s'` when `r` is registered: (1) a successful walk leaves a context
whose entries are in `R` and which has `r` and the definitions of `s` registered, and (2) the walk
succeeds iff the trees agree under `f`. -/
def Walk (R : Nat → Nat → Prop) (f : Nat → Nat) (r : List Nat) (s s' : T) : Prop :=
  ∀ c, Inv R r c → (∀ c', eqT s s' c = some c' → Inv R (r ++ defs s) c')
    ∧ ((∃ c', eqT s s' c = some c') ↔ Agree f s s')

/-- The body of every cell: the inner sequence, then the rest, which may rely on what the inner
walk has registered. -/
theorem Walk.seq {R : Nat → Nat → Prop} {f : Nat → Nat} {r₁ r₂ : List Nat} {s s' n n' : T}
    (hs : Walk R f r₁ s s') (hn : Walk R f r₂ n n') (hr : r₂ ⊆ r₁ ++ defs s) {c : Ctx}
    (hc : Inv R r₁ c) :
    (∀ c', (eqT s s' c).bind (eqT n n') = some c' → Inv R (r₂ ++ defs n) c')
      ∧ ((∃ c', (eqT s s' c).bind (eqT n n') = some c') ↔ Agree f s s' ∧ Agree f n n') := by
  obtain ⟨inv_s, iff_s⟩ := hs c hc
  cases e : eqT s s' c with
  | none =>
    have : ¬ Agree f s s' := fun h => by simpa [e] using iff_s.mpr h
    simp [this]
  | some c₂ =>
    have : Agree f s s' := iff_s.mp ⟨c₂, e⟩
    simpa [this] using hn c₂ ((inv_s c₂ e).mono hr)

theorem subset_pre (r k e d : List Nat) : r ++ (k ++ d) ⊆ r ++ (k ++ e) ++ d := by
  intro x
  simp only [List.mem_append]
  rintro (h | h | h) <;> simp [h]

theorem eqT_walk {R : Nat → Nat → Prop} {f : Nat → Nat} {d : List Nat}
    (hR : ∀ k x, R k x → f k = x) (hd : ∀ u, u ∉ d → f u = u) {s s' : T} (hs : Shape s s') :
    ∀ r : List Nat, (∀ q ∈ pairs s s', R q.1 q.2) → scopedB d r s = true → Walk R f r s s' := by
  induction s, s', hs using Shape.ind with
  | nil =>
    intro r _ _ c hc
    refine ⟨fun c' h => ?_, fun _ => trivial, fun _ => ⟨c, rfl⟩⟩
    obtain rfl : c = c' := Option.some.inj h
    rwa [defs, List.append_nil]
  | op h rs n h' rs' n' hl _ _ ihr ihn =>
    intro r hp hsc c hc
    simp only [pairs, List.forall_mem_append] at hp
    obtain ⟨hu, hsr, hsn⟩ := (scopedB_op _ _ _ _ _).mp hsc
    have h1 := hc.regVals hl hp.1
    have hlk : ∀ u ∈ h.operands ++ h.succs, lookup (regVals h.results h'.results c) u = f u :=
      fun u hu' => h1.lookup hR ((hu u hu').imp_right (hd u))
    have hres : (ids h.results).map f = ids h'.results :=
      (zipIds_map hl).mp fun q hq => hR _ _ (hp.1 q hq)
    obtain ⟨inv, iff⟩ := (ihr _ hp.2.1 hsr).seq (ihn _ hp.2.2 hsn) (List.Subset.refl _) h1
    simp only [eqT_op, Option.ite_none_right_eq_some, exists_and_left, iff, Agree, hdrOk_iff,
      usesOk_iff _ fun u hu' => hlk u (List.mem_append_left _ hu'),
      usesOk_iff _ fun u hu' => hlk u (List.mem_append_right _ hu')]
    refine ⟨fun c' hc' => (inv c' hc'.2).mono (by simp [defs]), ?_⟩
    constructor
    · rintro ⟨⟨⟨a1, a2, a3, a4⟩, a6, a7⟩, a8, a9⟩; exact ⟨a1, a2, a3, a4, hres, a6, a7, a8, a9⟩
    · rintro ⟨a1, a2, a3, a4, _, a6, a7, a8, a9⟩; exact ⟨⟨⟨a1, a2, a3, a4⟩, a6, a7⟩, a8, a9⟩
  | block i a o n i' a' o' n' hl ho _ iho ihn =>
    intro r hp hsc c hc
    simp only [pairs, List.forall_mem_cons, List.forall_mem_append] at hp
    simp only [scopedB, Bool.and_eq_true] at hsc
    have h1 := hc.addBlock hl ho hp.1 hp.2.1 hp.2.2.1
    have hargs : (ids a).map f = ids a' := (zipIds_map hl).mp fun q hq => hR _ _ (hp.2.1 q hq)
    obtain ⟨inv, iff⟩ := (iho _ hp.2.2.1 hsc.1).seq (ihn _ hp.2.2.2 hsc.2)
      (subset_pre r (i :: ids a) (preKeysOps o) (defs o)) h1
    simp only [eqT_block, Option.ite_none_right_eq_some, exists_and_left, iff, Agree, typesOk_iff]
    refine ⟨fun c' hc' => (inv c' hc'.2).mono (by simp [defs]), ?_⟩
    constructor
    · rintro ⟨a2, a4, a5⟩; exact ⟨hR _ _ hp.1, a2, hargs, a4, a5⟩
    · rintro ⟨_, a2, _, a4, a5⟩; exact ⟨a2, a4, a5⟩
  | region bs n bs' n' hb _ ihb ihn =>
    intro r hp hsc c hc
    simp only [pairs, List.forall_mem_append] at hp
    simp only [scopedB, Bool.and_eq_true] at hsc
    obtain ⟨inv, iff⟩ := (ihb _ hp.1 hsc.1).seq (ihn _ hp.2 hsc.2)
      (subset_pre r [] (preKeysBlocks bs) (defs bs)) (Inv.preBlocks hb hc hp.1)
    rw [eqT_region]
    exact ⟨fun c' hc' => (inv c' hc').mono (by simp [defs]), iff⟩

/-- against the positional pairing `p` of the two root trees: the context is part of `p`
(`Sub c p`), and what `p` has no key for is not defined in the compared trees -/
theorem eqT_main (p : Ctx) {s s' : T} (hs : Shape s s') (r : List Nat)
    (hp : ∀ q ∈ pairs s s', AL.get p q.1 = some q.2) (hsc : scopedB (p.map Prod.fst) r s = true) :
    Walk (fun k x => AL.get p k = some x) (lookup p) r s s' :=
  eqT_walk (R := fun k x => AL.get p k = some x) (f := lookup p) (fun _ _ => lookup_of_get)
    (fun _ hu => lookup_of_none (AL.get_eq_none_iff.mpr hu)) hs r hp hsc

/-- Reflexivity: under `id` every tree agrees with itself, and `id` moves nothing, so there is
nothing to scope (`d = []`); the walk from the empty context succeeds and leaves a context that
maps objects to themselves. -/
theorem eqT_refl (a : T) : ∃ c', eqT a a [] = some c' ∧ PId c' := by
  obtain ⟨inv, iff⟩ := eqT_walk (R := fun k x => x = k) (f := id) (d := []) (fun _ _ h => h.symm)
    (fun _ _ => rfl) (shape_refl a) [] (pairs_self a) (scopedB_nil _ _) []
    ⟨fun k x hk => by simp at hk, by simp⟩
  obtain ⟨c', e⟩ := iff.mpr (agree_iff_mapT.mpr (mapT_id a))
  exact ⟨c', e, (inv c' e).entries⟩

theorem pairs_get {a b : T} (hw : WF a) (hs : Shape a b) :
    ∀ q ∈ pairs a b, AL.get (pairs a b) q.1 = some q.2 := fun _ hq =>
  AL.get_of_mem_nodup (by rw [shape_pairs_fst hs]; exact hw) hq

/-- The context a successful walk from the empty context leaves behind (it is part of the
positional pairing and has every definition of `a` registered) has exactly the definitions of `a`
as keys and exactly the definitions of `b` as values, so the final one-to-one check of the code
is the separation `Sep a b`. -/
theorem oneToOne_iff_sep {a b : T} {c' : Ctx} (hw : WF a) (hs : Shape a b)
    (hsub : Sub c' (pairs a b)) (hreg : ∀ k ∈ defs a, Reg c' k) :
    oneToOne c' a = true ↔ Sep a b := by
  have hkey : ∀ u, AL.get c' u = none ↔ u ∉ defs a := by
    refine fun u => ⟨fun hn hd => hreg u hd hn, fun hd => ?_⟩
    cases hg : AL.get c' u with
    | none => rfl
    | some x =>
      have h2 : AL.get (pairs a b) u = none := by rwa [AL.get_eq_none_iff, shape_pairs_fst hs]
      rw [hsub u x hg] at h2
      cases h2
  have himg : ∀ x, (∃ k, AL.get c' k = some x) ↔ x ∈ defs b := by
    intro x
    rw [← shape_pairs_snd hs]
    constructor
    · rintro ⟨k, hk⟩
      exact List.mem_map.mpr ⟨(k, x), AL.mem_of_get_some (hsub k x hk), rfl⟩
    · intro hx
      obtain ⟨q, hq, rfl⟩ := List.mem_map.mp hx
      have hq1 : q.1 ∈ defs a := shape_pairs_fst hs ▸ List.mem_map_of_mem hq
      cases hg : AL.get c' q.1 with
      | none => exact absurd hg (hreg q.1 hq1)
      | some y =>
        have := (hsub q.1 y hg).symm.trans (pairs_get hw hs q hq)
        exact ⟨q.1, by rw [hg, this]⟩
  rw [oneToOne_iff]
  simp only [hkey, himg, Sep]

theorem structEq_iff_agree_of_shape {a b : T} (hw : WF a) (hsc : Scoped a) (hs : Shape a b) :
    structEq a b = true ↔ Agree (lookup (pairs a b)) a b ∧ Sep a b := by
  obtain ⟨inv, iff⟩ := eqT_main (pairs a b) hs [] (pairs_get hw hs)
    (by rw [shape_pairs_fst hs]; exact hsc) [] ⟨fun k x hk => by simp at hk, by simp⟩
  rw [← iff]
  unfold structEq
  cases e : eqT a b [] with
  | none => simp
  | some c' =>
    obtain ⟨hsub, hreg⟩ := inv c' e
    simp [oneToOne_iff_sep hw hs hsub fun k hk => hreg k (by simpa using hk)]

theorem structEq_shape {a b : T} (h : structEq a b = true) : Shape a b := by
  unfold structEq at h
  cases e : eqT a b [] with
  | none => simp [e] at h
  | some c' => exact eqT_shape a b [] c' e

theorem structEq_iff_agree {a b : T} (hw : WF a) (hsc : Scoped a) :
    structEq a b = true ↔ Agree (lookup (pairs a b)) a b ∧ Sep a b :=
  ⟨fun h => (structEq_iff_agree_of_shape hw hsc (structEq_shape h)).mp h,
    fun h => (structEq_iff_agree_of_shape hw hsc (agree_shape h.1)).mpr h⟩

theorem map_lookup_pairs {a b : T} (hw : WF a) (hs : Shape a b) :
    (defs a).map (lookup (pairs a b)) = defs b :=
  (pairs_map_iff hs).mp fun q hq => lookup_of_get (pairs_get hw hs q hq)

theorem lookup_pairs_defs {a b : T} (hw : WF a) (hs : Shape a b) {u : Nat} (hu : u ∈ defs a) :
    lookup (pairs a b) u ∈ defs b :=
  map_lookup_pairs hw hs ▸ List.mem_map_of_mem hu

theorem lookup_pairs_ext {a b : T} (hs : Shape a b) {u : Nat} (hu : u ∉ defs a) :
    lookup (pairs a b) u = u :=
  lookup_of_none (by rwa [AL.get_eq_none_iff, shape_pairs_fst hs])

/-- a witness of `Iso` and the positional map send the definitions of `a` to the same list, so
they are equal there; elsewhere both are the identity -/
theorem iso_imp_agree {a b : T} (hwa : WF a) :
    Iso a b → Agree (lookup (pairs a b)) a b ∧ Sep a b := by
  rintro ⟨f, hag, hid, hinj⟩
  have hs := agree_shape hag
  have hdef : ∀ u ∈ defs a, f u = lookup (pairs a b) u :=
    List.map_inj_left.mp ((agree_defs hag).trans (map_lookup_pairs hwa hs).symm)
  refine ⟨agree_congr hdef ?_ hag, ?_⟩
  · intro u _
    by_cases hd : u ∈ defs a
    · exact hdef u hd
    · rw [hid u hd, lookup_pairs_ext hs hd]
  · intro u hu hd hb
    rw [← agree_defs hag] at hb
    obtain ⟨v, hv, e⟩ := List.mem_map.mp hb
    have := hinj v (by simp [vals, hv]) u (by simp [vals, hu]) (e.trans (hid u hd).symm)
    exact hd (this ▸ hv)

theorem inj_of_split {f : Nat → Nat} {D V : List Nat} (hin : ∀ x ∈ D, ∀ y ∈ D, f x = f y → x = y)
    (hid : ∀ u, u ∉ D → f u = u) (hout : ∀ x ∈ D, ∀ y ∈ V, y ∉ D → f x ≠ y) :
    ∀ x ∈ V, ∀ y ∈ V, f x = f y → x = y := by
  intro x hx y hy e
  by_cases hxd : x ∈ D <;> by_cases hyd : y ∈ D
  · exact hin x hxd y hyd e
  · exact absurd (e.trans (hid y hyd)) (hout x hxd y hy hyd)
  · exact absurd (e.symm.trans (hid x hxd)) (hout y hyd x hx hxd)
  · rwa [hid x hxd, hid y hyd] at e

/-- The positional map is one-to-one on what `a` mentions: it sends definitions of `a` to
definitions of `b`, one-to-one because `b` defines each once, and fixes everything else, which
under `Sep` is not a definition of `b`. -/
theorem agree_imp_iso {a b : T} (hwa : WF a) (hwb : WF b) :
    Agree (lookup (pairs a b)) a b ∧ Sep a b → Iso a b := by
  rintro ⟨hag, hsep⟩
  have hs := agree_shape hag
  refine ⟨lookup (pairs a b), hag, fun u hu => lookup_pairs_ext hs hu,
    inj_of_split (inj_of_nodup_map _ _ ((agree_defs hag).symm ▸ hwb))
      (fun u hu => lookup_pairs_ext hs hu) fun x hx y hy hyd e => ?_⟩
  exact hsep y ((List.mem_append.mp hy).resolve_left hyd) hyd (e ▸ lookup_pairs_defs hwa hs hx)

theorem iso_iff_agree {a b : T} (hwa : WF a) (hwb : WF b) :
    Iso a b ↔ Agree (lookup (pairs a b)) a b ∧ Sep a b :=
  ⟨iso_imp_agree hwa, agree_imp_iso hwa hwb⟩

theorem sep_iff (a b : T) :
    (uses a).all (fun u => (defs a).contains u || !(defs b).contains u) = true ↔ Sep a b := by
  simp only [List.all_eq_true, or_not_imp, List.contains_iff_mem, Sep, Decidable.not_imp_not]

theorem agree_swap {a b : T} (hwb : WF b) (hsep : Sep a b)
    (hag : Agree (lookup (pairs a b)) a b) : Agree (lookup (pairs b a)) b a := by
  have hs := agree_shape hag
  have hs' := shape_symm hs
  have hdef : ∀ u ∈ defs a, lookup (pairs b a) (lookup (pairs a b) u) = u := by
    have e := map_lookup_pairs hwb hs'
    rw [← agree_defs hag, List.map_map] at e
    exact List.map_inj_left.mp (e.trans (List.map_id _).symm)
  refine agree_symm hdef (fun u hu => ?_) hag
  by_cases hd : u ∈ defs a
  · exact hdef u hd
  · rw [lookup_pairs_ext hs hd, lookup_pairs_ext hs' (hsep u hu hd)]

theorem iso_symm {a b : T} (hwa : WF a) (hwb : WF b) (h : Iso a b) : Iso b a := by
  obtain ⟨hag, hsep⟩ := iso_imp_agree hwa h
  have hs := agree_shape hag
  refine agree_imp_iso hwb hwa ⟨agree_swap hwb hsep hag, ?_⟩
  intro u hu hdb hda
  rw [← agree_uses hag] at hu
  obtain ⟨v, hv, rfl⟩ := List.mem_map.mp hu
  by_cases hvd : v ∈ defs a
  · exact hdb (lookup_pairs_defs hwa hs hvd)
  · rw [lookup_pairs_ext hs hvd] at hda
    exact hvd hda

theorem renId_mem {d : List Nat} {u : Nat} (ρ : Nat → Nat) (h : u ∈ d) : renId d ρ u = ρ u := by
  simp [renId, h]

theorem renId_not_mem {d : List Nat} {u : Nat} (ρ : Nat → Nat) (h : u ∉ d) : renId d ρ u = u := by
  simp [renId, h]

end Xdsl.StructEq
