import XdslProofs.Lemmas.DCEMiniMain
import XdslProofs.C13
/-!
The trivially-dead erasure of the rewrite walkers (`DCE.trivDel`, `DCE.triv`) preserves `Sem` (C13).

One sweep erases the operations that are `would_be_trivially_dead` and have no use at all.  Its MiniIR part
is the MiniIR part of `delA` with the live set "ids of the cells the sweep keeps" (`proj_trivA`,
`funcsOf_trivA`, `toProg_trivA`; `allBlocksB`: with this live set `delA` erases no block), so `delA_preserves`
of `Lemmas/DCEMiniMain.lean` applies; that an erased operation has no live user is immediate here
(`trivDead_spec`: it has no use).
-/
namespace Xdsl.DCEM
open Xdsl.DCE Xdsl.MiniIR Xdsl.Sem

variable {live : List Nat}

theorem toT_trivA (root : T) (a : AT) : toT (trivA root a) = trivDel root (toT a) := by
  induction a with
  | nil => rfl
  | op h m rs next ihr ihn =>
    simp only [trivA, toT_op, trivDel]
    split
    · exact ihn
    · simp [ihr, ihn]
  | block i args ops next iho ihn => simp [trivA, trivDel, iho, ihn]
  | region bs next ihb ihn => simp [trivA, trivDel, ihb, ihn]

theorem toT_trivLoopA : ∀ (fuel : Nat) (a : AT),
    toT (trivLoopA fuel a).1 = (trivLoop fuel (toT a)).1 ∧ (trivLoopA fuel a).2 = (trivLoop fuel (toT a)).2 := by
  intro fuel
  induction fuel with
  | zero => intro a; exact ⟨rfl, rfl⟩
  | succ fuel ih =>
    intro a
    simp only [trivLoopA, trivLoop, toT_trivA]
    split
    · exact ⟨rfl, rfl⟩
    · rw [← toT_trivA]; exact ih _

theorem cellsA_ids (a : AT) : (cellsA a).map (·.1.id) = allIds (toT a) := by
  rw [allIds, allHdrs_toT]; simp

theorem liveTr_iff (a : AT) (hnd : (allIds (toT a)).Nodup) : ∀ c ∈ cellsA a,
    (liveTr a).contains c.1.id = !trivDead (toT a) c.1 (toT c.2.2) := by
  intro c hc
  cases ht : trivDead (toT a) c.1 (toT c.2.2) with
  | false =>
    simp only [Bool.not_false, List.contains_eq_mem, decide_eq_true_eq, liveTr, List.mem_map, List.mem_filter]
    exact ⟨c, ⟨hc, by simp [ht]⟩, rfl⟩
  | true =>
    simp only [Bool.not_true, List.contains_eq_mem, decide_eq_false_iff_not, liveTr, List.mem_map, List.mem_filter]
    rintro ⟨c', ⟨hc', hk⟩, hid⟩
    have : c' = c := inj_of_nodup_map (fun c : Hdr × MHdr × AT => c.1.id) (cellsA a)
      (by rw [cellsA_ids]; exact hnd) c' hc' c hc hid
    subst this
    simp [ht] at hk

theorem proj_trivA (root : T) (a : AT) : ∀ (f : Bool) (mask : List Bool),
    (∀ c ∈ cellsA a, live.contains c.1.id = !trivDead root c.1 (toT c.2.2)) → allBlocksB live a f = true →
    proj (trivA root a) = proj (delA live a f mask) := by
  induction a with
  | nil => intro f mask _ _; rfl
  | op h m rs next ihr ihn =>
    intro f mask hl hb
    simp only [cellsA, List.mem_cons, List.mem_append] at hl
    simp only [allBlocksB, Bool.and_eq_true, not_or_imp] at hb
    have h0 := hl (h, m, rs) (Or.inl rfl)
    simp only at h0
    have en := ihn false mask (fun c hc => hl c (Or.inr (Or.inr hc))) hb.2
    cases ht : trivDead root h (toT rs) with
    | true =>
      rw [ht] at h0
      simp only [trivA, ht, if_true, delA, h0, Bool.not_true, Bool.false_eq_true, if_false]
      exact en
    | false =>
      rw [ht] at h0
      have hb1 : allBlocksB live rs true = true := hb.1 h0
      have er := ihr true [] (fun c hc => hl c (Or.inr (Or.inl hc))) hb1
      simp only [trivA, ht, Bool.false_eq_true, if_false, delA, h0, Bool.not_false, if_true, proj, er, en]
  | block i args ops next iho ihn =>
    intro f mask hl hb
    simp only [cellsA, List.mem_append] at hl
    simp only [allBlocksB, Bool.and_eq_true, Bool.or_eq_true] at hb
    have hk : (!f && !anyLiveA live ops) = false := by
      rcases hb.1.1 with h | h <;> simp [h]
    simp only [trivA, delA, hk, Bool.false_eq_true, if_false, proj,
      iho false mask (fun c hc => hl c (Or.inl hc)) hb.1.2, ihn false mask (fun c hc => hl c (Or.inr hc)) hb.2]
  | region bs next ihb ihn =>
    intro f mask hl hb
    simp only [cellsA, List.mem_append] at hl
    simp only [allBlocksB, Bool.and_eq_true] at hb
    simp only [trivA, delA, proj, ihb true (keepMaskA live bs true) (fun c hc => hl c (Or.inl hc)) hb.1,
      ihn true [] (fun c hc => hl c (Or.inr hc)) hb.2]

theorem funcsOf_congr (a : AT) : ∀ b, opsOf a = opsOf b → funcsOf a = funcsOf b := by
  have hnil : ∀ b, [] = opsOf b → [] = funcsOf b := fun b hb => by
    cases b <;> first | rfl | cases hb
  induction a with
  | nil => exact hnil
  | block _ _ _ _ _ _ => exact hnil
  | region _ _ _ _ => exact hnil
  | op h m rs next _ ihn =>
    intro b hb
    cases b with
    | op h' m' rs' next' =>
      simp only [opsOf_op, List.cons.injEq] at hb
      have hm : m = m' := by
        cases m; cases m'; simp only [mkOp, Op.mk.injEq] at hb; simp [hb.1]
      subst hm
      have hr : regionsOf rs = regionsOf rs' := congrArg Op.regions hb.1
      simp only [funcsOf, hr, ihn _ hb.2]
    | nil => cases hb
    | block _ _ _ _ => cases hb
    | region _ _ => cases hb

theorem funcsOf_trivA (root : T) (a : AT) (mask : List Bool)
    (hl : ∀ c ∈ cellsA a, live.contains c.1.id = !trivDead root c.1 (toT c.2.2)) (hb : allBlocksB live a false = true) :
    funcsOf (trivA root a) = funcsOf (delA live a false mask) :=
  funcsOf_congr _ _ (congrArg Prod.fst (proj_trivA root a false mask hl hb))

theorem toProg_trivA (root : T) (a : AT) (hmod : isModule a = true)
    (hl : ∀ c ∈ cellsA a, live.contains c.1.id = !trivDead root c.1 (toT c.2.2)) (hb : allBlocksB live a true = true) :
    toProg (trivA root a) = toProg (delA live a true []) := by
  obtain ⟨i, bargs, fops, rfl⟩ := isModule_eq hmod
  simp only [allBlocksB, Bool.and_eq_true] at hb
  have := funcsOf_trivA root fops (keepMaskA live (.block i bargs fops .nil) true)
    (fun c hc => hl c (by simp [cellsA, hc])) hb.1.1.2
  simp [toProg, topOps, trivA, delA, this]

/-- **one sweep of the trivially-dead erasure preserves `Sem`** (what it leaves refines the program): it is `delA`
with the ids of the operations the sweep keeps (`toProg_trivA`), and what it erases has no use at all -/
theorem trivA_preserves (a : AT) (hc : certTriv a = true) : Refines (toProg a) (toProg (trivA (toT a) a)) := by
  simp only [certTriv, Bool.and_eq_true] at hc
  obtain ⟨⟨⟨⟨⟨hmod, hnd⟩, hlink⟩, hblk⟩, hsucc⟩, htop⟩ := hc
  have hlive := liveTr_iff a ((nodupB_iff _).mp hnd)
  rw [toProg_trivA (toT a) a hmod hlive hblk]
  refine delA_preserves a hmod hlink hsucc htop (fun c hc => ?_)
  obtain ⟨h1, h2⟩ := dropCells_sub a true c hc
  have ht : trivDead (toT a) c.1 (toT c.2.2) = true := by
    have := hlive c h1
    rw [h2] at this
    simpa using this.symm
  refine ⟨(trivDead_spec ht).1, ?_⟩
  cases hu : hasLiveUser (toT a) (liveTr a) c.1.id with
  | false => rfl
  | true =>
    obtain ⟨u, hu1, hu2, _⟩ := hasLiveUser_iff.mp hu
    exact absurd hu2 ((trivDead_spec ht).2 u hu1)

theorem trivLoopA_preserves : ∀ (fuel : Nat) (a : AT), certTrivLoop fuel a = true →
    Refines (toProg a) (toProg (trivLoopA fuel a).1) := by
  intro fuel
  induction fuel with
  | zero => intro a _; exact .refl _
  | succ fuel ih =>
    intro a hc
    simp only [certTrivLoop] at hc
    simp only [trivLoopA]
    split
    · exact .refl _
    · rename_i hsz
      simp only [hsz, Bool.false_eq_true, if_false, Bool.and_eq_true] at hc
      exact (trivA_preserves a hc.1).trans (ih _ hc.2)

end Xdsl.DCEM
