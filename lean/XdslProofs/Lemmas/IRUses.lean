import XdslProofs.Lemmas.IRStore
import XdslProofs.Lemmas.List
/-!
# C01 — use lists, results, arguments and regions: the calls that write the operation, block, region and
value tables

Every change of a use list goes through `UseInv.setEntry` (`Lemmas/IRStore.lean`): `UseInv.replace` moves the one `Use`
object of a position (`__setitem__`), `UseInv.setAll` takes the `Use` objects of an operation out and puts fresh ones in
(the `operands` / `successors` setters; without new values, `drop_all_references`).  The entry of the operation is
rewritten through `InvA.setOp`, with `UseInv.setOp_same` for the family of positions the call leaves alone.
`InvA.reparent` is `Operation.add_region` and `Operation.detach_region` in one statement; the argument list of a block
changes through `InvA.setArgs`.
-/
namespace Xdsl.IR
open Xdsl Xdsl.DLL IRStore

/-- the use `u` of position `(o, k)` moves from the list of `old` to the list of `v` -/
theorem UseInv.replace {s s' : IRStore} {pos uid : OpData → List Nat} {f f2 : Nat → List Nat}
    (h : UseInv s pos uid f) {o k u old v : Nat} {d d' : OpData} (hd : AL.get s.ops o = some d)
    (hu : (uid d)[k]? = some u) (hold : (pos d)[k]? = some old)
    (hpos : pos d' = (pos d).set k v) (huid : uid d' = uid d)
    (hf2 : ∀ w x, x ∈ f2 w ↔ (x = u ∧ w = v) ∨ (x ≠ u ∧ x ∈ f w))
    (hops : s'.ops = AL.set s.ops o d') (huses : s'.uses = s.uses) (hnu : s'.nextUse = s.nextUse) :
    UseInv s' pos uid f2 := by
  have hus : ∀ u, s'.use! u = s.use! u := fun u => by unfold IRStore.use!; rw [huses]
  obtain ⟨huse, humem⟩ := h.fwd o d k u old hd hu hold
  have hklt : k < (pos d).length := (List.getElem?_eq_some_iff.mp hold).1
  refine h.setEntry hops (fun x _ => hus x) (Nat.le_of_eq hnu.symm)
    (by rw [hpos, huid, List.length_set]; exact h.len o d hd) (fun i u' v' h2 h3 => ?_)
    (fun w x hm ho => (hf2 w x).mpr (Or.inr ⟨fun e => ho (by rw [e, huse]), hm⟩)) (fun w x hm => ?_)
  · rw [huid] at h2; rw [hpos] at h3; rw [hus, hnu]
    by_cases hik : i = k
    · subst hik
      rw [hu] at h2; cases h2
      rw [List.getElem?_set_self hklt] at h3; cases h3
      exact ⟨huse, (hf2 _ _).mpr (Or.inl ⟨rfl, rfl⟩), h.lt old _ humem⟩
    · -- another position of `o` holds another `Use` object
      rw [List.getElem?_set_ne (fun e => hik e.symm)] at h3
      obtain ⟨e1, e2⟩ := h.fwd o d i u' v' hd h2 h3
      refine ⟨e1, (hf2 _ _).mpr (Or.inr ⟨fun e => hik ?_, e2⟩), h.lt v' u' e2⟩
      rw [e, huse] at e1
      exact (Prod.mk.inj e1).2.symm
  · rcases (hf2 w x).mp hm with ⟨rfl, rfl⟩ | ⟨hne, hm'⟩
    · exact Or.inr ⟨k, by rw [huid]; exact hu, by rw [hpos]; exact List.getElem?_set_self hklt⟩
    · by_cases ho : (s.use! x).1 = o
      · obtain ⟨d0, h0, h1, h2⟩ := h.bwd w x hm'
        rw [ho, hd] at h0; cases h0
        have hjk : (s.use! x).2 ≠ k := fun e => by rw [e, hu] at h1; exact hne (Option.some.inj h1).symm
        exact Or.inr ⟨_, by rw [huid]; exact h1,
          by rw [hpos, List.getElem?_set_ne (fun e => hjk e.symm)]; exact h2⟩
      · exact Or.inl ⟨hm', ho⟩

theorem UseInv.exact {s : IRStore} {pos uid : OpData → List Nat} {f : Nat → List Nat}
    (U : UseInv s pos uid f) (v : Nat) (hn : (f v).Nodup) :
    ((f v).map s.use!).Nodup ∧
    ∀ o i, (o, i) ∈ (f v).map s.use! ↔ ∃ d, AL.get s.ops o = some d ∧ (pos d)[i]? = some v := by
  constructor
  · -- two uses at the same position are the same `Use` object of that operation
    refine (List.nodup_map_iff_inj_on hn).mpr fun u hu u' hu' e => ?_
    obtain ⟨d, hd, h1, _⟩ := U.bwd v u hu
    obtain ⟨d', hd', h1', _⟩ := U.bwd v u' hu'
    rw [e] at hd h1
    rw [hd] at hd'; cases hd'
    rw [h1] at h1'; cases h1'; rfl
  · intro o i
    constructor
    · intro hm
      obtain ⟨u, hu, e⟩ := List.mem_map.mp hm
      obtain ⟨d, hd, _, h2⟩ := U.bwd v u hu
      rw [e] at hd h2
      exact ⟨d, hd, h2⟩
    · rintro ⟨d, hd, hv⟩
      have hlt : i < (uid d).length := by
        rw [U.len o d hd]; exact (List.getElem?_eq_some_iff.mp hv).1
      obtain ⟨e, hu⟩ := U.fwd o d i _ v hd (List.getElem?_eq_getElem hlt) hv
      exact List.mem_map.mpr ⟨_, hu, e⟩

/-- what a successful `OpOperands.__setitem__` did (the operation is registered: it has an operand) -/
theorem setOperand_spec (s : IRStore) (o : Nat) (i : Int) (v : Nat) :
    Sat (s.setOperand o i v) fun s' => ∃ d k, AL.get s.ops o = some d ∧ k < d.operands.length ∧
      s' = { s with
        vuseL := (s.vuseL.remove (d.operands.getD k 0) (d.operandUses.getD k 0)).pushFront v (d.operandUses.getD k 0)
        ops := AL.set s.ops o { d with operands := d.operands.set k v } } := fun s' hok => by
  unfold IRStore.setOperand at hok
  dsimp only at hok
  split at hok
  · cases hok
  · rename_i k hk
    have hlt := normIdx_some_lt hk
    cases hd : AL.get s.ops o with
    | none => rw [op!_of_not_reg hd] at hlt; cases hlt
    | some d =>
      rw [op!_of_get hd] at hok hlt
      refine ⟨d, k, rfl, hlt, (Except.ok.inj hok).symm.trans ?_⟩
      -- not `rfl` on the folded terms: the unifier would unfold the list primitives
      unfold IRStore.removeUseV IRStore.addUseV IRStore.setOp; rfl

theorem setSuccessor_spec (s : IRStore) (o : Nat) (i : Int) (b : Nat) :
    Sat (s.setSuccessor o i b) fun s' => ∃ d k, AL.get s.ops o = some d ∧ k < d.successors.length ∧
      s' = { s with
        buseL := (s.buseL.remove (d.successors.getD k 0) (d.successorUses.getD k 0)).pushFront b
          (d.successorUses.getD k 0)
        ops := AL.set s.ops o { d with successors := d.successors.set k b } } := fun s' hok => by
  unfold IRStore.setSuccessor at hok
  dsimp only at hok
  split at hok
  · cases hok
  · rename_i k hk
    have hlt := normIdx_some_lt hk
    cases hd : AL.get s.ops o with
    | none => rw [op!_of_not_reg hd] at hlt; cases hlt
    | some d =>
      rw [op!_of_get hd] at hok hlt
      refine ⟨d, k, rfl, hlt, (Except.ok.inj hok).symm.trans ?_⟩
      unfold IRStore.removeUseB IRStore.addUseB IRStore.setOp; rfl

theorem sat_setOperand {s : IRStore} (h : Inv s) {o : Nat} {i : Int} {v : Nat} :
    Sat (s.setOperand o i v) (Succ s) := fun s' hok => by
  obtain ⟨a, ha⟩ := h
  obtain ⟨d, k, hd, hlt, rfl⟩ := setOperand_spec s o i v s' hok
  have hu := getElem?_eq_some_getD (Nat.lt_of_lt_of_eq hlt (ha.operandUses.len o d hd).symm) 0
  have hold := getElem?_eq_some_getD hlt 0
  have humem := (ha.operandUses.fwd o d k _ _ hd hu hold).2
  have hop := op!_of_get hd
  obtain ⟨f2, w2, m2⟩ := ha.vuseL.moveUse humem v
  exact ⟨⟨_, ha.setOp (a' := { a with vuses := f2 }) (d' := { d with operands := d.operands.set k v })
    rfl rfl rfl rfl rfl rfl rfl (by rw [hop]) (fun i w hw => ha.results o d i w hd hw) (fun _ _ hv => hv)
    w2 ha.buseL
    (ha.operandUses.replace
      (d' := { d with operands := d.operands.set k v }) hd hu hold rfl rfl
      m2 rfl rfl rfl)
    (ha.successorUses.setOp_same (by rw [hop])
      (by rw [hop]) rfl rfl rfl (fun _ _ => rfl) (Nat.le_refl _))⟩, Mono.of_setOp rfl rfl rfl⟩

theorem sat_setSuccessor {s : IRStore} (h : Inv s) {o : Nat} {i : Int} {b : Nat} :
    Sat (s.setSuccessor o i b) (Succ s) := fun s' hok => by
  obtain ⟨a, ha⟩ := h
  obtain ⟨d, k, hd, hlt, rfl⟩ := setSuccessor_spec s o i b s' hok
  have hu := getElem?_eq_some_getD (Nat.lt_of_lt_of_eq hlt (ha.successorUses.len o d hd).symm) 0
  have hold := getElem?_eq_some_getD hlt 0
  have humem := (ha.successorUses.fwd o d k _ _ hd hu hold).2
  have hop := op!_of_get hd
  obtain ⟨f2, w2, m2⟩ := ha.buseL.moveUse humem b
  exact ⟨⟨_, ha.setOp (a' := { a with buses := f2 }) (d' := { d with successors := d.successors.set k b })
    rfl rfl rfl rfl rfl rfl rfl (by rw [hop]) (fun i w hw => ha.results o d i w hd hw) (fun _ _ hv => hv)
    ha.vuseL w2
    (ha.operandUses.setOp_same (by rw [hop])
      (by rw [hop]) rfl rfl rfl (fun _ _ => rfl) (Nat.le_refl _))
    (ha.successorUses.replace
      (d' := { d with successors := d.successors.set k b }) hd hu hold rfl rfl
      m2 rfl rfl rfl)⟩, Mono.of_setOp rfl rfl rfl⟩

theorem sat_replaceUsesIf {s : IRStore} (h : Inv s) {v w : Nat} {keep : Nat → Bool} :
    Sat (s.replaceUsesIf v w keep) (Succ s) :=
  Sat.forIn h fun _ _ _ ht => Sat.ite (fun _ => sat_setOperand ht.inv) fun _ => Sat.ok (Succ.refl ht.inv)

theorem sat_replaceAllUsesWith {s : IRStore} (h : Inv s) {v w : Nat} :
    Sat (s.replaceAllUsesWith v w) (Succ s) := by
  unfold IRStore.replaceAllUsesWith
  exact Sat.ite (fun _ => Sat.ok (Succ.refl h)) fun _ => sat_replaceUsesIf h

theorem frame_replaceUsesIf (s : IRStore) (v w : Nat) (keep : Nat → Bool) :
    Sat (s.replaceUsesIf v w keep) fun s' => s'.blocks = s.blocks ∧ s'.vals = s.vals :=
  Sat.foldlM (fun x : IRStore => x.blocks = s.blocks ∧ x.vals = s.vals) (fun x _ _ hx =>
    Sat.ite (fun _ => (setOperand_spec x _ _ w).imp fun _ ⟨_, _, _, _, e⟩ => e ▸ hx) fun _ => Sat.ok hx) ⟨rfl, rfl⟩

theorem frame_replaceAllUsesWith (s : IRStore) (v w : Nat) :
    Sat (s.replaceAllUsesWith v w) fun s' => s'.blocks = s.blocks ∧ s'.vals = s.vals := by
  unfold IRStore.replaceAllUsesWith
  exact Sat.ite (fun _ => Sat.ok ⟨rfl, rfl⟩) fun _ => frame_replaceUsesIf s v w _

/-- what `IRStore.mkUses` computes (`mkUses_eq`): the ids `base, base + 1, …` of the fresh `Use` objects, and the
`Use` table with their entries `(o, 0), (o, 1), …` written -/
def useIds (base n : Nat) : List Nat := (List.range n).map (· + base)

def usesTable (m : AL Nat (Nat × Nat)) (base o n : Nat) : AL Nat (Nat × Nat) :=
  (List.range n).foldl (fun m i => AL.set m (base + i) (o, i)) m

theorem get_usesTable (m : AL Nat (Nat × Nat)) (base o n : Nat) :
    (∀ k, k < base → AL.get (usesTable m base o n) k = AL.get m k) ∧
    ∀ i, i < n → AL.get (usesTable m base o n) (base + i) = some (o, i) := by
  have e : usesTable m base o n = setEntries (fun i => (o, i)) ((List.range n).map fun i => (base + i, i)) m := by
    unfold usesTable setEntries; rw [List.foldl_map]
  have keys : ((List.range n).map fun i => (base + i, i)).map Prod.fst = (List.range n).map (base + ·) := by
    rw [List.map_map]; rfl
  rw [e]
  refine ⟨fun k hk => get_setEntries_of_not_mem _ _ _ _ ?_, fun i hi => get_setEntries_of_mem _ _ _ _ _ ?_
    (List.mem_map.mpr ⟨i, List.mem_range.mpr hi, rfl⟩)⟩
  · rw [keys]; intro hm
    obtain ⟨i, _, rfl⟩ := List.mem_map.mp hm
    exact Nat.not_lt.mpr (Nat.le_add_right base i) hk
  · rw [keys]; exact List.Nodup.map (fun a b h => Nat.add_left_cancel h) List.nodup_range

theorem use_old_usesTable {s s' : IRStore} {o n : Nat} (huses : s'.uses = usesTable s.uses s.nextUse o n) :
    ∀ u, u < s.nextUse → s'.use! u = s.use! u := fun u hu => by
  unfold IRStore.use!; rw [huses, (get_usesTable ..).1 u hu]

theorem mkUses_eq (s : IRStore) (o n : Nat) :
    s.mkUses o n = ({ s with uses := usesTable s.uses s.nextUse o n, nextUse := s.nextUse + n },
      useIds s.nextUse n) := rfl

theorem fold_removeUseV (s : IRStore) (P : List (Nat × Nat)) :
    P.foldl (fun s p => s.removeUseV p.1 p.2) s =
      { s with vuseL := P.foldl (fun l p => l.remove p.1 p.2) s.vuseL } := by
  induction P generalizing s with
  | nil => rfl
  | cons p r ih => simp only [List.foldl_cons, ih]; rfl

theorem fold_addUseV (s : IRStore) (P : List (Nat × Nat)) :
    P.foldl (fun s p => s.addUseV p.1 p.2) s =
      { s with vuseL := P.foldl (fun l p => l.pushFront p.1 p.2) s.vuseL } := by
  induction P generalizing s with
  | nil => rfl
  | cons p r ih => simp only [List.foldl_cons, ih]; rfl

theorem fold_removeUseB (s : IRStore) (P : List (Nat × Nat)) :
    P.foldl (fun s p => s.removeUseB p.1 p.2) s =
      { s with buseL := P.foldl (fun l p => l.remove p.1 p.2) s.buseL } := by
  induction P generalizing s with
  | nil => rfl
  | cons p r ih => simp only [List.foldl_cons, ih]; rfl

theorem fold_addUseB (s : IRStore) (P : List (Nat × Nat)) :
    P.foldl (fun s p => s.addUseB p.1 p.2) s =
      { s with buseL := P.foldl (fun l p => l.pushFront p.1 p.2) s.buseL } := by
  induction P generalizing s with
  | nil => rfl
  | cons p r ih => simp only [List.foldl_cons, ih]; rfl

theorem setOperands_eq (s : IRStore) (o : Nat) (new : List Nat) :
    s.setOperands o new =
      { s with
        uses := usesTable s.uses s.nextUse o new.length
        nextUse := s.nextUse + new.length
        vuseL := (new.zip (useIds s.nextUse new.length)).foldl (fun l p => l.pushFront p.1 p.2)
          (((s.op! o).operands.zip (s.op! o).operandUses).foldl (fun l p => l.remove p.1 p.2) s.vuseL)
        ops := AL.set s.ops o { s.op! o with operands := new, operandUses := useIds s.nextUse new.length } } := by
  unfold IRStore.setOperands
  simp only [mkUses_eq, fold_removeUseV, fold_addUseV]
  rfl

theorem setSuccessors_eq (s : IRStore) (o : Nat) (new : List Nat) :
    s.setSuccessors o new =
      { s with
        uses := usesTable s.uses s.nextUse o new.length
        nextUse := s.nextUse + new.length
        buseL := (new.zip (useIds s.nextUse new.length)).foldl (fun l p => l.pushFront p.1 p.2)
          (((s.op! o).successors.zip (s.op! o).successorUses).foldl (fun l p => l.remove p.1 p.2) s.buseL)
        ops := AL.set s.ops o { s.op! o with successors := new, successorUses := useIds s.nextUse new.length } } := by
  unfold IRStore.setSuccessors
  simp only [mkUses_eq, fold_removeUseB, fold_addUseB]
  rfl

theorem mem_zip_iff_getElem? {l1 l2 : List Nat} {w x : Nat} :
    (w, x) ∈ l1.zip l2 ↔ ∃ i : Nat, l1[i]? = some w ∧ l2[i]? = some x := by
  rw [List.mem_iff_getElem?]
  constructor
  · rintro ⟨i, hi⟩
    rw [List.getElem?_zip_eq_some] at hi
    exact ⟨i, hi⟩
  · rintro ⟨i, hi⟩
    exact ⟨i, List.getElem?_zip_eq_some.mpr hi⟩

theorem useIds_getElem? (base n i : Nat) : (useIds base n)[i]? = if i < n then some (i + base) else none := by
  unfold useIds
  by_cases h : i < n
  · simp [h]
  · have : (List.range n)[i]? = none := List.getElem?_eq_none (by simpa using h)
    simp [h]

theorem useIds_length (base n : Nat) : (useIds base n).length = n := by simp [useIds]

theorem useIds_nodup (base n : Nat) : (useIds base n).Nodup := by
  unfold useIds
  exact List.Nodup.map (fun a b h => by simpa using h) List.nodup_range

theorem zip_map_snd {l1 l2 : List Nat} (h : l2.length = l1.length) : (l1.zip l2).map Prod.snd = l2 := by
  rw [List.map_snd_zip]; omega

theorem UseInv.uid_nodup {s : IRStore} {pos uid : OpData → List Nat} {f : Nat → List Nat}
    (h : UseInv s pos uid f) {o : Nat} {d : OpData} (hd : AL.get s.ops o = some d) : (uid d).Nodup := by
  rw [List.nodup_iff_injective_getElem]
  intro ⟨i, hi⟩ ⟨j, hj⟩ e
  simp only at e
  have hl := h.len o d hd
  have h1 := (h.fwd o d i _ _ hd (List.getElem?_eq_getElem hi) (List.getElem?_eq_getElem (hl ▸ hi))).1
  have h2 := (h.fwd o d j _ _ hd (List.getElem?_eq_getElem hj) (List.getElem?_eq_getElem (hl ▸ hj))).1
  rw [e, h2] at h1
  simp only [Prod.mk.injEq, true_and] at h1
  exact Fin.ext h1.symm

theorem UseInv.removeAll {s : IRStore} {pos uid : OpData → List Nat} {f : Nat → List Nat}
    (U : UseInv s pos uid f) {l : L} (w : WF l f) {o : Nat} {d : OpData} (hd : AL.get s.ops o = some d) :
    ∃ f', WF (((pos d).zip (uid d)).foldl (fun l p => l.remove p.1 p.2) l) f' ∧
      ∀ w x, x ∈ f' w ↔ x ∈ f w ∧ x ∉ uid d := by
  have hs := zip_map_snd (U.len o d hd)
  have := w.removeAll ((pos d).zip (uid d)) (fun p hp => by
    obtain ⟨i, h1, h2⟩ := mem_zip_iff_getElem?.mp (show (p.1, p.2) ∈ _ from hp)
    exact (U.fwd o d i p.2 p.1 hd h2 h1).2) (by rw [hs]; exact U.uid_nodup hd)
  rwa [hs] at this

theorem UseInv.reset {s s' : IRStore} {pos uid : OpData → List Nat} {f f2 : Nat → List Nat}
    (h : UseInv s pos uid f) {o : Nat} {d d' : OpData} {new : List Nat}
    (hd : AL.get s.ops o = some d)
    (hpos : pos d' = new) (huid : uid d' = useIds s.nextUse new.length)
    (hf2 : ∀ w x, x ∈ f2 w ↔ (x ∈ f w ∧ x ∉ uid d) ∨ (w, x) ∈ new.zip (useIds s.nextUse new.length))
    (hops : s'.ops = AL.set s.ops o d')
    (huses : s'.uses = usesTable s.uses s.nextUse o new.length)
    (hnu : s'.nextUse = s.nextUse + new.length) : UseInv s' pos uid f2 := by
  have use_new : ∀ i, i < new.length → s'.use! (i + s.nextUse) = (o, i) := fun i hi => by
    unfold IRStore.use!; rw [huses, Nat.add_comm, (get_usesTable ..).2 i hi]; rfl
  have zipmem : ∀ w x, (w, x) ∈ new.zip (useIds s.nextUse new.length) ↔
      ∃ i, new[i]? = some w ∧ x = i + s.nextUse := by
    intro w x
    rw [mem_zip_iff_getElem?]
    constructor
    · rintro ⟨i, h1, h2⟩
      rw [useIds_getElem?] at h2
      split at h2
      · cases h2; exact ⟨i, h1, rfl⟩
      · cases h2
    · rintro ⟨i, h1, rfl⟩
      have := (List.getElem?_eq_some_iff.mp h1).1
      exact ⟨i, h1, by rw [useIds_getElem?]; simp [this]⟩
  refine h.setEntry hops (use_old_usesTable huses) (by rw [hnu]; exact Nat.le_add_right _ _)
    (by rw [hpos, huid, useIds_length]) (fun i u v h2 h3 => ?_)
    (fun w x hm ho => (hf2 w x).mpr (Or.inl ⟨hm, fun hx => ?_⟩)) (fun w x hm => ?_)
  · rw [hpos] at h3; rw [huid, useIds_getElem?] at h2
    split at h2
    · cases h2; rename_i hi
      exact ⟨use_new i hi, (hf2 _ _).mpr (Or.inr ((zipmem _ _).mpr ⟨i, h3, rfl⟩)), by rw [hnu]; omega⟩
    · cases h2
  · -- a `Use` object of `o` belongs to `o`
    obtain ⟨j, hj⟩ := List.mem_iff_getElem?.mp hx
    have hjl : j < (pos d).length := by rw [← h.len o d hd]; exact (List.getElem?_eq_some_iff.mp hj).1
    exact ho (by rw [(h.fwd o d j x _ hd hj (List.getElem?_eq_getElem hjl)).1])
  · rcases (hf2 w x).mp hm with ⟨hm', hnot⟩ | hz
    · refine Or.inl ⟨hm', fun e => ?_⟩
      obtain ⟨d0, h0, h1, _⟩ := h.bwd w x hm'
      rw [e, hd] at h0; cases h0
      exact hnot (List.mem_of_getElem? h1)
    · obtain ⟨i, h1, rfl⟩ := (zipmem w x).mp hz
      have hi := (List.getElem?_eq_some_iff.mp h1).1
      exact Or.inr ⟨i, by rw [huid, useIds_getElem?, if_pos hi], by rw [hpos]; exact h1⟩

/-- The setter of a whole family of positions of one operation (`op.operands = new`): the old `Use`
objects leave their lists, fresh ones (`useIds`) enter the lists of the new values.  With `new = []`
this is what `drop_all_references` does to the operation. -/
theorem UseInv.setAll {s : IRStore} {pos uid : OpData → List Nat} {f : Nat → List Nat}
    (U : UseInv s pos uid f) {l : L} (w : WF l f) {o : Nat} {d d' : OpData} {new : List Nat}
    (hd : AL.get s.ops o = some d) (hpos : pos d' = new) (huid : uid d' = useIds s.nextUse new.length) :
    ∃ f2, WF ((new.zip (useIds s.nextUse new.length)).foldl (fun l p => l.pushFront p.1 p.2)
        (((pos d).zip (uid d)).foldl (fun l p => l.remove p.1 p.2) l)) f2 ∧
      ∀ s' : IRStore, s'.ops = AL.set s.ops o d' → s'.uses = usesTable s.uses s.nextUse o new.length →
        s'.nextUse = s.nextUse + new.length → UseInv s' pos uid f2 := by
  obtain ⟨f1, w1, m1⟩ := U.removeAll w hd
  obtain ⟨f2, w2, m2⟩ := w1.addAll (new.zip (useIds s.nextUse new.length))
    (fun p hp c hc => by
      -- a fresh `Use` id is not below the counter, the members of the lists are
      obtain ⟨i, _, h2⟩ := mem_zip_iff_getElem?.mp (show (p.1, p.2) ∈ _ from hp)
      rw [useIds_getElem?] at h2
      split at h2
      · have e : i + s.nextUse = p.2 := Option.some.inj h2
        have := U.lt c _ ((m1 c _).mp hc).1
        omega
      · exact absurd h2 (by simp))
    (by rw [zip_map_snd (by rw [useIds_length])]; exact useIds_nodup _ _)
  exact ⟨f2, w2, fun s' hops huses hnu => U.reset hd hpos huid (fun w x => by rw [m2, m1]) hops huses hnu⟩

theorem Inv.setOperands {s : IRStore} (h : Inv s) {o : Nat} (new : List Nat) (ho : regO s o) :
    Succ s (s.setOperands o new) := by
  obtain ⟨a, ha⟩ := h
  obtain ⟨d, hd⟩ := Option.isSome_iff_exists.mp ho
  have hop := op!_of_get hd
  rw [setOperands_eq, hop]
  obtain ⟨f2, w2, U2⟩ := ha.operandUses.setAll ha.vuseL (new := new)
    (d' := { d with operands := new, operandUses := useIds s.nextUse new.length }) hd rfl rfl
  exact ⟨⟨_, ha.setOp (a' := { a with vuses := f2 }) rfl rfl rfl rfl rfl rfl rfl (by rw [hop])
    (fun i w hw => ha.results o d i w hd hw) (fun _ _ hv => hv) w2 ha.buseL (U2 _ rfl rfl rfl)
    (ha.successorUses.setOp_same (by rw [hop])
      (by rw [hop]) rfl rfl rfl (use_old_usesTable rfl) (Nat.le_add_right _ _))⟩,
    Mono.of_setOp rfl rfl rfl⟩

theorem Inv.setSuccessors {s : IRStore} (h : Inv s) {o : Nat} (new : List Nat) (ho : regO s o) :
    Succ s (s.setSuccessors o new) := by
  obtain ⟨a, ha⟩ := h
  obtain ⟨d, hd⟩ := Option.isSome_iff_exists.mp ho
  have hop := op!_of_get hd
  rw [setSuccessors_eq, hop]
  obtain ⟨f2, w2, U2⟩ := ha.successorUses.setAll ha.buseL (new := new)
    (d' := { d with successors := new, successorUses := useIds s.nextUse new.length }) hd rfl rfl
  exact ⟨⟨_, ha.setOp (a' := { a with buses := f2 }) rfl rfl rfl rfl rfl rfl rfl (by rw [hop])
    (fun i w hw => ha.results o d i w hd hw) (fun _ _ hv => hv) ha.vuseL w2
    (ha.operandUses.setOp_same (by rw [hop])
      (by rw [hop]) rfl rfl rfl (use_old_usesTable rfl) (Nat.le_add_right _ _))
    (U2 _ rfl rfl rfl)⟩, Mono.of_setOp rfl rfl rfl⟩

theorem InvA.emptyOp {s : IRStore} {a : Abs} (h : InvA s a) {k : Nat} (hk : AL.get s.ops k = none) :
    InvA { (s.setOp k {}) with opL := (s.setOp k {}).opL.setNd k {} } a := by
  have hop := op!_of_not_reg hk
  have h1 : InvA (s.setOp k {}) a := h.setOp_results k {} s.vals (by rw [hop]) (by rw [hop]) (by rw [hop])
    (by rw [hop]) (by rw [hop]) nofun fun _ _ hv => hv
  have nk : ¬ regO s k := by unfold IR.regO; simp [hk]
  exact h1.of_opL (h.opL.setNd_free fun c hm => nk (h.regOps c k hm).1) h1.regOps

theorem InvA.setResults {s : IRStore} {a : Abs} (h : InvA s a) {k : Nat} {d : OpData} {res : List Nat}
    (hd : AL.get s.ops k = some d) (hres : s.freshVs res = true) :
    InvA ((res.zipIdx).foldl (fun s p => s.setVal p.1 { kind := .result, owner := k, index := p.2 })
      (s.setOp k { d with results := res })) a := by
  have hop := op!_of_get hd
  rw [fold_setVal]
  exact h.setOp_results k { d with results := res } _ (by rw [hop]) (by rw [hop]) (by rw [hop]) (by rw [hop])
    (by rw [hop]) (setEntries_fresh hres _).2 (setEntries_fresh hres _).1

theorem regionParent_set (s : IRStore) (m : AL Nat OpData) (r : Nat) (p : Option Nat) (x : Nat) :
    IRStore.regionParent { s with ops := m, regions := AL.set s.regions r { parent := p } } x =
      if x = r then p else s.regionParent x := by
  unfold IRStore.regionParent IRStore.region!
  simp only [AL.get_set]
  split <;> rfl

/-- Region `r`, which belongs to `o` or to no operation, enters or leaves the `regions` tuple of `o`
(`rs` is the new tuple, `p` the new parent of `r`): `Operation.add_region` and `Operation.detach_region`
are the two directions. -/
theorem InvA.reparent {s : IRStore} {a : Abs} (h : InvA s a) {o r : Nat} {d : OpData}
    (hd : AL.get s.ops o = some d) {rs : List Nat} {p : Option Nat}
    (hown : ∀ o', s.regionParent r = some o' → o' = o) (hp : ∀ o', p = some o' → o' = o)
    (hnd : rs.Nodup) (hmem : ∀ x, x ∈ rs ↔ if x = r then p = some o else x ∈ d.regions) :
    InvA { s with ops := AL.set s.ops o { d with regions := rs },
                  regions := AL.set s.regions r { parent := p } } a := by
  have hop := op!_of_get hd
  have par := regionParent_set s (AL.set s.ops o { d with regions := rs }) r p
  exact {
    opL := h.opL, blockL := h.blockL, vuseL := h.vuseL, buseL := h.buseL
    operandUses := h.operandUses.setOp_same
      (d' := { d with regions := rs }) (by rw [hop]) (by rw [hop]) rfl rfl rfl (fun _ _ => rfl) (Nat.le_refl _)
    successorUses := h.successorUses.setOp_same
      (d' := { d with regions := rs }) (by rw [hop]) (by rw [hop]) rfl rfl rfl (fun _ _ => rfl) (Nat.le_refl _)
    results := fun o' d'' i v h1 h2 => by
      rcases AL.get_set_eq_some.mp h1 with ⟨rfl, rfl⟩ | ⟨_, h1⟩
      · exact h.results o' d i v hd h2
      · exact h.results o' d'' i v h1 h2
    args := h.args
    regions := fun o' d'' h1 => by
      simp only [par]
      rcases AL.get_set_eq_some.mp h1 with ⟨rfl, rfl⟩ | ⟨hne, h1⟩
      · refine ⟨hnd, fun x hx => ?_⟩
        have hx' := (hmem x).mp hx
        by_cases e : x = r
        · rw [if_pos e] at hx' ⊢; exact hx'
        · rw [if_neg e] at hx' ⊢; exact (h.regions o' d hd).2 x hx'
      · refine ⟨(h.regions o' d'' h1).1, fun x hx => ?_⟩
        have hx' := (h.regions o' d'' h1).2 x hx
        have hxr : x ≠ r := fun e => hne (hown o' (by rw [← e]; exact hx'))
        rw [if_neg hxr]; exact hx'
    regionParent := fun x o' hp' => by
      rw [par] at hp'
      by_cases hx : x = r
      · rw [if_pos hx] at hp'
        cases hp o' hp'
        exact ⟨_, AL.get_set_eq_some.mpr (Or.inl ⟨rfl, rfl⟩), (hmem x).mpr (by rw [if_pos hx]; exact hp')⟩
      · rw [if_neg hx] at hp'
        obtain ⟨d0, h0, hm⟩ := h.regionParent x o' hp'
        by_cases ho : o' = o
        · cases ho
          rw [hd] at h0; cases h0
          exact ⟨_, AL.get_set_eq_some.mpr (Or.inl ⟨rfl, rfl⟩), (hmem x).mpr (by rw [if_neg hx]; exact hm)⟩
        · exact ⟨d0, AL.get_set_eq_some.mpr (Or.inr ⟨ho, h0⟩), hm⟩
    regOps := fun b x hx => ⟨AL.isSome_get_set _ _ (h.regOps b x hx).1, (h.regOps b x hx).2⟩
    regBlocks := fun c x hx => ⟨(h.regBlocks c x hx).1, AL.isSome_get_set _ _ (h.regBlocks c x hx).2⟩ }

theorem sat_addRegion {s : IRStore} (h : Inv s) {o r : Nat} (ho : regO s o) :
    Sat (s.addRegion o r) (Succ s) := by
  obtain ⟨a, ha⟩ := h
  obtain ⟨d, hd⟩ := Option.isSome_iff_exists.mp ho
  unfold IRStore.addRegion
  refine Sat.ite (fun _ => Sat.error) fun g => ?_
  dsimp only
  rw [op!_of_get hd]
  have hpn : s.regionParent r = none := by simpa using g
  have hrn : r ∉ d.regions := fun hm => by
    have := (ha.regions o d hd).2 r hm; rw [hpn] at this; cases this
  refine Sat.ok ⟨⟨a, ha.reparent hd (fun o' e => by rw [hpn] at e; cases e) (fun o' e => (Option.some.inj e).symm)
    (List.nodup_append.mpr ⟨(ha.regions o d hd).1, List.nodup_singleton r, fun x hx y hy e =>
      hrn (by rw [← List.eq_of_mem_singleton hy, ← e]; exact hx)⟩)
    (fun x => by by_cases hx : x = r <;> simp [hx, hrn])⟩, ?_⟩
  exact (Mono.setOp s o _).trans (Mono.setRegion _ r _)

/-! ### `Operation.create`

The store after the statements of `IRStore.newOp` up to the empty entry, the operands, the results, the
successors; the regions are then added by a fold of `addRegion` (`newOp_eq`). -/
def newOpEntry (s : IRStore) (k : Nat) : IRStore := { (s.setOp k {}) with opL := (s.setOp k {}).opL.setNd k {} }
def newOpOperands (s : IRStore) (k : Nat) (operands : List Nat) : IRStore := (newOpEntry s k).setOperands k operands
def newOpResults (s : IRStore) (k : Nat) (operands res : List Nat) : IRStore :=
  (res.zipIdx).foldl (fun s p => s.setVal p.1 { kind := .result, owner := k, index := p.2 })
    ((newOpOperands s k operands).setOp k { (newOpOperands s k operands).op! k with results := res })
def newOpSuccessors (s : IRStore) (k : Nat) (operands res succs : List Nat) : IRStore :=
  (newOpResults s k operands res).setSuccessors k succs

theorem newOp_eq (s : IRStore) (k : Nat) (res operands succs regions : List Nat) :
    s.newOp k res operands succs regions =
      regions.foldlM (fun s r => s.addRegion k r) (newOpSuccessors s k operands res succs) := rfl

theorem regO_newOpEntry (s : IRStore) (k : Nat) : regO (newOpEntry s k) k := by
  unfold IR.regO newOpEntry IRStore.setOp; simp [AL.get_set]

theorem vals_newOpOperands (s : IRStore) (k : Nat) (operands : List Nat) : (newOpOperands s k operands).vals = s.vals := by
  unfold newOpOperands; rw [setOperands_eq]; rfl

theorem regO_newOpResults {s : IRStore} {k : Nat} {operands res : List Nat} : regO (newOpResults s k operands res) k := by
  unfold newOpResults; rw [fold_setVal]
  unfold IR.regO IRStore.setOp; simp [AL.get_set]

theorem sat_newOp {s : IRStore} (h : Inv s) {k : Nat} {res operands succs regions : List Nat}
    (hk : s.freshO k = true) (hres : s.freshVs res = true) :
    Sat (s.newOp k res operands succs regions) (Succ s) := by
  obtain ⟨a, ha⟩ := h
  rw [newOp_eq]
  have i1 : Succ s (newOpEntry s k) := ⟨⟨a, ha.emptyOp (freshO_not_reg hk)⟩, Mono.of_setOp rfl rfl rfl⟩
  have i2 : Succ (newOpEntry s k) (newOpOperands s k operands) :=
    i1.inv.setOperands operands (regO_newOpEntry s k)
  obtain ⟨d2, hd2⟩ := Option.isSome_iff_exists.mp (i2.mono.o k (regO_newOpEntry s k))
  have i3 : Succ (newOpOperands s k operands) (newOpResults s k operands res) := by
    obtain ⟨a2, ha2⟩ := i2.inv
    unfold newOpResults; rw [op!_of_get hd2]
    refine ⟨⟨a2, ha2.setResults hd2 (by
      unfold IRStore.freshVs IRStore.freshV at hres ⊢; rw [vals_newOpOperands]; exact hres)⟩, ?_⟩
    rw [fold_setVal]; exact Mono.of_setOp rfl rfl rfl
  have i4 : Succ (newOpResults s k operands res) (newOpSuccessors s k operands res succs) :=
    i3.inv.setSuccessors succs regO_newOpResults
  exact (Sat.forIn i4.inv fun t r _ ht => sat_addRegion ht.inv (ht.mono.o k (i4.mono.o k regO_newOpResults))).after
    (((i1.trans i2).trans i3).trans i4)

theorem InvA.removeRegion {s : IRStore} {a : Abs} (h : InvA s a) {o r : Nat} {d : OpData}
    (hd : AL.get s.ops o = some d) (hr : r ∈ d.regions) :
    InvA ((s.setRegion r { parent := none }).setOp o { d with regions := d.regions.erase r }) a :=
  h.reparent hd (fun o' e => by rw [(h.regions o d hd).2 r hr] at e; exact (Option.some.inj e).symm) nofun
    ((h.regions o d hd).1.erase r)
    (fun x => by rw [(h.regions o d hd).1.mem_erase_iff]; by_cases hx : x = r <;> simp [hx])

theorem take_drop_eq_erase {l : List Nat} (hn : l.Nodup) {k : Nat} (hk : k < l.length) :
    l.take k ++ l.drop (k + 1) = l.erase l[k] := by
  rw [← List.eraseIdx_eq_take_drop_succ, hn.erase_getElem k hk]

theorem sat_detachRegion {s : IRStore} (h : Inv s) {o r : Nat} : Sat (s.detachRegion o r) (Succ s) := by
  obtain ⟨a, ha⟩ := h
  unfold IRStore.detachRegion
  refine Sat.ite (fun _ => Sat.error) fun g => ?_
  obtain ⟨d, hd, hr⟩ := ha.regionParent r o (Decidable.not_not.mp g)
  dsimp only
  have hk : d.regions.idxOf r < d.regions.length := List.idxOf_lt_length_iff.mpr hr
  rw [op!_of_get hd, take_drop_eq_erase (ha.regions o d hd).1 hk, List.getElem_idxOf hk]
  exact Sat.ok ⟨⟨a, ha.removeRegion hd hr⟩, (Mono.setRegion s r _).trans (Mono.setOp _ o _)⟩

theorem sat_detachRegionIdx {s : IRStore} (h : Inv s) {o : Nat} {idx : Int} :
    Sat (s.detachRegionIdx o idx) (Succ s) := by
  obtain ⟨a, ha⟩ := h
  unfold IRStore.detachRegionIdx
  dsimp only
  split
  · exact Sat.error
  · rename_i k hk
    have hlt := normIdx_some_lt hk
    -- an index in range: `o` has a region, so it is registered
    cases hd : AL.get s.ops o with
    | none => rw [op!_of_not_reg hd] at hlt; cases hlt
    | some d =>
      rw [op!_of_get hd] at hlt ⊢
      rw [Option.some.inj ((getElem?_eq_some_getD hlt 0).symm.trans (List.getElem?_eq_getElem hlt)),
        take_drop_eq_erase (ha.regions o d hd).1 hlt]
      exact Sat.ok ⟨⟨a, ha.removeRegion hd (List.getElem_mem hlt)⟩, (Mono.setRegion s _ _).trans (Mono.setOp _ o _)⟩

theorem shiftArgs_spec (s : IRStore) (l : List Nat) (up : Bool) (hn : l.Nodup) :
    ∃ m, s.shiftArgs l up = { s with vals := m } ∧
      ∀ v, AL.get m v = if v ∈ l then
          some { s.val! v with index := if up then (s.val! v).index + 1 else (s.val! v).index - 1 }
        else AL.get s.vals v := by
  unfold IRStore.shiftArgs
  induction l generalizing s with
  | nil => exact ⟨s.vals, rfl, fun v => by simp⟩
  | cons x r ih =>
    have hx : x ∉ r := (List.nodup_cons.mp hn).1
    simp only [List.foldl_cons]
    obtain ⟨m, hm, hg⟩ := ih (s.setVal x { s.val! x with index := if up then (s.val! x).index + 1 else (s.val! x).index - 1 })
      (List.nodup_cons.mp hn).2
    refine ⟨m, by rw [hm]; rfl, fun v => ?_⟩
    rw [hg]
    by_cases hv : v ∈ r
    · have : v ≠ x := fun e => hx (e ▸ hv)
      simp [hv, IRStore.val!, IRStore.setVal, AL.get_set, this]
    · by_cases hvx : v = x
      · subst hvx; simp [hv, IRStore.setVal, AL.get_set]
      · simp [hv, hvx, IRStore.setVal, AL.get_set]

/-- the arguments of a block are pairwise distinct (their index fields differ) -/
theorem InvA.args_nodup {s : IRStore} {a : Abs} (h : InvA s a) (b : Nat) : (s.block! b).args.Nodup := by
  rw [List.nodup_iff_injective_getElem]
  intro ⟨i, hi⟩ ⟨j, hj⟩ e
  simp only at e
  have h1 := h.args! (List.getElem?_eq_getElem hi)
  have h2 := h.args! (List.getElem?_eq_getElem hj)
  rw [e, h2] at h1
  simp only [Option.some.injEq, ValData.mk.injEq, true_and] at h1
  exact Fin.ext h1.symm

theorem mem_drop_iff_le {l : List Nat} (hn : l.Nodup) {i k w : Nat} (hw : l[i]? = some w) :
    w ∈ l.drop k ↔ k ≤ i := by
  constructor
  · intro hm
    obtain ⟨j, hj⟩ := List.mem_iff_getElem?.mp hm
    rw [List.getElem?_drop, ← hw] at hj
    have := (List.getElem?_inj (List.getElem?_eq_some_iff.mp hw).1 hn).mp hj.symm
    omega
  · intro hk
    exact List.mem_iff_getElem?.mpr ⟨i - k, by rw [List.getElem?_drop, ← hw]; congr 1; omega⟩

theorem getElem?_take_cons_drop (x : Nat) : ∀ (l : List Nat) (k : Nat), k ≤ l.length → ∀ j,
    (l.take k ++ x :: l.drop k)[j]? = if j < k then l[j]? else if j = k then some x else l[j - 1]?
  | l, 0, _, 0 => rfl
  | l, 0, _, j + 1 => rfl
  | a :: l, k + 1, _, 0 => rfl
  | a :: l, k + 1, hk, j + 1 => by
    have := getElem?_take_cons_drop x l k (Nat.le_of_succ_le_succ hk) j
    simp only [List.take_succ_cons, List.drop_succ_cons, List.cons_append, List.getElem?_cons_succ,
      Nat.add_lt_add_iff_right, Nat.add_right_cancel_iff, Nat.add_sub_cancel] at this ⊢
    rw [this]
    cases j with
    | zero => cases k <;> rfl
    | succ j => rfl

theorem sat_insertArg {s : IRStore} (h : Inv s) {b : Nat} {idx : Int} {nv : Nat}
    (hnv : s.freshV nv = true) : Sat (s.insertArg b idx nv) (Succ s) := fun s' hok => by
  obtain ⟨a, ha⟩ := h
  have hfresh := freshV_not_reg hnv
  unfold IRStore.insertArg at hok
  generalize hargs : (s.block! b).args = args at hok
  dsimp only at hok
  split at hok
  · cases hok
  · rename_i hguard
    have hk : idx.toNat ≤ args.length := by simp at hguard; omega
    generalize idx.toNat = k at hok hk
    have hnd : args.Nodup := hargs ▸ ha.args_nodup b
    have entry : ∀ i w, args[i]? = some w → AL.get s.vals w = some { kind := .arg, owner := b, index := i } :=
      fun i w hw => ha.args! (hargs ▸ hw)
    obtain ⟨m, hm, hg⟩ := shiftArgs_spec s (args.drop k) true (hnd.sublist (List.drop_sublist _ _))
    rw [hm] at hok
    simp only [Except.ok.injEq] at hok
    subst hok
    refine ⟨⟨a, ha.setArgs b _ _ (fun v dv hv hnot => ?_) (fun j w hw => ?_)⟩,
      Mono.of_setBlock rfl rfl rfl⟩
    · -- a value that is not an argument of `b` is neither the new value nor shifted
      have h1 : v ≠ nv := fun e => by rw [e, hfresh] at hv; cases hv
      have h2 : v ∉ args.drop k := fun e => by
        obtain ⟨i, hi⟩ := List.mem_iff_getElem?.mp (List.mem_of_mem_drop e)
        rw [entry i v hi] at hv; cases hv; exact hnot rfl rfl
      show AL.get (AL.set m nv _) v = some dv
      rw [AL.get_set, if_neg h1, hg, if_neg h2]; exact hv
    · show AL.get (AL.set m nv _) w = _
      rw [getElem?_take_cons_drop nv args k hk] at hw
      rw [AL.get_set, hg]
      split at hw
      · -- before the insertion point: not shifted
        rename_i hjk
        have hv := entry j w hw
        rw [if_neg (fun e => by rw [e, hfresh] at hv; cases hv),
          if_neg (fun e => by have := (mem_drop_iff_le hnd hw).mp e; omega)]
        exact hv
      · split at hw
        · cases hw; rename_i e; rw [if_pos rfl, e]
        · -- behind it: the index was bumped
          have hv := entry (j - 1) w hw
          rw [if_neg (fun e => by rw [e, hfresh] at hv; cases hv),
            if_pos ((mem_drop_iff_le hnd hw).mpr (by omega))]
          simp only [IRStore.val!, hv, Option.getD_some, if_true]
          congr 2; omega

theorem sat_valueErase {s : IRStore} (h : Inv s) {v : Nat} {safe : Bool} :
    Sat (s.valueErase v safe) (Succ s) := by
  unfold IRStore.valueErase
  refine Sat.ite (fun _ => Sat.error) fun _ => Sat.ite (fun _ => Sat.ok (Succ.refl h)) fun _ => ?_
  have h1 : Succ s (if (AL.get s.vals (E_BASE + v)).isSome = true then s
      else s.setVal (E_BASE + v) { kind := .erased, owner := v, index := 0 }) := by
    split
    · exact Succ.refl h
    · rename_i hn
      obtain ⟨a, ha⟩ := h
      refine ⟨⟨a, ha.of_vals _ fun w d hw => ?_⟩, Mono.of_tables rfl rfl rfl⟩
      rw [AL.get_set, if_neg fun e => hn (by rw [← e, hw]; rfl)]; exact hw
  exact (sat_replaceAllUsesWith h1.inv).after h1

theorem tables_valueErase {s s' : IRStore} {v : Nat} {safe : Bool} (hok : s.valueErase v safe = .ok s') :
    s'.blocks = s.blocks ∧ ∀ k, k ≠ E_BASE + v → AL.get s'.vals k = AL.get s.vals k := by
  suffices Sat (s.valueErase v safe) fun s' =>
      s'.blocks = s.blocks ∧ ∀ k, k ≠ E_BASE + v → AL.get s'.vals k = AL.get s.vals k from this s' hok
  unfold IRStore.valueErase
  refine Sat.ite (fun _ => Sat.error) fun _ => Sat.ite (fun _ => Sat.ok ⟨rfl, fun _ _ => rfl⟩) fun _ => ?_
  refine (frame_replaceAllUsesWith _ v _).imp fun _ hf => ?_
  rw [hf.1, hf.2]
  split
  · exact ⟨rfl, fun _ _ => rfl⟩
  · exact ⟨rfl, fun k hk => (AL.get_set ..).trans (if_neg hk)⟩

theorem sat_prReplaceAllUsesWith {s : IRStore} (h : Inv s) {v : Nat} {w : Option Nat} {safe : Bool} :
    Sat (s.prReplaceAllUsesWith v w safe) (Succ s) := by
  unfold IRStore.prReplaceAllUsesWith
  split
  · exact (sat_valueErase h).thenDead _
  · exact sat_replaceAllUsesWith h

/-- removing the argument at position `i` of a block (whatever value sits there; `b` need not be
registered) -/
theorem Inv.dropArg {s : IRStore} (h : Inv s) (b i : Nat) :
    Succ s ((s.shiftArgs ((s.block! b).args.drop (i + 1)) false).setBlock b
      { args := (s.block! b).args.take i ++ (s.block! b).args.drop (i + 1) }) := by
  obtain ⟨a, ha⟩ := h
  generalize hargs : (s.block! b).args = args
  have hnd : args.Nodup := hargs ▸ ha.args_nodup b
  have entry : ∀ i w, args[i]? = some w → AL.get s.vals w = some { kind := .arg, owner := b, index := i } :=
    fun i w hw => ha.args! (hargs ▸ hw)
  obtain ⟨m, hm, hg⟩ := shiftArgs_spec s (args.drop (i + 1)) false (hnd.sublist (List.drop_sublist _ _))
  rw [hm, ← List.eraseIdx_eq_take_drop_succ]
  refine ⟨⟨a, ha.setArgs b _ _ (fun v dv hv hnot => ?_) (fun j w hw => ?_)⟩,
    Mono.of_setBlock rfl rfl rfl⟩
  · have h2 : v ∉ args.drop (i + 1) := fun e => by
      obtain ⟨i', hi⟩ := List.mem_iff_getElem?.mp (List.mem_of_mem_drop e)
      rw [entry i' v hi] at hv; cases hv; exact hnot rfl rfl
    rw [hg, if_neg h2]; exact hv
  · rw [List.getElem?_eraseIdx] at hw
    rw [hg]
    split at hw
    · rw [if_neg fun e => by have := (mem_drop_iff_le hnd hw).mp e; omega]
      exact entry j w hw
    · rw [if_pos ((mem_drop_iff_le hnd hw).mpr (by omega))]
      simp [IRStore.val!, entry (j + 1) w hw]

theorem sat_eraseArg {s : IRStore} (h : Inv s) {b v : Nat} {safe : Bool} :
    Sat (s.eraseArg b v safe) (Succ s) := by
  unfold IRStore.eraseArg
  exact Sat.ite (fun _ => Sat.error) fun _ => ((sat_valueErase (h.dropArg b _).inv).thenDead _).after (h.dropArg b _)

theorem sat_prEraseBlockArgument {s : IRStore} (h : Inv s) {v : Nat} {safe : Bool} :
    Sat (s.prEraseBlockArgument v safe) (Succ s) :=
  (sat_valueErase h).andThen fun _ ht => sat_eraseArg ht.inv

theorem getElem?_set_eq_some {l : List Nat} {k j x w : Nat} (h : (l.set k x)[j]? = some w) :
    (j = k ∧ w = x) ∨ (j ≠ k ∧ l[j]? = some w) := by
  by_cases hj : j = k
  · subst hj
    have hlt : j < l.length := by simpa using (List.getElem?_eq_some_iff.mp h).1
    rw [List.getElem?_set_self hlt] at h
    exact Or.inl ⟨rfl, (Option.some.inj h).symm⟩
  · rw [List.getElem?_set_ne fun e => hj e.symm] at h; exact Or.inr ⟨hj, h⟩

theorem sat_replaceValueWithNewType {s : IRStore} (h : Inv s) {v nv : Nat} (hnv : s.freshV nv = true) :
    Sat (s.replaceValueWithNewType v nv) (Succ s) := by
  obtain ⟨a, ha⟩ := h
  have hfresh := freshV_not_reg hnv
  -- the new value takes the place of `v` in the list of its owner; the other entries are kept
  have keep : ∀ (dn : ValData) w dv, AL.get s.vals w = some dv → AL.get (AL.set s.vals nv dn) w = some dv :=
    fun dn w dv hw => by rw [AL.get_set, if_neg fun e => by rw [e, hfresh] at hw; cases hw]; exact hw
  have tail : ∀ t, Inv t → Mono s t →
      Sat (t.replaceAllUsesWith v nv >>= fun u => pure { u with deadV := v :: u.deadV }) (Succ s) :=
    fun t ht m => ((sat_replaceAllUsesWith ht).thenDead _).after ⟨ht, m⟩
  unfold IRStore.replaceValueWithNewType
  dsimp only
  split
  · exact Sat.error
  · -- an operation result
    refine tail _ ⟨a, ?_⟩ (Mono.of_setOp rfl rfl rfl)
    refine ha.setOp_results (s.val! v).owner _ _ rfl rfl rfl rfl rfl (fun j w hw => ?_) (keep _)
    rcases getElem?_set_eq_some hw with ⟨rfl, rfl⟩ | ⟨_, hw⟩
    · exact (AL.get_set ..).trans (if_pos rfl)
    · exact keep _ w _ (ha.results! hw)
  · -- a block argument
    refine tail _ ⟨a, ?_⟩ (Mono.of_setBlock rfl rfl rfl)
    refine ha.setArgs (s.val! v).owner _ _ (fun w dv hw _ => keep _ w dv hw) (fun j w hw => ?_)
    rcases getElem?_set_eq_some hw with ⟨rfl, rfl⟩ | ⟨_, hw⟩
    · exact (AL.get_set ..).trans (if_pos rfl)
    · exact keep _ w _ (ha.args! hw)

end Xdsl.IR
