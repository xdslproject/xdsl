import XdslModel.DCEMini
import XdslProofs.Lemmas.AL
/-!
State relation used by the semantic-preservation proof of dead-code elimination on `Sem`
(`XdslProofs/C13SemCFG.lean`): two machine states are related when they have the same effect log,
memory and `symref` variables and their value environments agree on every value id outside a set `D`
(the values defined by erased operations and blocks).  With it: what the region-free state operations of `Sem`
read and write (`stateOp_frame`), and `RelRes`, the one-sided relation between two outcomes in which the statements
about two runs are made.  This file and the `Lemmas/DCEMini*` files built on it use core Lean only (no Mathlib).
-/
namespace Xdsl.DCEM
open Xdsl.DCE Xdsl.MiniIR Xdsl.Sem

structure Rel (D : Nat → Prop) (st st' : St) : Prop where
  eff : st'.eff = st.eff
  sym : st'.sym = st.sym
  mem : st'.mem = st.mem
  env : ∀ v, ¬ D v → AL.get st'.env v = AL.get st.env v

theorem Rel.refl {D : Nat → Prop} (st : St) : Rel D st st := ⟨rfl, rfl, rfl, fun _ _ => rfl⟩

theorem Rel.symm {D : Nat → Prop} {a b : St} (h : Rel D a b) : Rel D b a :=
  ⟨h.eff.symm, h.sym.symm, h.mem.symm, fun v hv => (h.env v hv).symm⟩

theorem Rel.trans {D : Nat → Prop} {a b c : St} (h1 : Rel D a b) (h2 : Rel D b c) : Rel D a c :=
  ⟨h2.eff.trans h1.eff, h2.sym.trans h1.sym, h2.mem.trans h1.mem,
   fun v hv => (h2.env v hv).trans (h1.env v hv)⟩

theorem Rel.mono {D D' : Nat → Prop} {a b : St} (h : Rel D a b) (hs : ∀ v, D v → D' v) : Rel D' a b :=
  ⟨h.eff, h.sym, h.mem, fun v hv => h.env v (fun hd => hv (hs v hd))⟩

theorem Rel.eq_with {D : Nat → Prop} {st st' : St} (h : Rel D st st') : st' = { st with env := st'.env } := by
  cases st'; cases st
  have := h.eff; have := h.sym; have := h.mem
  simp_all

theorem get_rel {D : Nat → Prop} {st st' : St} (h : Rel D st st') {v : Nat} (hv : ¬ D v) :
    st'.get v = st.get v := by
  unfold St.get
  rw [h.env v hv]

theorem mapM_loop_congr {α β : Type} (f g : α → Res β) :
    ∀ (l : List α) (acc : List β), (∀ x ∈ l, f x = g x) → List.mapM.loop f l acc = List.mapM.loop g l acc := by
  intro l
  induction l with
  | nil => intro acc _; rfl
  | cons x xs ih =>
    intro acc h
    simp only [List.mapM.loop]
    rw [h x (by simp)]
    congr
    funext b
    exact ih _ (fun y hy => h y (by simp [hy]))

theorem gets_rel {D : Nat → Prop} {st st' : St} (h : Rel D st st') {l : List Nat} (hl : ∀ v ∈ l, ¬ D v) :
    st'.gets l = st.gets l := by
  unfold St.gets List.mapM
  exact mapM_loop_congr _ _ l [] (fun v hv => get_rel h (hl v hv))

theorem bind_rel {D : Nat → Prop} {st st' s1 : St} (h : Rel D st st') {names : List (Nat × Ty)}
    {vals : List Val} (hb : st.bind names vals = .ok s1) :
    ∃ s1', st'.bind names vals = .ok s1' ∧ Rel D s1 s1' := by
  unfold St.bind at hb ⊢
  split at hb
  · cases hb
  · rename_i hlen
    cases hb
    rw [if_neg hlen]
    exact ⟨_, rfl, ⟨h.eff, h.sym, h.mem, fun v hv => AL.get_foldl_set_congr _ _ _ (h.env v hv)⟩⟩

theorem bind_keep {D : Nat → Prop} {st s1 : St} {names : List (Nat × Ty)} {vals : List Val}
    (hD : ∀ p ∈ names, D p.1) (hb : st.bind names vals = .ok s1) : Rel D st s1 := by
  unfold St.bind at hb
  split at hb
  · cases hb
  · cases hb
    refine ⟨rfl, rfl, rfl, fun v hv => AL.get_foldl_set_of_not_mem _ _ _ _ ?_⟩
    intro p hp heq
    have := (List.of_mem_zip hp).1
    exact hv (heq ▸ hD _ this)

def frameMap (e' : AL Nat Val) (f' : List Effect) : Res (St × List Val) → Res (St × List Val)
  | .ok (s1, rs) => .ok ({ s1 with env := e', eff := f' }, rs)
  | .ub w => .ub w
  | .fuel => .fuel
  | .err x => .err x

theorem load_frame (st : St) (e' : AL Nat Val) (f' : List Effect) (m : Val) (idx : List Int) :
    St.load { st with env := e', eff := f' } m idx = St.load st m idx := by
  unfold St.load; rfl

theorem store_frame (st : St) (e' : AL Nat Val) (f' : List Effect) (m : Val) (idx : List Int) (v : Val) :
    St.store { st with env := e', eff := f' } m idx v = match St.store st m idx v with
      | .ok s1 => .ok { s1 with env := e', eff := f' } | .ub w => .ub w | .fuel => .fuel | .err x => .err x := by
  unfold St.store
  cases m <;> try rfl
  rename_i id
  simp only
  cases st.mem[id]? with
  | none => rfl
  | some a =>
    simp only
    cases linearIndex a.shape idx <;> rfl

/-- the region-free state operations read and write `sym` and `mem` only: given another environment and effect
log they do the same and hand both on -/
theorem stateOp_frame (st : St) (e' : AL Nat Val) (f' : List Effect) (o : Op) (args : List Val) :
    stateOp { st with env := e', eff := f' } o args = (stateOp st o args).map (frameMap e' f') := by
  unfold stateOp
  split
  all_goals first | rfl | skip
  all_goals try simp only [load_frame, store_frame]
  all_goals repeat' split
  all_goals first | rfl | simp_all [frameMap]

/-- hence they return the environment and the effect log they were given: run from the same state with its own
environment and log put back -/
theorem stateOp_keeps {st st1 : St} {o : Op} {args rs : List Val}
    (h : stateOp st o args = some (.ok (st1, rs))) : st1.env = st.env ∧ st1.eff = st.eff := by
  have := stateOp_frame st st.env st.eff o args
  rw [h] at this
  simp only [Option.map, frameMap, Option.some.injEq, Res.ok.injEq, Prod.mk.injEq, and_true] at this
  exact ⟨(congrArg St.env this).trans rfl, (congrArg St.eff this).trans rfl⟩

/-- outcomes related: when the first is `ok`, so is the second, with related payloads -/
def RelRes {α : Type} (Q : α → α → Prop) : Res α → Res α → Prop
  | .ok a, r => ∃ b, r = .ok b ∧ Q a b
  | _, _ => True

theorem RelRes.of_ok {α : Type} {Q : α → α → Prop} {a b : α} (h : Q a b) : RelRes Q (.ok a) (.ok b) :=
  ⟨b, rfl, h⟩

/-- related outcomes as a case rule: in the `ok` case both sides are `ok` with related payloads; the other three cases leave
the second side arbitrary, and are `trivial` where the goal is a `RelRes` -/
@[elab_as_elim] theorem RelRes.elim {α : Type} {Q : α → α → Prop} {motive : Res α → Res α → Prop} {X X' : Res α}
    (hq : RelRes Q X X') (ok : ∀ a b, Q a b → motive (.ok a) (.ok b))
    (ub : ∀ w y, motive (.ub w) y) (fuel : ∀ y, motive .fuel y) (err : ∀ x y, motive (.err x) y) : motive X X' := by
  cases X with
  | ok a => obtain ⟨b, rfl, h⟩ := hq; exact ok a b h
  | ub w => exact ub w _
  | fuel => exact fuel _
  | err x => exact err x _

theorem RelRes.imp {α : Type} {Q Q' : α → α → Prop} {x y : Res α} (h : RelRes Q x y) (hQ : ∀ a b, Q a b → Q' a b) :
    RelRes Q' x y := by
  cases x with
  | ok a => obtain ⟨b, e, hq⟩ := h; exact ⟨b, e, hQ a b hq⟩
  | ub w => trivial
  | fuel => trivial
  | err e => trivial

theorem RelRes.diag {α : Type} {Q : α → α → Prop} {x : Res α} (h : ∀ a, x = .ok a → Q a a) : RelRes Q x x := by
  cases x with
  | ok a => exact .of_ok (h a rfl)
  | ub w => trivial
  | fuel => trivial
  | err e => trivial

end Xdsl.DCEM
