import XdslProofs.Lemmas.EGraphOps
/-!
Def-before-use order of a block (C28, totality part): `OrdFrom D body` — scanning `body` from a
state in which exactly the ids satisfying `D` are defined, every operand is defined when it is used.
Lemmas: monotonicity, erasing an unused definition, redirecting the uses of a class to one of its
alternatives, evaluation succeeds on ordered blocks, the model's `isOrdered` fast path.  No Mathlib.
-/
namespace Xdsl.EGraph

variable {V : Type}

def OrdFrom (D : Nat → Prop) : List Node → Prop
  | [] => True
  | n :: rest => (∀ a ∈ n.args, D a) ∧ OrdFrom (fun x => D x ∨ x = n.res) rest

theorem OrdFrom.mono {D D' : Nat → Prop} (h : ∀ x, D x → D' x) :
    ∀ {b : List Node}, OrdFrom D b → OrdFrom D' b := by
  intro b
  induction b generalizing D D' with
  | nil => exact fun _ => trivial
  | cons n rest ih =>
    exact fun ⟨ha, hr⟩ => ⟨fun a h' => h a (ha a h'), ih (fun x hx => hx.elim (fun h' => Or.inl (h x h')) Or.inr) hr⟩

theorem OrdFrom.restrict {Q : Nat → Prop} :
    ∀ {D : Nat → Prop} {b : List Node}, OrdFrom D b → (∀ n ∈ b, ∀ a ∈ n.args, Q a) →
      OrdFrom (fun x => D x ∧ Q x) b := by
  intro D b
  induction b generalizing D with
  | nil => exact fun _ _ => trivial
  | cons n rest ih =>
    exact fun ⟨ha, hr⟩ hq => ⟨fun a h' => ⟨ha a h', hq n List.mem_cons_self a h'⟩,
      OrdFrom.mono (fun x hx => hx.1.elim (fun h' => Or.inl ⟨h', hx.2⟩) Or.inr)
        (ih hr fun m hm => hq m (List.mem_cons_of_mem _ hm))⟩

theorem OrdFrom.erase {v : Nat} :
    ∀ {D : Nat → Prop} {b : List Node}, OrdFrom D b → (∀ n ∈ b, v ∉ n.args) →
      OrdFrom D (b.filter (·.res ≠ v)) := by
  intro D b
  induction b generalizing D with
  | nil => exact fun _ _ => trivial
  | cons n rest ih =>
    intro ⟨ha, hr⟩ hu
    have hu' : ∀ m ∈ rest, v ∉ m.args := fun m hm => hu m (List.mem_cons_of_mem _ hm)
    by_cases h : n.res = v
    · -- the erased node: its result is used nowhere, so the rest is ordered without it
      rw [List.filter_cons_of_neg (by simp [h])]
      apply ih _ hu'
      have h1 := OrdFrom.restrict (Q := fun x => x ≠ v) hr (fun m hm a ha' e => hu' m hm (e ▸ ha'))
      exact OrdFrom.mono (fun x hx => hx.1.elim id (fun e => absurd (e.trans h) hx.2)) h1
    · rw [List.filter_cons_of_pos (by simp [h])]
      exact ⟨ha, ih hr hu'⟩

theorem OrdFrom_iff_splits : ∀ {D : Nat → Prop} {b : List Node},
    OrdFrom D b ↔ ∀ pre n suf, b = pre ++ n :: suf → ∀ a ∈ n.args, D a ∨ a ∈ pre.map (·.res) := by
  intro D b
  induction b generalizing D with
  | nil => exact ⟨fun _ pre _ _ e => absurd e (by simp), fun _ => trivial⟩
  | cons m rest ih =>
    have ih := ih (D := fun x => D x ∨ x = m.res)
    have hor : ∀ (a : Nat) (pre : List Node), (D a ∨ a = m.res) ∨ a ∈ pre.map (·.res) ↔
        D a ∨ a ∈ (m :: pre).map (·.res) := fun a pre => by
      rw [List.map_cons, List.mem_cons, or_assoc]
    constructor
    · rintro ⟨ha, hr⟩ pre n suf e a han
      match pre, e with
      | [], e => cases e; exact Or.inl (ha a han)
      | _ :: pre, e => cases e; exact (hor a pre).1 (ih.1 hr pre n suf rfl a han)
    · intro h
      exact ⟨fun a ha => (h [] m rest rfl a ha).elim id (by simp),
        ih.2 fun pre n suf e a han => (hor a pre).2 (h (m :: pre) n suf (by rw [e]; rfl) a han)⟩

theorem OrdFrom.arg_defined {D : Nat → Prop} {b : List Node} (h : OrdFrom D b) (n : Node) (hn : n ∈ b)
    (a : Nat) (ha : a ∈ n.args) : D a ∨ a ∈ b.map (·.res) := by
  obtain ⟨pre, suf, rfl⟩ := List.append_of_mem hn
  refine (OrdFrom_iff_splits.1 h pre n suf rfl a ha).imp_right fun h' => ?_
  rw [List.map_append]
  exact List.mem_append_left _ h'

theorem OrdFrom_snoc : ∀ {D : Nat → Prop} (xs : List Node) (n : Node), OrdFrom D xs →
    (∀ a ∈ n.args, D a ∨ a ∈ xs.map (·.res)) → OrdFrom D (xs ++ [n]) := by
  intro D xs n
  induction xs generalizing D with
  | nil => exact fun _ h => ⟨fun a ha => (h a ha).resolve_right List.not_mem_nil, trivial⟩
  | cons x xs ih =>
    exact fun ⟨hx, hr⟩ h => ⟨hx, ih hr fun a ha => (h a ha).elim (fun h1 => Or.inl (Or.inl h1)) fun h1 =>
      (List.mem_cons.1 h1).elim (fun h2 => Or.inl (Or.inr h2)) Or.inr⟩

theorem OrdFrom.congr (f : Node → Node) (hf : ∀ n : Node, n.sameSem (f n)) :
    ∀ {D : Nat → Prop} {b : List Node}, OrdFrom D b → OrdFrom D (b.map f) := by
  intro D b
  induction b generalizing D with
  | nil => exact fun _ => trivial
  | cons n rest ih =>
    intro ⟨ha, hr⟩
    refine ⟨(hf n).args ▸ ha, ?_⟩
    rw [(hf n).res]
    exact ih hr

/-- Renaming `old` to `new` (in any set of nodes) keeps the order if `new` is defined wherever `old`
is: at the start, and at the node that defines `old` — there `new` is defined already or an operand. -/
theorem OrdFrom.rename {K : Node → Prop} [DecidablePred K] {old new : Nat} :
    ∀ {D : Nat → Prop} {b : List Node}, OrdFrom D b → (D old → D new) →
      (∀ n ∈ b, n.res = old → D new ∨ new ∈ n.args) → OrdFrom D (b.map (renIf K old new)) := by
  intro D b
  induction b generalizing D with
  | nil => exact fun _ _ _ => trivial
  | cons n rest ih =>
    intro ⟨ha, hr⟩ hD hn
    refine ⟨fun a ha' => ?_, ?_⟩
    · rcases mem_renIf_args ha' with h | ⟨rfl, ho⟩
      · exact ha a h
      · exact hD (ha old ho)
    · rw [renIf_res]
      refine ih hr (fun h => ?_) (fun m hm e => ?_)
      · rcases h with h | h
        · exact Or.inl (hD h)
        · exact Or.inl ((hn n List.mem_cons_self h.symm).elim id (ha new))
      · exact (hn m (List.mem_cons_of_mem _ hm) e).imp_left Or.inl

theorem OrdFrom.rename_defined {K : Node → Prop} [DecidablePred K] {r c : Nat} {E E' : Nat → Prop} {b : List Node}
    (h : OrdFrom E b) (hsub : ∀ x, E x → E' x) (hc : E' c) : OrdFrom E' (b.map (renIf K r c)) :=
  (h.mono hsub).rename (fun _ => hc) fun _ _ _ => Or.inl hc

/-- redirecting every use of the class `c` (outside the class op itself) to its alternative `x` -/
theorem OrdFrom.replace {c x : Nat} :
    ∀ {D : Nat → Prop} {b : List Node}, OrdFrom D b → (D c → D x) → (∀ n ∈ b, n.res = c → x ∈ n.args) →
      OrdFrom D (b.map fun n => if some n.res = some c then n else n.mapArgs (substId c x)) :=
  fun h hD hn => OrdFrom.rename (K := fun n => some n.res = some c) h hD fun n hm e => Or.inr (hn n hm e)

theorem evalNodes_of_ord (I : Interp V) :
    ∀ (b : List Node) (D : Nat → Prop) (σ : Env V), OrdFrom D b → (∀ x, D x → σ x ≠ none) →
      (∀ r a m, .cls r a m ∈ b → a ≠ []) → ∃ σ', evalNodes I b σ = some σ' := by
  intro b
  induction b with
  | nil => exact fun _ σ _ _ _ => ⟨σ, rfl⟩
  | cons n rest ih =>
    intro D σ ⟨ha, hr⟩ hb hne
    obtain ⟨vs, hvs, hl⟩ := mapM_some_of_bound (σ := σ) n.args fun x hx => hb x (ha x hx)
    have hv : ∃ v, n.result I vs = some v := by
      cases n with
      | op r nm k a c => exact ⟨_, rfl⟩
      | cls r a m =>
        -- a class has an operand, so there is a first value
        cases vs with
        | nil => exact absurd (List.length_eq_zero_iff.1 hl.symm) (hne r a m List.mem_cons_self)
        | cons v vs => exact ⟨v, rfl⟩
    obtain ⟨v, hv⟩ := hv
    obtain ⟨σ', he⟩ := ih (fun x => D x ∨ x = n.res) (σ.set n.res v) hr
      (fun x hx => Env.set_ne_none.2 (hx.imp_left (hb x)))
      (fun r a m hm => hne r a m (List.mem_cons_of_mem _ hm))
    exact ⟨σ', evalNodes_cons_eq_some.2 ⟨vs, v, hvs, hv, he⟩⟩

/-- the whole function: ordered body, defined returned ids, no class without operands (such a class
has no value to take, `evalNode`) -/
structure Ordered (g : Prog) : Prop where
  body : OrdFrom (· < g.nargs) g.body
  ret : ∀ x ∈ g.ret, x < g.nargs ∨ x ∈ g.body.map (·.res)
  clsArgs : ∀ r a m, .cls r a m ∈ g.body → a ≠ []

theorem initEnv_ne_none {env : List V} {x : Nat} : initEnv env x ≠ none ↔ x < env.length := by
  unfold initEnv
  rw [ne_eq, List.getElem?_eq_none_iff, Nat.not_le]

theorem evalSeq_of_ordered (I : Interp V) {g : Prog} {env : List V} (ho : Ordered g)
    (hl : env.length = g.nargs) : ∃ rs, evalSeq I g env = some rs := by
  obtain ⟨σ', he⟩ := evalNodes_of_ord I g.body (· < g.nargs) (initEnv env) ho.body
    (fun x hx => initEnv_ne_none.2 (hl ▸ hx)) ho.clsArgs
  obtain ⟨rs, hrs, _⟩ := mapM_some_of_bound (σ := σ') g.ret fun x hx =>
    (evalNodes_dom I he x).2 ((ho.ret x hx).imp_left fun h => initEnv_ne_none.2 (hl ▸ h))
  exact ⟨rs, evalSeq_eq_some.2 ⟨hl, σ', he, hrs⟩⟩

theorem ordFrom_of_run (I : Interp V) :
    ∀ (b : List Node) (σ σ' : Env V), evalNodes I b σ = some σ' → OrdFrom (fun x => σ x ≠ none) b := by
  intro b
  induction b with
  | nil => exact fun _ _ _ => trivial
  | cons n rest ih =>
    intro σ σ' he
    obtain ⟨vs, v, ha, _, he⟩ := evalNodes_cons_eq_some.1 he
    exact ⟨mapM_bound ha, (ih _ σ' he).mono fun x => Env.set_ne_none.1⟩

theorem deps_defined {body : List Node} {n : Node} {d : Nat} (h : d ∈ deps body n) :
    (findDef body d).isSome = true := by
  simp only [deps, List.mem_filter, Bool.and_eq_true] at h
  exact h.2.2

theorem deps_sub_args {body : List Node} {n : Node} {d : Nat} (h : d ∈ deps body n) : d ∈ n.args := by
  simp only [deps, List.mem_filter] at h
  exact h.1

theorem deps_length_le (body : List Node) (n : Node) : (deps body n).length ≤ n.args.length := by
  unfold deps
  exact List.length_filter_le _ _

theorem posOf_lt_iff {d : Nat} {pre suf : List Node} : posOf (pre ++ suf) d < pre.length ↔ d ∈ pre.map (·.res) := by
  induction pre with
  | nil => exact ⟨fun h => absurd h (Nat.not_lt_zero _), fun h => absurd h List.not_mem_nil⟩
  | cons n pre ih =>
    rw [List.cons_append, posOf, List.length_cons, List.map_cons, List.mem_cons]
    split
    · rename_i e; exact ⟨fun _ => Or.inl e.symm, fun _ => Nat.succ_pos _⟩
    · rename_i hne
      rw [Nat.add_lt_add_iff_right, ih]
      exact ⟨Or.inr, fun h => h.resolve_left fun e => hne e.symm⟩

theorem isOrdered_iff {body : List Node} : isOrdered body = true ↔
    ∀ pre n suf, body = pre ++ n :: suf → ∀ d ∈ deps body n, d ∈ pre.map (·.res) := by
  unfold isOrdered
  rw [all_zipIdx_iff (fun n i => (deps body n).all fun d => decide (posOf body d < i)) body 0]
  constructor
  · intro h pre n suf e d hd
    have hlt := of_decide_eq_true (List.all_eq_true.1 (h pre n suf e) d hd)
    rw [Nat.zero_add, e] at hlt
    exact posOf_lt_iff.1 hlt
  · intro h pre n suf e
    refine List.all_eq_true.2 fun d hd => decide_eq_true ?_
    rw [Nat.zero_add, e]
    exact posOf_lt_iff.2 (h pre n suf e d hd)

theorem isOrdered_of_ordFrom {body : List Node} {nargs : Nat} (hfresh : ∀ n ∈ body, nargs ≤ n.res)
    (ho : OrdFrom (· < nargs) body) : isOrdered body = true := by
  refine isOrdered_iff.2 fun pre n suf e d hd => ?_
  rcases OrdFrom_iff_splits.1 ho pre n suf e d (deps_sub_args hd) with hlt | h
  · -- a dependency is defined by the block, so it is not a block argument
    obtain ⟨n', hn'⟩ := Option.isSome_iff_exists.1 (deps_defined hd)
    obtain ⟨hm, hres⟩ := findDef_mem hn'
    have := hfresh n' hm
    omega
  · exact h

end Xdsl.EGraph
