import XdslModel.Lexer
/-!
Helper lemmas for C07: the matchers of `XdslModel/Lexer.lean` read nothing of a code point but its
value and its `isalpha` bit.  Stated for any map `h` on code points that keeps these two: every
matcher commutes with `List.map h`.  `reflag` of `C07.lean`, which replaces the `isnumeric` /
`isspace` bits arbitrarily, is such a map.
-/
namespace Xdsl.Lexer

variable {h : CP → CP}

theorem countWhile_map (p : CP → Bool) (hp : ∀ c, p (h c) = p c) (l : List CP) :
    countWhile p (l.map h) = countWhile p l := by
  induction l with
  | nil => rfl
  | cons c r ih => simp only [List.map_cons, countWhile, hp, ih]

variable (hv : ∀ c, (h c).val = c.val)
include hv

theorem countWhile_isDigit_map (l : List CP) : countWhile isDigit (l.map h) = countWhile isDigit l :=
  countWhile_map _ (fun c => congrArg isDigitN (hv c)) l

theorem countWhile_isIdentChar_map (l : List CP) :
    countWhile isIdentChar (l.map h) = countWhile isIdentChar l :=
  countWhile_map _ (fun c => congrArg isIdentCharN (hv c)) l

theorem countWhile_isSuffixChar_map (l : List CP) :
    countWhile isSuffixChar (l.map h) = countWhile isSuffixChar l :=
  countWhile_map _ (fun c => congrArg isSuffixCharN (hv c)) l

theorem countWhile_isHex_map (l : List CP) : countWhile isHex (l.map h) = countWhile isHex l :=
  countWhile_map _ (fun c => congrArg isHexN (hv c)) l

/- A recursive matcher commutes with `map h` by induction along its own recursion: its definition is
unfolded on the mapped list, and the tests, which read `.val` only, are decided as for the original. -/

theorem skipWs_map (b : Bool) (l : List CP) : skipWs b (l.map h) = skipWs b l := by
  fun_induction skipWs b l <;> rw [skipWs.eq_def] <;> simp +zetaDelta [*]

theorem strBody_map (l : List CP) : strBody (l.map h) = strBody l := by
  fun_induction strBody l <;> rw [strBody.eq_def] <;> simp +zetaDelta [*]

theorem hasBackslash_map (l : List CP) : hasBackslash (l.map h) = hasBackslash l := by
  fun_induction hasBackslash l <;> rw [hasBackslash.eq_def] <;> simp +zetaDelta [*]

theorem litBytes_map (l : List CP) : litBytes (l.map h) = litBytes l := by
  fun_induction litBytes l <;> rw [litBytes.eq_def] <;> simp +zetaDelta [*]

theorem suffixId_map (l : List CP) : suffixId (l.map h) = suffixId l := by
  cases l with
  | nil => rfl
  | cons c r =>
    simp only [List.map_cons, suffixId, hv, countWhile_isDigit_map hv, countWhile_isSuffixChar_map hv]

theorem litKind_map (l : List CP) : litKind (l.map h) = litKind l := by
  simp only [litKind, hasBackslash_map hv, litBytes_map hv]

theorem lexString_map (l : List CP) : lexString (l.map h) = lexString l := by
  simp only [lexString, strBody_map hv, ← List.map_take, litKind_map hv]

theorem matchExp_map (l : List CP) : matchExp (l.map h) = matchExp l := by
  cases l with
  | nil => rfl
  | cons c r =>
    cases r with
    | nil => simp only [List.map_cons, List.map_nil, matchExp, hv]
    | cons s r' =>
      simp only [List.map_cons, matchExp, hv]
      by_cases hs : (s.val == 43 || s.val == 45) = true <;>
        simp only [hs, if_true, ← List.map_cons, ← List.map_drop, countWhile_isDigit_map hv,
          List.drop_succ_cons, List.drop_zero]

theorem isHexPrefix_map (d0 : Nat) (l : List CP) : isHexPrefix d0 (l.map h) = isHexPrefix d0 l := by
  match l with
  | [] | [_] => rfl
  | x :: y :: r => simp only [List.map_cons, isHexPrefix, hv]

theorem lexNumber_map (d0 : Nat) (l : List CP) : lexNumber d0 (l.map h) = lexNumber d0 l := by
  unfold lexNumber
  simp only [isHexPrefix_map hv, ← List.map_drop, countWhile_isHex_map hv, countWhile_isDigit_map hv]
  split
  · rfl
  · cases List.drop (countWhile isDigit l).1 l with
    | nil => rfl
    | cons dot r2 =>
      simp only [List.map_cons, hv, ← List.map_drop, countWhile_isDigit_map hv, matchExp_map hv]

theorem startsWith1_map (a : Nat) (l : List CP) : startsWith1 a (l.map h) = startsWith1 a l := by
  cases l <;> simp only [List.map_cons, List.map_nil, startsWith1, hv]

theorem startsWith2_map (a b : Nat) (l : List CP) : startsWith2 a b (l.map h) = startsWith2 a b l := by
  match l with
  | [] | [_] => rfl
  | x :: y :: r => simp only [List.map_cons, startsWith2, hv]

variable (ha : ∀ c, (h c).alpha = c.alpha)
include ha

theorem lexAt_map (l : List CP) : lexAt (l.map h) = lexAt l := by
  cases l with
  | nil => rfl
  | cons c r =>
    simp only [List.map_cons, lexAt, hv, ha, countWhile_isIdentChar_map hv, strBody_map hv,
      ← List.map_take, litKind_map hv]

theorem lexTok_map (l : List CP) : lexTok (l.map h) = lexTok l := by
  cases l with
  | nil => rfl
  | cons c r =>
    simp only [List.map_cons, lexTok, hv, ha, countWhile_isIdentChar_map hv, startsWith1_map hv,
      startsWith2_map hv, lexAt_map hv ha, suffixId_map hv, lexString_map hv, lexNumber_map hv]

theorem lexLoop_map (fuel pos : Nat) (l : List CP) : lexLoop fuel pos (l.map h) = lexLoop fuel pos l := by
  induction fuel generalizing pos l with
  | zero => rfl
  | succ n ih => simp only [lexLoop, skipWs_map hv, ← List.map_drop, lexTok_map hv ha, ih]

theorem lex_map (cs : List CP) : lex (cs.map h) = lex cs := by
  rw [lex, List.length_map, lexLoop_map hv ha, lex]

end Xdsl.Lexer
