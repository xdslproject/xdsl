import XdslProofs.Lemmas.ClonePhase2
import XdslProofs.Lemmas.List
/-!
C02, the entry points: definitions of the copy are the renamed definitions of the source, the
verifier's successor rule implies `SuccOK`, and what phase 1 followed by phase 2 guarantees when
every identity of the copy was allocated at or after `base`; `clone_into` and `Operation.clone` are
the two instances.
-/
namespace Xdsl.Clone

theorem Iso_defVals {co : Bool} {fv fb : Nat → Nat} {k : Kind} (t t' : T k)
    (i : Iso co fv fb t t') : defVals t' = (defVals t).map fv := by
  fun_induction Iso co fv fb t t' with
  | case1 => rfl
  | case2 h rs nx h' rs' nx' ih1 ih2 =>
    simp only [defVals, List.map_append, ih1 i.2.2.2.2.2.2.1, ih2 i.2.2.2.2.2.2.2, i.2.2.2.1,
      List.map_map, Function.comp_def]
  | case3 h ops nx h' ops' nx' ih1 ih2 =>
    simp only [defVals, List.map_append, ih1 i.2.2.1, ih2 i.2.2.2, i.2.1, List.map_map,
      Function.comp_def]
  | case4 bs nx bs' nx' ih1 ih2 => simp only [defVals, List.map_append, ih1 i.1, ih2 i.2]
  | case5 => exact i.elim

theorem Iso_defBlocks {co : Bool} {fv fb : Nat → Nat} {k : Kind} (t t' : T k)
    (i : Iso co fv fb t t') : defBlocks t' = (defBlocks t).map fb := by
  fun_induction Iso co fv fb t t' with
  | case1 => rfl
  | case2 h rs nx h' rs' nx' ih1 ih2 =>
    simp only [defBlocks, List.map_append, ih1 i.2.2.2.2.2.2.1, ih2 i.2.2.2.2.2.2.2]
  | case3 h ops nx h' ops' nx' ih1 ih2 =>
    simp only [defBlocks, List.map_append, List.map_cons, ih1 i.2.2.1, ih2 i.2.2.2, i.1]
  | case4 bs nx bs' nx' ih1 ih2 => simp only [defBlocks, List.map_append, ih1 i.1, ih2 i.2]
  | case5 => exact i.elim

theorem defVals_sublist_ids {k : Kind} (t : T k) : (defVals t).Sublist (ids t) := by
  induction t with
  | nil => simp [defVals, ids]
  | op h rs nx ih1 ih2 =>
    simp only [defVals, ids, hdrIds, List.cons_append]
    apply List.Sublist.cons
    apply List.Sublist.cons
    apply List.Sublist.cons
    exact (List.Sublist.refl _).append (ih1.append ih2)
  | region bs nx ih1 ih2 => simp only [defVals, ids]; exact ih1.append ih2
  | block h ops nx ih1 ih2 =>
    simp only [defVals, ids, List.cons_append]
    apply List.Sublist.cons
    exact (List.Sublist.refl _).append (ih1.append ih2)

theorem defBlocks_sublist_ids {k : Kind} (t : T k) : (defBlocks t).Sublist (ids t) := by
  induction t with
  | nil => simp [defBlocks, ids]
  | op h rs nx ih1 ih2 =>
    simp only [defBlocks, ids]
    exact List.Sublist.trans (ih1.append ih2) (List.sublist_append_right _ _)
  | region bs nx ih1 ih2 => simp only [defBlocks, ids]; exact ih1.append ih2
  | block h ops nx ih1 ih2 =>
    simp only [defBlocks, ids, List.cons_append]
    apply List.Sublist.cons_cons
    exact List.Sublist.trans (ih1.append ih2) (List.sublist_append_right _ _)

theorem ownResult_cloneVals (vm : AL Nat Nat) (n : Nat) (rs : List (Nat × Nat)) (v : Nat)
    (nd : (rs.map Prod.fst).Nodup) :
    ownResult rs (cloneVals vm n rs).1 v
      = if v ∈ rs.map Prod.fst then some (mapVal (cloneVals vm n rs).2.1 v) else none := by
  induction rs generalizing vm n with
  | nil => simp [ownResult]
  | cons p r ih =>
    obtain ⟨x, ty⟩ := p
    simp only [List.map_cons, List.nodup_cons] at nd
    simp only [cloneVals, ownResult, List.map_cons, List.mem_cons]
    by_cases e : x = v
    · subst e
      have : AL.get (cloneVals (AL.set vm x n) (n + 1) r).2.1 x = some n := by
        rw [cloneVals_frame _ _ _ _ nd.1, AL.get_set]; simp
      simp [mapVal_of_get this]
    · have e' : ¬ v = x := fun h => e h.symm
      simp only [e, e', if_false, false_or]
      exact ih _ _ nd.2

/-- `Operation.verify`'s rule, relative to the cloned part whose blocks are `B`: a successor of an op
is a block of the region the op sits in (`env` = the blocks of that region), or it is not a block of
the cloned part at all (an outside block — only possible for the root of an `Operation.clone`). -/
def Scoped (B : List Nat) : {k : Kind} → List Nat → T k → Prop
  | _, _, .nil => True
  | _, env, .op h rs nx => (∀ s ∈ h.succs, s ∈ env ∨ s ∉ B) ∧ Scoped B [] rs ∧ Scoped B env nx
  | _, env, .region bs nx => Scoped B (directIds bs) bs ∧ Scoped B env nx
  | _, env, .block _ ops nx => Scoped B env ops ∧ Scoped B env nx

theorem scoped_succ {B : List Nat} {k : Kind} (t : T k) (env : List Nat) (sc : Scoped B env t) :
    ∀ s ∈ succsOf t, s ∈ B → s ∈ env ++ regd t := by
  induction t generalizing env with
  | nil => nofun
  | op h rs nx ih1 ih2 =>
    intro s hs hB
    simp only [succsOf, regd, List.mem_append] at hs ⊢
    rcases hs with hs | hs | hs
    · exact Or.inl ((sc.1 s hs).resolve_right fun h => h hB)
    · exact Or.inr (Or.inl (ih1 [] sc.2.1 s hs hB))
    · exact (List.mem_append.mp (ih2 env sc.2.2 s hs hB)).imp_right Or.inr
  | region bs nx ih1 ih2 =>
    intro s hs hB
    simp only [succsOf, regd, List.mem_append] at hs ⊢
    rcases hs with hs | hs
    · exact Or.inr (Or.inl (List.mem_append.mp (ih1 _ sc.1 s hs hB)))
    · exact (List.mem_append.mp (ih2 env sc.2 s hs hB)).imp_right Or.inr
  | block h ops nx ih1 ih2 =>
    intro s hs hB
    simp only [succsOf, regd, List.mem_append] at hs ⊢
    rcases hs with hs | hs
    · exact (List.mem_append.mp (ih1 env sc.1 s hs hB)).imp_right Or.inl
    · exact (List.mem_append.mp (ih2 env sc.2 s hs hB)).imp_right Or.inr

/-- successors that, as far as they are blocks of the cloned part, lie in `E` are not registered by
a later piece whose registrations are blocks of the cloned part and miss `E` -/
theorem not_later {B E X Y : List Nat} (hX : ∀ s ∈ X, s ∈ B → s ∈ E) (sub : ∀ b ∈ Y, b ∈ B)
    (dj : ∀ e ∈ E, e ∉ Y) : ∀ s ∈ X, s ∉ Y := fun s hs hh => dj s (hX s hs (sub s hh)) hh

theorem succOK_of_scoped {B : List Nat} {k : Kind} (t : T k) (env : List Nat) (sc : Scoped B env t)
    (sub : ∀ b ∈ regd t, b ∈ B) (nd : (regd t).Nodup) (dj : ∀ e ∈ env, e ∉ regd t) : SuccOK t := by
  induction t generalizing env with
  | nil => trivial
  | op h rs nx ih1 ih2 =>
    simp only [regd, List.forall_mem_append] at sub
    simp only [regd, List.mem_append, not_or] at dj
    obtain ⟨nd1, nd2, nd3⟩ := List.nodup_append.mp nd
    have s1 := ih1 [] sc.2.1 sub.1 nd1 nofun
    have s2 := ih2 env sc.2.2 sub.2 nd2 fun e he => (dj e he).2
    have hh : ∀ s ∈ h.succs, s ∈ B → s ∈ env := fun s hs hB => (sc.1 s hs).resolve_right fun h => h hB
    exact ⟨fun s hs => ⟨not_later hh sub.1 (fun e he => (dj e he).1) s hs,
        not_later hh sub.2 (fun e he => (dj e he).2) s hs⟩,
      not_later (scoped_succ rs [] sc.2.1) sub.2 (fun e he hy => nd3 e he e hy rfl), s1, s2⟩
  | region bs nx ih1 ih2 =>
    simp only [regd, List.forall_mem_append] at sub
    simp only [regd, List.mem_append, not_or] at dj
    obtain ⟨nd1, nd4, nd5⟩ := List.nodup_append.mp nd
    obtain ⟨_, nd2, nd3⟩ := List.nodup_append.mp nd1
    exact ⟨not_later (scoped_succ bs _ sc.1) sub.2 (fun e he hy => nd5 e he e hy rfl),
      ih1 _ sc.1 sub.1.2 nd2 (fun e he hy => nd3 e he e hy rfl),
      ih2 env sc.2 sub.2 nd4 fun e he => (dj e he).2⟩
  | block h ops nx ih1 ih2 =>
    simp only [regd, List.forall_mem_append] at sub
    simp only [regd, List.mem_append, not_or] at dj
    obtain ⟨nd1, nd2, nd3⟩ := List.nodup_append.mp nd
    exact ⟨not_later (scoped_succ ops env sc.1) sub.2 (fun e he hy =>
        (List.mem_append.mp he).elim (fun he => (dj e he).2 hy) (fun he => nd3 e he e hy rfl)),
      ih1 env sc.1 sub.1 nd1 (fun e he => (dj e he).1), ih2 env sc.2 sub.2 nd2 fun e he => (dj e he).2⟩

/-! ## Phase 1, then phase 2

Both entry points run `c1 nb s t` and then assign operands along the two walks; they differ in the
tree (`T .blocks` after the block registration loop, or a single op) and in `nb`.  What they share
is the hypothesis `Alloc 0 0 base …`: every identity of the copy, the pending block identities
included, was allocated at or after `base`, the allocator at the time of the call. -/

def phase2 (nb : Nat) (s : St) {k : Kind} (t : T k) : AL Nat (List Nat) :=
  mkAssign (c1 nb s t).2.vm (walkOperands t) (walkIds (c1 nb s t).1) []

section
variable {base nb : Nat} {s : St} {k : Kind} {t : T k}
  (h : Alloc 0 0 base (c1 nb s t).2.next (ids (c1 nb s t).1))
include h

theorem phase2_frame {k' : Kind} (u : T k') (old : ∀ i ∈ ids u, i < base) :
    applyOps (phase2 nb s t) u = u := by
  refine applyOps_frame _ _ fun id hid => ?_
  rw [phase2, mkAssign_frame]
  · rfl
  · intro hin
    have := old id (walkIds_sub_ids u id hid)
    have := h.bounds id (walkIds_sub_ids _ id hin)
    omega

theorem phase2_iso (ok : SrcOK t) (reg : Reg s.bm nb t) :
    Iso true (mapVal (c1 nb s t).2.vm) (mapVal (c1 nb s t).2.bm) t
      (applyOps (phase2 nb s t) (c1 nb s t).1) :=
  Iso_applyOps _ _ _ (c1_iso t nb s ok.vals ok.blocks ok.succ reg)
    (mkAssign_get _ _ _ [] ((h.nodup (Nat.zero_le _)).sublist (walkIds_sublist_ids _)))

/-- The image of a definition of the source is a definition of the copy: it is new, and distinct
definitions have distinct images because the copy defines nothing twice. -/
theorem mapper_inside (ok : SrcOK t) (reg : Reg s.bm nb t) :
    (∀ v ∈ defVals t, base ≤ mapVal (c1 nb s t).2.vm v)
      ∧ (∀ v ∈ defVals t, ∀ w ∈ defVals t,
          mapVal (c1 nb s t).2.vm v = mapVal (c1 nb s t).2.vm w → v = w)
      ∧ (∀ b ∈ defBlocks t, base ≤ mapVal (c1 nb s t).2.bm b)
      ∧ (∀ b ∈ defBlocks t, ∀ c ∈ defBlocks t,
          mapVal (c1 nb s t).2.bm b = mapVal (c1 nb s t).2.bm c → b = c) := by
  have i := c1_iso t nb s ok.vals ok.blocks ok.succ reg
  have dv := Iso_defVals _ _ i
  have db := Iso_defBlocks _ _ i
  have nd := h.nodup (Nat.zero_le _)
  have ndv := nd.sublist (defVals_sublist_ids (c1 nb s t).1)
  have ndb := nd.sublist (defBlocks_sublist_ids (c1 nb s t).1)
  rw [dv] at ndv
  rw [db] at ndb
  refine ⟨fun v hv => ?_, inj_of_nodup_map _ _ ndv, fun b hb => ?_, inj_of_nodup_map _ _ ndb⟩
  · exact (h.bounds _ ((defVals_sublist_ids _).subset (dv ▸ List.mem_map_of_mem hv))).1
  · exact (h.bounds _ ((defBlocks_sublist_ids _).subset (db ▸ List.mem_map_of_mem hb))).1

theorem phase2_fresh :
    (∀ i ∈ ids (applyOps (phase2 nb s t) (c1 nb s t).1), base ≤ i ∧ i < (c1 nb s t).2.next)
      ∧ (ids (applyOps (phase2 nb s t) (c1 nb s t).1)).Nodup := by
  rw [applyOps_ids]
  exact ⟨h.bounds, h.nodup (Nat.zero_le _)⟩

end

/-- state after the first loop of `clone_into` (all new blocks created and registered) -/
def st1 (st : St) (src : T .blocks) : St :=
  { st with bm := (regBlocks st.bm st.next src).1, next := (regBlocks st.bm st.next src).2 }

/-- new blocks (without operands) and mappers after phase 1 -/
def p1 (st : St) (src : T .blocks) : T .blocks × St := c1 st.next (st1 st src) src

/-- the phase-2 assignments of the repaired `clone_into`: `phase2` for the tree and the state on which
`clone_into` runs `c1` (`asg_eq`) -/
def asg (st : St) (src : T .blocks) : AL Nat (List Nat) :=
  mkAssign (p1 st src).2.vm (walkOperands src) (walkIds (p1 st src).1) []

theorem asg_eq (st : St) (src : T .blocks) : asg st src = phase2 st.next (st1 st src) src := rfl

theorem cloneInto_eq (st : St) (src dst : T .blocks) (idx : Option Nat) :
    cloneInto st src dst idx true =
      { src := applyOps (phase2 st.next (st1 st src) src) src
        out := applyOps (phase2 st.next (st1 st src) src)
          (insertAt (idx.getD (chainLen dst)) (c1 st.next (st1 st src) src).1 dst)
        new := applyOps (phase2 st.next (st1 st src) src) (c1 st.next (st1 st src) src).1
        st := (c1 st.next (st1 st src) src).2 } := by
  simp [cloneInto, cloneIntoG, c1, firstRegion, phase2, st1]

theorem st1_next (st : St) (src : T .blocks) : (st1 st src).next = st.next + dlen src := by
  simp [st1, regBlocks_next]

/-- the first loop of `clone_into` allocates the blocks of the chain, as a region cell does -/
theorem alloc_into (st : St) (src : T .blocks) :
    Alloc 0 0 st.next (c1 st.next (st1 st src) src).2.next (ids (c1 st.next (st1 st src) src).1) :=
  (c1_alloc src st.next (st1 st src)).absorb (st1_next st src)

theorem reg_into (st : St) {src : T .blocks} (ok : SrcOK src) : Reg (st1 st src).bm st.next src :=
  regBlocks_reg _ _ _ (List.nodup_append.mp ok.blocks).1

theorem cloneOp_eq (st : St) (h : OpHdr) (rs : T .regions) :
    cloneOp st (.op h rs .nil) true =
      { src := applyOps (phase2 0 st (.op h rs .nil)) (.op h rs .nil)
        out := applyOps (phase2 0 st (.op h rs .nil)) (c1 0 st (.op h rs .nil)).1
        new := .nil
        st := (c1 0 st (.op h rs .nil)).2 } := by
  simp [cloneOp, headOp, phase2]

theorem alloc_op (st : St) (o : T .ops) :
    Alloc 0 0 st.next (c1 0 st o).2.next (ids (c1 0 st o).1) :=
  dlen_of_ne o ▸ c1_alloc o 0 st

end Xdsl.Clone
