import XdslProofs.Lemmas.CloneTop
/-!
# C02 — cloning yields an independent equivalent copy and leaves other IR untouched

Model: `XdslModel/Clone.lean`.  This file: the repaired `Region.clone_into` (`cloneInto`); the other
entry points (`Operation.clone`, `Operation.clone_without_regions`, `Region.clone`) and the
counterexample for the pinned `clone_into` are in `XdslProofs/C02Op.lean`.
Identities (`Nat`) stand for Python object identity; `St.next` is the allocator of new objects, so
"`i < st.next`" reads "object `i` existed before the call".
Left out of the model: use lists (`SSAValue.uses`) — a value outside the cloned part gains the
copy's ops as users —, name hints and locations.
-/
namespace Xdsl.Clone

/-- IR whose values and blocks are distinct objects and which obeys the verifier's successor rule
(`Scoped`: a successor is a block of the op's own region, or a block outside the cloned part) is a
legitimate source. -/
theorem srcOK_of_verified {k : Kind} (t : T k) (ndv : (defVals t).Nodup) (ndb : (blockIds t).Nodup)
    (sc : Scoped (blockIds t) (directIds t) t) : SrcOK t := by
  refine ⟨ndv, ndb, ?_⟩
  have nd := ndb
  simp only [blockIds, List.nodup_append] at nd
  exact succOK_of_scoped t _ sc (fun b hb => by simp [blockIds, hb]) nd.2.1
    (fun e he hh => nd.2.2 e he e hh rfl)

/-- **frame, general form**: phase 2 of the repaired `clone_into` changes no tree whose objects all
existed before the call ("leaves other IR untouched"). -/
theorem clone_into_frame {k : Kind} (st : St) (src : T .blocks) (u : T k) (old : Old st u) :
    applyOps (asg st src) u = u :=
  asg_eq st src ▸ phase2_frame (alloc_into st src) u old

/-- "Cloning … produces IR equivalent to the source in which every reference to a value or block
defined inside the cloned part points to its copy and every reference to something outside is
unchanged": the new blocks are the source renamed by the final `value_mapper`/`block_mapper`
(applied with `.get(x, x)`), operands and successors included. `clone_into_mapper_*` below say what
these maps are inside and outside the cloned part. -/
theorem clone_into_iso (st : St) (src dst : T .blocks) (idx : Option Nat) (ok : SrcOK src) :
    let r := cloneInto st src dst idx true
    Iso true (mapVal r.st.vm) (mapVal r.st.bm) src r.new := by
  simp only [cloneInto_eq]
  exact phase2_iso (alloc_into st src) ok (reg_into st ok)

/-- outside the cloned part the mappers are what the caller passed in (so such references are
unchanged, or redirected exactly as the caller asked) -/
theorem clone_into_mapper_outside (st : St) (src dst : T .blocks) (idx : Option Nat) :
    let r := cloneInto st src dst idx true
    (∀ v, v ∉ defVals src → AL.get r.st.vm v = AL.get st.vm v)
      ∧ (∀ b, b ∉ blockIds src → AL.get r.st.bm b = AL.get st.bm b) := by
  simp only [cloneInto_eq]
  have f := (frame_regBlocks st src).trans (c1_frame src st.next (st1 st src))
  exact ⟨f.vm, f.bm⟩

/-- inside the cloned part the mappers send distinct definitions to distinct *new* objects -/
theorem clone_into_mapper_inside (st : St) (src dst : T .blocks) (idx : Option Nat) (ok : SrcOK src) :
    let r := cloneInto st src dst idx true
    (∀ v ∈ defVals src, st.next ≤ mapVal r.st.vm v)
      ∧ (∀ v ∈ defVals src, ∀ w ∈ defVals src, mapVal r.st.vm v = mapVal r.st.vm w → v = w)
      ∧ (∀ b ∈ defBlocks src, st.next ≤ mapVal r.st.bm b)
      ∧ (∀ b ∈ defBlocks src, ∀ c ∈ defBlocks src, mapVal r.st.bm b = mapVal r.st.bm c → b = c) := by
  simp only [cloneInto_eq]
  exact mapper_inside (alloc_into st src) ok (reg_into st ok)

/-- "Cloning modifies [not] the source" -/
theorem clone_into_source_unchanged (st : St) (src dst : T .blocks) (idx : Option Nat)
    (old : Old st src) : (cloneInto st src dst idx true).src = src := by
  simp only [cloneInto_eq]
  exact phase2_frame (alloc_into st src) src old

/-- "… nor any IR already present in the destination": the destination afterwards is exactly
`old[:i] ++ new blocks ++ old[i:]` with the old blocks as they were (for an index outside
`0..len` nothing is inserted, as `Region.insert_block` behaves). -/
theorem clone_into_dest_frame (st : St) (src dst : T .blocks) (idx : Option Nat) (old : Old st dst) :
    let r := cloneInto st src dst idx true
    r.out = insertAt (idx.getD (chainLen dst)) r.new dst := by
  simp only [cloneInto_eq]
  rw [applyOps_insertAt, phase2_frame (alloc_into st src) dst old]

/-- every identity of the copy — ops, blocks, values and the `attributes`/`properties` dict
objects — was created by the call, and no two of them coincide -/
theorem clone_into_fresh (st : St) (src dst : T .blocks) (idx : Option Nat) :
    let r := cloneInto st src dst idx true
    (∀ i ∈ ids r.new, st.next ≤ i ∧ i < r.st.next) ∧ (ids r.new).Nodup := by
  simp only [cloneInto_eq]
  exact phase2_fresh (alloc_into st src)

/-- "later edits to the copy are never visible in the source (and vice versa)": an edit addressed to
an object of the copy changes no tree made of old objects; an edit addressed to an old object does
not change the copy. -/
theorem clone_into_edit_independence (st : St) (src dst : T .blocks) (idx : Option Nat) (e : Edit) :
    let r := cloneInto st src dst idx true
    (e.target ∈ ids r.new → ∀ {k : Kind} (u : T k), Old st u → e.apply u = u)
      ∧ (e.target < st.next → e.apply r.new = r.new) :=
  edit_independence (fun i hi => ((clone_into_fresh st src dst idx).1 i hi).1) e

/-- any sequence of edits addressed to objects that are not in `u` leaves `u` unchanged
(`apply_to_clone`: whatever a pass does to objects of the clone, the original module stays) -/
theorem edits_frame {k : Kind} (u : T k) (es : List Edit) (h : ∀ e ∈ es, e.target ∉ ids u) :
    es.foldl (fun t e => e.apply t) u = u := by
  induction es with
  | nil => rfl
  | cons e es ih =>
    simp only [List.foldl_cons]
    rw [Edit.apply_frame e u (h e (by simp))]
    exact ih (fun e' he' => h e' (by simp [he']))

end Xdsl.Clone
