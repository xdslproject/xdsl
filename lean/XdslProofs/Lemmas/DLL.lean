import XdslModel.DLL
import XdslProofs.Lemmas.AL
import Mathlib.Data.List.Basic
import Mathlib.Data.List.Nodup
import Batteries.Data.List.Perm
/-!
# Lemmas for the generic intrusive doubly-linked-list library (`XdslModel/DLL.lean`)

* accessor calculus (`nd`/`en` of every pointer write; a container with no entry in `ends` has the default
  ends and an empty traversal: `en_of_no_ends`, `toList_of_no_ends`, last in the file);
* the abstract side: `nextOf l n` / `prevOf l n` (successor and predecessor of `n` in the list `l`) and
  the list operations `insAfter`, `insBefore`, each read off the cut of the list at the first
  occurrence of the node (`nextOf_split`, `insAfter_split`, `insBefore_split`);
* `WF s f`: the pointer structure `s` represents the family of duplicate-free, pairwise disjoint
  lists `f : container → List node`; `rep` and `free` suffice (`WF.of_rep_free`);
* refinement: under `WF s f`, `toList s c = f c` and `toListBack s c = (f c).reverse`;
* `Seg s c p l q`: the nodes of `l` are linked consecutively, entered from `p` and left towards `q`.
  A segment of `a ++ b` is a segment of `a` and one of `b` (`Seg.append`); a pointer write either
  misses a segment or rewrites one of its ends;
* `Ext a b`: agreement on every node and container; `WF` and `Ext` determine each other
  (`WF.of_ext`, `WF.ext`);
* positions (`setFwd`, `setBwd`, `Pre`, `Suf`): the end of a container is a position like a node;
* `Open`: the state in the middle of a primitive, a container cut open with a segment in flight.  One rule
  per pointer write; the theorem of a primitive opens (`WF.open`), follows the model's writes in the
  model's order, and closes (`Open.close`).  Every primitive preserves `WF` and performs the
  corresponding list operation on `f`;
* what the store proofs need beyond single primitives: batches of removals and of insertions into
  use lists (`WF.removeAll`, `WF.addAll`, `WF.moveUse`), which writes touch `parent`, and nulling a set
  of nodes together with their containers (`WF.clear_on`, erasure).
-/
namespace Xdsl.DLL
open Xdsl

namespace L

@[simp] theorem nd_setNd (s : L) (n m : Nat) (x : Node) :
    (s.setNd n x).nd m = if m = n then x else s.nd m := by
  simp only [nd, setNd, AL.get_set]; split <;> simp

theorem nd_setNd_of_ne {s : L} {n m : Nat} {x : Node} (h : m ≠ n) : (s.setNd n x).nd m = s.nd m :=
  (nd_setNd ..).trans (if_neg h)

@[simp] theorem en_setNd (s : L) (n c : Nat) (x : Node) : (s.setNd n x).en c = s.en c := rfl

@[simp] theorem nd_setEn (s : L) (c n : Nat) (e : Ends) : (s.setEn c e).nd n = s.nd n := rfl

@[simp] theorem en_setEn (s : L) (c d : Nat) (e : Ends) :
    (s.setEn c e).en d = if d = c then e else s.en d := by
  simp only [en, setEn, AL.get_set]; split <;> simp

@[simp] theorem nd_setNext (s : L) (n m : Nat) (v : Option Nat) :
    (s.setNext n v).nd m = if m = n then { s.nd n with next := v } else s.nd m := by
  simp [setNext]
@[simp] theorem nd_setPrev (s : L) (n m : Nat) (v : Option Nat) :
    (s.setPrev n v).nd m = if m = n then { s.nd n with prev := v } else s.nd m := by
  simp [setPrev]
@[simp] theorem nd_setParent (s : L) (n m : Nat) (v : Option Nat) :
    (s.setParent n v).nd m = if m = n then { s.nd n with parent := v } else s.nd m := by
  simp [setParent]
@[simp] theorem en_setNext (s : L) (n c : Nat) (v : Option Nat) : (s.setNext n v).en c = s.en c := rfl
@[simp] theorem en_setPrev (s : L) (n c : Nat) (v : Option Nat) : (s.setPrev n v).en c = s.en c := rfl
@[simp] theorem en_setParent (s : L) (n c : Nat) (v : Option Nat) : (s.setParent n v).en c = s.en c := rfl
@[simp] theorem nd_setFirst (s : L) (c n : Nat) (v : Option Nat) : (s.setFirst c v).nd n = s.nd n := rfl
@[simp] theorem nd_setLast (s : L) (c n : Nat) (v : Option Nat) : (s.setLast c v).nd n = s.nd n := rfl
@[simp] theorem en_setFirst (s : L) (c d : Nat) (v : Option Nat) :
    (s.setFirst c v).en d = if d = c then { s.en c with first := v } else s.en d := by
  simp [setFirst]
@[simp] theorem en_setLast (s : L) (c d : Nat) (v : Option Nat) :
    (s.setLast c v).en d = if d = c then { s.en c with last := v } else s.en d := by
  simp [setLast]

theorem nd_setParents (s : L) (l : List Nat) (p : Option Nat) (n : Nat) :
    (s.setParents l p).nd n = if n ∈ l then { s.nd n with parent := p } else s.nd n := by
  unfold L.setParents
  induction l generalizing s with
  | nil => simp
  | cons x r ih =>
    simp only [List.foldl_cons, ih, nd_setParent, List.mem_cons]
    by_cases h1 : n ∈ r <;> by_cases h2 : n = x <;> simp [h1, h2]

@[simp] theorem en_setParents (s : L) (l : List Nat) (p : Option Nat) (c : Nat) :
    (s.setParents l p).en c = s.en c := by
  unfold L.setParents
  induction l generalizing s with
  | nil => rfl
  | cons x r ih => simp [ih]

/-- which nodes have an entry (needed only to bound the fuel of `toList`) -/
def has (s : L) (n : Nat) : Prop := (AL.get s.node n).isSome

end L
open L

def nextOf : List Nat → Nat → Option Nat
  | [], _ => none
  | x :: r, n => if n = x then r.head? else nextOf r n

def prevOf (l : List Nat) (n : Nat) : Option Nat := nextOf l.reverse n

def insAfter : List Nat → Nat → Nat → List Nat
  | [], _, _ => []
  | x :: r, ex, new => if x = ex then x :: new :: r else x :: insAfter r ex new

def insBefore : List Nat → Nat → Nat → List Nat
  | [], _, _ => []
  | x :: r, ex, new => if x = ex then new :: x :: r else x :: insBefore r ex new

theorem nextOf_of_not_mem {l : List Nat} {n : Nat} (h : n ∉ l) : nextOf l n = none := by
  induction l with
  | nil => rfl
  | cons x r ih =>
    simp only [List.mem_cons, not_or] at h
    simp [nextOf, h.1, ih h.2]

theorem nextOf_cons_of_ne {x n : Nat} (r : List Nat) (h : n ≠ x) : nextOf (x :: r) n = nextOf r n := by
  simp [nextOf, h]

theorem nextOf_cons_self (x : Nat) (r : List Nat) : nextOf (x :: r) x = r.head? := by
  simp [nextOf]

theorem nextOf_append_of_not_mem {a : List Nat} (b : List Nat) {n : Nat} (h : n ∉ a) :
    nextOf (a ++ b) n = nextOf b n := by
  induction a with
  | nil => rfl
  | cons x r ih =>
    simp only [List.mem_cons, not_or] at h
    simp [nextOf, h.1, ih h.2]

theorem getLast?_append_cons (a : List Nat) (x : Nat) (b : List Nat) :
    (a ++ x :: b).getLast? = (x :: b).getLast? :=
  List.getLast?_append_of_ne_nil _ (List.cons_ne_nil x b)

/-- The successor of `n` is read off at the first occurrence of `n`: every other fact about `nextOf`
on a list that contains `n` follows from cutting the list there. -/
theorem nextOf_split {a : List Nat} {n : Nat} (h : n ∉ a) (r : List Nat) : nextOf (a ++ n :: r) n = r.head? := by
  rw [nextOf_append_of_not_mem _ h, nextOf_cons_self]

theorem mem_of_nextOf {l : List Nat} {n m : Nat} (h : nextOf l n = some m) : n ∈ l ∧ m ∈ l := by
  have hn : n ∈ l := by_contra fun e => by rw [nextOf_of_not_mem e] at h; cases h
  obtain ⟨a, r, rfl, ha⟩ := List.eq_append_cons_of_mem hn
  rw [nextOf_split ha] at h
  exact ⟨hn, List.mem_append_right _ (List.mem_cons_of_mem _ (List.mem_of_head? h))⟩

theorem nextOf_append_of_mem {a : List Nat} (b : List Nat) {n : Nat} (h : n ∈ a) :
    nextOf (a ++ b) n = (nextOf a n).or b.head? := by
  obtain ⟨a1, r, rfl, h1⟩ := List.eq_append_cons_of_mem h
  rw [List.append_assoc, List.cons_append, nextOf_split h1, nextOf_split h1, List.head?_append]

theorem nextOf_eq_none_iff {l : List Nat} (hn : l.Nodup) {n : Nat} (h : n ∈ l) :
    nextOf l n = none ↔ l.getLast? = some n := by
  obtain ⟨a, r, rfl, ha⟩ := List.eq_append_cons_of_mem h
  rw [nextOf_split ha, getLast?_append_cons]
  cases r with
  | nil => exact ⟨fun _ => rfl, fun _ => rfl⟩
  | cons y r' =>
    have hnr : n ∉ y :: r' := (List.nodup_cons.mp (List.nodup_append.mp hn).2.1).1
    rw [List.getLast?_cons_cons]
    exact ⟨fun h => (nomatch h), fun h => absurd (List.mem_of_getLast? h) hnr⟩

theorem nextOf_eq_some_iff {l : List Nat} (hn : l.Nodup) (m n : Nat) :
    nextOf l m = some n ↔ ∃ a b, l = a ++ m :: n :: b := by
  constructor
  · intro h
    obtain ⟨a, r, rfl, ha⟩ := List.eq_append_cons_of_mem (mem_of_nextOf h).1
    rw [nextOf_split ha] at h
    obtain ⟨b, rfl⟩ := List.head?_eq_some_iff.mp h
    exact ⟨a, b, rfl⟩
  · rintro ⟨a, b, rfl⟩
    exact nextOf_split (fun e => (List.nodup_append.mp hn).2.2 m e m List.mem_cons_self rfl) _

theorem prevOf_eq_some_iff {l : List Nat} (hn : l.Nodup) (m n : Nat) :
    prevOf l n = some m ↔ nextOf l m = some n := by
  unfold prevOf
  rw [nextOf_eq_some_iff (List.nodup_reverse.mpr hn), nextOf_eq_some_iff hn]
  constructor
  · rintro ⟨a, b, hab⟩
    refine ⟨b.reverse, a.reverse, ?_⟩
    have := congrArg List.reverse hab
    simpa using this
  · rintro ⟨a, b, hab⟩
    refine ⟨b.reverse, a.reverse, ?_⟩
    rw [hab]; simp

theorem nextOf_self_ne {l : List Nat} (hn : l.Nodup) (n : Nat) : nextOf l n ≠ some n := by
  intro h
  obtain ⟨a, b, rfl⟩ := (nextOf_eq_some_iff hn n n).mp h
  exact (List.nodup_cons.mp (List.nodup_append.mp hn).2.1).1 List.mem_cons_self

theorem prevOf_of_not_mem {l : List Nat} {n : Nat} (h : n ∉ l) : prevOf l n = none :=
  nextOf_of_not_mem (by simpa using h)

theorem prevOf_eq_none_iff {l : List Nat} (hn : l.Nodup) {n : Nat} (h : n ∈ l) :
    prevOf l n = none ↔ l.head? = some n := by
  unfold prevOf
  rw [nextOf_eq_none_iff (List.nodup_reverse.mpr hn) (by simpa using h), List.getLast?_reverse]

theorem prevOf_append_of_mem_right {a b : List Nat} {n : Nat} (h : n ∈ b) :
    prevOf (a ++ b) n = (prevOf b n).or a.getLast? := by
  unfold prevOf
  rw [List.reverse_append, nextOf_append_of_mem _ (by simpa using h), List.head?_reverse]

theorem prevOf_append_of_not_mem_right {a b : List Nat} {n : Nat} (h : n ∉ b) :
    prevOf (a ++ b) n = prevOf a n := by
  unfold prevOf
  rw [List.reverse_append, nextOf_append_of_not_mem _ (by simpa using h)]

theorem prevOf_cons_self (x : Nat) (r : List Nat) (h : x ∉ r) : prevOf (x :: r) x = none := by
  unfold prevOf
  rw [List.reverse_cons, nextOf_append_of_not_mem _ (by simpa using h)]
  simp [nextOf]

/-! ### `insAfter` / `insBefore`

Either `ex` does not occur and nothing happens, or the list splits at the first occurrence of `ex`
and `new` goes next to it (`insAfter_split`, `insBefore_split`); the other facts are read off the
split form. -/

theorem insAfter_append_of_not_mem {a : List Nat} {ex : Nat} (h : ex ∉ a) (b : List Nat) (new : Nat) :
    insAfter (a ++ b) ex new = a ++ insAfter b ex new := by
  induction a with
  | nil => rfl
  | cons x r ih =>
    simp only [List.mem_cons, not_or] at h
    simp [insAfter, Ne.symm h.1, ih h.2]

theorem insBefore_append_of_not_mem {a : List Nat} {ex : Nat} (h : ex ∉ a) (b : List Nat) (new : Nat) :
    insBefore (a ++ b) ex new = a ++ insBefore b ex new := by
  induction a with
  | nil => rfl
  | cons x r ih =>
    simp only [List.mem_cons, not_or] at h
    simp [insBefore, Ne.symm h.1, ih h.2]

theorem insAfter_append_cons {a : List Nat} {ex : Nat} (h : ex ∉ a) (b : List Nat) (new : Nat) :
    insAfter (a ++ ex :: b) ex new = a ++ ex :: new :: b := by
  rw [insAfter_append_of_not_mem h, insAfter, if_pos rfl]

theorem insBefore_append_cons {a : List Nat} {ex : Nat} (h : ex ∉ a) (b : List Nat) (new : Nat) :
    insBefore (a ++ ex :: b) ex new = a ++ new :: ex :: b := by
  rw [insBefore_append_of_not_mem h, insBefore, if_pos rfl]

theorem insAfter_of_not_mem {l : List Nat} {ex : Nat} (h : ex ∉ l) (new : Nat) : insAfter l ex new = l := by
  have := insAfter_append_of_not_mem h [] new
  rwa [List.append_nil, insAfter, List.append_nil] at this

theorem insBefore_of_not_mem {l : List Nat} {ex : Nat} (h : ex ∉ l) (new : Nat) : insBefore l ex new = l := by
  have := insBefore_append_of_not_mem h [] new
  rwa [List.append_nil, insBefore, List.append_nil] at this

theorem insAfter_split (l : List Nat) (ex new : Nat) :
    (ex ∉ l ∧ insAfter l ex new = l) ∨
      ∃ a b, ex ∉ a ∧ l = a ++ ex :: b ∧ insAfter l ex new = a ++ ex :: new :: b := by
  by_cases h : ex ∈ l
  · obtain ⟨a, b, rfl, ha⟩ := List.eq_append_cons_of_mem h
    exact .inr ⟨a, b, ha, rfl, insAfter_append_cons ha b new⟩
  · exact .inl ⟨h, insAfter_of_not_mem h new⟩

theorem insBefore_split (l : List Nat) (ex new : Nat) :
    (ex ∉ l ∧ insBefore l ex new = l) ∨
      ∃ a b, ex ∉ a ∧ l = a ++ ex :: b ∧ insBefore l ex new = a ++ new :: ex :: b := by
  by_cases h : ex ∈ l
  · obtain ⟨a, b, rfl, ha⟩ := List.eq_append_cons_of_mem h
    exact .inr ⟨a, b, ha, rfl, insBefore_append_cons ha b new⟩
  · exact .inl ⟨h, insBefore_of_not_mem h new⟩

theorem head?_insAfter (l : List Nat) (ex new : Nat) : (insAfter l ex new).head? = l.head? := by
  cases l with
  | nil => rfl
  | cons x r => simp only [insAfter]; split <;> rfl

theorem head?_insBefore (l : List Nat) (ex new : Nat) :
    (insBefore l ex new).head? = if l.head? = some ex then some new else l.head? := by
  cases l with
  | nil => rfl
  | cons x r =>
    simp only [insBefore]
    split <;> simp_all

theorem mem_insAfter {l : List Nat} {ex : Nat} (h : ex ∈ l) (new m : Nat) :
    m ∈ insAfter l ex new ↔ m = new ∨ m ∈ l := by
  obtain ⟨a, b, rfl, ha⟩ := List.eq_append_cons_of_mem h
  rw [insAfter_append_cons ha, List.mem_append, List.mem_append, List.mem_cons, List.mem_cons, List.mem_cons]
  exact (or_congr_right or_left_comm).trans or_left_comm

theorem mem_insBefore {l : List Nat} {ex : Nat} (h : ex ∈ l) (new m : Nat) :
    m ∈ insBefore l ex new ↔ m = new ∨ m ∈ l := by
  obtain ⟨a, b, rfl, ha⟩ := List.eq_append_cons_of_mem h
  rw [insBefore_append_cons ha, List.mem_append, List.mem_append, List.mem_cons]
  exact or_left_comm

theorem insBefore_append_of_mem {a : List Nat} {ex : Nat} (h : ex ∈ a) (b : List Nat) (new : Nat) :
    insBefore (a ++ b) ex new = insBefore a ex new ++ b := by
  obtain ⟨a1, a2, rfl, h1⟩ := List.eq_append_cons_of_mem h
  rw [List.append_assoc, List.cons_append, insBefore_append_cons h1, insBefore_append_cons h1, List.append_assoc]
  rfl

theorem insAfter_append_of_mem {a : List Nat} {ex : Nat} (h : ex ∈ a) (b : List Nat) (new : Nat) :
    insAfter (a ++ b) ex new = insAfter a ex new ++ b := by
  obtain ⟨a1, a2, rfl, h1⟩ := List.eq_append_cons_of_mem h
  rw [List.append_assoc, List.cons_append, insAfter_append_cons h1, insAfter_append_cons h1, List.append_assoc]
  rfl

theorem reverse_insAfter {l : List Nat} (hn : l.Nodup) (ex new : Nat) :
    (insAfter l ex new).reverse = insBefore l.reverse ex new := by
  rcases insAfter_split l ex new with ⟨h, e⟩ | ⟨a, b, -, rfl, e⟩
  · rw [e, insBefore_of_not_mem (by simpa using h)]
  · have hb : ex ∉ b.reverse := fun h =>
      (List.nodup_cons.mp (List.nodup_append.mp hn).2.1).1 (List.mem_reverse.mp h)
    simp only [e, List.reverse_append, List.reverse_cons, List.append_assoc]
    exact (insBefore_append_cons hb _ new).symm

theorem reverse_insBefore {l : List Nat} (hn : l.Nodup) (ex new : Nat) :
    (insBefore l ex new).reverse = insAfter l.reverse ex new := by
  rcases insBefore_split l ex new with ⟨h, e⟩ | ⟨a, b, -, rfl, e⟩
  · rw [e, insAfter_of_not_mem (by simpa using h)]
  · have hb : ex ∉ b.reverse := fun h =>
      (List.nodup_cons.mp (List.nodup_append.mp hn).2.1).1 (List.mem_reverse.mp h)
    simp only [e, List.reverse_append, List.reverse_cons, List.append_assoc]
    exact (insAfter_append_cons hb _ new).symm

theorem nodup_insAfter {l : List Nat} (hn : l.Nodup) {ex new : Nat} (hnew : new ∉ l) :
    (insAfter l ex new).Nodup := by
  rcases insAfter_split l ex new with ⟨-, e⟩ | ⟨a, b, -, rfl, e⟩
  · rwa [e]
  · rw [e, List.append_cons a ex, List.nodup_middle, ← List.append_cons]
    exact List.nodup_cons.mpr ⟨hnew, hn⟩

theorem nodup_insBefore {l : List Nat} (hn : l.Nodup) {ex new : Nat} (hnew : new ∉ l) :
    (insBefore l ex new).Nodup := by
  rcases insBefore_split l ex new with ⟨-, e⟩ | ⟨a, b, -, rfl, e⟩
  · rwa [e]
  · rw [e, List.nodup_middle]
    exact List.nodup_cons.mpr ⟨hnew, hn⟩

theorem getLast?_insAfter {l : List Nat} (hn : l.Nodup) (ex new : Nat) :
    (insAfter l ex new).getLast? = if l.getLast? = some ex then some new else l.getLast? := by
  rw [← List.head?_reverse, reverse_insAfter hn, head?_insBefore, List.head?_reverse]

theorem getLast?_insBefore (l : List Nat) (ex new : Nat) : (insBefore l ex new).getLast? = l.getLast? := by
  rcases insBefore_split l ex new with ⟨-, e⟩ | ⟨a, b, -, rfl, e⟩
  · rw [e]
  · rw [e, getLast?_append_cons, getLast?_append_cons, List.getLast?_cons_cons]

theorem insAfter_getLast {l : List Nat} {x : Nat} (hn : l.Nodup) (h : l.getLast? = some x) (new : Nat) :
    insAfter l x new = l ++ [new] := by
  obtain ⟨a, rfl⟩ := List.getLast?_eq_some_iff.mp h
  have : x ∉ a := fun hx => List.disjoint_of_nodup_append hn hx (List.mem_singleton_self x)
  rw [insAfter_append_cons this, List.append_assoc]; rfl

theorem insBefore_head {l : List Nat} {x : Nat} (h : l.head? = some x) (new : Nat) :
    insBefore l x new = new :: l := by
  obtain ⟨r, rfl⟩ := List.head?_eq_some_iff.mp h
  exact insBefore_append_cons (a := []) (fun e => nomatch e) r new

/-- container `c` of `s` holds exactly the list `l` -/
structure Rep (s : L) (c : Nat) (l : List Nat) : Prop where
  first : (s.en c).first = l.head?
  last : (s.en c).last = l.getLast?
  link : ∀ n ∈ l, s.nd n = { next := nextOf l n, prev := prevOf l n, parent := some c }
  nodup : l.Nodup

/-- `s` represents the family of lists `f`: every container's pointers spell out its list forward
and backward, every member points back to its container, lists are duplicate-free and pairwise
disjoint, and nodes that are in no list have null links. -/
structure WF (s : L) (f : Nat → List Nat) : Prop where
  rep : ∀ c, Rep s c (f c)
  disj : ∀ c c' n, n ∈ f c → n ∈ f c' → c = c'
  free : ∀ n, (∀ c, n ∉ f c) → s.nd n = {}
  has : ∀ c n, n ∈ f c → s.has n

theorem wf_empty : WF {} (fun _ => []) where
  rep _ := ⟨rfl, rfl, by simp, List.nodup_nil⟩
  disj := by simp
  free _ _ := rfl
  has := by simp

theorem has_of_nd_ne {s : L} {n : Nat} (h : s.nd n ≠ {}) : s.has n := by
  unfold L.has
  unfold L.nd at h
  cases hg : AL.get s.node n with
  | none => rw [hg] at h; exact absurd rfl h
  | some x => rfl

theorem Rep.has {s : L} {c : Nat} {l : List Nat} (r : Rep s c l) {n : Nat} (hn : n ∈ l) : s.has n :=
  has_of_nd_ne fun e => Option.some_ne_none c (by rw [r.link n hn] at e; exact congrArg Node.parent e)

/-- Disjointness of the lists and the entries of their members are implied by the rest: a member's
`parent` names its container, and is not null. -/
theorem WF.of_rep_free {s : L} {f : Nat → List Nat} (rep : ∀ c, Rep s c (f c))
    (free : ∀ n, (∀ c, n ∉ f c) → s.nd n = {}) : WF s f :=
  ⟨rep, fun c c' n hn hn' => Option.some.inj
    (congrArg Node.parent (((rep c).link n hn).symm.trans ((rep c').link n hn'))), free,
    fun c _ hn => (rep c).has hn⟩

theorem Rep.en {s : L} {c : Nat} {l : List Nat} (r : Rep s c l) : s.en c = { first := l.head?, last := l.getLast? } := by
  rw [← r.first, ← r.last]

theorem Rep.congr {s s' : L} {c : Nat} {l : List Nat} (r : Rep s c l) (he : s'.en c = s.en c)
    (hn : ∀ n ∈ l, s'.nd n = s.nd n) : Rep s' c l :=
  ⟨(congrArg Ends.first he).trans r.first, (congrArg Ends.last he).trans r.last,
    fun n h => (hn n h).trans (r.link n h), r.nodup⟩

/-- `walk` and `walkBack` are the same traversal, along `next` resp. `prev`: any `w` that follows the
pointer function `g`, started at the head of a duplicate-free list whose successor function is `g`,
returns that list. -/
theorem walk_eq_of {w : Nat → Option Nat → List Nat} {g : Nat → Option Nat}
    (w0 : ∀ o, w 0 o = []) (ws : ∀ k n, w (k + 1) (some n) = n :: w k (g n))
    (wn : ∀ k, w (k + 1) none = []) (l : List Nat) (hn : l.Nodup)
    (hl : ∀ n ∈ l, g n = nextOf l n) (fuel : Nat) (hf : l.length ≤ fuel) : w fuel l.head? = l := by
  induction l generalizing fuel with
  | nil => cases fuel <;> [exact w0 _; exact wn _]
  | cons x r ih =>
    cases fuel with
    | zero => simp at hf
    | succ k =>
      have hx : x ∉ r := (List.nodup_cons.mp hn).1
      rw [List.head?_cons, ws, hl x List.mem_cons_self, nextOf_cons_self,
        ih (List.nodup_cons.mp hn).2 (fun n hnr => ?_) k (Nat.le_of_succ_le_succ hf)]
      rw [hl n (List.mem_cons_of_mem _ hnr), nextOf_cons_of_ne r (ne_of_mem_of_not_mem hnr hx)]

theorem walk_eq (s : L) (l : List Nat) (hn : l.Nodup)
    (hl : ∀ n ∈ l, (s.nd n).next = nextOf l n) (fuel : Nat) (hf : l.length ≤ fuel) :
    s.walk fuel l.head? = l :=
  walk_eq_of (fun _ => rfl) (fun _ _ => rfl) (fun _ => rfl) l hn hl fuel hf

theorem walkBack_eq (s : L) (l : List Nat) (hn : l.Nodup)
    (hl : ∀ n ∈ l, (s.nd n).prev = nextOf l n) (fuel : Nat) (hf : l.length ≤ fuel) :
    s.walkBack fuel l.head? = l :=
  walk_eq_of (fun _ => rfl) (fun _ _ => rfl) (fun _ => rfl) l hn hl fuel hf

theorem mem_keys_of_has {s : L} {n : Nat} (h : s.has n) : n ∈ s.node.map Prod.fst :=
  AL.isSome_get_iff.mp h

/-- pigeonhole: a duplicate-free list of nodes that all have an entry is shorter than the fuel -/
theorem length_lt_fuel {s : L} {l : List Nat} (hn : l.Nodup) (hh : ∀ n ∈ l, s.has n) :
    l.length < s.fuel := by
  have hsub : l ⊆ s.node.map Prod.fst := fun n h => mem_keys_of_has (hh n h)
  have := (List.subperm_of_subset hn hsub).length_le
  simp only [List.length_map] at this
  unfold L.fuel; omega

namespace WF
variable {s : L} {f : Nat → List Nat}

theorem walk_of_cut (h : WF s f) {c : Nat} {a b : List Nat} (hab : f c = a ++ b) :
    s.walk s.fuel b.head? = b := by
  have r := h.rep c
  have hn := List.nodup_append.mp (hab ▸ r.nodup)
  refine walk_eq s b hn.2.1 (fun m hm => ?_) _ ?_
  · rw [r.link m (hab ▸ List.mem_append_right _ hm), hab, nextOf_append_of_not_mem _ fun e => hn.2.2 m e m hm rfl]
  · have := length_lt_fuel r.nodup (h.has c)
    rw [hab, List.length_append] at this; omega

theorem toList_eq (h : WF s f) (c : Nat) : s.toList c = f c := by
  unfold L.toList
  rw [(h.rep c).first]
  exact h.walk_of_cut (a := []) rfl

theorem eq_toList {l : L} {f : Nat → List Nat} (h : WF l f) : f = l.toList :=
  funext fun c => (h.toList_eq c).symm

theorem toListBack_eq (h : WF s f) (c : Nat) : s.toListBack c = (f c).reverse := by
  have r := h.rep c
  unfold L.toListBack
  rw [r.last, ← List.head?_reverse]
  refine walkBack_eq s (f c).reverse (List.nodup_reverse.mpr r.nodup) (fun n hn => ?_) _ ?_
  · rw [r.link n (List.mem_reverse.mp hn)]; rfl
  · rw [List.length_reverse]; exact Nat.le_of_lt (length_lt_fuel r.nodup (h.has c))

/-- "found … in both forward and backward order": the backward traversal is the reverse of the
forward traversal -/
theorem toListBack_eq_reverse (h : WF s f) (c : Nat) : s.toListBack c = (s.toList c).reverse := by
  rw [h.toListBack_eq, h.toList_eq]

theorem nodup_toList (h : WF s f) (c : Nat) : (s.toList c).Nodup := by
  rw [h.toList_eq]; exact (h.rep c).nodup

theorem parent_of_mem (h : WF s f) {c n : Nat} (hn : n ∈ f c) : (s.nd n).parent = some c := by
  rw [(h.rep c).link n hn]

theorem not_mem_of_parent_none (h : WF s f) {n : Nat} (hp : (s.nd n).parent = none) (d : Nat) : n ∉ f d :=
  fun hm => Option.some_ne_none d ((h.parent_of_mem hm).symm.trans hp)

/-- "… and points back to that container": membership is exactly the parent pointer -/
theorem mem_iff_parent (h : WF s f) (c n : Nat) : n ∈ f c ↔ (s.nd n).parent = some c := by
  refine ⟨h.parent_of_mem, fun hp => by_contra fun hc => ?_⟩
  -- `n` is in no other list either (its parent would name that list), so its links are null
  rw [h.free n fun c' hc' => hc (Option.some.inj ((h.parent_of_mem hc').symm.trans hp) ▸ hc')] at hp
  cases hp

theorem nd_of_parent_none (h : WF s f) {n : Nat} (hp : (s.nd n).parent = none) : s.nd n = {} :=
  h.free n (h.not_mem_of_parent_none hp)

end WF

/-- The nodes of `l` are linked consecutively inside container `c`; the first points back to `p`, the
last forward to `q`. -/
def Seg (s : L) (c : Nat) (p : Option Nat) (l : List Nat) (q : Option Nat) : Prop :=
  ∀ n ∈ l, s.nd n = { next := (nextOf l n).or q, prev := (prevOf l n).or p, parent := some c }

namespace Seg
variable {s s' : L} {c : Nat} {p q : Option Nat} {l a b : List Nat} {x : Nat}

theorem nil : Seg s c p [] q := fun _ h => nomatch h

theorem _root_.Xdsl.DLL.Rep.seg (r : Rep s c l) : Seg s c none l none := fun n hn => by
  rw [r.link n hn, Option.or_none, Option.or_none]

theorem link (h : Seg s c none l none) (n : Nat) (hn : n ∈ l) :
    s.nd n = { next := nextOf l n, prev := prevOf l n, parent := some c } := by
  rw [h n hn, Option.or_none, Option.or_none]

theorem congr (h : Seg s c p l q) (e : ∀ n ∈ l, s'.nd n = s.nd n) : Seg s' c p l q :=
  fun n hn => (e n hn).trans (h n hn)

theorem append (hd : ∀ m ∈ a, m ∉ b) :
    Seg s c p (a ++ b) q ↔ Seg s c p a (b.head?.or q) ∧ Seg s c (a.getLast?.or p) b q := by
  simp only [Seg, List.mem_append, or_imp, forall_and]
  refine and_congr (forall₂_congr fun n hn => ?_) (forall₂_congr fun n hn => ?_)
  · rw [nextOf_append_of_mem b hn, prevOf_append_of_not_mem_right (hd n hn), Option.or_assoc]
  · rw [nextOf_append_of_not_mem b (fun h => hd n h hn), prevOf_append_of_mem_right hn, Option.or_assoc]

theorem singleton : Seg s c p [x] q ↔ s.nd x = { next := q, prev := p, parent := some c } := by
  simp [Seg, nextOf, prevOf]

theorem cons {r : List Nat} (hx : x ∉ r) :
    Seg s c p (x :: r) q ↔
      s.nd x = { next := r.head?.or q, prev := p, parent := some c } ∧ Seg s c (some x) r q :=
  (append (a := [x]) (by simpa using hx)).trans (and_congr singleton Iff.rfl)

theorem snoc (hx : x ∉ l) :
    Seg s c p (l ++ [x]) q ↔
      Seg s c p l (some x) ∧ s.nd x = { next := q, prev := l.getLast?.or p, parent := some c } :=
  (append (b := [x]) fun _ hm e => hx (List.mem_singleton.mp e ▸ hm)).trans (and_congr Iff.rfl singleton)

theorem setNd_of_not_mem (h : Seg s c p l q) (hx : x ∉ l) (y : Node) : Seg (s.setNd x y) c p l q :=
  h.congr fun n hn => by rw [nd_setNd, if_neg (ne_of_mem_of_not_mem hn hx)]

theorem setNext_last (h : Seg s c p l q) (hn : l.Nodup) (hx : l.getLast? = some x) (v : Option Nat) :
    Seg (s.setNext x v) c p l v := by
  obtain ⟨r, rfl⟩ := List.getLast?_eq_some_iff.mp hx
  have hxr : x ∉ r := fun e => (List.disjoint_of_nodup_append hn) e (List.mem_singleton_self x)
  rw [snoc hxr] at h ⊢
  exact ⟨h.1.setNd_of_not_mem hxr _, by rw [nd_setNext, if_pos rfl, h.2]⟩

theorem setPrev_head (h : Seg s c p l q) (hn : l.Nodup) (hx : l.head? = some x) (v : Option Nat) :
    Seg (s.setPrev x v) c v l q := by
  obtain ⟨r, rfl⟩ := List.head?_eq_some_iff.mp hx
  have hxr : x ∉ r := (List.nodup_cons.mp hn).1
  rw [cons hxr] at h ⊢
  exact ⟨by rw [nd_setPrev, if_pos rfl, h.1], h.2.setNd_of_not_mem hxr _⟩

theorem next_last (h : Seg s c p l q) (hn : l.Nodup) (hx : l.getLast? = some x) : (s.nd x).next = q := by
  have hm := List.mem_of_getLast? hx
  rw [h x hm, (nextOf_eq_none_iff hn hm).mpr hx]; rfl

theorem prev_head (h : Seg s c p l q) (hn : l.Nodup) (hx : l.head? = some x) : (s.nd x).prev = p := by
  have hm := List.mem_of_head? hx
  rw [h x hm, (prevOf_eq_none_iff hn hm).mpr hx]; rfl

theorem setParents (h : Seg s c p l q) (c' : Nat) : Seg (s.setParents l (some c')) c' p l q :=
  fun n hn => by rw [nd_setParents, if_pos hn, h n hn]

end Seg

/-! ### agreement on everything a traversal can read

`Ext a b`: two pointer structures agree on every node and every container.  Not `=`: an association
list remembers the order of the writes.  `Ext` is a congruence for the pointer writes, `WF` cannot
tell two `Ext` states apart (`WF.of_ext`), and two states that represent the same lists are `Ext`
(`WF.ext`). -/

namespace L

def Ext (a b : L) : Prop := (∀ n, a.nd n = b.nd n) ∧ (∀ c, a.en c = b.en c)

theorem Ext.refl (a : L) : Ext a a := ⟨fun _ => rfl, fun _ => rfl⟩
theorem Ext.symm {a b : L} (h : Ext a b) : Ext b a := ⟨fun n => (h.1 n).symm, fun c => (h.2 c).symm⟩
theorem Ext.trans {a b c : L} (h : Ext a b) (h' : Ext b c) : Ext a c :=
  ⟨fun n => (h.1 n).trans (h'.1 n), fun d => (h.2 d).trans (h'.2 d)⟩

theorem Ext.setNd {a b : L} (h : Ext a b) (n : Nat) (x : Node) : Ext (a.setNd n x) (b.setNd n x) :=
  ⟨fun m => by simp [h.1 m], fun c => by simp [h.2 c]⟩
theorem Ext.setEn {a b : L} (h : Ext a b) (c : Nat) (e : Ends) : Ext (a.setEn c e) (b.setEn c e) :=
  ⟨fun m => by simp [h.1 m], fun d => by simp [h.2 d]⟩
theorem Ext.setNext {a b : L} (h : Ext a b) (n : Nat) (v : Option Nat) : Ext (a.setNext n v) (b.setNext n v) := by
  unfold L.setNext; rw [h.1 n]; exact h.setNd _ _
theorem Ext.setPrev {a b : L} (h : Ext a b) (n : Nat) (v : Option Nat) : Ext (a.setPrev n v) (b.setPrev n v) := by
  unfold L.setPrev; rw [h.1 n]; exact h.setNd _ _
theorem Ext.setParent {a b : L} (h : Ext a b) (n : Nat) (v : Option Nat) :
    Ext (a.setParent n v) (b.setParent n v) := by
  unfold L.setParent; rw [h.1 n]; exact h.setNd _ _
theorem Ext.setFirst {a b : L} (h : Ext a b) (c : Nat) (v : Option Nat) : Ext (a.setFirst c v) (b.setFirst c v) := by
  unfold L.setFirst; rw [h.2 c]; exact h.setEn _ _
theorem Ext.setLast {a b : L} (h : Ext a b) (c : Nat) (v : Option Nat) : Ext (a.setLast c v) (b.setLast c v) := by
  unfold L.setLast; rw [h.2 c]; exact h.setEn _ _

end L

theorem WF.of_ext {a b : L} {f : Nat → List Nat} (h : WF a f) (e : L.Ext b a) : WF b f :=
  WF.of_rep_free (fun c => (h.rep c).congr (e.2 c) fun n _ => e.1 n) fun n hn => (e.1 n).trans (h.free n hn)

theorem WF.ext {x y : L} {f : Nat → List Nat} (hx : WF x f) (hy : WF y f) : L.Ext x y := by
  refine ⟨fun n => ?_, fun d => (hx.rep d).en.trans (hy.rep d).en.symm⟩
  by_cases hex : ∃ d, n ∈ f d
  · obtain ⟨d, hd⟩ := hex
    rw [(hx.rep d).link n hd, (hy.rep d).link n hd]
  · rw [hx.free n fun d e => hex ⟨d, e⟩, hy.free n fun d e => hex ⟨d, e⟩]

/-! ### positions: the end of a container is a position like a node

A pointer write of a primitive goes to a node or, when the neighbour it looks for is absent, to the
container: `first` stands for the `next` of a position in front of the list, `last` for the `prev`
of a position behind it.  `setFwd` / `setBwd` are the two writes over a position `Option Nat`
(`none` = the container); `Pre` / `Suf` are the segments that include that end of the container.
One lemma (`Pre.setFwd`, `Suf.setBwd`) covers "the neighbour is there" and "it is not". -/

namespace L

def setFwd (s : L) (c : Nat) (p v : Option Nat) : L :=
  match p with
  | some x => s.setNext x v
  | none => s.setFirst c v

def setBwd (s : L) (c : Nat) (q v : Option Nat) : L :=
  match q with
  | some x => s.setPrev x v
  | none => s.setLast c v

theorem nd_setFwd (s : L) (c : Nat) (p v : Option Nat) (m : Nat) (h : ∀ x ∈ p, m ≠ x) :
    (s.setFwd c p v).nd m = s.nd m := by
  cases p with
  | none => rfl
  | some x => exact (nd_setNext ..).trans (if_neg (h x rfl))

theorem nd_setBwd (s : L) (c : Nat) (q v : Option Nat) (m : Nat) (h : ∀ x ∈ q, m ≠ x) :
    (s.setBwd c q v).nd m = s.nd m := by
  cases q with
  | none => rfl
  | some x => exact (nd_setPrev ..).trans (if_neg (h x rfl))

theorem en_setFwd (s : L) (c : Nat) (p v : Option Nat) (d : Nat) (h : d ≠ c) : (s.setFwd c p v).en d = s.en d := by
  cases p with
  | none => exact (en_setFirst ..).trans (if_neg h)
  | some x => rfl

theorem en_setBwd (s : L) (c : Nat) (q v : Option Nat) (d : Nat) (h : d ≠ c) : (s.setBwd c q v).en d = s.en d := by
  cases q with
  | none => exact (en_setLast ..).trans (if_neg h)
  | some x => rfl

theorem last_setFwd (s : L) (c : Nat) (p v : Option Nat) (d : Nat) : ((s.setFwd c p v).en d).last = (s.en d).last := by
  cases p with
  | none => rw [setFwd, en_setFirst]; split <;> [(subst_vars; rfl); rfl]
  | some x => rfl

theorem first_setBwd (s : L) (c : Nat) (q v : Option Nat) (d : Nat) : ((s.setBwd c q v).en d).first = (s.en d).first := by
  cases q with
  | none => rw [setBwd, en_setLast]; split <;> [(subst_vars; rfl); rfl]
  | some x => rfl

end L

/-- container `c` begins with the nodes `a` and continues to `q` -/
def Pre (s : L) (c : Nat) (a : List Nat) (q : Option Nat) : Prop :=
  (s.en c).first = a.head?.or q ∧ Seg s c none a q

/-- container `c` ends with the nodes `b`, entered from `p` -/
def Suf (s : L) (c : Nat) (p : Option Nat) (b : List Nat) : Prop :=
  (s.en c).last = b.getLast?.or p ∧ Seg s c p b none

section
variable {s s' : L} {f : Nat → List Nat} {c : Nat} {p q : Option Nat} {a b l : List Nat}

theorem Pre.first (h : Pre s c a q) : (s.en c).first = a.head?.or q := h.1
theorem Pre.seg (h : Pre s c a q) : Seg s c none a q := h.2
theorem Suf.last (h : Suf s c p b) : (s.en c).last = b.getLast?.or p := h.1
theorem Suf.seg (h : Suf s c p b) : Seg s c p b none := h.2

theorem WF.cutEnds (h : WF s f) (hab : f c = a ++ b) :
    a.Nodup ∧ b.Nodup ∧ (∀ m ∈ a, m ∉ b) ∧ Pre s c a b.head? ∧ Suf s c a.getLast? b := by
  have r := h.rep c
  obtain ⟨hna, hnb, hd⟩ := List.nodup_append.mp (hab ▸ r.nodup)
  have hd' : ∀ m ∈ a, m ∉ b := fun m hm hm' => hd m hm m hm' rfl
  have hs := r.seg
  rw [hab, Seg.append hd', Option.or_none, Option.or_none] at hs
  exact ⟨hna, hnb, hd', ⟨by rw [r.first, hab, List.head?_append], hs.1⟩,
    by rw [r.last, hab, List.getLast?_append], hs.2⟩

theorem Rep.of_ends (ha : Pre s c a b.head?) (hb : Suf s c a.getLast? b) (hna : a.Nodup) (hnb : b.Nodup)
    (hd : ∀ m ∈ a, m ∉ b) : Rep s c (a ++ b) :=
  ⟨by rw [ha.first, List.head?_append], by rw [hb.last, List.getLast?_append],
    Seg.link ((Seg.append hd).mpr (by simpa only [Option.or_none] using ⟨ha.seg, hb.seg⟩)),
    List.nodup_append.mpr ⟨hna, hnb, fun x hx y hy e => hd x hx (e ▸ hy)⟩⟩

namespace Pre

theorem setFwd (h : Pre s c a q) (hn : a.Nodup) (v : Option Nat) : Pre (s.setFwd c a.getLast? v) c a v := by
  cases hl : a.getLast? with
  | none =>
    obtain rfl := List.getLast?_eq_none_iff.mp hl
    exact ⟨by rw [L.setFwd, en_setFirst, if_pos rfl]; rfl, Seg.nil⟩
  | some x =>
    obtain ⟨y, hy⟩ : ∃ y, a.head? = some y := by cases a <;> [cases hl; exact ⟨_, rfl⟩]
    exact ⟨by rw [hy]; exact h.first.trans (by rw [hy]; rfl), h.seg.setNext_last hn hl v⟩

theorem append (hd : ∀ m ∈ a, m ∉ l) :
    Pre s c (a ++ l) q ↔ Pre s c a (l.head?.or q) ∧ Seg s c a.getLast? l q := by
  unfold Pre
  rw [Seg.append hd, List.head?_append, Option.or_assoc, Option.or_none, and_assoc]

theorem congr (h : Pre s c a q) (he : (s'.en c).first = (s.en c).first) (e : ∀ n ∈ a, s'.nd n = s.nd n) :
    Pre s' c a q := ⟨he.trans h.first, h.seg.congr e⟩

end Pre

namespace Suf

theorem append (hd : ∀ m ∈ l, m ∉ b) :
    Suf s c p (l ++ b) ↔ Seg s c p l b.head? ∧ Suf s c (l.getLast?.or p) b := by
  unfold Suf
  rw [Seg.append hd, List.getLast?_append, Option.or_assoc, Option.or_none]
  exact and_left_comm

theorem cons {x : Nat} (hx : x ∉ b) : Suf s c p (x :: b) ↔
    s.nd x = { next := b.head?, prev := p, parent := some c } ∧ Suf s c (some x) b :=
  (append (l := [x]) (by simpa using hx)).trans (and_congr Seg.singleton Iff.rfl)

theorem setBwd (h : Suf s c p b) (hn : b.Nodup) (v : Option Nat) : Suf (s.setBwd c b.head? v) c v b := by
  cases hl : b.head? with
  | none =>
    obtain rfl := List.head?_eq_none_iff.mp hl
    exact ⟨by rw [L.setBwd, en_setLast, if_pos rfl]; rfl, Seg.nil⟩
  | some x =>
    obtain ⟨y, hy⟩ : ∃ y, b.getLast? = some y := by cases b <;> [cases hl; exact ⟨_, List.getLast?_cons⟩]
    exact ⟨by rw [hy]; exact h.last.trans (by rw [hy]; rfl), h.seg.setPrev_head hn hl v⟩

theorem congr (h : Suf s c p b) (he : (s'.en c).last = (s.en c).last) (e : ∀ n ∈ b, s'.nd n = s.nd n) :
    Suf s' c p b := ⟨he.trans h.last, h.seg.congr e⟩

end Suf

theorem WF.nd_of_cut {n : Nat} (h : WF s f) (hab : f c = a ++ n :: b) :
    s.nd n = { next := b.head?, prev := a.getLast?, parent := some c } := by
  obtain ⟨-, hn, -, -, S⟩ := h.cutEnds hab
  exact ((Suf.cons (List.nodup_cons.mp hn).1).mp S).1

/-! ### a container cut open

`Open s f T c a p q b c' p' y q'`: the state in the middle of a primitive.  Container `c` is cut between
the prefix `a` and the suffix `b`; the pointer that leaves `a` forwards holds `p`, the pointer that
leaves `b` backwards holds `q`, whatever they are.  The nodes `y` are in flight (being inserted,
removed or moved): a segment labelled `c'`, entered from `p'` and left towards `q'`.  The containers of
`T` (among them `c`) are being rewritten; every other container represents its list, and every node
that is nowhere is null.  While `y` is empty its labels say nothing.

A primitive opens (`WF.open`), performs its writes in its own order, each of which keeps `Open` and
moves one index (`setFwd` moves `p`, `setBwd` moves `q`; a write to an end of the segment in flight
moves `p'` or `q'`, `setParentsMid` moves `c'`; `fill` and `drop` put a node in flight and take it out),
and closes (`Open.close`) once the segment fits the cut and `p`, `q` name its two ends.  The position
a rule writes to is given up to an equation (`a.getLast? = x`), so that the state it speaks of is the
model's own term. -/

structure Open (s : L) (f : Nat → List Nat) (T : Nat → Prop) (c : Nat) (a : List Nat) (p q : Option Nat)
    (b : List Nat) (c' : Nat) (p' : Option Nat) (y : List Nat) (q' : Option Nat) : Prop where
  rep : ∀ d, ¬ T d → Rep s d (f d)
  own : ∀ d, ¬ T d → ∀ n ∈ f d, n ∉ a ∧ n ∉ b ∧ n ∉ y
  free : ∀ n, n ∉ a → n ∉ b → n ∉ y → (∀ d, ¬ T d → n ∉ f d) → s.nd n = {}
  tc : T c
  pre : Pre s c a p
  suf : Suf s c q b
  mid : Seg s c' p' y q'
  nda : a.Nodup
  ndb : b.Nodup
  ndy : y.Nodup
  dab : ∀ m ∈ a, m ∉ b
  dy : ∀ m ∈ y, m ∉ a ∧ m ∉ b

variable {T : Nat → Prop} {c' d' : Nat} {x y y' : List Nat} {p' q' v' w' : Option Nat}

/-- Cutting `c` open around `x`.  The members of the containers of `T` that are neither in `a` nor in
`b` are in flight, and they form a segment. -/
theorem WF.open (h : WF s f) (T : Nat → Prop) (tc : T c) (hab : f c = a ++ (x ++ b)) (mid : Seg s c' p' y q')
    (hy : ∀ n ∈ y, (∃ d, T d ∧ n ∈ f d) ∧ n ∉ a ∧ n ∉ b) (hT : ∀ d, T d → ∀ n ∈ f d, n ∉ a → n ∉ b → n ∈ y)
    (hn : y.Nodup) : Open s f T c a (x.head?.or b.head?) (x.getLast?.or a.getLast?) b c' p' y q' := by
  obtain ⟨hna, -, -, Pa, -⟩ := h.cutEnds hab
  obtain ⟨-, hnb, hd, -, Sb⟩ := h.cutEnds (hab.trans (List.append_assoc a x b).symm)
  have hac : ∀ m ∈ a, m ∈ f c := fun m hm => hab ▸ List.mem_append_left _ hm
  have hbc : ∀ m ∈ b, m ∈ f c := fun m hm => hab ▸ List.mem_append_right _ (List.mem_append_right _ hm)
  refine ⟨fun d _ => h.rep d, fun d hd n hn => ⟨fun e => hd (h.disj d c n hn (hac n e) ▸ tc),
    fun e => hd (h.disj d c n hn (hbc n e) ▸ tc), fun e => ?_⟩, fun n ha hb hy hn => ?_, tc,
    by rwa [List.head?_append] at Pa, by rwa [List.getLast?_append] at Sb, mid, hna, hnb, hn,
    fun m hm => hd m (List.mem_append_left _ hm), fun m hm => (hy m hm).2⟩
  · obtain ⟨⟨d', hd', hm⟩, -⟩ := hy n e
    exact hd (h.disj d d' n hn hm ▸ hd')
  · exact h.free n fun d e => by
      by_cases hd : T d
      · exact hy (hT d hd n e ha hb)
      · exact hn d hd e

theorem WF.openAt (h : WF s f) (hab : f c = a ++ b) :
    Open s f (· = c) c a b.head? a.getLast? b c none [] none :=
  h.open (x := []) (· = c) rfl hab Seg.nil nofun
    (fun _ hd _ hn ha hb => absurd (hab ▸ hd ▸ hn) fun e => (List.mem_append.mp e).elim ha hb) List.nodup_nil

/-- a node that is in no list, in the form `Open.fill` asks for when `c` alone is open (`T` is `(· = c)`) -/
theorem nowhere_of_cut {n : Nat} (hab : f c = a ++ b) (hn : ∀ d, n ∉ f d) :
    n ∉ a ∧ n ∉ b ∧ ∀ d, ¬ d = c → n ∉ f d :=
  ⟨fun e => hn c (hab ▸ List.mem_append_left _ e), fun e => hn c (hab ▸ List.mem_append_right _ e), fun d _ => hn d⟩

/-- opening `dst` at a cut for a splice: the members of `src` are in flight, as the segment they are -/
theorem WF.openSplice (h : WF s f) {src dst : Nat} (hsd : src ≠ dst) (hab : f dst = a ++ b) :
    Open s f (fun d => d = src ∨ d = dst) dst a b.head? a.getLast? b src none (f src) none := by
  have hd : ∀ n ∈ f src, n ∉ f dst := fun n h1 h2 => hsd (h.disj src dst n h1 h2)
  refine h.open (x := []) _ (.inr rfl) hab (h.rep src).seg (fun n hn => ⟨⟨src, .inl rfl, hn⟩,
    fun e => hd n hn (hab ▸ List.mem_append_left _ e), fun e => hd n hn (hab ▸ List.mem_append_right _ e)⟩)
    (fun d hd n hn ha hb => ?_) (h.rep src).nodup
  rcases hd with rfl | rfl
  · exact hn
  · exact absurd (hab ▸ hn) fun e => (List.mem_append.mp e).elim ha hb

namespace Open

/-- the writes that leave the nodes in flight alone -/
theorem of_frame (h : Open s f T c a p q b c' p' y q') (hen : ∀ d, ¬ T d → s'.en d = s.en d)
    (hnd : ∀ n, n ∉ a → n ∉ b → s'.nd n = s.nd n) {v w : Option Nat} (pre : Pre s' c a v) (suf : Suf s' c w b) :
    Open s' f T c a v w b c' p' y q' :=
  ⟨fun d hd => (h.rep d hd).congr (hen d hd) fun n hn => hnd n (h.own d hd n hn).1 (h.own d hd n hn).2.1,
    h.own, fun n ha hb hy hn => (hnd n ha hb).trans (h.free n ha hb hy hn), h.tc, pre, suf,
    h.mid.congr fun n hn => hnd n (h.dy n hn).1 (h.dy n hn).2, h.nda, h.ndb, h.ndy, h.dab, h.dy⟩

theorem setFwd (h : Open s f T c a p q b c' p' y q') {x : Option Nat} (hx : a.getLast? = x) (v : Option Nat) :
    Open (s.setFwd c x v) f T c a v q b c' p' y q' :=
  have hne : ∀ n, n ∉ a → (s.setFwd c a.getLast? v).nd n = s.nd n := fun _ ha =>
    nd_setFwd _ _ _ _ _ fun _ hx e => ha (e ▸ List.mem_of_getLast? hx)
  hx ▸ h.of_frame (fun _ hd => en_setFwd _ _ _ _ _ fun e => hd (e ▸ h.tc)) (fun n ha _ => hne n ha)
    (h.pre.setFwd h.nda v) (h.suf.congr (last_setFwd ..) fun n hn => hne n fun e => h.dab n e hn)

theorem setBwd (h : Open s f T c a p q b c' p' y q') {x : Option Nat} (hx : b.head? = x) (v : Option Nat) :
    Open (s.setBwd c x v) f T c a p v b c' p' y q' :=
  have hne : ∀ n, n ∉ b → (s.setBwd c b.head? v).nd n = s.nd n := fun _ hb =>
    nd_setBwd _ _ _ _ _ fun _ hx e => hb (e ▸ List.mem_of_head? hx)
  hx ▸ h.of_frame (fun _ hd => en_setBwd _ _ _ _ _ fun e => hd (e ▸ h.tc)) (fun n _ hb => hne n hb)
    (h.pre.congr (first_setBwd ..) fun n hn => hne n (h.dab n hn)) (h.suf.setBwd h.ndb v)

/-- writing the ends of another container that is being rewritten -/
theorem setEn (h : Open s f T c a p q b c' p' y q') {d : Nat} (hd : T d) (hdc : c ≠ d) (e : Ends) :
    Open (s.setEn d e) f T c a p q b c' p' y q' :=
  have he : (s.setEn d e).en c = s.en c := (en_setEn ..).trans (if_neg hdc)
  h.of_frame (fun d' hd' => (en_setEn ..).trans (if_neg fun e' : d' = d => hd' (e' ▸ hd))) (fun _ _ _ => rfl)
    (h.pre.congr (congrArg Ends.first he) fun _ _ => rfl) (h.suf.congr (congrArg Ends.last he) fun _ _ => rfl)

/-- Writing both ends of `c` itself, when nothing stands behind the cut.  `first` is the pointer that
leaves the prefix only when the prefix is empty; otherwise that pointer is a node's `next`, which this
write leaves as it was (`hp`). -/
theorem setEnSelf (h : Open s f T c a p q [] c' p' y q') (e : Ends) {p2 : Option Nat} (hf : e.first = a.head?.or p2)
    (hp : a = [] ∨ p2 = p) : Open (s.setEn c e) f T c a p2 e.last [] c' p' y q' :=
  h.of_frame (fun d hd => (en_setEn ..).trans (if_neg fun e' : d = c => hd (e' ▸ h.tc))) (fun _ _ _ => rfl)
    ⟨(congrArg Ends.first ((en_setEn ..).trans (if_pos rfl))).trans hf, by
      rcases hp with rfl | rfl
      · exact Seg.nil
      · exact h.pre.seg⟩
    ⟨congrArg Ends.last ((en_setEn ..).trans (if_pos rfl)), Seg.nil⟩

/-- The writes to the nodes in flight: `y` becomes `y'`, whose new members were nowhere; the members
that leave are nulled. -/
theorem reseat (h : Open s f T c a p q b c' p' y q') (hen : ∀ d, s'.en d = s.en d)
    (hnd : ∀ n, n ∉ y → n ∉ y' → s'.nd n = s.nd n) (mid : Seg s' d' v' y' w') (hn : y'.Nodup)
    (hy : ∀ n ∈ y', n ∉ y → n ∉ a ∧ n ∉ b ∧ ∀ d, ¬ T d → n ∉ f d) (hgone : ∀ n ∈ y, n ∉ y' → s'.nd n = {}) :
    Open s' f T c a p q b d' v' y' w' := by
  have hy' : ∀ n ∈ y', n ∉ a ∧ n ∉ b ∧ ∀ d, ¬ T d → n ∉ f d := fun n hn => by
    by_cases e : n ∈ y
    · exact ⟨(h.dy n e).1, (h.dy n e).2, fun d hd hm => (h.own d hd n hm).2.2 e⟩
    · exact hy n hn e
  have hab : ∀ n, n ∈ a ∨ n ∈ b → s'.nd n = s.nd n := fun n hn =>
    hnd n (fun e => hn.elim (h.dy n e).1 (h.dy n e).2) fun e => hn.elim (hy' n e).1 (hy' n e).2.1
  exact ⟨fun d hd => (h.rep d hd).congr (hen d) fun n hn =>
      hnd n (h.own d hd n hn).2.2 fun e => (hy' n e).2.2 d hd hn,
    fun d hd n hn => ⟨(h.own d hd n hn).1, (h.own d hd n hn).2.1, fun e => (hy' n e).2.2 d hd hn⟩,
    fun n ha hb hy hn => by
      by_cases e : n ∈ y
      · exact hgone n e hy
      · exact (hnd n e hy).trans (h.free n ha hb e hn),
    h.tc, h.pre.congr (congrArg Ends.first (hen c)) fun n hn => hab n (.inl hn),
    h.suf.congr (congrArg Ends.last (hen c)) fun n hn => hab n (.inr hn), mid, h.nda, h.ndb, hn, h.dab,
    fun n hn => ⟨(hy' n hn).1, (hy' n hn).2.1⟩⟩

theorem fill (h : Open s f T c a p q b c' p' [] q') {n : Nat} (hn : n ∉ a ∧ n ∉ b ∧ ∀ d, ¬ T d → n ∉ f d)
    (d : Nat) (u w : Option Nat) :
    Open (s.setNd n { next := w, prev := u, parent := some d }) f T c a p q b d u [n] w :=
  h.reseat (fun _ => rfl) (fun _ _ e => nd_setNd_of_ne (List.ne_of_not_mem_cons e))
    (Seg.singleton.mpr ((nd_setNd ..).trans (if_pos rfl))) (List.nodup_singleton n)
    (fun _ e _ => List.mem_singleton.mp e ▸ hn) nofun

theorem drop {n : Nat} (h : Open s f T c a p q b c' p' [n] q') : Open (s.setNd n {}) f T c a p q b c' p' [] q' :=
  h.reseat (fun _ => rfl) (fun _ e _ => nd_setNd_of_ne (List.ne_of_not_mem_cons e)) Seg.nil List.nodup_nil nofun
    fun _ e _ => List.mem_singleton.mp e ▸ (nd_setNd ..).trans (if_pos rfl)

theorem inFlight (h : Open s f T c a p q b c' p' y q') (hen : ∀ d, s'.en d = s.en d)
    (hnd : ∀ n, n ∉ y → s'.nd n = s.nd n) (mid : Seg s' d' v' y w') : Open s' f T c a p q b d' v' y w' :=
  h.reseat hen (fun n e _ => hnd n e) mid h.ndy (fun _ e e' => absurd e e') fun _ e e' => absurd e e'

theorem setPrevMid (h : Open s f T c a p q b c' p' y q') {x : Nat} (hx : y.head? = some x) (v : Option Nat) :
    Open (s.setPrev x v) f T c a p q b c' v y q' :=
  h.inFlight (fun _ => rfl) (fun _ e => nd_setNd_of_ne (ne_of_mem_of_not_mem (List.mem_of_head? hx) e).symm)
    (h.mid.setPrev_head h.ndy hx v)

theorem setNextMid (h : Open s f T c a p q b c' p' y q') {x : Nat} (hx : y.getLast? = some x) (v : Option Nat) :
    Open (s.setNext x v) f T c a p q b c' p' y v :=
  h.inFlight (fun _ => rfl) (fun _ e => nd_setNd_of_ne (ne_of_mem_of_not_mem (List.mem_of_getLast? hx) e).symm)
    (h.mid.setNext_last h.ndy hx v)

theorem setParentsMid (h : Open s f T c a p q b c' p' y q') (d : Nat) :
    Open (s.setParents y (some d)) f T c a p q b d p' y q' :=
  h.inFlight (en_setParents s y _) (fun n e => by rw [nd_setParents, if_neg e]) (h.mid.setParents d)

/-- the segment in flight has been linked behind the prefix -/
theorem absorb (h : Open s f T c a p q b c p' y q') (hp' : a.getLast? = p') (hp : p = y.head?.or q') :
    Open s f T c (a ++ y) q' q b d' v' [] w' :=
  ⟨h.rep, fun d hd n hn => ⟨fun e => (List.mem_append.mp e).elim (h.own d hd n hn).1 (h.own d hd n hn).2.2,
      (h.own d hd n hn).2.1, nofun⟩,
    fun n ha hb _ hn => h.free n (fun e => ha (List.mem_append_left _ e)) hb (fun e => ha (List.mem_append_right _ e)) hn,
    h.tc, (Pre.append fun m hm e => (h.dy m e).1 hm).mpr ⟨hp ▸ h.pre, hp' ▸ h.mid⟩, h.suf, Seg.nil,
    List.nodup_append.mpr ⟨h.nda, h.ndy, fun _ hu v hv e => (h.dy v hv).1 (e ▸ hu)⟩, h.ndb, List.nodup_nil,
    fun m hm => (List.mem_append.mp hm).elim (h.dab m) fun e => (h.dy m e).2, nofun⟩

/-- Closing.  The segment in flight fits the cut, `p` and `q` name its ends; the other containers of
`T` represent what `f'` says. -/
theorem close (h : Open s f T c a p q b c p' y q') {f' : Nat → List Nat} (hf : ∀ d, ¬ T d → f' d = f d)
    (hc : f' c = a ++ (y ++ b)) (hT : ∀ d, T d → d ≠ c → Rep s d (f' d))
    (hp' : a.getLast? = p') (hq' : b.head? = q') (hp : p = y.head?.or b.head?) (hq : q = y.getLast?.or a.getLast?) :
    WF s f' := by
  subst hp hq hp' hq'
  refine WF.of_rep_free (fun d => ?_) fun n hn' => ?_
  · by_cases hd : T d
    · by_cases hdc : d = c
      · subst hdc
        rw [hc]
        exact Rep.of_ends (by rw [List.head?_append]; exact h.pre)
          ((Suf.append fun m hm => (h.dy m hm).2).mpr ⟨h.mid, h.suf⟩) h.nda
          (List.nodup_append.mpr ⟨h.ndy, h.ndb, fun u hu v hv e => (h.dy u hu).2 (e ▸ hv)⟩)
          fun m hm e => (List.mem_append.mp e).elim (fun e => (h.dy m e).1 hm) (h.dab m hm)
      · exact hT d hd hdc
    · exact hf d hd ▸ h.rep d hd
  · have := hn' c
    rw [hc, List.mem_append, List.mem_append, not_or, not_or] at this
    exact h.free n this.1 this.2.2 this.2.1 fun d hd => hf d hd ▸ hn' d

theorem close_single (h : Open s f (· = c) c a p q b c p' y q') (hp' : a.getLast? = p') (hq' : b.head? = q')
    (hp : p = y.head?.or b.head?) (hq : q = y.getLast?.or a.getLast?) : WF s (Function.update f c (a ++ (y ++ b))) :=
  h.close (fun _ hd => Function.update_of_ne hd ..) (Function.update_self ..) (fun _ hd hdc => absurd hd hdc) hp' hq' hp hq

/-- `close_single` with nothing in flight: the labels of an empty segment say nothing -/
theorem close_empty (h : Open s f (· = c) c a p q b c' p' [] q') (hp : p = b.head?) (hq : q = a.getLast?) :
    WF s (Function.update f c (a ++ b)) :=
  close_single (y := []) (p' := a.getLast?) (q' := b.head?) { h with mid := Seg.nil } rfl rfl hp hq

/-- `close` for a splice: all of `src` has gone into the cut of `dst` -/
theorem close_splice {src dst : Nat} (h : Open s f (fun d => d = src ∨ d = dst) dst a p q b dst p' (f src) q')
    (hen : s.en src = {}) (hp' : a.getLast? = p') (hq' : b.head? = q')
    (hp : p = (f src).head?.or b.head?) (hq : q = (f src).getLast?.or a.getLast?) :
    WF s (Function.update (Function.update f src []) dst (a ++ (f src ++ b))) := by
  refine h.close (fun d hd => ?_) (Function.update_self ..) (fun d hd hdc => ?_) hp' hq' hp hq
  · rw [Function.update_of_ne fun e => hd (.inr e), Function.update_of_ne fun e => hd (.inl e)]
  · obtain rfl := hd.resolve_right hdc
    rw [Function.update_of_ne hdc, Function.update_self]
    exact ⟨by rw [hen]; rfl, by rw [hen]; rfl, nofun, List.nodup_nil⟩

/-- Closing when the segment in flight has become the whole list of another container of `T`. -/
theorem close_move (h : Open s f T c a p q b c' none y none) {f' : Nat → List Nat}
    (hf : ∀ d, ¬ T d → f' d = f d) (hc : f' c = a ++ b) (hc' : f' c' = y) (hT : ∀ d, T d → d ≠ c → d ≠ c' → Rep s d (f' d))
    (hen : s.en c' = { first := y.head?, last := y.getLast? }) (hp : p = b.head?) (hq : q = a.getLast?) : WF s f' := by
  subst hp hq
  refine WF.of_rep_free (fun d => ?_) fun n hn' => ?_
  · by_cases hd : T d
    · by_cases hdc : d = c
      · exact hdc ▸ hc ▸ Rep.of_ends h.pre h.suf h.nda h.ndb h.dab
      · by_cases hdc' : d = c'
        · exact hdc' ▸ hc' ▸ ⟨by rw [hen], by rw [hen], h.mid.link, h.ndy⟩
        · exact hT d hd hdc hdc'
    · exact hf d hd ▸ h.rep d hd
  · have := hn' c
    rw [hc, List.mem_append, not_or] at this
    exact h.free n this.1 this.2 (hc' ▸ hn' c') fun d hd => hf d hd ▸ hn' d

end Open
end

/-- Inserting at the cut between `a` and `b`, the cut given by the last element of `a`. -/
theorem WF.insertAfter_cut {s : L} {f : Nat → List Nat} (h : WF s f) {c ex new : Nat} {a b : List Nat}
    (hab : f c = a ++ b) (hex : a.getLast? = some ex) (hnew : ∀ d, new ∉ f d) :
    WF (s.insertAfter c ex new) (Function.update f c (a ++ new :: b)) := by
  have O := h.openAt hab
  have hn := nowhere_of_cut hab hnew
  unfold L.insertAfter
  rw [O.pre.seg.next_last O.nda hex]
  -- the model's writes in the model's order, in each of its two branches
  cases b with
  | nil => exact (((O.fill hn c _ _).setFwd hex (some new)).setBwd rfl (some new)).close_single hex rfl rfl rfl
  | cons x b' => exact (((O.setBwd rfl (some new)).fill hn c _ _).setFwd hex (some new)).close_single hex rfl rfl rfl

theorem WF.insertAfter {s : L} {f : Nat → List Nat} (h : WF s f) {c ex new : Nat}
    (hex : ex ∈ f c) (hnew : ∀ d, new ∉ f d) :
    WF (s.insertAfter c ex new) (Function.update f c (insAfter (f c) ex new)) := by
  obtain ⟨a, b, hab, hxa⟩ := List.eq_append_cons_of_mem hex
  rw [hab, insAfter_append_cons hxa, List.append_cons a ex]
  exact h.insertAfter_cut (hab.trans (List.append_cons a ex b)) List.getLast?_concat hnew

/-- Inserting at the cut between `a` and `b`, the cut given by the first element of `b`. -/
theorem WF.insertBefore_cut {s : L} {f : Nat → List Nat} (h : WF s f) {c ex new : Nat} {a b : List Nat}
    (hab : f c = a ++ b) (hex : b.head? = some ex) (hnew : ∀ d, new ∉ f d) :
    WF (s.insertBefore c ex new) (Function.update f c (a ++ new :: b)) := by
  have O := h.openAt hab
  have hn := nowhere_of_cut hab hnew
  unfold L.insertBefore
  rw [O.suf.seg.prev_head O.ndb hex]
  cases hp : a.getLast? with
  | none => exact (((O.fill hn c _ _).setBwd hex (some new)).setFwd hp (some new)).close_single hp hex rfl rfl
  | some x => exact (((O.setFwd hp (some new)).fill hn c _ _).setBwd hex (some new)).close_single hp hex rfl rfl

theorem WF.insertBefore {s : L} {f : Nat → List Nat} (h : WF s f) {c ex new : Nat}
    (hex : ex ∈ f c) (hnew : ∀ d, new ∉ f d) :
    WF (s.insertBefore c ex new) (Function.update f c (insBefore (f c) ex new)) := by
  obtain ⟨a, b, hab, hxa⟩ := List.eq_append_cons_of_mem hex
  rw [hab, insBefore_append_cons hxa]
  exact h.insertBefore_cut hab rfl hnew

/-- the branch that `pushBack` and `pushFront` share: inserting into an empty container -/
theorem WF.initSingle {s : L} {f : Nat → List Nat} (h : WF s f) {c new : Nat}
    (hc : f c = []) (hnew : ∀ d, new ∉ f d) :
    WF ((s.setNd new { parent := some c }).setEn c { first := some new, last := some new })
      (Function.update f c [new]) :=
  have hab : f c = [] ++ [] := hc
  (((h.openAt hab).fill (nowhere_of_cut hab hnew) c none none).setEnSelf
    { first := some new, last := some new } (p2 := some new) rfl (.inl rfl)).close_single rfl rfl rfl rfl

theorem WF.pushBack {s : L} {f : Nat → List Nat} (h : WF s f) {c new : Nat} (hnew : ∀ d, new ∉ f d) :
    WF (s.pushBack c new) (Function.update f c (f c ++ [new])) := by
  have r := h.rep c
  unfold L.pushBack
  cases hl : (s.en c).last with
  | none =>
    have : f c = [] := List.getLast?_eq_none_iff.mp (r.last.symm.trans hl)
    rw [this]
    exact h.initSingle this hnew
  | some l => exact h.insertAfter_cut (List.append_nil _).symm (r.last.symm.trans hl) hnew

theorem WF.pushFront {s : L} {f : Nat → List Nat} (h : WF s f) {c new : Nat} (hnew : ∀ d, new ∉ f d) :
    WF (s.pushFront c new) (Function.update f c (new :: f c)) := by
  have r := h.rep c
  unfold L.pushFront
  cases hl : (s.en c).first with
  | none =>
    have : f c = [] := List.head?_eq_none_iff.mp (r.first.symm.trans hl)
    rw [this]
    exact h.initSingle this hnew
  | some l => exact h.insertBefore_cut (a := []) rfl (r.first.symm.trans hl) hnew

/-- `remove` closes the list over `n` with one link, written from both sides -/
theorem L.remove_eq (s : L) (c n : Nat) {p q : Option Nat} (h : s.nd n = { next := q, prev := p, parent := some c }) :
    s.remove c n = ((s.setFwd c p q).setBwd c q p).setNd n {} := by
  unfold L.remove
  rw [h]
  cases p <;> cases q <;> rfl

theorem WF.remove_cut {s : L} {f : Nat → List Nat} (h : WF s f) {c n : Nat} {a b : List Nat}
    (hab : f c = a ++ n :: b) : WF (s.remove c n) (Function.update f c (a ++ b)) := by
  have hx := h.nd_of_cut hab
  have hn := (List.nodup_cons.mp (List.nodup_middle.mp (hab ▸ (h.rep c).nodup))).1
  have O := h.open (x := [n]) (· = c) rfl hab (Seg.singleton.mpr hx)
    (fun m hm => List.mem_singleton.mp hm ▸ ⟨⟨c, rfl, hab ▸ List.mem_append_right _ List.mem_cons_self⟩,
      fun e => hn (List.mem_append_left _ e), fun e => hn (List.mem_append_right _ e)⟩)
    (fun d hd m hm ha hb => by
      rw [hd, hab, List.mem_append, List.mem_cons] at hm
      exact hm.elim (absurd · ha) fun e => e.elim List.mem_singleton.mpr (absurd · hb)) (List.nodup_singleton n)
  rw [s.remove_eq c n hx]
  exact ((O.setFwd rfl _).setBwd rfl _).drop.close_empty rfl rfl

/-- `remove` erases the node from the list of its container and nulls its links -/
theorem WF.remove {s : L} {f : Nat → List Nat} (h : WF s f) {c n : Nat} (hn : n ∈ f c) :
    WF (s.remove c n) (Function.update f c ((f c).erase n)) := by
  obtain ⟨a, b, hab, hna⟩ := List.eq_append_cons_of_mem hn
  rw [hab, List.erase_append_right _ hna, List.erase_cons_head]
  exact h.remove_cut hab

/-- membership in the family after `WF.remove`: the other lists cannot contain `n` -/
theorem WF.mem_update_erase {s : L} {f : Nat → List Nat} (h : WF s f) {c n : Nat} (hn : n ∈ f c) (w x : Nat) :
    x ∈ Function.update f c ((f c).erase n) w ↔ x ∈ f w ∧ x ≠ n := by
  by_cases hw : w = c
  · subst hw; rw [Function.update_self, (h.rep _).nodup.mem_erase_iff, and_comm]
  · rw [Function.update_of_ne hw]
    exact ⟨fun hx => ⟨hx, fun e => hw (h.disj w c x hx (e ▸ hn))⟩, And.left⟩

theorem WF.splitBefore {s : L} {f : Nat → List Nat} (h : WF s f) {c n c' : Nat} {a b : List Nat}
    (hab : f c = a ++ n :: b) (hc' : f c' = []) (hcc : c ≠ c') :
    WF (s.splitBefore c n c') (Function.update (Function.update f c a) c' (n :: b)) := by
  obtain ⟨-, hnnb, hanb, Pa, Snb⟩ := h.cutEnds hab
  have hw : s.walk s.fuel (some n) = n :: b := h.walk_of_cut hab
  -- `c` is cut behind `a`; its suffix from `n` on is in flight
  have O := h.open (x := n :: b) (b := []) (fun d => d = c ∨ d = c') (.inl rfl) (by rw [List.append_nil]; exact hab) Snb.seg
    (fun m hm => ⟨⟨c, .inl rfl, hab ▸ List.mem_append_right _ hm⟩, fun e => hanb m e hm, nofun⟩)
    (fun d hd m hm ha _ => by
      rcases hd with rfl | rfl
      · exact (List.mem_append.mp (hab ▸ hm)).elim (absurd · ha) id
      · rw [hc'] at hm; cases hm) hnnb
  have hen : ∀ s' : L, (s'.en c') = { first := some n, last := (s.en c).last } →
      s'.en c' = { first := (n :: b).head?, last := (n :: b).getLast? } := fun s' e => e.trans (by rw [Snb.last]; rfl)
  have hf : ∀ d, ¬ (d = c ∨ d = c') → Function.update (Function.update f c a) c' (n :: b) d = f d := fun d hd => by
    rw [Function.update_of_ne fun e => hd (.inr e), Function.update_of_ne fun e => hd (.inl e)]
  have hfc : Function.update (Function.update f c a) c' (n :: b) c = a ++ [] := by
    rw [Function.update_of_ne hcc, Function.update_self, List.append_nil]
  unfold L.splitBefore
  dsimp only
  rw [hw, congrArg Node.prev (h.nd_of_cut hab)]
  cases hp : a.getLast? with
  | none =>
    obtain rfl := List.getLast?_eq_none_iff.mp hp
    exact ((((O.setEnSelf { first := none, last := none } (p2 := none) rfl (.inl rfl)).setEn (.inr rfl) hcc _).setParentsMid
      c').setPrevMid rfl none).close_move hf hfc (Function.update_self ..)
      (fun d hd h1 h2 => absurd hd (not_or.mpr ⟨h1, h2⟩))
      (hen _ (by rw [en_setPrev, en_setParents, en_setEn, if_pos rfl])) rfl rfl
  | some pv =>
    exact (((((O.setEnSelf { first := (s.en c).first, last := some pv } (p2 := some n) Pa.first (.inr rfl)).setEn (.inr rfl) hcc
      _).setParentsMid c').setFwd hp none).setPrevMid rfl none).close_move hf hfc (Function.update_self ..)
      (fun d hd h1 h2 => absurd hd (not_or.mpr ⟨h1, h2⟩))
      (hen _ (by rw [en_setPrev, en_setFwd _ _ _ _ _ (Ne.symm hcc), en_setParents, en_setEn, if_pos rfl])) rfl hp.symm

theorem WF.spliceAllBack {s : L} {f : Nat → List Nat} (h : WF s f) {src dst : Nat} (hsd : src ≠ dst) :
    WF (s.spliceAllBack src dst) (Function.update (Function.update f src []) dst (f dst ++ f src)) := by
  have rs := h.rep src
  cases hA : f src with
  | nil =>
    have : (s.en src).first = none := by rw [rs.first, hA]; rfl
    have e : s.spliceAllBack src dst = s := by simp only [L.spliceAllBack, this]
    rw [e, List.append_nil, Function.update_comm hsd, Function.update_eq_self, ← hA, Function.update_eq_self]; exact h
  | cons fs A' =>
    have hfs : (f src).head? = some fs := by rw [hA]; rfl
    obtain ⟨ls, hls⟩ : ∃ ls, (f src).getLast? = some ls := by rw [hA]; exact ⟨_, List.getLast?_cons⟩
    rw [← hA, show f dst ++ f src = f dst ++ (f src ++ []) by rw [List.append_nil]]
    have O := h.openSplice hsd (List.append_nil (f dst)).symm
    unfold L.spliceAllBack
    simp only [rs.first.trans hfs, rs.last.trans hls]
    rw [(h.rep dst).last, h.toList_eq src]
    cases hp : (f dst).getLast? with
    | none =>
      exact ((((O.setFwd hp (some fs)).setBwd rfl (some ls)).setParentsMid dst).setEn (.inl rfl) (Ne.symm hsd) {}).close_splice
        ((en_setEn ..).trans (if_pos rfl)) hp rfl (by rw [hfs]; rfl) (by rw [hls]; rfl)
    | some ol =>
      exact (((((O.setPrevMid hfs (some ol)).setFwd hp (some fs)).setBwd rfl (some ls)).setParentsMid dst).setEn (.inl rfl)
        (Ne.symm hsd) {}).close_splice ((en_setEn ..).trans (if_pos rfl)) hp rfl (by rw [hfs]; rfl) (by rw [hls]; rfl)

theorem WF.spliceAllBefore {s : L} {f : Nat → List Nat} (h : WF s f) {src dst t : Nat} {a b : List Nat}
    (hsd : src ≠ dst) (hab : f dst = a ++ t :: b) :
    WF (s.spliceAllBefore src dst t)
      (Function.update (Function.update f src []) dst (a ++ (f src ++ t :: b))) := by
  have rs := h.rep src
  cases hA : f src with
  | nil =>
    have : (s.en src).first = none := by rw [rs.first, hA]; rfl
    have e : s.spliceAllBefore src dst t = s := by simp only [L.spliceAllBefore, this]
    rw [e, List.nil_append, ← hab, Function.update_comm hsd, Function.update_eq_self, ← hA, Function.update_eq_self]; exact h
  | cons fs A' =>
    have hfs : (f src).head? = some fs := by rw [hA]; rfl
    obtain ⟨ls, hls⟩ : ∃ ls, (f src).getLast? = some ls := by rw [hA]; exact ⟨_, List.getLast?_cons⟩
    rw [← hA]
    have O := h.openSplice hsd hab
    unfold L.spliceAllBefore
    simp only [rs.first.trans hfs, rs.last.trans hls]
    rw [congrArg Node.prev (h.nd_of_cut hab), h.toList_eq src]
    cases hp : a.getLast? with
    | none =>
      exact (((((O.setFwd hp (some fs)).setParentsMid dst).setNextMid hls (some t)).setBwd rfl (some ls)).setEn
        (.inl rfl) (Ne.symm hsd) {}).close_splice ((en_setEn ..).trans (if_pos rfl)) hp rfl (by rw [hfs]; rfl) (by rw [hls]; rfl)
    | some p =>
      exact ((((((O.setFwd hp (some fs)).setPrevMid hfs (some p)).setParentsMid dst).setNextMid hls (some t)).setBwd rfl
        (some ls)).setEn (.inl rfl) (Ne.symm hsd) {}).close_splice ((en_setEn ..).trans (if_pos rfl)) hp rfl
        (by rw [hfs]; rfl) (by rw [hls]; rfl)

/-! ### beyond single primitives: what the store proofs need

Of the family after a batch of removals or insertions (the `operands` / `successors` setters) and after
`WF.moveUse` only membership is stated, not order: the store invariant says of a use list only which
uses are in it. -/

theorem WF.removeAll {l : L} {f : Nat → List Nat} (h : WF l f) (P : List (Nat × Nat))
    (hP : ∀ p ∈ P, p.2 ∈ f p.1) (hnd : (P.map Prod.snd).Nodup) :
    ∃ f', WF (P.foldl (fun l p => l.remove p.1 p.2) l) f' ∧
      ∀ w x, x ∈ f' w ↔ x ∈ f w ∧ x ∉ P.map Prod.snd := by
  induction P generalizing l f with
  | nil => exact ⟨f, h, by simp⟩
  | cons p r ih =>
    rw [List.map_cons, List.nodup_cons] at hnd
    have hp := hP p List.mem_cons_self
    have m1 := h.mem_update_erase hp
    obtain ⟨f', w', hm⟩ := ih (h.remove hp) (fun q hq => (m1 _ _).mpr
      ⟨hP q (List.mem_cons_of_mem _ hq), fun e => hnd.1 (e ▸ List.mem_map_of_mem hq)⟩) hnd.2
    refine ⟨f', w', fun w x => ?_⟩
    rw [hm, m1, List.map_cons, List.mem_cons, not_or, and_assoc]

theorem WF.addAll {l : L} {f : Nat → List Nat} (h : WF l f) (Q : List (Nat × Nat))
    (hQ : ∀ p ∈ Q, ∀ c, p.2 ∉ f c) (hnd : (Q.map Prod.snd).Nodup) :
    ∃ f', WF (Q.foldl (fun l p => l.pushFront p.1 p.2) l) f' ∧
      ∀ w x, x ∈ f' w ↔ x ∈ f w ∨ (w, x) ∈ Q := by
  induction Q generalizing l f with
  | nil => exact ⟨f, h, by simp⟩
  | cons p r ih =>
    rw [List.map_cons, List.nodup_cons] at hnd
    have hp := hQ p List.mem_cons_self
    have m1 : ∀ w x, x ∈ Function.update f p.1 (p.2 :: f p.1) w ↔ x ∈ f w ∨ (w, x) = p := by
      intro w x
      rw [Prod.ext_iff]
      by_cases hw : w = p.1
      · subst hw; rw [Function.update_self, List.mem_cons, or_comm]; simp
      · rw [Function.update_of_ne hw]; simp [hw]
    obtain ⟨f', w', hm⟩ := ih (h.pushFront (c := p.1) hp) (fun q hq c e => ((m1 _ _).mp e).elim
      (hQ q (List.mem_cons_of_mem _ hq) c) fun e => hnd.1 (List.mem_map.mpr ⟨q, hq, (Prod.ext_iff.mp e).2⟩)) hnd.2
    refine ⟨f', w', fun w x => ?_⟩
    rw [hm, m1, List.mem_cons, or_assoc]

theorem WF.setNd_free {l : L} {f : Nat → List Nat} (h : WF l f) {k : Nat} (hk : ∀ c, k ∉ f c) :
    WF (l.setNd k {}) f :=
  h.of_ext ⟨fun m => by
    rw [nd_setNd]; split
    · subst_vars; exact (h.free _ hk).symm
    · rfl, fun _ => rfl⟩

theorem parent_setNext (s : L) (n x : Nat) (v : Option Nat) : ((s.setNext n v).nd x).parent = (s.nd x).parent := by
  rw [L.nd_setNext]; split
  · subst_vars; rfl
  · rfl

theorem parent_setPrev (s : L) (n x : Nat) (v : Option Nat) : ((s.setPrev n v).nd x).parent = (s.nd x).parent := by
  rw [L.nd_setPrev]; split
  · subst_vars; rfl
  · rfl

theorem parent_insertBefore (s : L) (c ex new x : Nat) :
    ((s.insertBefore c ex new).nd x).parent = if x = new then some c else (s.nd x).parent := by
  unfold L.insertBefore
  cases (s.nd ex).prev with
  | none => exact (parent_setPrev ..).trans (by rw [nd_setNd]; split <;> rfl)
  | some p => exact (parent_setPrev ..).trans (by rw [nd_setNd]; split <;> [rfl; exact parent_setNext ..])

theorem parent_insertAfter (s : L) (c ex new x : Nat) :
    ((s.insertAfter c ex new).nd x).parent = if x = new then some c else (s.nd x).parent := by
  unfold L.insertAfter
  cases (s.nd ex).next with
  | none => exact (parent_setNext ..).trans (by rw [nd_setNd]; split <;> rfl)
  | some p => exact (parent_setNext ..).trans (by rw [nd_setNd]; split <;> [rfl; exact parent_setPrev ..])

theorem parent_pushBack (s : L) (c new x : Nat) :
    ((s.pushBack c new).nd x).parent = if x = new then some c else (s.nd x).parent := by
  unfold L.pushBack
  cases (s.en c).last with
  | none => by_cases e : x = new <;> simp [e]
  | some l => exact parent_insertAfter s c l new x

theorem WF.moveUse {l : L} {f : Nat → List Nat} (h : WF l f) {old u : Nat} (hu : u ∈ f old)
    (v : Nat) : ∃ f2, WF ((l.remove old u).pushFront v u) f2 ∧
      ∀ w x, x ∈ f2 w ↔ (x = u ∧ w = v) ∨ (x ≠ u ∧ x ∈ f w) := by
  have f1 : ∀ c y, y ∈ Function.update f old ((f old).erase u) c ↔ y ≠ u ∧ y ∈ f c := fun c y =>
    (h.mem_update_erase hu c y).trans and_comm
  refine ⟨_, (h.remove hu).pushFront (c := v) fun c e => ((f1 c u).mp e).1 rfl, fun w x => ?_⟩
  by_cases hw : w = v
  · subst hw
    rw [Function.update_self, List.mem_cons, f1]
    exact ⟨Or.imp (fun e => ⟨e, rfl⟩) id, Or.imp And.left id⟩
  · rw [Function.update_of_ne hw, f1]
    exact ⟨Or.inr, fun e => e.elim (fun e => absurd e.2 hw) id⟩

theorem WF.clear_on {l l' : L} {f : Nat → List Nat} (h : WF l f) (N C : Nat → Prop)
    [DecidablePred N] [DecidablePred C]
    (hnd : ∀ n, l'.nd n = if N n then {} else l.nd n)
    (hen : ∀ c, l'.en c = if C c then {} else l.en c)
    (hNC : ∀ c n, n ∈ f c → (N n ↔ C c)) :
    WF l' (fun c => if C c then [] else f c) := by
  refine WF.of_rep_free (fun c => ?_) fun n hn => ?_
  · by_cases hc : C c
    · rw [if_pos hc]
      exact ⟨by rw [hen, if_pos hc]; rfl, by rw [hen, if_pos hc]; rfl, nofun, List.nodup_nil⟩
    · rw [if_neg hc]
      exact (h.rep c).congr (by rw [hen, if_neg hc]) fun n hm => by rw [hnd, if_neg fun e => hc ((hNC c n hm).mp e)]
  · rw [hnd]
    split
    · rfl
    · rename_i hN
      exact h.free n fun c hm => hn c (by rw [if_neg fun e => hN ((hNC c n hm).mpr e)]; exact hm)

theorem walk_none (l : L) (n : Nat) : l.walk n none = [] := by cases n <;> rfl

theorem toList_of_no_ends {l : L} {c : Nat} (h : AL.get l.ends c = none) : l.toList c = [] := by
  simp [L.toList, L.en, h, walk_none]

theorem en_of_no_ends {l : L} {c : Nat} (h : AL.get l.ends c = none) : l.en c = {} := by
  simp [L.en, h]

end Xdsl.DLL
