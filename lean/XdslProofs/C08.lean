import XdslProofs.Lemmas.AttrValue
/-!
# C08 — property theorems

"Attributes behave as immutable values: equal attributes have equal hashes, equality is reflexive,
symmetric and transitive, two attributes built from the same parameters (or parsed from the same
text in different contexts) are equal, and attributes whose payloads differ observably (for
example 0.0 and -0.0, or NaNs with different bit patterns) are not equal."

The model (`XdslModel/AttrValue.lean`) is of the FIXED code: `FloatData.__eq__/__hash__` on the
binary64 bit pattern, `UnregisteredAttr.with_name_and_type` returning one class per name (so that
the class token of an attribute is a function of its construction parameters; the model has no
context argument at all — context independence is checked by the parser leg of the harness).
`V.eq`/`V.hash` are the functions the dataclass machinery executes; the theorems are about them.
-/
namespace Xdsl.AttrValue

/-- An attribute of class `cls` built from the parameter list `ps`
(`ParametrizedAttribute.__init__` / `Data.__init__`). -/
def mkAttr (cls : String) (ps : List V) : V := .node (.obj cls) ps

mutual
/-- the payload leaves of a value, in field order -/
def payload : V → List Leaf
  | .leaf l => [l]
  | .node _ xs => payloadList xs
def payloadList : List V → List Leaf
  | [] => []
  | x :: xs => payload x ++ payloadList xs
end

/-- one-hole contexts: the position of a sub-attribute inside an enclosing attribute -/
inductive Ctx where
  | hole
  | node (t : Tag) (pre : List V) (c : Ctx) (post : List V)

def Ctx.plug : Ctx → V → V
  | .hole, v => v
  | .node t pre c post, v => .node t (pre ++ c.plug v :: post)

/-- a `FloatAttr`-shaped value: class, `FloatData` payload, type -/
def floatAttr (bits : Nat) (ty : String) : V :=
  mkAttr "FloatAttr" [.leaf (.fbits bits), mkAttr ty []]

/-- The comparison executed by `==` holds exactly for identical value trees (same classes, same
payload bits everywhere).  All clauses of the property follow from this characterisation. -/
theorem eq_iff_eq (a b : V) : V.eq a b = true ↔ a = b := V.eq_iff a b

/-- "equality is reflexive" -/
theorem eq_refl (a : V) : V.eq a a = true := (V.eq_iff a a).2 rfl

/-- "equality is … symmetric" (as a Boolean identity: `a == b` and `b == a` return the same) -/
theorem eq_symm (a b : V) : V.eq a b = V.eq b a := by
  rw [Bool.eq_iff_iff, V.eq_iff, V.eq_iff]
  exact eq_comm

/-- "equality is … transitive" -/
theorem eq_trans {a b c : V} (h₁ : V.eq a b = true) (h₂ : V.eq b c = true) : V.eq a c = true := by
  rw [V.eq_iff] at *
  exact h₁.trans h₂

theorem eq_equiv : Equivalence (fun a b : V => V.eq a b = true) :=
  ⟨eq_refl, fun h => (eq_symm _ _).symm.trans h, eq_trans⟩

/-- "equal attributes have equal hashes" -/
theorem eq_hash {a b : V} (h : V.eq a b = true) : V.hash a = V.hash b := by
  rw [(V.eq_iff a b).1 h]

/-- The hash of a `FloatData` is a function of its bit pattern only (in particular every NaN
object with the same bits hashes the same; the unfixed code hashed NaNs by object identity). -/
theorem fbits_hash (bits : Nat) : V.hash (.leaf (.fbits bits)) = bufCode (le8 bits) := by
  simp [V.hash, Leaf.hash]

/-- "two attributes built from the same parameters … are equal": construction is a congruence for
`==` — pairwise equal parameters and the same class give equal attributes (and by `eq_hash`
equal hashes). -/
theorem mk_congr (cls : String) {ps qs : List V} (h : V.eqList ps qs = true) :
    V.eq (mkAttr cls ps) (mkAttr cls qs) = true := by
  rw [(V.eqList_iff ps qs).1 h]
  exact eq_refl _

/-- The same for every container kind, through the normalising constructor: equal children in
construction order give equal tuples / frozensets / dictionaries / objects. -/
theorem mkNode_congr (t : Tag) {ps qs : List V} {a b : V} (h : V.eqList ps qs = true)
    (ha : mkNode t ps = some a) (hb : mkNode t qs = some b) : V.eq a b = true := by
  rw [(V.eqList_iff ps qs).1 h] at ha
  rw [ha] at hb
  rw [Option.some.inj hb]
  exact eq_refl _

/-- Dictionaries do not remember the insertion order: the same `(key, value)` entries (pairwise
distinct keys) given in any order build the same `DictionaryAttr` payload — the model counterpart
of Python's order-insensitive `dict.__eq__` / `immutabledict.__hash__`; so two dictionaries built
from the same items are equal and hash equally whatever the order of construction. -/
theorem mkDict_perm {ps qs : List V} (hp : ps.Perm qs)
    (hk : ps.Pairwise (fun x y => x.sortKey ≠ y.sortKey)) : mkDict ps = mkDict qs := by
  have h := congrArg (Option.map fun l => V.node .dict (l.map (·.2))) (keyed_sort_perm hp hk)
  simpa [mkDict, Option.map_map, Function.comp_def] using h

/-- … and likewise `frozenset` payloads (bit-enum attributes). -/
theorem mkSet_perm {ps qs : List V} (hp : ps.Perm qs)
    (hk : ps.Pairwise (fun x y => x.sortKey ≠ y.sortKey)) : mkSet ps = mkSet qs := by
  have h := congrArg (Option.map fun l => V.node .fset (l.map (·.2))) (keyed_sort_perm hp hk)
  simpa [mkSet, Option.map_map, Function.comp_def] using h

/-- Attributes of different classes are never equal, even with identical parameters
(`other.__class__ is self.__class__`). -/
theorem class_distinct_ne {c d : String} (h : c ≠ d) (ps qs : List V) :
    V.eq (mkAttr c ps) (mkAttr d qs) = false := by
  rw [V.eq_false_iff]
  intro e
  injection e with e1 _
  injection e1 with e2
  exact h e2

/-- "attributes whose payloads differ observably … are not equal": whenever the sequences of
payload leaves (integer values, byte strings, float bit patterns, …) of two attributes differ,
`==` returns `False`. -/
theorem payload_distinct_ne {a b : V} (h : payload a ≠ payload b) : V.eq a b = false := by
  rw [V.eq_false_iff]
  intro e
  exact h (by rw [e])

/-- Two `FloatData` compare equal exactly when their bit patterns coincide. -/
theorem fbits_eq_iff (x y : Nat) : V.eq (.leaf (.fbits x)) (.leaf (.fbits y)) = true ↔ x = y := by
  simp [V.eq, Leaf.eq]

/-- Inequality propagates outwards through any nesting: replacing a sub-attribute by an unequal
one (e.g. `0.0` by `-0.0` inside a `FloatAttr` inside an `ArrayAttr` inside a `DictionaryAttr`)
yields an unequal attribute. -/
theorem plug_ne (c : Ctx) {a b : V} (h : V.eq a b = false) : V.eq (c.plug a) (c.plug b) = false := by
  rw [V.eq_false_iff] at *
  induction c with
  | hole => exact h
  | node t pre c post ih =>
    intro e
    simp only [Ctx.plug] at e
    injection e with _ e2
    have := List.append_cancel_left e2
    injection this with e3 _
    exact ih e3

theorem plug_leaf_ne (c : Ctx) {l m : Leaf} (h : l ≠ m) :
    V.eq (c.plug (.leaf l)) (c.plug (.leaf m)) = false :=
  plug_ne c ((V.eq_false_iff _ _).2 fun e => h (V.leaf.inj e))

/-- "or NaNs with different bit patterns": under any nesting, float payloads with different bit
patterns (in particular two NaNs with different payloads or signs) are not equal. -/
theorem float_bits_distinct_ne (c : Ctx) {x y : Nat} (h : x ≠ y) :
    V.eq (c.plug (.leaf (.fbits x))) (c.plug (.leaf (.fbits y))) = false :=
  plug_leaf_ne c fun e => h (Leaf.fbits.inj e)

/-- "for example 0.0 and -0.0": under any nesting, an attribute holding `0.0` differs from the one
holding `-0.0`. -/
theorem signed_zero_ne (c : Ctx) :
    V.eq (c.plug (.leaf (.fbits 0))) (c.plug (.leaf (.fbits 0x8000000000000000))) = false :=
  float_bits_distinct_ne c (by decide)

/-- integer payloads: different values are not equal (no normalisation modulo the width) -/
theorem int_distinct_ne (c : Ctx) {x y : Int} (h : x ≠ y) :
    V.eq (c.plug (.leaf (.int x))) (c.plug (.leaf (.int y))) = false :=
  plug_leaf_ne c fun e => h (Leaf.int.inj e)

/-- byte payloads (dense element buffers): different buffers are not equal -/
theorem bytes_distinct_ne (c : Ctx) {x y : List Nat} (h : x ≠ y) :
    V.eq (c.plug (.leaf (.bytes x))) (c.plug (.leaf (.bytes y))) = false :=
  plug_leaf_ne c fun e => h (Leaf.bytes.inj e)

/-- "(or parsed from the same text in different contexts) are equal" — PARTIAL.
Full statement: for every attribute text `t` and all contexts `c₁ c₂`,
`parse c₁ t == parse c₂ t` and the hashes agree.  Carried here: in the model a text denotes its
value through `parseTerm`, which has no context or storage argument, so two readings of the same
term are equal with equal hashes (class tokens and set/dict normal forms are functions of the
text).  Missing: the real attribute parser is not modelled — the harness parses every generated
and every corpus attribute text in two fresh `Context`s instead; and the statement is false for
`dense_resource<…>` handles (excluded region, `resource_same_text_counterexample`). -/
theorem same_text_eq_partial {toks : List String} {a b : V}
    (ha : parseTerm toks = some a) (hb : parseTerm toks = some b) :
    V.eq a b = true ∧ V.hash a = V.hash b := by
  rw [ha] at hb
  rw [Option.some.inj hb]
  exact ⟨eq_refl _, rfl⟩

/-- KNOWN FINDING (`known_findings.json`, `OpAsmDialectInterface.declare_resource`): the text
`dense_resource<r> : ty` read by two parsers — even in two fresh contexts, because the blob
storage is one dictionary per process — yields the handles `r` and `r_0`, i.e. unequal
attributes. -/
theorem resource_same_text_counterexample (ty : V) :
    V.eq (parseResourceAttr [] [114] ty).1
         (parseResourceAttr (parseResourceAttr [] [114] ty).2 [114] ty).1 = false :=
  -- the two attributes differ in one leaf, the key `declare_resource` handed out
  plug_leaf_ne (.node (.obj "DenseResourceAttr") [] (.node (.obj "StringAttr") [] .hole []) [ty])
    (l := .str (declareResource [] [114]).1)
    (m := .str (declareResource (declareResource [] [114]).2 [114]).1)
    fun e => absurd (Leaf.str.inj e) (by decide +kernel)

/-- `OperationInfo.__eq__` holds exactly when name, attributes, properties, operands, result
types and region structures all coincide. -/
theorem OpInfo.eq_iff (a b : OpInfo) : OpInfo.eq a b = true ↔ a = b := by
  cases a; cases b
  simp only [OpInfo.eq, Bool.and_eq_true, natListEq_iff, V.eq_iff, V.eqList_iff, OpInfo.mk.injEq,
    beq_iff_eq]
  constructor
  · rintro ⟨⟨⟨⟨⟨⟨_, h1⟩, h2⟩, h3⟩, h4⟩, h5⟩, h6⟩
    exact ⟨h1, h2, h3, h5, h4, h6⟩
  · rintro ⟨h1, h2, h3, h4, h5, h6⟩
    subst h1 h2 h3 h4 h5 h6
    simp

theorem OpInfo.eq_equiv : Equivalence (fun a b : OpInfo => OpInfo.eq a b = true) :=
  ⟨fun a => (OpInfo.eq_iff a a).2 rfl,
   fun {a b} h => (OpInfo.eq_iff b a).2 ((OpInfo.eq_iff a b).1 h).symm,
   fun {a b c} h₁ h₂ => (OpInfo.eq_iff a c).2 (((OpInfo.eq_iff a b).1 h₁).trans ((OpInfo.eq_iff b c).1 h₂))⟩

/-- equal `OperationInfo`s have equal hashes (keys of the CSE dictionary are consistent) -/
theorem OpInfo.eq_hash {a b : OpInfo} (h : OpInfo.eq a b = true) : a.hash = b.hash := by
  rw [(OpInfo.eq_iff a b).1 h]

/-- The anchor clause "observably different payloads must not be equal" for the CSE key, in the
direction the pass relies on: equal `OperationInfo`s have equal attribute dictionaries, equal
property dictionaries, equal result types and operands — value by value, not hash by hash. -/
theorem OpInfo.eq_refines {a b : OpInfo} (h : OpInfo.eq a b = true) :
    V.eq a.attrs b.attrs = true ∧ V.eq a.props b.props = true
      ∧ V.eqList a.resultTypes b.resultTypes = true ∧ a.operands = b.operands := by
  rw [(OpInfo.eq_iff a b).1 h]
  exact ⟨eq_refl _, eq_refl _, (V.eqList_iff _ _).2 rfl, rfl⟩

theorem OpInfo.eq_false_of_attrs {a b : OpInfo} (h : V.eq a.attrs b.attrs = false) :
    OpInfo.eq a b = false :=
  Bool.eq_false_iff.2 fun e => Bool.eq_false_iff.1 h (OpInfo.eq_refines e).1

theorem OpInfo.eq_false_of_props {a b : OpInfo} (h : V.eq a.props b.props = false) :
    OpInfo.eq a b = false :=
  Bool.eq_false_iff.2 fun e => Bool.eq_false_iff.1 h (OpInfo.eq_refines e).2.1

/-- Two operations that differ only in the sign of a zero constant are different CSE keys. -/
theorem OpInfo.signed_zero_ne (o : OpInfo) (c : Ctx) :
    OpInfo.eq { o with attrs := c.plug (.leaf (.fbits 0)) }
              { o with attrs := c.plug (.leaf (.fbits 0x8000000000000000)) } = false :=
  OpInfo.eq_false_of_attrs (Xdsl.AttrValue.signed_zero_ne c)

/-! ## hash equality is not equality

The hash values of the model are exact where CPython's collide systematically (`pyIntHash`), so
the model separates `==` from `hash ==`: the theorems below exhibit the whole class of colliding
payloads the harness generates (`attr.hash_collisions`, `op.hash_collisions`). -/

/-- `hash(-1) == hash(-2)` -/
theorem pyIntHash_neg_one_neg_two : pyIntHash (-1) = pyIntHash (-2) := by decide

/-- `hash(v) == hash(v + (2^61 - 1))` for every non-negative `v` … -/
theorem pyIntHash_add_mersenne {v : Int} (h : 0 ≤ v) : pyIntHash (v + (2 ^ 61 - 1)) = pyIntHash v := by
  have hm : (0:Int) ≤ 2 ^ 61 - 1 := by decide
  simp only [pyIntHash, if_neg (Int.not_lt.2 h), if_neg (Int.not_lt.2 (Int.add_nonneg h hm)),
    Int.toNat_add h hm, Nat.add_mod_right]

/-- … and `hash(v) == hash(v - (2^61 - 1))` for every negative `v`. -/
theorem pyIntHash_sub_mersenne {v : Int} (h : v < 0) : pyIntHash (v - (2 ^ 61 - 1)) = pyIntHash v := by
  have hm : (0:Int) ≤ 2 ^ 61 - 1 := by decide
  have h1 : v - (2 ^ 61 - 1) < 0 := Int.lt_of_le_of_lt (Int.sub_le_self v hm) h
  have h3 : -(v - (2 ^ 61 - 1)) = -v + (2 ^ 61 - 1) := by
    rw [Int.neg_sub, Int.sub_eq_add_neg, Int.add_comm]
  simp only [pyIntHash, if_pos h, if_pos h1, h3,
    Int.toNat_add (Int.neg_nonneg_of_nonpos (Int.le_of_lt h)) hm, Nat.add_mod_right]

/-- Equal hashes of a sub-attribute give equal hashes of every enclosing attribute (the tuple hash
is a function of the component hashes): a collision at an `int` propagates through `IntAttr`,
`IntegerAttr`, `ArrayAttr`, `DictionaryAttr` items … -/
theorem plug_hash_congr (c : Ctx) {a b : V} (h : V.hash a = V.hash b) :
    V.hash (c.plug a) = V.hash (c.plug b) := by
  induction c with
  | hole => exact h
  | node t pre c post ih =>
    simp only [Ctx.plug, V.hash_node, List.map_append, List.map_cons, ih]

/-- "hash equality is not equality": under any nesting, the attribute holding `-1` and the one
holding `-2` hash equally and are NOT equal. -/
theorem hash_collision_ne (c : Ctx) :
    V.hash (c.plug (.leaf (.int (-1)))) = V.hash (c.plug (.leaf (.int (-2))))
      ∧ V.eq (c.plug (.leaf (.int (-1)))) (c.plug (.leaf (.int (-2)))) = false :=
  ⟨plug_hash_congr c (by simp [V.hash, Leaf.hash, pyIntHash_neg_one_neg_two]),
   int_distinct_ne c (by decide)⟩

/-- The same for the Mersenne twins `v` and `v + (2^61 - 1)` (e.g. `0 : i64` and
`2305843009213693951 : i64`). -/
theorem hash_collision_mersenne_ne (c : Ctx) {v : Int} (h : 0 ≤ v) :
    V.hash (c.plug (.leaf (.int (v + (2 ^ 61 - 1))))) = V.hash (c.plug (.leaf (.int v)))
      ∧ V.eq (c.plug (.leaf (.int (v + (2 ^ 61 - 1))))) (c.plug (.leaf (.int v))) = false :=
  ⟨plug_hash_congr c (by simp only [V.hash, Leaf.hash, pyIntHash_add_mersenne h]),
   int_distinct_ne c (by omega)⟩

/-- Two operations that differ only in attribute values with colliding hashes have the same
`OperationInfo` hash and are nevertheless different CSE keys: `OperationInfo.__eq__` must compare
the values (`arith.constant -1` is not `arith.constant -2`). -/
theorem OpInfo.hash_collision_ne (o : OpInfo) (c : Ctx) :
    OpInfo.hash { o with attrs := c.plug (.leaf (.int (-1))) }
        = OpInfo.hash { o with attrs := c.plug (.leaf (.int (-2))) }
      ∧ OpInfo.eq { o with attrs := c.plug (.leaf (.int (-1))) }
                  { o with attrs := c.plug (.leaf (.int (-2))) } = false :=
  ⟨by simp only [OpInfo.hash, (Xdsl.AttrValue.hash_collision_ne c).1],
   OpInfo.eq_false_of_attrs (Xdsl.AttrValue.hash_collision_ne c).2⟩

/-- … and likewise in the properties (`value = -1 : i32` of `arith.constant`). -/
theorem OpInfo.hash_collision_props_ne (o : OpInfo) (c : Ctx) :
    OpInfo.hash { o with props := c.plug (.leaf (.int (-1))) }
        = OpInfo.hash { o with props := c.plug (.leaf (.int (-2))) }
      ∧ OpInfo.eq { o with props := c.plug (.leaf (.int (-1))) }
                  { o with props := c.plug (.leaf (.int (-2))) } = false :=
  ⟨by simp only [OpInfo.hash, (Xdsl.AttrValue.hash_collision_ne c).1],
   OpInfo.eq_false_of_props (Xdsl.AttrValue.hash_collision_ne c).2⟩

/-- the property dictionary `{value = v : i32}` of an `arith.constant` -/
def constProps (v : Int) : V :=
  .node .dict [.node .tup [.leaf (.str [118, 97, 108, 117, 101]),
    mkAttr "IntegerAttr" [mkAttr "IntAttr" [.leaf (.int v)], mkAttr "IntegerType" [.leaf (.int 32)]]]]

/-- COUNTEREXAMPLE for a comparison that trusts the hash (keys compared, values left to
`hash(self) == hash(other)`): it identifies `arith.constant -1 : i32` and `arith.constant -2 : i32`,
whose payloads differ observably — so the hash conjunct of `OperationInfo.__eq__` cannot replace
`attributes == …` / `properties == …`. -/
theorem HashOnly.opInfoEq_counterexample :
    let a : OpInfo := { name := [99], attrs := .node .dict [], props := constProps (-1),
                        resultTypes := [], operands := [], regions := [] }
    let b : OpInfo := { a with props := constProps (-2) }
    HashOnly.opInfoEq a b = true ∧ OpInfo.eq a b = false ∧ V.eq a.props b.props = false := by
  decide +kernel

/-! ## the bf16 encoder keeps what the type can hold

`BFloat16Type._encode` is the one hand-written encoder among the IEEE-like builtin types (the
others go through `struct`); every bf16 `FloatAttr`, dense array and dense elements attribute is
rounded through it.  `f` is the binary32 bit pattern of the value. -/

theorem bf16Encode_lt (f : Nat) : bf16Encode f < 2 ^ 16 := by
  unfold bf16Encode
  split
  · simp only []
    split <;> omega
  · exact Nat.mod_lt _ (by decide)

/-- On a binary32 NaN the encoder returns the upper half `f / 2^16` with the quiet bit (bit 6) set,
so sign, exponent and the six payload bits below the quiet bit are those of the upper half.  The
two cases are whether the quiet bit was set already; each is linear arithmetic. -/
theorem bf16Encode_nan {f : Nat} (hf : f < 2 ^ 32) (hn : f % 2 ^ 31 > 0x7F800000) :
    bf16Encode f / 2 ^ 15 = f / 2 ^ 31 ∧ bf16Encode f % 2 ^ 15 > 0x7F80 ∧
      bf16Encode f / 64 % 2 = 1 ∧ bf16Encode f % 64 = f / 2 ^ 16 % 64 := by
  unfold bf16Encode
  rw [if_pos hn, Nat.mod_eq_of_lt (Nat.div_lt_of_lt_mul hf : f / 2 ^ 16 < 2 ^ 16)]
  simp only []
  split <;> omega

/-- "NaNs with different bit patterns are not equal" needs the encoder to keep the SIGN of a NaN:
the sign bit of the bf16 pattern is the sign bit of the binary32 NaN. -/
theorem bf16Encode_nan_sign {f : Nat} (hf : f < 2 ^ 32) (hn : f % 2 ^ 31 > 0x7F800000) :
    bf16Encode f / 2 ^ 15 = f / 2 ^ 31 :=
  (bf16Encode_nan hf hn).1

/-- a NaN stays a NaN (exponent all ones, fraction non-zero), quiet bit set -/
theorem bf16Encode_nan_is_nan {f : Nat} (_hf : f < 2 ^ 32) (hn : f % 2 ^ 31 > 0x7F800000) :
    bf16Encode f % 2 ^ 15 > 0x7F80 ∧ bf16Encode f / 64 % 2 = 1 :=
  ⟨(bf16Encode_nan _hf hn).2.1, (bf16Encode_nan _hf hn).2.2.1⟩

/-- the payload bits of a NaN that bf16 can hold (the six below the quiet bit) are kept -/
theorem bf16Encode_nan_payload {f : Nat} (_hf : f < 2 ^ 32) (hn : f % 2 ^ 31 > 0x7F800000) :
    bf16Encode f % 64 = f / 2 ^ 16 % 64 :=
  (bf16Encode_nan _hf hn).2.2.2

/-- Every bf16 bit pattern other than a signalling NaN survives decode-then-encode: zeros with
their sign, subnormals, normals, infinities and all quiet NaNs with sign and payload.  Hence two
different such patterns are different float payloads (`float_bits_distinct_ne`) of different
attributes. -/
theorem bf16Encode_decode {p : Nat} (hp : p < 2 ^ 16)
    (hq : p % 2 ^ 15 ≤ 0x7F80 ∨ p / 64 % 2 = 1) : bf16Encode (bf16Decode p) = p := by
  have e3 : (p * 2 ^ 16 + 0x7FFF + p % 2) / 2 ^ 16 = p := by
    rw [Nat.add_assoc, Nat.mul_comm, Nat.mul_add_div (Nat.two_pow_pos 16),
      Nat.div_eq_of_lt (by omega), Nat.add_zero]
  have e2 : p * 2 ^ 16 % 2 ^ 31 = (p % 2 ^ 15) * 2 ^ 16 := by clear hp hq e3; omega
  have e1 : p * 2 ^ 16 / 2 ^ 16 = p := Nat.mul_div_cancel p (Nat.two_pow_pos 16)
  have e4 : p % 2 ^ 16 = p := Nat.mod_eq_of_lt hp
  unfold bf16Encode bf16Decode
  rw [e1, e2, e3, e4]
  split
  · -- a NaN pattern: quiet by `hq`, so nothing is added
    next hn => simp only []; rw [if_pos (by omega)]
  · rfl

/-- with `bf16Encode_decode`: the patterns other than signalling NaNs correspond one to one to the
binary32 values they decode to -/
theorem bf16Decode_injective {p q : Nat} (h : bf16Decode p = bf16Decode q) : p = q := by
  unfold bf16Decode at h
  omega

/-- `-nan` and `nan` (binary32 `0xFFC00000` / `0x7FC00000`) are the different bf16 patterns
`0xFFC0` / `0x7FC0`. -/
theorem bf16Encode_signed_nan : bf16Encode 0xFFC00000 = 0xFFC0 ∧ bf16Encode 0x7FC00000 = 0x7FC0 := by
  decide

/-- rounding is to nearest, ties to even, on the upper half: the distance to the value is at most
half a unit of the last kept place (non-NaN, no overflow of the 16 bits) -/
theorem bf16Encode_nearest {f : Nat} (_hf : f < 2 ^ 32) (hn : f % 2 ^ 31 ≤ 0x7F800000)
    (ho : f + 0x8000 < 2 ^ 32) :
    bf16Encode f * 2 ^ 16 ≤ f + 2 ^ 15 ∧ f ≤ bf16Encode f * 2 ^ 16 + 2 ^ 15 := by
  have e3 : (f + 0x7FFF + f / 2 ^ 16 % 2) / 2 ^ 16 < 2 ^ 16 := by omega
  unfold bf16Encode
  rw [if_neg (Nat.not_lt.2 hn), Nat.mod_eq_of_lt e3]
  omega

/-- The comparison of the unfixed code (`(isnan a and isnan b) or a == b`) identifies `0.0` and
`-0.0`, whose payloads differ observably. -/
theorem legacy_float_eq_signed_zero_counterexample :
    Legacy.floatEq 0 0x8000000000000000 = true ∧ (0 : Nat) ≠ 0x8000000000000000 := by
  refine ⟨by decide +kernel, by omega⟩

/-- … and identifies NaNs with different bit patterns. -/
theorem legacy_float_eq_nan_counterexample :
    Legacy.floatEq 0x7FF8000000000000 0xFFF8000000000001 = true
      ∧ (0x7FF8000000000000 : Nat) ≠ 0xFFF8000000000001 := by
  refine ⟨by decide +kernel, by omega⟩

/-- Away from NaNs and zeros the unfixed comparison already was bit-pattern equality: the repair
changes `==` only on the values the property names. -/
theorem legacy_float_eq_agrees {x y : Nat} (hx : Legacy.isNaN x = false) (hy : Legacy.isNaN y = false)
    (hz : (Legacy.isZero x && Legacy.isZero y) = false) :
    Legacy.floatEq x y = V.eq (.leaf (.fbits x)) (.leaf (.fbits y)) := by
  simp [Legacy.floatEq, hx, hy, hz, V.eq, Leaf.eq]

example : V.eq (floatAttr 0 "f32") (floatAttr 0 "f32") = true := by decide
example : V.eq (floatAttr 0 "f32") (floatAttr 0x8000000000000000 "f32") = false :=
  signed_zero_ne (.node (.obj "FloatAttr") [] .hole [mkAttr "f32" []])
example : V.eq (floatAttr 0 "f32") (floatAttr 0 "f64") = false := by decide
example : V.hash (mkAttr "IndexType" []) = V.hash (mkAttr "NoneType" [])
    ∧ V.eq (mkAttr "IndexType" []) (mkAttr "NoneType" []) = false := by decide
example : mkNode .dict [.leaf (.str [98]), .leaf (.int 1), .leaf (.str [97]), .leaf (.int 2)]
    = mkNode .dict [.leaf (.str [97]), .leaf (.int 2), .leaf (.str [98]), .leaf (.int 1)] := by rfl

end Xdsl.AttrValue
