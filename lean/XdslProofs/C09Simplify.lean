import XdslProofs.C09
import XdslProofs.Lemmas.ConstraintSimplify
/-!
# C09 — simplification part

"Simplifying or merging the alternatives of a union never changes the accepted set."

`relax`, `orC`, `anyOfGet` model `relax_constraint`, `__or__` and the merge loop of `AnyOf.get`
(mutually recursive through `x | y` on parameter constraints, hence the fuel; running out of fuel is
an error, never a wrong answer, and the harness compares the fuelled model with the real result).
-/
namespace Xdsl.Constraint

/-- `x.relax_constraint(y)`, when it returns a constraint, returns the union of the two —
for every assignment of the variables -/
theorem relax_sound (U : Univ) (f : Nat) (x y r : C) (h : relax U f x y = .ok (some r)) (σ : Asg) (a : Attr) :
    sat U σ r a ↔ (sat U σ x a ∨ sat U σ y a) := ((mergeOK U f).relax x y r h).sat₂ σ a

theorem or_preserves (U : Univ) (f : Nat) (x y r : C) (h : orC U f x y = .ok r) (σ : Asg) (a : Attr) :
    sat U σ r a ↔ (sat U σ x a ∨ sat U σ y a) := ((mergeOK U f).orC x y r h).sat₂ σ a

/-- `AnyOf.get(*cs)`: whatever flattening and merging happened, the result describes exactly the
union of the arguments -/
theorem anyOfGet_preserves (U : Univ) (cs : List C) (r : C) (h : anyOfGet U cs = .ok r) (σ : Asg) (a : Attr) :
    sat U σ r a ↔ ∃ c ∈ cs, sat U σ c a := by
  rw [(anyOfGet_joins h).sat_iff, satAny_iff]

/-- the result of `AnyOf.get` again satisfies what the constructors enforce -/
theorem anyOfGet_wf (U : Univ) (cs : List C) (r : C) (h : anyOfGet U cs = .ok r) (hw : ∀ c ∈ cs, WF U c) :
    WF U r := (anyOfGet_joins h).keeps _ (WF_compositional U) hw

theorem anyOfGet_wellDeclared (U : Univ) (decl : Nat → C) (cs : List C) (r : C) (h : anyOfGet U cs = .ok r)
    (hd : ∀ c ∈ cs, WellDeclared decl c) : WellDeclared decl r :=
  (anyOfGet_joins h).keeps _ (WD_compositional U decl) hd

/-- **the accepted set is unchanged**: a constraint that stands for a union `verifies` an attribute
exactly when one of the members does.  (`WF` and `WellDeclared` of the result, which the
characterisation of `verify` asks for, come with `Joins`.) -/
theorem Joins.accepts {U : Univ} {cs : List C} {r : C} (h : Joins U cs r) (hU : UnivOK U) (decl : Nat → C)
    (hw : ∀ c ∈ cs, WF U c) (hd : ∀ c ∈ cs, WellDeclared decl c) (a : Attr) :
    accepts U r a = true ↔ ∃ c ∈ cs, accepts U c a = true := by
  simp only [Constraint.accepts, Option.isSome_iff_exists]
  exact verify_union U hU decl a (fun σ => (h.sat_iff σ a).trans (satAny_iff U σ a cs))
    (h.keeps _ (WF_compositional U) hw) (h.keeps _ (WD_compositional U decl) hd) hw hd [] (.nil U decl)

theorem anyOfGet_accepts (U : Univ) (hU : UnivOK U) (decl : Nat → C) (cs : List C) (r : C)
    (h : anyOfGet U cs = .ok r) (hw : ∀ c ∈ cs, WF U c) (hd : ∀ c ∈ cs, WellDeclared decl c) (a : Attr) :
    accepts U r a = true ↔ ∃ c ∈ cs, accepts U c a = true :=
  (anyOfGet_joins h).accepts hU decl hw hd a

/-- `x | y` (`AttrConstraint.__or__`) `verifies` an attribute exactly when `x` or `y` does -/
theorem or_accepts (U : Univ) (hU : UnivOK U) (decl : Nat → C) (f : Nat) (x y r : C)
    (h : orC U f x y = .ok r) (hwx : WF U x) (hwy : WF U y) (hdx : WellDeclared decl x)
    (hdy : WellDeclared decl y) (a : Attr) :
    accepts U r a = true ↔ (accepts U x a = true ∨ accepts U y a = true) := by
  have pair : ∀ {Q : C → Prop}, Q x → Q y → ∀ c ∈ [x, y], Q c := fun qx qy c hc =>
    (List.mem_cons.1 hc).elim (· ▸ qx) (List.mem_singleton.1 · ▸ qy)
  rw [((mergeOK U f).orC x y r h).accepts hU decl (pair hwx hwy) (pair hdx hdy) a]
  simp only [List.mem_cons, List.not_mem_nil, or_false, exists_eq_or_imp, exists_eq_left]

/-- `ParamAttrConstraint.get(base, *constrs)` (collapse to an equality constraint when the class is
final and every parameter is fixed, to `BaseAttr` when every parameter is unconstrained) describes
the same attributes as `ParamAttrConstraint(base, constrs)` — for attributes whose class is below
`base` only if they are parametrized with as many parameters as there are constraints (true of real
attributes when `constrs` has the arity of the class definition). -/
theorem paramGet_preserves (U : Univ) (hU : UnivOK U) (σ : Asg) (d : Nat) (cs : List C) (a : Attr)
    (hP : isSub U a.cls d = true → ∃ as, a = .param a.cls as ∧ as.length = cs.length) :
    sat U σ (paramGet U d cs) a ↔ sat U σ (.param d cs) a := by
  unfold paramGet
  split
  · -- final class, every parameter fixed: the one attribute `d[values]`
    rename_i h
    rw [Bool.and_eq_true] at h
    constructor
    · intro e; cases e
      exact ⟨isSub_refl U d, (satZip_allEq U σ cs _ h.2).2 rfl⟩
    · rintro ⟨hs, hz⟩
      cases a with
      | param ca as => cases hU _ _ h.1 hs; cases (satZip_allEq U σ cs as h.2).1 hz; rfl
      | _ => exact hz.elim
  · split
    · -- every parameter unconstrained: only the class is tested
      rename_i h
      refine ⟨fun hs => ⟨hs, ?_⟩, fun h => h.1⟩
      obtain ⟨as, ha, hl⟩ := hP hs
      rw [ha]
      exact (satZip_allAny U σ cs as h).2 hl
    · rfl

/-! ### non-vacuity: a merge that really rewrites -/

/-- outcome of a merge compared with Python's `==` on constraints (`ceq`) -/
def mergesTo (r : Except String C) (expected : C) : Bool :=
  match r with | .ok c => ceq c expected | .error _ => false
def mergeRaises (r : Except String C) (e : String) : Bool :=
  match r with | .ok _ => false | .error e' => e' == e

/-- `Pair[eq s7, idx] | Pair[eq s8, idx]` becomes `Pair[{s7, s8}, idx]`;
`Pair[eq s7, idx] | Pair[eq s8, Abstract]` cannot be merged and (same final base) is refused;
nested unions are flattened and equal-kind alternatives merged. -/
example : mergesTo (getLoop U0 20 [] [.param 1 [.eq (.data 2 7), .base 0], .param 1 [.eq (.data 2 8), .base 0]])
    (.param 1 [.set [.data 2 7, .data 2 8], .base 0]) = true := by decide
example : mergeRaises (getLoop U0 20 [] [.param 1 [.eq (.data 2 7), .base 0], .param 1 [.eq (.data 2 8), .base 3]])
    "PyRDLError" = true := by decide
example : mergesTo (getLoop U0 20 [] [.eq (.data 2 7), .anyOf [.base 0, .eq (.data 2 8)], .base 1])
    (.anyOf [.set [.data 2 7, .data 2 8], .base 0, .base 1]) = true := by decide

end Xdsl.Constraint
