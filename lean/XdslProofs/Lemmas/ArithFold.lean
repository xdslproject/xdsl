import XdslProofs.Lemmas.ArithInterp
import XdslModel.Generated.ArithPyOps
/-!
`IntegerType.normalized_value` (as translated from `xdsl/dialects/builtin.py`, signless case) is the
two's-complement representative of the `w`-bit pattern (`RvK.normalized_eq`).  Here: what it does
without `truncate_bits`, and the datum of `IntegerAttr(1, iw)` that `is_right_unit` compares with.
-/
namespace Xdsl.C14
open Xdsl Xdsl.Generated Xdsl.Generated.Comparisons Xdsl.Generated.BuiltinInt

/-- without truncation a value outside the signless range is refused -/
theorem normalized_none (w : Nat) (hw : 1 ≤ w) (v : Int)
    (h : v < -(2 : Int) ^ (w - 1) ∨ (2 : Int) ^ w ≤ v) :
    normalized_value_signless (w : Int) v false = none := by
  have hout : ¬ (-(2 : Int) ^ (w - 1) ≤ v ∧ v < 2 ^ w) := by omega
  simp only [normalized_value_signless, signless_value_range, RvK.signed_lower_bound_eq w hw,
    RvK.unsigned_upper_bound_eq, ← Bool.decide_and, hout, decide_false, Bool.not_false, if_true]

/-- `IntegerAttr(1, iw).value.data`: `1` lies in the signless range of every width -/
theorem normalized_one_eq (w : Nat) (hw : 1 ≤ w) :
    ArithPyOps.normalized_one (w : Int) = (BitVec.ofInt w 1).toInt := by
  have := BV.two_pow_pos (w - 1)
  rw [ArithPyOps.normalized_one, RvK.normalized_eq w hw 1 false (Or.inr ⟨by omega, BV.one_lt_two_pow w hw⟩),
    Option.getD_some]

/-- … and denotes the bit pattern `1` (it is `-1` for `i1`). -/
theorem ofInt_normalized_one (w : Nat) (hw : 1 ≤ w) :
    BitVec.ofInt w (ArithPyOps.normalized_one (w : Int)) = 1#w := by
  rw [normalized_one_eq w hw, BitVec.ofInt_toInt]; rfl

end Xdsl.C14
