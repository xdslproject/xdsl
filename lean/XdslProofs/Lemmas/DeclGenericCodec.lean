import XdslProofs.Lemmas.DeclGeneric
/-!
C05, generic form: a lawful codec exists (the hypothesis `CodecOK` of `decl_generic_agree` is
satisfiable): keys and size arrays are numbered through an injection of their spelling.
-/
namespace Xdsl.DeclGeneric
open Xdsl.DeclFormat

def encL : List Char → Nat
  | [] => 0
  | c :: l => (c.toNat + 1) + 4294967297 * encL l

def decL : Nat → Nat → List Char
  | 0, _ => []
  | f + 1, n => if n = 0 then [] else Char.ofNat (n % 4294967297 - 1) :: decL f (n / 4294967297)

theorem decL_encL (l : List Char) : ∀ f, encL l ≤ f → decL f (encL l) = l := by
  induction l with
  | nil => intro f _; cases f <;> simp [encL, decL]
  | cons c l ih =>
    intro f hf
    have hc : c.toNat < 4294967296 := c.val.toNat_lt
    simp only [encL] at hf ⊢
    cases f with
    | zero => omega
    | succ f =>
      have h1 : (c.toNat + 1 + 4294967297 * encL l) % 4294967297 = c.toNat + 1 := by omega
      have h2 : (c.toNat + 1 + 4294967297 * encL l) / 4294967297 = encL l := by omega
      have h3 : ¬ (c.toNat + 1 + 4294967297 * encL l = 0) := by omega
      simp only [decL, h3, if_false, h1, h2, Nat.add_sub_cancel, Char.ofNat_toNat]
      rw [ih f (by omega)]

/-- sizes in unary: `n` ↦ `a…a b` -/
def unary : List Nat → List Char
  | [] => []
  | n :: l => List.replicate n 'a' ++ 'b' :: unary l

def cnt : List Char → Nat → List Nat
  | [], _ => []
  | c :: r, acc => if c = 'b' then acc :: cnt r 0 else cnt r (acc + 1)

theorem cnt_run (n acc : Nat) (rest : List Char) :
    cnt (List.replicate n 'a' ++ 'b' :: rest) acc = (acc + n) :: cnt rest 0 := by
  induction n generalizing acc with
  | zero => simp [cnt]
  | succ n ih =>
    have : ¬ ('a' = 'b') := by decide
    simp only [List.replicate_succ, List.cons_append, cnt, this, if_false, ih]
    congr 1; omega

theorem cnt_unary (l : List Nat) : cnt (unary l) 0 = l := by
  induction l with
  | nil => rfl
  | cons n l ih => simp [unary, cnt_run, ih]

def exRegion (n : Nat) : NTree :=
  if n = 0 then .nil else .block none [] (.op ⟨[], n, [], [], [], [], [], []⟩ .nil .nil) .nil

/-- values `%v…v`, blocks `^b…b`, keys and size arrays numbered through an injection of their
spelling, type `n` ↦ group `3n` (function type iff `n ∈ fn`), attribute `n` ↦ group `3n+1`
(`0`: `UnitAttr`) -/
def exCodec (fn : List Nat) : Codec :=
  { nv := fun n => List.replicate (n + 1) 'v'
    vn := fun s => s.length - 1
    nb := fun n => List.replicate (n + 1) 'b'
    bn := fun s => s.length - 1
    key := fun s => ⟨encL s.toList, true⟩
    name := fun i => String.ofList (decL i i)
    ty := fun n => ⟨3 * n, fn.contains n⟩
    tyId := fun a => a.id / 3
    av := fun n => if n = 0 then none else some ⟨3 * n + 1, false⟩
    avId := fun a => match a with | none => 0 | some a => a.id / 3
    sizes := fun l => ⟨3 * encL (unary l) + 2, false⟩
    sizesOf := fun a => if a.id % 3 = 2 then some (cnt (decL (a.id / 3) (a.id / 3)) 0) else none
    region := exRegion
    regionId := fun t => match t with | .block _ _ (.op h _ _) _ => h.name | _ => 0
    opName := 0 }

theorem exCodec_ok (fn : List Nat) : CodecOK (exCodec fn) where
  vn_nv := fun n => by simp [exCodec]
  bn_nb := fun n => by simp [exCodec]
  name_key := fun s => by
    simp only [exCodec]
    rw [decL_encL _ _ (Nat.le_refl _), String.ofList_toList]
  tyId_ty := fun n => by simp [exCodec]
  avId_av := fun n => by
    by_cases h : n = 0
    · simp [exCodec, h]
    · simp only [exCodec, h, if_false]; omega
  sizesOf_sizes := fun l => by
    have h1 : (3 * encL (unary l) + 2) % 3 = 2 := by omega
    have h2 : (3 * encL (unary l) + 2) / 3 = encL (unary l) := by omega
    simp only [exCodec, h1, h2, if_true]
    rw [decL_encL _ _ (Nat.le_refl _), cnt_unary]
  regionId_region := fun n => by
    by_cases h : n = 0
    · simp [exCodec, exRegion, h]
    · simp [exCodec, exRegion, h]

end Xdsl.DeclGeneric
