import XdslModel.DisjointSet
import XdslProofs.Lemmas.List
import Mathlib.Data.Fintype.Card
import Mathlib.Logic.Relation
/-!
Helper lemmas for the union-find part of C12 (`xdsl/utils/disjoint_set.py`, `IntDisjointSet`).

* `Inv` — the forest invariant (lengths equal, parents in range, acyclic by a rank witness);
* `root s x := findRoot s s.size x` — the abstraction function (representative of `x`);
* the first loop with fuel `n` returns the `n`-th node of the parent path (`findRoot_eq`); pigeonhole: under
  `Inv` the `s.size`-th node is a root, so the fuel of the model's two loops is never exhausted;
* `point_root` — the one mutation of the parent list, `_parent[c] = t` for a root `t`: `compress` (path
  compression) is a run of it that merges nothing, `link` (the two assignments of `union`/`union_left`)
  does it once; `Compressed s s'` — `s'` is `s` up to path compression, which is all the lookups opening
  an operation do;
* `Spec`/`Rel`/`Repr` — the abstract side: number of elements + list of pairs unioned so far, the
  equivalence closure of those pairs, and the representation relation.
-/
namespace Xdsl.DisjointSet

theorem par_mk (p c : List Nat) (i : Nat) : UF.par { parent := p, count := c } i = p.getD i i := rfl

theorem par_of_size_le (s : UF) {i : Nat} (h : s.size ≤ i) : s.par i = i := by
  simp only [UF.par, UF.size] at *
  simp [List.getD_eq_getElem?_getD, List.getElem?_eq_none h]

/-- A root is a fixed point of the parent function, so stopping there and going on are the same: with
fuel `n` the first loop returns the `n`-th node of the parent path, in any state. -/
theorem findRoot_eq (s : UF) : ∀ fuel x, findRoot s fuel x = s.par^[fuel] x
  | 0, _ => rfl
  | fuel + 1, x => by
    rw [findRoot, Function.iterate_succ_apply]
    split
    · rename_i h; rw [h]; exact (Function.iterate_fixed h fuel).symm
    · exact findRoot_eq s fuel _

theorem iter_stable (s : UF) {k n x : Nat} (e : s.par (s.par^[k] x) = s.par^[k] x) (hk : k ≤ n) :
    s.par^[n] x = s.par^[k] x := by
  rw [← Nat.sub_add_cancel hk, Function.iterate_add_apply]; exact Function.iterate_fixed e _

/-- Forest invariant of `IntDisjointSet`: `_parent` and `_count` have the same length, every parent
index is in range, and the parent graph is acyclic apart from the self-loops at roots — witnessed by
a rank function that strictly increases along every non-root parent edge. -/
structure Inv (s : UF) : Prop where
  len : s.count.length = s.parent.length
  range : ∀ i, i < s.size → s.par i < s.size
  acyc : ∃ rk : Nat → Nat, ∀ i, s.par i ≠ i → rk i < rk (s.par i)

theorem iter_lt (s : UF) (h : Inv s) {x : Nat} (hx : x < s.size) : ∀ k, s.par^[k] x < s.size
  | 0 => hx
  | k + 1 => by rw [Function.iterate_succ_apply']; exact h.range _ (iter_lt s h hx k)

theorem rk_iter (s : UF) (rk : Nat → Nat) (hrk : ∀ i, s.par i ≠ i → rk i < rk (s.par i)) :
    ∀ k x, s.par^[k] x = x ∨ rk x < rk (s.par^[k] x)
  | 0, x => Or.inl rfl
  | k + 1, x => by
    rw [Function.iterate_succ_apply]
    by_cases hx : s.par x = x
    · rw [hx]; exact rk_iter s rk hrk k x
    · have h1 := hrk x hx
      rcases rk_iter s rk hrk k (s.par x) with e | l
      · right; rw [e]; exact h1
      · right; exact Nat.lt_trans h1 l

theorem root_of_cycle (s : UF) (h : Inv s) {y d : Nat} (hd : s.par^[d + 1] y = y) : s.par y = y := by
  obtain ⟨rk, hrk⟩ := h.acyc
  by_contra hy
  rw [Function.iterate_succ_apply] at hd
  rcases rk_iter s rk hrk d (s.par y) with e | l
  · exact hy (e.symm.trans hd)
  · rw [hd] at l; exact Nat.lt_asymm (hrk y hy) l

/-- **Pigeonhole**: in a forest over `s.size` nodes a root is at most `s.size` parent steps away, so the
`s.size`-th node of every parent path is a root. -/
theorem root_within_size (s : UF) (h : Inv s) (x : Nat) :
    s.par (s.par^[s.size] x) = s.par^[s.size] x := by
  by_cases hx : s.size ≤ x
  · rw [Function.iterate_fixed (par_of_size_le s hx)]; exact par_of_size_le s hx
  · -- if iterates `a < b` coincide, the node they reach lies on a cycle, so it is a root
    have key : ∀ a b, b ≤ s.size → a < b → s.par^[a] x = s.par^[b] x →
        s.par (s.par^[s.size] x) = s.par^[s.size] x := fun a b hb hab e => by
      have ha : s.par (s.par^[a] x) = s.par^[a] x := root_of_cycle s h (d := b - a - 1) (by
        rw [← Function.iterate_add_apply, show b - a - 1 + 1 + a = b by omega]; exact e.symm)
      rw [iter_stable s ha (by omega)]; exact ha
    -- `size + 1` iterates in a range of `size` nodes: two of them coincide
    obtain ⟨a, b, hab, hb, e⟩ := exists_lt_eq_of_length_lt (U := List.range s.size) (n := s.size + 1)
      (fun k => s.par^[k] x) (fun k _ => List.mem_range.mpr (iter_lt s h (Nat.lt_of_not_le hx) k))
      (by rw [List.length_range]; exact Nat.lt_succ_self _)
    exact key a b (Nat.le_of_lt_succ hb) hab e

/-- representative of `x`: what the first loop of `__getitem__` computes -/
def root (s : UF) (x : Nat) : Nat := findRoot s s.size x

theorem root_eq (s : UF) (x : Nat) : root s x = s.par^[s.size] x := findRoot_eq s _ x

theorem findRoot_fuel_irrelevant (s : UF) (h : Inv s) (x fuel : Nat) (hf : s.size ≤ fuel) :
    findRoot s fuel x = root s x := by
  rw [findRoot_eq, root_eq, iter_stable s (root_within_size s h x) hf]

theorem root_reachable (s : UF) (x : Nat) : ∃ k, k ≤ s.size ∧ root s x = s.par^[k] x :=
  ⟨s.size, Nat.le_refl _, root_eq s x⟩

theorem root_is_root (s : UF) (h : Inv s) (x : Nat) : s.par (root s x) = root s x := by
  rw [root_eq]; exact root_within_size s h x

theorem root_of_root (s : UF) {x : Nat} (h : s.par x = x) : root s x = x := by
  rw [root_eq]; exact Function.iterate_fixed h _

theorem root_idem (s : UF) (h : Inv s) (x : Nat) : root s (root s x) = root s x :=
  root_of_root s (root_is_root s h x)

theorem root_par (s : UF) (h : Inv s) (x : Nat) : root s (s.par x) = root s x := by
  rw [root_eq, ← Function.iterate_succ_apply, Function.iterate_succ_apply', ← root_eq]
  exact root_is_root s h x

theorem root_lt (s : UF) (h : Inv s) {x : Nat} (hx : x < s.size) : root s x < s.size := by
  rw [root_eq]; exact iter_lt s h hx _

theorem root_of_size_le (s : UF) {x : Nat} (hx : s.size ≤ x) : root s x = x :=
  root_of_root s (par_of_size_le s hx)

theorem root_eq_self_iff (s : UF) (h : Inv s) (x : Nat) : root s x = x ↔ s.par x = x :=
  ⟨fun e => by have := root_is_root s h x; rwa [e] at this, root_of_root s⟩

theorem root_unique (s : UF) (h : Inv s) (f : Nat → Nat)
    (hfix : ∀ i, s.par i = i → f i = i) (hpar : ∀ i, f (s.par i) = f i) (x : Nat) :
    root s x = f x := by
  have hk : ∀ k y, f (s.par^[k] y) = f y := by
    intro k
    induction k with
    | zero => intro y; rfl
    | succ k ih => intro y; rw [Function.iterate_succ_apply, ih, hpar]
  rw [← hfix _ (root_is_root s h x), root_eq, hk]

theorem par_of_set {s s' : UF} {c : Nat} (t : Nat) (hp : s'.parent = s.parent.set c t)
    (hc : c < s.size) (i : Nat) : s'.par i = if i = c then t else s.par i := by
  rw [UF.par, hp, getD_set_of_lt hc]; rfl

/-- The one mutation of the parent list: `_parent[c] = t` for a root `t ≠ c`.  Path compression does it
along a path, with `t` the representative of `c`; the link that ends a union does it once, with `c` a
root of another class.  The result is again a forest; if `c` was a root, or `t` its representative, the
class of `c` has gone into the class of `t` and nothing else has changed. -/
theorem point_root {s s' : UF} {c t : Nat} (h : Inv s) (hp : s'.parent = s.parent.set c t)
    (hl : s'.count.length = s.count.length) (hc : c < s.size) (ht : t < s.size)
    (htr : s.par t = t) (hct : c ≠ t) :
    Inv s' ∧ (root s c = c ∨ root s c = t →
      ∀ i, root s' i = if root s i = root s c then t else root s i) := by
  have hsz : s'.size = s.size := by rw [UF.size, hp, List.length_set]; rfl
  have hpar := par_of_set t hp hc
  obtain ⟨rk, hrk⟩ := h.acyc
  have hinv : Inv s' := by
    -- ranks as before, except that `t` is lifted above `c`
    refine ⟨by rw [hl, h.len, hp, List.length_set], fun i hi => ?_,
      ⟨fun i => if i = t then rk t + rk c + 1 else rk i, fun i hne => ?_⟩⟩
    · rw [hsz] at *
      rw [hpar]; split
      · exact ht
      · exact h.range i hi
    · beta_reduce
      rw [hpar] at hne ⊢
      by_cases hic : i = c
      · subst hic
        rw [if_pos rfl, if_neg hct, if_pos rfl]; omega
      · rw [if_neg hic] at hne ⊢
        rw [if_neg fun e => hne (by rw [e]; exact htr)]
        have := hrk i hne
        split
        · rename_i e; rw [e] at this; omega
        · exact this
  refine ⟨hinv, fun hcr i => ?_⟩
  refine root_unique s' hinv (fun i => if root s i = root s c then t else root s i) ?_ ?_ i
  · intro j hj
    rw [hpar] at hj
    by_cases hjc : j = c
    · rw [if_pos hjc] at hj; exact absurd (hjc.symm.trans hj.symm) hct
    · rw [if_neg hjc] at hj
      rw [root_of_root s hj]
      split
      · rename_i e; rcases hcr with e' | e'
        · exact absurd (e.trans e') hjc
        · exact (e.trans e').symm
      · rfl
  · intro j
    rw [hpar]
    by_cases hjc : j = c
    · subst hjc
      rw [if_pos rfl, if_pos rfl, root_of_root s htr]; split <;> rfl
    · rw [if_neg hjc, root_par s h j]

theorem iter_set_root (p : List Nat) (cur root : Nat) (hr : p.getD root root = root)
    (hne : cur ≠ root) :
    ∀ k y, (fun i => p.getD i i)^[k] y = root →
      (fun i => (p.set cur root).getD i i)^[k] y = root
  | 0, y, h => h
  | k + 1, y, h => by
    rw [Function.iterate_succ_apply] at h ⊢
    have hroot' : (fun i => (p.set cur root).getD i i) root = root := by
      simp only [getD_set]
      rw [if_neg (fun h => hne h.1.symm)]; exact hr
    by_cases hy : y = cur ∧ cur < p.length
    · have : (p.set cur root).getD y y = root := by rw [getD_set, if_pos hy]
      simp only [this]
      exact Function.iterate_fixed (f := fun i => (p.set cur root).getD i i) hroot' k
    · have : (p.set cur root).getD y y = p.getD y y := by rw [getD_set, if_neg hy]
      simp only [this]
      exact iter_set_root p cur root hr hne k _ h

theorem compress_fuel (root : Nat) :
    ∀ k fuel cur p, p.getD root root = root → (fun i => p.getD i i)^[k] cur = root → k ≤ fuel →
      compress p root fuel cur = compress p root k cur
  | 0, fuel, cur, p, _, hk, _ => by
    have : cur = root := hk
    subst this
    cases fuel <;> simp [compress]
  | k + 1, 0, _, _, _, _, hf => by omega
  | k + 1, fuel + 1, cur, p, hr, hk, hf => by
    simp only [compress]
    split
    · rfl
    · rename_i hne
      rw [Function.iterate_succ_apply] at hk
      have hr2 : (p.set cur root).getD root root = root := by
        rw [getD_set, if_neg (fun h => hne h.1.symm)]; exact hr
      exact compress_fuel root k fuel (p.getD cur cur) (p.set cur root) hr2
        (iter_set_root p cur root hr hne k _ hk) (by omega)

theorem compress_fuel_irrelevant (s : UF) (h : Inv s) (x fuel : Nat) (hf : s.size ≤ fuel) :
    compress s.parent (root s x) fuel x = compress s.parent (root s x) s.size x :=
  compress_fuel (root s x) s.size fuel x s.parent (root_is_root s h x) (root_eq s x).symm hf

/-- `s'` is `s` after path compressions: again a forest, with the same representatives (hence the same
roots) and the same counts. -/
structure Compressed (s s' : UF) : Prop where
  inv : Inv s'
  size : s'.size = s.size
  count : s'.count = s.count
  root : ∀ i, root s' i = root s i

theorem Compressed.refl {s : UF} (h : Inv s) : Compressed s s := ⟨h, rfl, rfl, fun _ => rfl⟩

theorem Compressed.trans {s s1 s2 : UF} (h1 : Compressed s s1) (h2 : Compressed s1 s2) :
    Compressed s s2 :=
  ⟨h2.inv, h2.size.trans h1.size, h2.count.trans h1.count, fun i => (h2.root i).trans (h1.root i)⟩

theorem Compressed.par {s s' : UF} (c : Compressed s s') (h : Inv s) (i : Nat) :
    s'.par i = i ↔ s.par i = i := by
  rw [← root_eq_self_iff s' c.inv, c.root, root_eq_self_iff s h]

/-- Path compression, with any fuel, is a run of `_parent[cur] = root` along the path from `cur` towards
its representative: each is a `point_root` that merges nothing. -/
theorem compress_compressed (r : Nat) : ∀ fuel cur (s : UF), Inv s → root s cur = r →
    Compressed s { s with parent := compress s.parent r fuel cur }
  | 0, _, _, h, _ => Compressed.refl h
  | fuel + 1, cur, s, h, hr => by
    rw [compress]
    split
    · exact Compressed.refl h
    · rename_i hne
      have hc : cur < s.size := Nat.lt_of_not_le fun hc => hne ((root_of_size_le s hc).symm.trans hr)
      obtain ⟨hi, hroot⟩ := point_root (s' := { s with parent := s.parent.set cur r }) h rfl rfl hc
        (hr ▸ root_lt s h hc) (hr ▸ root_is_root s h cur) hne
      have hroot : ∀ i, root { s with parent := s.parent.set cur r } i = root s i := fun i => by
        rw [hroot (Or.inr hr) i, hr]; split
        · rename_i e; exact e.symm
        · rfl
      exact Compressed.trans ⟨hi, by rw [UF.size, List.length_set]; rfl, rfl, hroot⟩
        (compress_compressed r fuel (s.par cur) _ hi (by rw [hroot, root_par s h, hr]))

theorem find_compressed (s : UF) (h : Inv s) {x : Nat} (hx : x < s.size) :
    ∃ s', find s x = some (s', root s x) ∧ Compressed s s' :=
  ⟨_, by rw [find, if_neg (Nat.not_le_of_lt hx)]; rfl, compress_compressed _ _ x s h rfl⟩

theorem find_spec (s : UF) (h : Inv s) {x : Nat} (hx : x < s.size) :
    ∃ s', find s x = some (s', root s x) ∧ Inv s' ∧ s'.size = s.size ∧ s'.count = s.count ∧
      (∀ i, root s' i = root s i) ∧ (∀ i, s'.par i = i ↔ s.par i = i) :=
  (find_compressed s h hx).imp fun _ ⟨e, c⟩ => ⟨e, c.inv, c.size, c.count, c.root, c.par h⟩

theorem find_none (s : UF) {x : Nat} (hx : s.size ≤ x) : find s x = none := by
  simp [find, hx]

/-- `_parent[c] = p; _count[p] = n` -/
def link (s : UF) (c p n : Nat) : UF :=
  { parent := s.parent.set c p, count := s.count.set p n }

theorem link_size (s : UF) (c p n : Nat) : (link s c p n).size = s.size := by
  simp [link, UF.size]

theorem link_root (s : UF) (h : Inv s) {c p : Nat} (n : Nat) (hc : c < s.size) (hp : p < s.size)
    (hcr : s.par c = c) (hpr : s.par p = p) (hcp : c ≠ p) :
    Inv (link s c p n) ∧ ∀ i, root (link s c p n) i = if root s i = c then p else root s i := by
  obtain ⟨hi, hroot⟩ := point_root (s' := link s c p n) h rfl (List.length_set ..) hc hp hpr hcp
  refine ⟨hi, fun i => ?_⟩
  have := hroot (Or.inl (root_of_root s hcr)) i
  rwa [root_of_root s hcr] at this

def classSize (s : UF) (r : Nat) : Nat := (List.range s.size).countP (fun i => root s i == r)

/-- the `_count` entry of every root is the size of its class -/
def Counts (s : UF) : Prop := ∀ r, r < s.size → s.par r = r → s.count.getD r 0 = classSize s r

theorem countP_or (a b : Nat → Bool) (hab : ∀ i, ¬ (a i = true ∧ b i = true)) :
    ∀ l : List Nat, l.countP (fun i => a i || b i) = l.countP a + l.countP b
  | [] => rfl
  | x :: l => by
    have ih := countP_or a b hab l
    by_cases ha : a x = true
    · have hb : ¬ b x = true := fun hb => hab x ⟨ha, hb⟩
      rw [List.countP_cons_of_pos (by simp [ha]), List.countP_cons_of_pos ha,
        List.countP_cons_of_neg hb, ih, Nat.add_right_comm]
    · by_cases hb : b x = true
      · rw [List.countP_cons_of_pos (by simp [hb]), List.countP_cons_of_neg ha,
          List.countP_cons_of_pos hb, ih, Nat.add_assoc]
      · rw [List.countP_cons_of_neg (by simp [ha, hb]), List.countP_cons_of_neg ha,
          List.countP_cons_of_neg hb, ih]

theorem classSize_pos (s : UF) {r : Nat} (hr : r < s.size) (hrr : s.par r = r) :
    0 < classSize s r := by
  simp only [classSize]
  rw [List.countP_pos_iff]
  exact ⟨r, List.mem_range.mpr hr, by simp [root_of_root s hrr]⟩

theorem Compressed.counts {s s' : UF} (c : Compressed s s') (h : Inv s) (hc : Counts s) : Counts s' := by
  intro r hr' hrr
  simp only [classSize, c.size, c.root, c.count]
  exact hc r (c.size ▸ hr') ((c.par h r).mp hrr)

theorem link_counts (s : UF) (h : Inv s) (hcs : Counts s) {c p : Nat} (hc : c < s.size)
    (hp : p < s.size) (hcr : s.par c = c) (hpr : s.par p = p) (hcp : c ≠ p) :
    Counts (link s c p (s.count.getD p 0 + s.count.getD c 0)) := by
  intro r hr hrr
  rw [link_size] at hr
  rw [par_of_set (s' := link s c p _) p rfl hc] at hrr
  have hrc : r ≠ c := by
    intro e; rw [if_pos e] at hrr; exact hcp (e.symm.trans hrr.symm)
  rw [if_neg hrc] at hrr
  have hroot := (link_root s h (s.count.getD p 0 + s.count.getD c 0) hc hp hcr hpr hcp).2
  simp only [classSize, link_size, hroot]
  simp only [link, getD_set]
  have hpl : p < s.count.length := by rw [h.len]; exact hp
  by_cases hrp : r = p
  · subst hrp
    simp only [hpl, and_self, if_true]
    rw [hcs r hp hpr, hcs c hc hcr]
    simp only [classSize]
    rw [← countP_or]
    · apply List.countP_congr
      intro i _
      by_cases hi : root s i = c
      · simp [hi]
      · simp [hi]
    · intro i ⟨h1, h2⟩
      simp only [beq_iff_eq] at h1 h2
      exact hcp (h2.symm.trans h1)
  · rw [if_neg (fun e => hrp e.1), hcs r hr hrr]
    simp only [classSize]
    apply List.countP_congr
    intro i _
    by_cases hi : root s i = c
    · simp only [hi, if_true, beq_iff_eq]
      exact ⟨fun e => absurd e.symm hrc, fun e => absurd e.symm hrp⟩
    · simp [hi]

/-- the two `self[...]` calls that open `union`, `union_left` and `connected` -/
theorem find2_spec (s : UF) (h : Inv s) {a b : Nat} (ha : a < s.size) (hb : b < s.size) :
    ∃ s1 s2, find s a = some (s1, root s a) ∧ find s1 b = some (s2, root s b) ∧ Compressed s s2 := by
  obtain ⟨s1, e1, c1⟩ := find_compressed s h ha
  obtain ⟨s2, e2, c2⟩ := find_compressed s1 c1.inv (c1.size ▸ hb)
  exact ⟨s1, s2, e1, by rw [e2, c1.root], c1.trans c2⟩

/-- the two assignments that end a union, after the two lookups: the class of `y` is merged into the
class of `x`, whose root stays the representative and gets the sum of the two counts -/
theorem link_compressed {s s2 : UF} (h : Inv s) (c : Compressed s s2) {x y : Nat} (hx : x < s.size)
    (hy : y < s.size) (hne : root s x ≠ root s y) {n : Nat}
    (hn : n = s2.count.getD (root s x) 0 + s2.count.getD (root s y) 0) :
    Inv (link s2 (root s y) (root s x) n) ∧ (link s2 (root s y) (root s x) n).size = s.size ∧
    (∀ i, root (link s2 (root s y) (root s x) n) i
      = if root s i = root s y then root s x else root s i) ∧
    (Counts s → Counts (link s2 (root s y) (root s x) n)) := by
  subst hn
  have hl : root s x < s2.size := c.size ▸ root_lt s h hx
  have hr : root s y < s2.size := c.size ▸ root_lt s h hy
  have hlp : s2.par (root s x) = root s x := (c.par h _).mpr (root_is_root s h x)
  have hrp : s2.par (root s y) = root s y := (c.par h _).mpr (root_is_root s h y)
  obtain ⟨hi, hroot⟩ := link_root s2 c.inv _ hr hl hrp hlp (Ne.symm hne)
  refine ⟨hi, by rw [link_size, c.size], fun i => ?_,
    fun hc => link_counts s2 c.inv (c.counts h hc) hr hl hrp hlp (Ne.symm hne)⟩
  rw [hroot, c.root]

theorem unionLeft_spec (s : UF) (h : Inv s) {a b : Nat} (ha : a < s.size) (hb : b < s.size) :
    ∃ s', unionLeft s a b = some (s', !decide (root s a = root s b)) ∧ Inv s' ∧
      s'.size = s.size ∧
      (∀ i, root s' i = if root s i = root s b then root s a else root s i) ∧
      (Counts s → Counts s') := by
  obtain ⟨s1, s2, e1, e2, c⟩ := find2_spec s h ha hb
  by_cases hlr : root s a = root s b
  · refine ⟨s2, by simp [unionLeft, e1, e2, hlr], c.inv, c.size, fun i => ?_, c.counts h⟩
    rw [c.root]; split
    · rename_i e; rw [e, hlr]
    · rfl
  · exact ⟨_, by simp [unionLeft, e1, e2, hlr, link], link_compressed h c ha hb hlr rfl⟩

theorem union_spec (s : UF) (h : Inv s) {a b : Nat} (ha : a < s.size) (hb : b < s.size) :
    ∃ s', union s a b = some (s', !decide (root s a = root s b)) ∧ Inv s' ∧
      s'.size = s.size ∧
      ((∀ i, root s' i = if root s i = root s b then root s a else root s i) ∨
       (∀ i, root s' i = if root s i = root s a then root s b else root s i)) ∧
      (Counts s → Counts s') := by
  obtain ⟨s1, s2, e1, e2, c⟩ := find2_spec s h ha hb
  by_cases hlr : root s a = root s b
  · refine ⟨s2, by simp [union, e1, e2, hlr], c.inv, c.size, Or.inl fun i => ?_, c.counts h⟩
    rw [c.root]; split
    · rename_i e; rw [e, hlr]
    · rfl
  · by_cases hge : s2.count.getD (root s a) 0 ≥ s2.count.getD (root s b) 0 <;>
      have hge' := hge <;> simp only [List.getD_eq_getElem?_getD, ge_iff_le] at hge'
    · obtain ⟨l1, l2, l3, l4⟩ := link_compressed h c ha hb hlr rfl
      exact ⟨_, by simp [union, e1, e2, hlr, link, hge'], l1, l2, Or.inl l3, l4⟩
    · obtain ⟨l1, l2, l3, l4⟩ := link_compressed h c hb ha (Ne.symm hlr) (Nat.add_comm _ _)
      exact ⟨_, by simp [union, e1, e2, hlr, link, hge'], l1, l2, Or.inr l3, l4⟩

theorem connected_spec (s : UF) (h : Inv s) {a b : Nat} (ha : a < s.size) (hb : b < s.size) :
    ∃ s', connected s a b = some (s', decide (root s a = root s b)) ∧ Compressed s s' := by
  obtain ⟨s1, s2, e1, e2, c⟩ := find2_spec s h ha hb
  refine ⟨s2, ?_, c⟩
  simp only [connected, e1, e2]
  by_cases e : root s a = root s b <;> simp [e]

/-- the state after `add()`: `(step s .add).1`, by `rfl` -/
def addState (s : UF) : UF := { parent := s.parent ++ [s.size], count := s.count ++ [1] }

theorem add_size (s : UF) : (addState s).size = s.size + 1 := by
  simp [addState, UF.size]

theorem add_par (s : UF) (i : Nat) : (addState s).par i = s.par i := by
  show (s.parent ++ [s.parent.length]).getD i i = s.parent.getD i i
  rw [List.getD_eq_getElem?_getD, List.getD_eq_getElem?_getD]
  rcases Nat.lt_trichotomy i s.parent.length with h | h | h
  · rw [List.getElem?_append_left h]
  · subst h; simp
  · rw [List.getElem?_eq_none (by simp; omega), List.getElem?_eq_none (Nat.le_of_lt h)]

theorem add_inv (s : UF) (h : Inv s) : Inv (addState s) := by
  obtain ⟨rk, hrk⟩ := h.acyc
  refine ⟨by simp [addState, h.len], ?_, ⟨rk, ?_⟩⟩
  · intro i hi
    rw [add_size] at *
    rw [add_par]
    by_cases hi' : i < s.size
    · exact Nat.lt_succ_of_lt (h.range i hi')
    · rw [par_of_size_le s (Nat.le_of_not_lt hi')]; exact hi
  · intro i hne
    rw [add_par] at *
    exact hrk i hne

theorem add_root (s : UF) (h : Inv s) (i : Nat) : root (addState s) i = root s i :=
  root_unique _ (add_inv s h) (root s)
    (fun j hj => root_of_root s (by rwa [add_par] at hj))
    (fun j => by rw [add_par]; exact root_par s h j) i

theorem add_counts (s : UF) (h : Inv s) (hc : Counts s) : Counts (addState s) := by
  intro r hr hrr
  rw [add_size] at hr
  rw [add_par] at hrr
  simp only [classSize, add_size, add_root s h, List.range_succ, List.countP_append]
  by_cases hr' : r < s.size
  · have hne : ¬ (root s s.size = r) := by
      rw [root_of_size_le s (Nat.le_refl _)]; omega
    have : (addState s).count.getD r 0 = s.count.getD r 0 := by
      simp only [addState, List.getD_eq_getElem?_getD, List.getElem?_append]
      rw [if_pos (by rw [h.len]; exact hr')]
    rw [this, hc r hr' hrr]
    simp [classSize, hne]
  · have hrn : r = s.size := by omega
    subst hrn
    have h0 : (List.range s.size).countP (fun i => root s i == s.size) = 0 := by
      rw [List.countP_eq_zero]
      intro i hi
      have := root_lt s h (List.mem_range.mp hi)
      simp; omega
    have : (addState s).count.getD s.size 0 = 1 := by
      simp only [addState, List.getD_eq_getElem?_getD, List.getElem?_append]
      rw [if_neg (by rw [h.len]; exact Nat.lt_irrefl _), h.len]
      simp [UF.size]
    rw [this, h0]
    simp [root_of_size_le s (Nat.le_refl _)]

theorem init_size (n : Nat) : (init n).size = n := by simp [init, UF.size]

theorem init_par (n i : Nat) : (init n).par i = i := by
  simp only [init, UF.par, List.getD_eq_getElem?_getD]
  by_cases hi : i < n
  · simp [hi]
  · simp [hi]

theorem init_inv (n : Nat) : Inv (init n) :=
  ⟨by simp [init], fun i hi => by rw [init_par]; exact hi,
    ⟨fun _ => 0, fun i hne => absurd (init_par n i) hne⟩⟩

theorem init_root (n i : Nat) : root (init n) i = i := root_of_root _ (init_par n i)

theorem init_counts (n : Nat) : Counts (init n) := by
  intro r hr _
  rw [init_size] at hr
  simp only [classSize, init_root, init_size]
  -- `r` occurs once in `range n`
  rw [← List.count_eq_countP, List.nodup_range.count, if_pos (List.mem_range.mpr hr)]
  simp [init, List.getD_eq_getElem?_getD, hr]

/-- equivalence closure of the pairs unioned so far -/
def Rel (us : List (Nat × Nat)) : Nat → Nat → Prop :=
  Relation.EqvGen (fun a b => (a, b) ∈ us)

theorem Rel.mono {us us' : List (Nat × Nat)} (hsub : ∀ q ∈ us, q ∈ us') {a b : Nat}
    (h : Rel us a b) : Rel us' a b :=
  Relation.EqvGen.mono (fun _ _ hq => hsub _ hq) a b h

/-- abstract state: number of elements and the pairs handed to a union that did not raise `KeyError` -/
structure Spec where
  n : Nat
  us : List (Nat × Nat) := []

/-- effect of an operation on the abstract state; a union involving an index out of range raises
`KeyError` and unions nothing -/
def Spec.step (σ : Spec) : Op → Spec
  | .add => { σ with n := σ.n + 1 }
  | .find _ => σ
  | .union a b => if a < σ.n ∧ b < σ.n then { σ with us := (a, b) :: σ.us } else σ
  | .unionLeft a b => if a < σ.n ∧ b < σ.n then { σ with us := (a, b) :: σ.us } else σ
  | .connected _ _ => σ

def Spec.run (σ : Spec) : List Op → Spec
  | [] => σ
  | o :: os => Spec.run (σ.step o) os

/-- what the abstract state allows as the result of an operation -/
def OutOK (σ : Spec) : Op → Out → Prop
  | .add, o => o = .nat σ.n
  | .find x, o => if x < σ.n then ∃ r, o = .nat r ∧ r < σ.n ∧ Rel σ.us x r else o = .keyError
  | .union a b, o =>
    if a < σ.n ∧ b < σ.n then ∃ c, o = .bool c ∧ (c = true ↔ ¬ Rel σ.us a b) else o = .keyError
  | .unionLeft a b, o =>
    if a < σ.n ∧ b < σ.n then ∃ c, o = .bool c ∧ (c = true ↔ ¬ Rel σ.us a b) else o = .keyError
  | .connected a b, o =>
    if a < σ.n ∧ b < σ.n then ∃ c, o = .bool c ∧ (c = true ↔ Rel σ.us a b) else o = .keyError

def OutsOK (σ : Spec) : List Op → List Out → Prop
  | [], [] => True
  | o :: os, out :: outs => OutOK σ o out ∧ OutsOK (σ.step o) os outs
  | _, _ => False

/-- the concrete state represents the abstract one: it is a forest with correct counts over `σ.n`
elements, and its representative function induces exactly the partition generated by `σ.us` -/
structure Repr (s : UF) (σ : Spec) : Prop where
  inv : Inv s
  counts : Counts s
  size : s.size = σ.n
  sound : ∀ q ∈ σ.us, root s q.1 = root s q.2
  complete : ∀ x, Rel σ.us x (root s x)

theorem repr_iff {s : UF} {σ : Spec} (h : Repr s σ) (a b : Nat) :
    root s a = root s b ↔ Rel σ.us a b := by
  constructor
  · intro e
    refine Relation.EqvGen.trans _ _ _ (h.complete a) ?_
    rw [e]
    exact Relation.EqvGen.symm _ _ (h.complete b)
  · intro r
    induction r with
    | rel x y hxy => exact h.sound _ hxy
    | refl x => rfl
    | symm x y _ ih => exact ih.symm
    | trans x y z _ _ ih1 ih2 => exact ih1.trans ih2

theorem repr_rel_lt {s : UF} {σ : Spec} (h : Repr s σ) {y a : Nat} (r : Rel σ.us y a)
    (ha : a < σ.n) : y < σ.n := by
  by_contra hc
  have e := (repr_iff h y a).mpr r
  rw [root_of_size_le s (h.size ▸ Nat.le_of_not_lt hc)] at e
  exact hc (e ▸ h.size ▸ root_lt s h.inv (h.size ▸ ha))

theorem repr_of_compressed {s s' : UF} {σ : Spec} (h : Repr s σ) (c : Compressed s s') : Repr s' σ :=
  ⟨c.inv, c.counts h.inv h.counts, c.size.trans h.size,
    fun q hq => by rw [c.root, c.root]; exact h.sound q hq, fun x => by rw [c.root]; exact h.complete x⟩

theorem repr_init (n : Nat) : Repr (init n) { n := n } :=
  ⟨init_inv n, init_counts n, init_size n, fun _ hq => (by cases hq),
    fun x => by rw [init_root]; exact Relation.EqvGen.refl x⟩

theorem repr_self (s : UF) (h : Inv s) (hc : Counts s) :
    Repr s { n := s.size, us := (List.range s.size).map (fun i => (i, root s i)) } := by
  refine ⟨h, hc, rfl, ?_, ?_⟩
  · intro q hq
    obtain ⟨i, _, rfl⟩ := List.mem_map.mp hq
    exact (root_idem s h i).symm
  · intro x
    by_cases hx : x < s.size
    · exact Relation.EqvGen.rel _ _ (List.mem_map.mpr ⟨x, List.mem_range.mpr hx, rfl⟩)
    · rw [root_of_size_le s (Nat.le_of_not_lt hx)]; exact Relation.EqvGen.refl x

theorem repr_add {s : UF} {σ : Spec} (h : Repr s σ) :
    Repr (addState s) { σ with n := σ.n + 1 } :=
  ⟨add_inv s h.inv, add_counts s h.inv h.counts, by rw [add_size, h.size],
    fun q hq => by rw [add_root s h.inv, add_root s h.inv]; exact h.sound q hq,
    fun x => by rw [add_root s h.inv]; exact h.complete x⟩

/-- merging the class of `x` into the class of `y` represents the old unions plus the pair `x,y`
(in either order) -/
theorem repr_merge {s s' : UF} {σ : Spec} (h : Repr s σ) (x y : Nat) (hi : Inv s')
    (hc : Counts s') (hs : s'.size = s.size)
    (hr : ∀ i, root s' i = if root s i = root s x then root s y else root s i)
    (us' : List (Nat × Nat)) (hsub : ∀ q ∈ σ.us, q ∈ us')
    (hnew : ∀ q ∈ us', q ∈ σ.us ∨ q = (x, y) ∨ q = (y, x)) (hxy : Rel us' x y) :
    Repr s' { σ with us := us' } := by
  have hyy : root s' y = root s y := by
    rw [hr]; split
    · rename_i e; exact e ▸ rfl
    · rfl
  have hxx : root s' x = root s y := by rw [hr, if_pos rfl]
  refine ⟨hi, hc, hs.trans h.size, ?_, ?_⟩
  · intro q hq
    rcases hnew q hq with hq | hq | hq
    · have := h.sound q hq
      rw [hr, hr, this]
    · rw [hq]; exact hxx.trans hyy.symm
    · rw [hq]; exact hyy.trans hxx.symm
  · intro i
    have hm : ∀ {a b}, Rel σ.us a b → Rel us' a b := fun r => Rel.mono hsub r
    rw [hr]
    split
    · rename_i e
      -- i ~ root i = root x ~ x ~ y ~ root y
      have h1 : Rel us' i x := hm ((repr_iff h i x).mp e)
      exact Relation.EqvGen.trans _ _ _ h1 (Relation.EqvGen.trans _ _ _ hxy (hm (h.complete y)))
    · exact hm (h.complete i)

theorem repr_union {s s' : UF} {σ : Spec} (h : Repr s σ) (a b : Nat) (hi : Inv s') (hc : Counts s')
    (hs : s'.size = s.size)
    (hr : (∀ i, root s' i = if root s i = root s b then root s a else root s i) ∨
      (∀ i, root s' i = if root s i = root s a then root s b else root s i)) :
    Repr s' { σ with us := (a, b) :: σ.us } := by
  have hsub : ∀ q ∈ σ.us, q ∈ (a, b) :: σ.us := fun q => List.mem_cons_of_mem _
  have hab : Rel ((a, b) :: σ.us) a b := Relation.EqvGen.rel _ _ List.mem_cons_self
  rcases hr with hr | hr
  · exact repr_merge h b a hi hc hs hr _ hsub
      (fun q hq => (List.mem_cons.mp hq).elim (fun e => Or.inr (Or.inr e)) Or.inl)
      (Relation.EqvGen.symm _ _ hab)
  · exact repr_merge h a b hi hc hs hr _ hsub
      (fun q hq => (List.mem_cons.mp hq).elim (fun e => Or.inr (Or.inl e)) Or.inl) hab

/-- `union`, `union_left` and `connected` with an index out of range: `KeyError`, nothing is unioned,
and the state still represents the same partition (the first lookup may have compressed a path) -/
theorem step_keyError {s : UF} {σ : Spec} (h : Repr s σ) {o : Op} {a b : Nat}
    (ho : o = .union a b ∨ o = .unionLeft a b ∨ o = .connected a b)
    (hab : ¬ (a < s.size ∧ b < s.size)) :
    OutOK σ o (step s o).2 ∧ Repr (step s o).1 (σ.step o) := by
  have hab' : ¬ (a < σ.n ∧ b < σ.n) := h.size ▸ hab
  by_cases ha : a < s.size
  · obtain ⟨s1, e1, c1⟩ := find_compressed s h.inv ha
    have e2 := find_none s1 (c1.size ▸ Nat.le_of_not_lt fun hb => hab ⟨ha, hb⟩)
    have hr : Repr s1 σ := repr_of_compressed h c1
    rcases ho with rfl | rfl | rfl <;>
      simp only [step, union, unionLeft, connected, e1, e2, OutOK, Spec.step, if_neg hab'] <;>
      exact ⟨trivial, hr⟩
  · have e1 := find_none s (Nat.le_of_not_lt ha)
    rcases ho with rfl | rfl | rfl <;>
      simp only [step, union, unionLeft, connected, e1, OutOK, Spec.step, if_neg hab'] <;>
      exact ⟨trivial, h⟩

end Xdsl.DisjointSet
