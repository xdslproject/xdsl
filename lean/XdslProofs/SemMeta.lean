import XdslProofs.Lemmas.SemMono
import XdslProofs.Lemmas.SemEffects
import XdslProofs.Lemmas.SemInt
/-!
# Meta-theory of the reference semantics `XdslModel/Sem.lean`

The checks C13, C14, C15, C16, C21, C22 and C28 use `Sem.run` as an independent oracle and call it with one
large fuel.  This file proves the facts that justify doing so.

1. **Fuel monotonicity** (`run_fuel_mono`, `run_fuel_agree`, and one `*_fuel_mono` per function of the
   mutual block): an outcome other than `fuel` is never changed by more fuel, hence any two fuels on
   which a run terminates give the same verdict.  Covers the whole mutual block, i.e. func / arith /
   cf / scf and the C16 extensions (affine.for, affine.apply/load/store, memref, symref).
2. **The effect log is append-only** (`*_effects_prefix`, projections of `eff_all`): the log after an
   operation / block / region / loop / call has the log before it as a prefix (chronological order).
3. What an external call does to the log (`callFunc_external`).
4. Per-operation unfolding lemmas for `Sem.intBin` / `Sem.cmpi` / `Sem.pureOp` are in
   `Lemmas/SemInt.lean` (imported here so that they are audited with this module).

No Mathlib.  The facts relating `Sem.intBin` / `Sem.cmpi` to the translated interpreter kernels are in
`XdslProofs/C15Sem.lean`.
-/
namespace Xdsl.SemMeta
open Xdsl.Sem Xdsl.MiniIR

theorem runOps_fuel_mono (P : Prog) {n m : Nat} (h : n ≤ m) (st : St) (ops : List Op)
    (hne : runOps n P st ops ≠ .fuel) : runOps m P st ops = runOps n P st ops :=
  ((mono_all P n m h).ops st ops).eq_of_ne hne

theorem runOp_fuel_mono (P : Prog) {n m : Nat} (h : n ≤ m) (st : St) (o : Op)
    (hne : runOp n P st o ≠ .fuel) : runOp m P st o = runOp n P st o :=
  ((mono_all P n m h).op st o).eq_of_ne hne

theorem runRegion_fuel_mono (P : Prog) {n m : Nat} (h : n ≤ m) (st : St) (r : Region) (args : List Val)
    (hne : runRegion n P st r args ≠ .fuel) : runRegion m P st r args = runRegion n P st r args :=
  ((mono_all P n m h).region st r args).eq_of_ne hne

theorem runBlock_fuel_mono (P : Prog) {n m : Nat} (h : n ≤ m) (st : St) (r : Region) (b : Nat)
    (args : List Val) (hne : runBlock n P st r b args ≠ .fuel) :
    runBlock m P st r b args = runBlock n P st r b args :=
  ((mono_all P n m h).block st r b args).eq_of_ne hne

/-- covers `scf.for` and `affine.for` (both run by `runFor`) -/
theorem runFor_fuel_mono (P : Prog) {n m : Nat} (h : n ≤ m) (st : St) (body : Region) (w : Nat)
    (i ub step : Int) (iters : List Val) (hne : runFor n P st body w i ub step iters ≠ .fuel) :
    runFor m P st body w i ub step iters = runFor n P st body w i ub step iters :=
  ((mono_all P n m h).for_ st body w i ub step iters).eq_of_ne hne

theorem runWhile_fuel_mono (P : Prog) {n m : Nat} (h : n ≤ m) (st : St) (before after : Region)
    (args : List Val) (hne : runWhile n P st before after args ≠ .fuel) :
    runWhile m P st before after args = runWhile n P st before after args :=
  ((mono_all P n m h).while_ st before after args).eq_of_ne hne

theorem callFunc_fuel_mono (P : Prog) {n m : Nat} (h : n ≤ m) (st : St) (name : String) (args : List Val)
    (hne : callFunc n P st name args ≠ .fuel) : callFunc m P st name args = callFunc n P st name args :=
  ((mono_all P n m h).call st name args).eq_of_ne hne

theorem run_le (P : Prog) (f : String) (args : List Val) {n m : Nat} (h : n ≤ m) :
    Le (run P f args n) (run P f args m) := by
  unfold run
  rcases (mono_all P n m h).call {} f args with hc | hc <;> rw [hc]
  · exact Le.fuel _
  · exact Le.refl _

/-- an outcome of `Sem.run` other than `fuel` (a result with its effect log, an
undefined-behaviour verdict, or an error) is the outcome for every larger fuel. -/
theorem run_fuel_mono (P : Prog) (f : String) (args : List Val) {n m : Nat} (h : n ≤ m)
    (hne : run P f args n ≠ .fuel) : run P f args m = run P f args n :=
  (run_le P f args h).eq_of_ne hne

theorem run_fuel_mono_ok (P : Prog) (f : String) (args : List Val) {n m : Nat} (h : n ≤ m)
    {r : List Val × List Effect} (hr : run P f args n = .ok r) : run P f args m = .ok r := by
  rw [run_fuel_mono P f args h (by rw [hr]; intro e; cases e), hr]

theorem run_fuel_mono_ub (P : Prog) (f : String) (args : List Val) {n m : Nat} (h : n ≤ m)
    {w : String} (hr : run P f args n = .ub w) : run P f args m = .ub w := by
  rw [run_fuel_mono P f args h (by rw [hr]; intro e; cases e), hr]

theorem run_fuel_mono_err (P : Prog) (f : String) (args : List Val) {n m : Nat} (h : n ≤ m)
    {e : String} (hr : run P f args n = .err e) : run P f args m = .err e := by
  rw [run_fuel_mono P f args h (by rw [hr]; intro e; cases e), hr]

/-- **more fuel never changes a verdict**: any two fuels for which the run does not report `fuel`
give the same outcome (same results, same effect log, same `ub`/`err` message). -/
theorem run_fuel_agree (P : Prog) (f : String) (args : List Val) (n m : Nat)
    (hn : run P f args n ≠ .fuel) (hm : run P f args m ≠ .fuel) : run P f args n = run P f args m := by
  rcases Nat.le_total n m with h | h
  · exact (run_fuel_mono P f args h hn).symm
  · exact run_fuel_mono P f args h hm

/-- running out of fuel is downward closed: if `m` is not enough, no smaller fuel is -/
theorem run_fuel_of_fuel (P : Prog) (f : String) (args : List Val) {n m : Nat} (h : n ≤ m)
    (hm : run P f args m = .fuel) : run P f args n = .fuel := by
  rcases run_le P f args h with h1 | h1
  · exact h1
  · rw [h1, hm]

/-!
`St.eff` is stored most-recent-first, so append-only means "the old log is a suffix of the new one" (`eff_all`);
`Sem.run` reports `eff.reverse`, for which it reads "the old log is a prefix of the new one". -/

/-- chronological form: the effect log after an operation extends the log before it -/
theorem runOp_effects_prefix (P : Prog) (n : Nat) (st : St) (o : Op) (st' : St) (t : Option Term)
    (h : runOp n P st o = .ok (st', t)) : st.eff.reverse <+: st'.eff.reverse :=
  List.reverse_prefix.mpr ((eff_all P n).op st o st' t h)

theorem runOps_effects_prefix (P : Prog) (n : Nat) (st : St) (ops : List Op) (st' : St) (t : Term)
    (h : runOps n P st ops = .ok (st', t)) : st.eff.reverse <+: st'.eff.reverse :=
  List.reverse_prefix.mpr ((eff_all P n).ops st ops st' t h)

theorem runRegion_effects_prefix (P : Prog) (n : Nat) (st : St) (r : Region) (args : List Val) (st' : St)
    (t : Term) (h : runRegion n P st r args = .ok (st', t)) : st.eff.reverse <+: st'.eff.reverse :=
  List.reverse_prefix.mpr ((eff_all P n).region st r args st' t h)

theorem runBlock_effects_prefix (P : Prog) (n : Nat) (st : St) (r : Region) (b : Nat) (args : List Val)
    (st' : St) (t : Term) (h : runBlock n P st r b args = .ok (st', t)) :
    st.eff.reverse <+: st'.eff.reverse :=
  List.reverse_prefix.mpr ((eff_all P n).block st r b args st' t h)

theorem runFor_effects_prefix (P : Prog) (n : Nat) (st : St) (body : Region) (w : Nat) (i ub step : Int)
    (iters : List Val) (st' : St) (vs : List Val)
    (h : runFor n P st body w i ub step iters = .ok (st', vs)) : st.eff.reverse <+: st'.eff.reverse :=
  List.reverse_prefix.mpr ((eff_all P n).for_ st body w i ub step iters st' vs h)

theorem runWhile_effects_prefix (P : Prog) (n : Nat) (st : St) (before after : Region) (args : List Val)
    (st' : St) (vs : List Val) (h : runWhile n P st before after args = .ok (st', vs)) :
    st.eff.reverse <+: st'.eff.reverse :=
  List.reverse_prefix.mpr ((eff_all P n).while_ st before after args st' vs h)

theorem callFunc_effects_prefix (P : Prog) (n : Nat) (st : St) (name : String) (args : List Val)
    (st' : St) (vs : List Val) (h : callFunc n P st name args = .ok (st', vs)) :
    st.eff.reverse <+: st'.eff.reverse :=
  List.reverse_prefix.mpr ((eff_all P n).call st name args st' vs h)

/-- operations that are not calls and have no regions leave the log unchanged: the region-free state
operations (symref / memref / affine.apply / affine.load / affine.store) … -/
theorem stateOp_effects_eq {st st1 : St} {o : Op} {args rs : List Val}
    (h : stateOp st o args = some (.ok (st1, rs))) : st1.eff = st.eff := (DCEM.stateOp_keeps h).2

/-- … and binding results / block arguments -/
theorem bind_effects_eq {st st' : St} {names : List (Nat × Ty)} {vals : List Val}
    (h : st.bind names vals = .ok st') : st'.eff = st.eff := bind_eff h

/-- a call of an external declaration logs exactly one effect (callee and argument values), returns no
results and changes nothing else -/
theorem callFunc_external (P : Prog) (n : Nat) (st : St) (name : String) (args : List Val) (fn : Func)
    (hf : findFunc P name = some fn) (hb : fn.body = none) :
    callFunc (n + 1) P st name args = .ok ({ st with eff := ⟨name, args⟩ :: st.eff }, []) := by
  rw [callFunc]
  simp only [hf, hb]

/-- the log reported by `Sem.run` for a successful run is the final state's log in chronological
order, and the run starts from the empty log -/
theorem run_ok_iff (P : Prog) (f : String) (args : List Val) (n : Nat) (vs : List Val) (es : List Effect) :
    run P f args n = .ok (vs, es) ↔ ∃ st, callFunc n P {} f args = .ok (st, vs) ∧ es = st.eff.reverse := by
  unfold run
  constructor
  · intro h
    split at h
    · rename_i st vs' _
      cases h; exact ⟨st, by assumption, rfl⟩
    all_goals cases h
  · rintro ⟨st, h, rfl⟩
    rw [h]

/-! ## non-vacuity: a program on which the fuel matters -/
namespace Demo
/-- `func @ext(i8)`; `func @f(%0 : i8) { call @ext(%0); return %0 }` -/
def demo : Prog := ⟨[
  ⟨"ext", none⟩,
  ⟨"f", some (.mk [.mk 0 [(0, .int 8)] [
      .mk "func.call" [] [0] [("callee", .str "ext")] [] [],
      .mk "func.return" [] [0] [] [] []]])⟩]⟩

def isFuel {α : Type} : Res α → Bool | .fuel => true | _ => false
def okWith : Res (List Val × List Effect) → Nat → Bool
  | .ok ([.int 8 v], es), k => v == 5#8 && es.length == k
  | _, _ => false

example : isFuel (run demo "f" [.int 8 5#8] 3) = true := by decide +kernel

theorem okWith_six : okWith (run demo "f" [.int 8 5#8] 6) 1 = true := by decide +kernel

theorem okWith_mono {P : Prog} {f : String} {args : List Val} {n m k : Nat} (h : n ≤ m)
    (hn : okWith (run P f args n) k = true) : okWith (run P f args m) k = true := by
  cases hr : run P f args n with
  | ok r => rwa [run_fuel_mono_ok P f args h hr, ← hr]
  | _ => rw [hr] at hn; cases hn

example : okWith (run demo "f" [.int 8 5#8] 6) 1 = true := okWith_six
example : okWith (run demo "f" [.int 8 5#8] 100) 1 = true := okWith_mono (by omega) okWith_six
end Demo

end Xdsl.SemMeta
