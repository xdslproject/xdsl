import XdslProofs.Lemmas.RegAllocLoopStack
import XdslProofs.Lemmas.RegAllocLoopSem
import XdslProofs.Lemmas.RegAllocLoopMain
/-!
# C19 — the structured-loop part of the register allocator

"After RISC-V or x86 register allocation succeeds, at every program point no two simultaneously live
values hold the same physical register …, pre-assigned and reserved registers are respected, and
executing the allocated code with register semantics computes the same results as before allocation."

`XdslModel/RegAllocLoop.lean` models `BlockNaiveAllocator.allocate_block` over blocks with
`riscv_scf.for` / `riscv_snitch.frep_outer` loops: `ForRofOperation.allocate_registers`
(`live_ins_per_block` first, one register for every (block argument, iter_arg, yield operand, result),
induction variable, `ub`, `step`, `reserve_registers` around the body, `lb` last) on the full
`RegisterStack` with reservation counts.  The theorems of this file are about that model
(driver model `regalloc_loop`, compared with the real allocator on every generated function
that has loops or values outside the integer / general-purpose register file).
-/
namespace Xdsl.RegAllocLoop
open Xdsl.RegMachine Xdsl.RegAlloc

/-- On a block without loops `validateL` is the validator of `XdslProofs.C19` (`validator_sound`,
`no_shared_register`, `zero_reg_sound` speak about it). -/
theorem validateL_flat (z : Bool) (a : ValId → Reg) (p : Prog) :
    validateL z a { args := p.args, body := LT.ofOps p.ops, rets := p.rets } = validate z a p := by
  simp only [validateL, validate, checkT_ofOps]
  cases checkOps z a [] p.ops p.rets <;> rfl

/-- **The validator for blocks with loops is sound** ("executing the allocated code with register
semantics computes the same results as before allocation"): if `validateL` accepts an assignment then,
for every instruction semantics, every meaning of the loop test and of the increment, every `frep`
count function, all inputs, every initial content of the other registers and every amount of fuel,
the register machine — loops lowered as `convert-riscv-scf-to-riscv-cf` does: `mv iv, lb`; test; body;
`iv += step`; test; block arguments, yielded values and results carried by register identity — returns
what the SSA execution returns (and runs out of fuel exactly when the SSA execution does): for EVERY
trip count of every loop, not only along one unrolled path. -/
theorem validatorL_sound (z : Bool) (a : ValId → Reg) (p : LProg) (h : validateL z a p = true) :
    ∀ (m : LSem) (fuel : Nat) (inputs : List Word) (rf0 : Reg → Word), inputs.length = p.args.length →
      execR z a m fuel p inputs rf0 = execT m fuel p inputs := by
  intro m fuel inputs rf0 hlen
  unfold validateL at h
  split at h
  · exact absurd h (by simp)
  · rename_i L0 hL0
    simp only [Bool.and_eq_true, List.all_eq_true, List.contains_eq_mem, decide_eq_true_eq,
      not_or_imp, bne_iff_ne] at h
    obtain ⟨⟨hsub, hnd⟩, hz⟩ := h
    have h0 := init_agree (z := z) (alloc := a) p.args inputs rf0 hlen hnd hz
    have hag0 : Agree z a (initRegs z a p.args inputs rf0) (initEnv p.args inputs) L0 :=
      fun v hv => h0 v (hsub v hv)
    have := (sim_fuel z a m fuel).1 p.body [] p.rets L0 _ _ hL0 hag0 (fun v hv => by simp at hv)
    unfold execR execT
    revert this
    cases runT m fuel .start (initEnv p.args inputs) p.body <;>
      cases runR z a m fuel .start (initRegs z a p.args inputs rf0) p.body <;> simp only [SimRes]
    · intro _; rfl
    · exact fun h => h.elim
    · exact fun h => h.elim
    · rintro ⟨hag, _⟩
      simp only [Option.map_some, Option.some.injEq]
      exact List.map_congr_left hag

/-- **Live-ins keep one register throughout the body**: every value that is used in the body of a
loop and defined outside it (`live_ins_per_block`) has a register before the body is allocated, and it
has the same register when the body is entered, when the body is left and when the loop operation is
done.  More generally (`allocT_ext`) the allocation of any block, at any nesting depth, never changes
the register of a value that has one — hence the register is the same at EVERY point of the body. -/
theorem live_ins_keep_register {x : Ctx} {h : Loop} {body next : LT} {s s' : LSt}
    (hrun : allocT x s (.loop h body next) = .ok s') :
    ∃ sIn sOut : LSt, allocT x sIn body = .ok sOut ∧
      ∀ v ∈ liveIns h body, ∃ r, AL.get sIn.st.asg v = some r ∧ AL.get sOut.st.asg v = some r
        ∧ AL.get s'.st.asg v = some r := by
  obtain ⟨s1, s2, s3, s4, s5, s6, _, h2, h3, h4, h5, h6, h7⟩ := allocT_loop_ok hrun
  have X := lext_rel x.c
  refine ⟨_, s5, h5, ?_⟩
  intro v hv
  obtain ⟨r, hr⟩ := Option.isSome_iff_exists.1 (foldL_allocValueR_assigned x _ _ _ h2 v hv)
  have hIn : AL.get ((regsOf s4 h.inits).foldl reserveR s4).st.asg v = some r := by
    rw [reserveFold_st]
    exact X.foldL (fun _ _ _ => X.allocValueR) h4 v r (X.foldL (fun _ _ _ => X.sameRegN) h3 v r hr)
  have hOut := allocT_ext x body _ _ h5 v r hIn
  have h6' : AL.get s6.st.asg v = some r := by rw [unreserveFold_st _ _ _ h6]; exact hOut
  exact ⟨r, hIn, hOut, X.foldL (fun _ _ _ => X.allocValueR) h7 v r (X.freeFold _ _ v r h6')⟩

/-- **Every value that has a register when the body is entered keeps it** (the loop-carried groups, the
induction variable, `ub`, `step`, everything live across the loop), by `allocT_ext`. -/
theorem body_keeps_registers {x : Ctx} {body : LT} {sIn sOut : LSt} (hbody : allocT x sIn body = .ok sOut) :
    ∀ v r, AL.get sIn.st.asg v = some r → AL.get sOut.st.asg v = some r :=
  allocT_ext x body sIn sOut hbody

/-- **Reserved loop-carried registers are never handed out inside the body**, any nesting depth:
`sPre` is the state in which `reserve_registers(self.iter_args.types)` is entered.  While the body is
allocated (`l`: the stack calls logged between the reservation and `sOut`) no `RegisterStack.pop` returns a register
of an iter_arg, and every such register is still reserved when the body is left — also when loops
nested in the body reserve and un-reserve the same register. -/
theorem reserved_never_handed_out {x : Ctx} {h : Loop} {body next : LT} {s s' : LSt}
    (hpos : RPos s) (hrun : allocT x s (.loop h body next) = .ok s') :
    ∃ sPre sOut : LSt, ∃ l : List (SOp × SOut),
      allocT x ((regsOf sPre h.inits).foldl reserveR sPre) body = .ok sOut
      ∧ sOut.log = l ++ ((regsOf sPre h.inits).foldl reserveR sPre).log
      ∧ ∀ r ∈ regsOf sPre h.inits, (SOp.pop, SOut.reg r) ∉ l ∧ sOut.isReserved r = true := by
  obtain ⟨s1, s2, s3, s4, s5, s6, h1, h2, h3, h4, h5, _, _⟩ := allocT_loop_ok hrun
  have K := kept_rel x.c
  have r1 := allocT_restored x next _ _ hpos h1
  have r4 := Restored.of_kept r1.pos (K.trans _ _ _ (K.foldL (fun _ _ _ => K.allocValueR) h2)
    (K.trans _ _ _ (K.foldL (fun _ _ _ => K.sameRegN) h3) (K.foldL (fun _ _ _ => K.allocValueR) h4)))
  have hp4r := reserveFold_pos (regsOf s4 h.inits) s4 r4.pos
  have r5 := allocT_restored x body _ _ hp4r h5
  obtain ⟨l, hl, hn⟩ := r5.nopop
  refine ⟨s4, s5, l, h5, hl, ?_⟩
  intro r hr
  have hc := (isReserved_iff_cnt hp4r r).1 (reserveFold_isReserved _ s4 r hr)
  exact ⟨hn r hc, (isReserved_iff_cnt r5.pos r).2 (by rw [r5.cnt r]; exact hc)⟩

/-- The same through `RegisterStack` itself, by `reserved_window` of `XdslProofs.C19Stack`, for a loop
whose body has no nested loop (such a body never un-reserves, which `reserved_window` asks): the stack
calls of the body are a run `srun` of the `RegisterStack` model from the stack with the reservations
made (`allocT_replays`); a reserved iter_arg register that is not available then (the documented
contract "never reserve an available register") is returned by no `pop` of that run and is neither
available nor un-reserved at its end. -/
theorem reserved_window_body {x : Ctx} {h : Loop} {os : List Op} {next : LT} {s s' : LSt}
    (hrun : allocT x s (.loop h (LT.ofOps os) next) = .ok s') :
    ∃ sPre sOut : LSt, ∃ calls : List SOp, ∃ outs : List SOut,
      allocT x ((regsOf sPre h.inits).foldl reserveR sPre) (LT.ofOps os) = .ok sOut
      ∧ srun x.c ((regsOf sPre h.inits).foldl reserveR sPre).stack calls = (sOut.stack, outs)
      ∧ ∀ r ∈ regsOf sPre h.inits, r ∉ sPre.st.avail →
          sOut.stack.isReserved r = true ∧ r ∉ sOut.st.avail ∧ SOut.reg r ∉ outs := by
  obtain ⟨s1, s2, s3, sPre, sOut, s6, _, _, _, _, hbody, _, _⟩ := allocT_loop_ok hrun
  obtain ⟨l, hl, hrun'⟩ := allocT_replays x _ _ _ hbody
  -- a body without loops makes no `unreserve` call
  obtain ⟨_, l', hl', _, hno⟩ := (kept_rel x.c).allocT_ofOps os hbody
  have hll : l = l' := List.append_cancel_right (hl.symm.trans hl')
  subst hll
  refine ⟨sPre, sOut, _, _, hbody, hrun', ?_⟩
  intro r hr hna
  have hres : ((regsOf sPre h.inits).foldl reserveR sPre).stack.isReserved r = true :=
    reserveFold_isReserved _ sPre r hr
  have hav : r ∉ ((regsOf sPre h.inits).foldl reserveR sPre).stack.avail := by
    have : ((regsOf sPre h.inits).foldl reserveR sPre).st = sPre.st := reserveFold_st _ _
    show r ∉ ((regsOf sPre h.inits).foldl reserveR sPre).st.avail
    rw [this]; exact hna
  have hw := Stack.reserved_window x.c r (l.reverse.map Prod.fst) _ hres hav (by
    intro o ho
    obtain ⟨e, he, rfl⟩ := List.mem_map.1 ho
    exact hno e (List.mem_reverse.1 he) r)
  rw [hrun'] at hw
  exact hw

/-- **`alloc_no_interference` for blocks with loops** — the model of `BlockNaiveAllocator.allocate_block`
with `ForRofOperation.allocate_registers` (`riscv_scf.for` at any nesting depth): live-ins first, the
loop-carried groups by `allocate_values_same_reg` whichever members already have a register, induction
variable, bounds, the reservations around the body, `free_value(iv)`, `lb`; LIFO `RegisterStack` with
reservation counts, pool exclusion of pre-assigned and declared registers, the RISC-V zero-register rule
asked in the current state, infinite registers.

Assumptions: `thmHyps` (decidable; evaluated by the check, command `lthm`, on the integer class of every
generated function with loops): pool / pre-assigned
registers are real registers, arguments are pre-assigned, SSA form and scoping, `riscv_scf.for` loops only
(no `frep`), no in/out instructions, loop-carried values local to their loop — a yielded value is not
live throughout the loop and is yielded once, bounds are not loop-carried, results are new — and no
loop-carried value is a zero constant; the zero constants that `get_constant_value` finds without looking at
the allocation state (`zcOf`) are closed under `mv`, the validator knows them where they are defined, and an
operation result that is pre-assigned to `zero` is one of them; and the input can be allocated at all: SOME assignment `a0`
extending the pre-assignment passes the validator for blocks with loops (`hfeas`; for `a0 :=` the most
permissive assignment this is the in/out discipline `Disciplined`, see the corollary).

Conclusion: for EVERY pool and stack order, whenever the allocator succeeds, its result passes
`validateL` — hence by `validatorL_sound` register execution = SSA execution for every trip count, no two
live values share a register —, keeps every pre-assigned register and gives a register to every value.

`_partial`: not covered are `frep` loops, x86 in/out instructions inside loop nests, loop-carried
groups that contain a zero constant (the common `iter_args(%acc = %zero)` with `%zero = li 0` is in this
class: the allocator may put such a group into `zero`, which the validator for loops never accepts) and
yields of values that are live throughout the loop. -/
theorem alloc_loops_no_interference_partial (c : Cfg) (pool excl : List Reg) (pre : AL ValId Reg)
    (p : LProg) (s : LSt) (a0 : ValId → Reg)
    (hhyp : thmHyps c pool pre p = true)
    (hext0 : ∀ v r, AL.get pre v = some r → a0 v = r)
    (hfeas : validateL c.z a0 p = true)
    (h : allocFunc c pool excl pre p = .ok s) :
    validateL c.z (allocOf s.st.asg) p = true
    ∧ (∀ v r, AL.get pre v = some r → AL.get s.st.asg v = some r)
    ∧ (∀ v ∈ p.values, (AL.get s.st.asg v).isSome = true) := by
  unfold thmHyps at hhyp
  simp only [Bool.and_eq_true, List.all_eq_true, decide_eq_true_eq, not_or_imp, bne_or_imp, bne_iff_ne,
    List.contains_eq_mem] at hhyp
  obtain ⟨⟨⟨⟨⟨⟨⟨hpool, hpreLt'⟩, hbase⟩, hargs⟩, hwfB⟩, hzclB⟩, hzcokB⟩, hpre0⟩ := hhyp
  have hpreLt : ∀ (v : ValId) (r : Nat), AL.get pre v = some r → r < c.infBase := by
    intro v r hv
    have hm : (v, r) ∈ pre := AL.mem_of_get_some hv
    exact hpreLt' (v, r) hm
  have hwf := wfB_sound _ _ _ _ hwfB
  have hzc := zclosedB_sound hzclB
  have hzcok := zcOkB_sound _ _ _ hzcokB
  unfold validateL at hfeas
  split at hfeas
  · exact absurd hfeas (by simp)
  rename_i L0 hL0
  simp only [Bool.and_eq_true, List.all_eq_true, List.contains_eq_mem, decide_eq_true_eq] at hfeas
  obtain ⟨⟨hL0sub, hnd0⟩, hz0⟩ := hfeas
  have hL0eq := checkT_eq_liveT _ _ _ _ hL0
  have hgood := goodT_of_check p.body [] p.rets L0 hL0 (pw_of_nodup_map hL0sub hnd0)
  let A0 := pool.filter fun r => !(usedPreT pre p).contains r && !excl.contains r
  let U := valsT p.body ++ p.rets
  have hst : Static c pre A0 U := Static.of_pool hpool hpreLt hbase fun r hr => show r ∉ usedPreT pre p by
    simp only [Bool.and_eq_true, Bool.not_eq_true', List.contains_eq_mem, decide_eq_false_iff_not] at hr
    exact hr.1
  unfold allocFunc at h
  split at h
  · exact absurd h (by simp)
  rename_i sR hsR
  have hTie0 : TiedT a0 p.body := tiedT_of_good _ _ _ hgood
  have hG : Given.Ok ⟨ctxOf c p, pre, A0, zcOf (zinfo p.body {}), U, fun a => TiedT a p.body, a0⟩ :=
    ⟨hst, hzc, hext0, hTie0⟩
  have hR := At.alloc hG (T := p.rets) (X := [])
    ⟨linv_init hpreLt hpre0, fun v hv => absurd hv List.not_mem_nil, fun _ q hq => absurd hq List.not_mem_nil⟩
    hsR (goodT_pw_out _ _ _ hgood) (fun v hv => ⟨List.mem_append_right _ hv, hv, List.not_mem_nil⟩)
    (fun w hw => absurd hw List.not_mem_nil)
  obtain ⟨hF, _, hchk⟩ := blockSpec hG (allocOf s.st.asg) p.body [] p.rets sR s _ [] [] h
    (hR.conseq (fun _ => Iff.rfl) (fun v hv => by simpa using hv) (fun v hv => Or.inl (by simpa using hv))
      fun _ hv => hv)
    hgood hzcok hwf (fun a ha => ha) (fun v hv => absurd hv List.not_mem_nil)
    (fun q hq => absurd hq List.not_mem_nil) (fun v r hv => allocOf_of_get hv)
  have hinvF := hF.inv
  have hext : ∀ v r, AL.get pre v = some r → AL.get s.st.asg v = some r := hinvF.inv.ext
  have hargEq : ∀ a ∈ p.args, allocOf s.st.asg a = a0 a := by
    intro a ha
    obtain ⟨r, hr⟩ := Option.isSome_iff_exists.1 (hargs a ha)
    rw [allocOf_of_get (hext a r hr), hext0 a r hr]
  refine ⟨?_, hext, ?_⟩
  · unfold validateL
    have hchk' : checkT c.z (allocOf s.st.asg) [] p.body p.rets = some (liveT p.body p.rets) := hchk
    rw [hchk', ← hL0eq]
    simp only [Bool.and_eq_true, List.all_eq_true, List.contains_eq_mem, decide_eq_true_eq]
    have hmap : p.args.map (allocOf s.st.asg) = p.args.map a0 := List.map_congr_left hargEq
    refine ⟨⟨hL0sub, by rw [hmap]; exact hnd0⟩, ?_⟩
    simp only [not_or_imp, List.all_eq_true, bne_iff_ne] at hz0 ⊢
    intro hz a ha
    rw [hargEq a ha]
    exact hz0 hz a ha
  · intro v hv
    simp only [LProg.values, List.mem_append] at hv
    rcases hv with (hv | hv) | hv
    · obtain ⟨r, hr⟩ := Option.isSome_iff_exists.1 (hargs v hv)
      rw [hext v r hr]; rfl
    · exact hinvF.inv.allocd v (List.mem_append_left _ hv)
    · exact hinvF.inv.allocd v (List.mem_append_right _ (by simpa using hv))

/-- **For every disciplined loop nest and every register stack: if allocation succeeds then the
validator accepts the result, and the register machine computes what the SSA execution computes —
for every instruction semantics, loop test, increment, input and every trip count of every loop.**
(`Disciplined` is the decidable in/out discipline; `thmHyps` the decidable side conditions of
`alloc_loops_no_interference_partial`.) -/
theorem disciplined_alloc_sound_partial (c : Cfg) (pool excl : List Reg) (pre : AL ValId Reg)
    (p : LProg) (s : LSt)
    (hhyp : thmHyps c pool pre p = true) (hdisc : Disciplined c.z pre p = true)
    (h : allocFunc c pool excl pre p = .ok s) :
    validateL c.z (allocOf s.st.asg) p = true
    ∧ (∀ v r, AL.get pre v = some r → AL.get s.st.asg v = some r)
    ∧ ∀ (m : LSem) (fuel : Nat) (inputs : List Word) (rf0 : Reg → Word), inputs.length = p.args.length →
        execR c.z (allocOf s.st.asg) m fuel p inputs rf0 = execT m fuel p inputs := by
  obtain ⟨h1, h2, _⟩ := alloc_loops_no_interference_partial c pool excl pre p s (canon pre p) hhyp
    (canon_ext pre p) hdisc h
  exact ⟨h1, h2, validatorL_sound c.z _ p h1⟩

/-! ## The known finding on the model

`riscv_scf.for` ties (block argument, iter_arg, yield operand, result) to one register whether or not
liveness allows it (known_findings.json: `ForRofOperation.allocate_registers`, "loop-carried values
are tied to one register although liveness forbids it").  Witness: the iter_arg `%0` is also read
inside the body and after the loop.

```
%0 = li 5 ; %1 = li 1 ; %2 = li 3
%6 = riscv_scf.for %3 = %1 to %2 step 1 iter_args(%4 = %0) { %5 = add %4, %0 ; yield %5 }
return %0
``` -/

def cexProg : LProg :=
  { args := [],
    body :=
      .op { zk := 0, code := 18, imm := 5, ins := [], outs := [0], ios := [] } <|
      .op { zk := 0, code := 18, imm := 1, ins := [], outs := [1], ios := [] } <|
      .op { zk := 0, code := 18, imm := 3, ins := [], outs := [2], ios := [] } <|
      .loop { lb := some 1, ub := some 2, iv := some 3, imm := 1, inits := [0], bargs := [4], yields := [5],
              res := [6] }
        (.op { zk := 0, code := 4, imm := 0, ins := [4, 0], outs := [5], ios := [] } .nil)
        .nil,
    rets := [0] }

def cexCfg : Cfg := { z := true, allowInf := false, infBase := 1000 }
/-- the integer part of `RiscvRegisterStack.DEFAULT_ALLOCATABLE_REGISTERS` in the order in which
`RegisterStack.get` pushes it (a7 … a0, t6 … t0): the stack hands out t0, t1, t2, … -/
def cexPool : List Reg := [17, 16, 15, 14, 13, 12, 11, 10, 31, 30, 29, 28, 7, 6, 5]

/-- an instruction semantics: `li` (code 18) loads its immediate, everything else adds -/
def cexSem : LSem :=
  { f := fun code imm reads _ => if code = 18 then imm else reads.getD 0 0 + reads.getD 1 0,
    lt := fun a b => decide (a < b), add := fun a b => a + b, cnt := fun _ => 0 }

def asgOf : Except LErr LSt → Option (AL ValId Reg)
  | .ok s => some s.st.asg
  | .error _ => none

/-- what the model allocator (and the real one) answers for `cexProg` -/
def cexAsg : AL ValId Reg := [(1, 6), (2, 7), (3, 6), (6, 5), (5, 5), (4, 5), (0, 5)]

/-- **Counterexample (the known finding)**: the input is not disciplined, the allocator succeeds all
the same; the block argument `%4` and the value `%0`, both read by the `add` in the body, share `t0`
(register 5) with the result `%5` of that `add`; the validator rejects the assignment; and the register
machine returns 20 where the function returns 5. -/
theorem undisciplined_accepted_counterexample :
    Disciplined true [] cexProg = false
    ∧ asgOf (allocFunc cexCfg cexPool [] [] cexProg) = some cexAsg
    ∧ allocOf cexAsg 4 = 5 ∧ allocOf cexAsg 0 = 5 ∧ allocOf cexAsg 5 = 5
    ∧ validateL true (allocOf cexAsg) cexProg = false
    ∧ execT cexSem 40 cexProg [] = some [5]
    ∧ execR true (allocOf cexAsg) cexSem 40 cexProg [] (fun _ => 0) = some [20] := by
  refine ⟨by decide +kernel, by decide +kernel, by decide, by decide, by decide, by decide +kernel,
    by decide +kernel, by decide +kernel⟩

/-- the same loop with the discipline respected (`%0` is used by the loop only) -/
def okProg : LProg :=
  { args := [],
    body :=
      .op { zk := 0, code := 18, imm := 5, ins := [], outs := [0], ios := [] } <|
      .op { zk := 0, code := 18, imm := 1, ins := [], outs := [1], ios := [] } <|
      .op { zk := 0, code := 18, imm := 3, ins := [], outs := [2], ios := [] } <|
      .loop { lb := some 1, ub := some 2, iv := some 3, imm := 1, inits := [0], bargs := [4], yields := [5],
              res := [6] }
        (.op { zk := 0, code := 4, imm := 0, ins := [4, 3], outs := [5], ios := [] } .nil)
        .nil,
    rets := [6] }

def okAsg : AL ValId Reg := [(1, 6), (2, 7), (3, 6), (5, 5), (0, 5), (4, 5), (6, 5)]

theorem okProg_hyps : thmHyps cexCfg cexPool [] okProg = true ∧ Disciplined cexCfg.z [] okProg = true := by
  constructor <;> decide +kernel

example : Disciplined true [] okProg = true
    ∧ asgOf (allocFunc cexCfg cexPool [] [] okProg) = some okAsg
    ∧ validateL true (allocOf okAsg) okProg = true
    ∧ execT cexSem 40 okProg [] = some [8]
    ∧ execR true (allocOf okAsg) cexSem 40 okProg [] (fun _ => 0) = some [8] := by
  refine ⟨okProg_hyps.2, by decide +kernel, by decide +kernel, by decide +kernel, by decide +kernel⟩

example : thmHyps cexCfg cexPool [] okProg = true ∧ Disciplined cexCfg.z [] okProg = true := okProg_hyps

/-- Non-vacuity of the allocator theorem: `okProg` satisfies its hypotheses, so the allocation above is
valid and correct by the theorem (not only by evaluation), for every trip count. -/
example (s : LSt) (h : allocFunc cexCfg cexPool [] [] okProg = .ok s) (m : LSem) (fuel : Nat) (rf0 : Reg → Word) :
    execR true (allocOf s.st.asg) m fuel okProg [] rf0 = execT m fuel okProg [] :=
  (disciplined_alloc_sound_partial cexCfg cexPool [] [] okProg s okProg_hyps.1 okProg_hyps.2 h).2.2
    m fuel [] rf0 rfl

/-- a two-level nest (the inner loop accumulates into the outer loop's block argument) passes the
hypotheses as well -/
def nestProg : LProg :=
  { args := [],
    body :=
      .op { zk := 0, code := 18, imm := 5, ins := [], outs := [0], ios := [] } <|
      .op { zk := 0, code := 18, imm := 1, ins := [], outs := [1], ios := [] } <|
      .op { zk := 0, code := 18, imm := 3, ins := [], outs := [2], ios := [] } <|
      .loop { lb := some 1, ub := some 2, iv := some 3, imm := 1, inits := [0], bargs := [4], yields := [9],
              res := [10] }
        (.op { zk := 0, code := 18, imm := 2, ins := [], outs := [5], ios := [] } <|
         .loop { lb := some 1, ub := some 5, iv := some 6, imm := 1, inits := [4], bargs := [7], yields := [8],
                 res := [9] }
           (.op { zk := 0, code := 4, imm := 0, ins := [7, 6], outs := [8], ios := [] } .nil)
           .nil)
        .nil,
    rets := [10] }

example : thmHyps cexCfg cexPool [] nestProg = true ∧ Disciplined cexCfg.z [] nestProg = true
    ∧ (asgOf (allocFunc cexCfg cexPool [] [] nestProg)).isSome = true := by
  refine ⟨by decide +kernel, by decide +kernel, by decide +kernel⟩

end Xdsl.RegAllocLoop
