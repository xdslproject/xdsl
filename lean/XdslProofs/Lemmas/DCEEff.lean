import XdslModel.DCE
/-!
Lemmas for C13: `RecursiveMemoryEffect.get_effects` (`effAll`) is the union over EVERY operation that
sits directly in a block of a region of the operation — whatever the index of the region, of the block
in the region and of the operation in the block — and is unknown as soon as one of them is unknown:
`effAll t` is `joinAll` of `get_effects` over `directCells t` (`effAll_eq_joinAll`).
-/
namespace Xdsl.DCE

/-- the operation cells directly in the sequence: of an operation list its members, of a block list
the members of every block, of a region list the members of every block of every region (operations
nested below one of these are not listed) -/
def directCells : T → List (Hdr × T)
  | .nil => []
  | .op h rs next => (h, rs) :: directCells next
  | .block ops next => directCells ops ++ directCells next
  | .region bs next => directCells bs ++ directCells next

/-- how `effAll` combines two answers at every cell: both known, or unknown -/
def both {α : Type} : Option (List α) → Option (List α) → Option (List α)
  | some a, some b => some (a ++ b)
  | _, _ => none

def joinAll {α : Type} : List (Option (List α)) → Option (List α)
  | [] => some []
  | x :: xs => both x (joinAll xs)

theorem both_eq_some {α : Type} {x y : Option (List α)} {es : List α} :
    both x y = some es ↔ ∃ a b, x = some a ∧ y = some b ∧ es = a ++ b := by
  constructor
  · intro h
    cases x <;> cases y <;> cases h
    exact ⟨_, _, rfl, rfl, rfl⟩
  · rintro ⟨a, b, rfl, rfl, rfl⟩; rfl

theorem both_eq_none {α : Type} {x y : Option (List α)} : both x y = none ↔ x = none ∨ y = none := by
  cases x <;> cases y <;> simp [both]

theorem both_forall {α : Type} {P : α → Prop} {x y : Option (List α)} :
    (∃ es, both x y = some es ∧ ∀ e ∈ es, P e)
      ↔ (∃ a, x = some a ∧ ∀ e ∈ a, P e) ∧ ∃ b, y = some b ∧ ∀ e ∈ b, P e := by
  constructor
  · rintro ⟨es, h, hp⟩
    obtain ⟨a, b, rfl, rfl, rfl⟩ := both_eq_some.mp h
    exact ⟨⟨a, rfl, fun e he => hp e (List.mem_append_left _ he)⟩,
      b, rfl, fun e he => hp e (List.mem_append_right _ he)⟩
  · rintro ⟨⟨a, rfl, ha⟩, b, rfl, hb⟩
    exact ⟨a ++ b, rfl, fun e he => (List.mem_append.mp he).elim (ha e) (hb e)⟩

theorem joinAll_append {α : Type} (l m : List (Option (List α))) :
    joinAll (l ++ m) = both (joinAll l) (joinAll m) := by
  induction l with
  | nil => show joinAll m = both (some []) (joinAll m); cases joinAll m <;> rfl
  | cons x l ih =>
    rw [List.cons_append, joinAll, ih, joinAll]
    cases x with
    | none => rfl
    | some a =>
      cases joinAll l with
      | none => rfl
      | some b =>
        cases joinAll m with
        | none => rfl
        | some c => exact congrArg some (List.append_assoc a b c).symm

theorem joinAll_origin {α : Type} {l : List (Option (List α))} {es : List α} (h : joinAll l = some es) :
    ∀ e ∈ es, ∃ ce, some ce ∈ l ∧ e ∈ ce := by
  induction l generalizing es with
  | nil => cases h; intro e he; cases he
  | cons y l ih =>
    obtain ⟨a, b, rfl, hb, rfl⟩ := both_eq_some.mp h
    intro e he
    rcases List.mem_append.mp he with he | he
    · exact ⟨a, List.mem_cons_self, he⟩
    · obtain ⟨ce, h1, h2⟩ := ih hb e he
      exact ⟨ce, List.mem_cons_of_mem _ h1, h2⟩

theorem joinAll_forall {α : Type} {P : α → Prop} {l : List (Option (List α))} :
    (∃ es, joinAll l = some es ∧ ∀ e ∈ es, P e) ↔ ∀ x ∈ l, ∃ ce, x = some ce ∧ ∀ e ∈ ce, P e := by
  induction l with
  | nil => exact ⟨fun _ _ hx => (nomatch hx), fun _ => ⟨[], rfl, fun _ he => (nomatch he)⟩⟩
  | cons x l ih => rw [joinAll, both_forall, ih, List.forall_mem_cons]

theorem joinAll_some {α : Type} {l : List (Option (List α))} {es : List α} (h : joinAll l = some es) :
    ∀ x ∈ l, ∃ ce, x = some ce ∧ ∀ e ∈ ce, e ∈ es :=
  joinAll_forall.mp ⟨es, h, fun _ he => he⟩

theorem joinAll_none {α : Type} {l : List (Option (List α))} : joinAll l = none ↔ none ∈ l := by
  induction l with
  | nil => simp [joinAll]
  | cons y l ih => rw [joinAll, both_eq_none, ih, List.mem_cons, eq_comm]

/-- the two-answer `match` in each cell of `effAll` is `both` -/
theorem effAll_op_eq (h : Hdr) (rs next : T) :
    effAll (.op h rs next) = both (opEff h (effAll rs)) (effAll next) := by
  rw [effAll]; cases opEff h (effAll rs) <;> cases effAll next <;> rfl

theorem effAll_block_eq (ops next : T) : effAll (.block ops next) = both (effAll ops) (effAll next) := by
  rw [effAll]; cases effAll ops <;> cases effAll next <;> rfl

theorem effAll_region_eq (bs next : T) : effAll (.region bs next) = both (effAll bs) (effAll next) := by
  rw [effAll]; cases effAll bs <;> cases effAll next <;> rfl

theorem effAll_op {h : Hdr} {rs next : T} {es : List EffI} :
    effAll (.op h rs next) = some es ↔
      ∃ a b, opEff h (effAll rs) = some a ∧ effAll next = some b ∧ es = a ++ b := by
  rw [effAll_op_eq]; exact both_eq_some

theorem effAll_block {ops next : T} {es : List EffI} :
    effAll (.block ops next) = some es ↔
      ∃ a b, effAll ops = some a ∧ effAll next = some b ∧ es = a ++ b := by
  rw [effAll_block_eq]; exact both_eq_some

theorem effAll_region {bs next : T} {es : List EffI} :
    effAll (.region bs next) = some es ↔
      ∃ a b, effAll bs = some a ∧ effAll next = some b ∧ es = a ++ b := by
  rw [effAll_region_eq]; exact both_eq_some

theorem effAll_op_none {h : Hdr} {rs next : T} :
    effAll (.op h rs next) = none ↔ opEff h (effAll rs) = none ∨ effAll next = none := by
  rw [effAll_op_eq]; exact both_eq_none

theorem effAll_block_none {ops next : T} :
    effAll (.block ops next) = none ↔ effAll ops = none ∨ effAll next = none := by
  rw [effAll_block_eq]; exact both_eq_none

theorem effAll_region_none {bs next : T} :
    effAll (.region bs next) = none ↔ effAll bs = none ∨ effAll next = none := by
  rw [effAll_region_eq]; exact both_eq_none

/-- `RecursiveMemoryEffect.get_effects`: the operation's own effects and those of its contents, both known -/
theorem opEff_of_recursive {h : Hdr} (hr : h.recursive = true) (inner : Option (List EffI)) :
    opEff h inner = both h.eff inner := by
  unfold opEff
  cases h.eff <;> cases inner <;> simp [hr, both]

theorem opEff_recursive {h : Hdr} (hr : h.recursive = true) {inner : Option (List EffI)}
    {P : EffI → Prop} :
    (∃ es, opEff h inner = some es ∧ ∀ e ∈ es, P e)
      ↔ (∃ own, h.eff = some own ∧ ∀ e ∈ own, P e) ∧ ∃ es, inner = some es ∧ ∀ e ∈ es, P e := by
  rw [opEff_of_recursive hr]; exact both_forall

theorem effAll_eq_joinAll (t : T) :
    effAll t = joinAll ((directCells t).map fun c => opEff c.1 (effAll c.2)) := by
  induction t with
  | nil => rfl
  | op h rs next _ ihn => rw [effAll_op_eq, ihn]; rfl
  | block ops next iho ihn => rw [effAll_block_eq, iho, ihn, directCells, List.map_append, joinAll_append]
  | region bs next ihb ihn => rw [effAll_region_eq, ihb, ihn, directCells, List.map_append, joinAll_append]

theorem effAll_forall {P : EffI → Prop} (t : T) :
    (∃ es, effAll t = some es ∧ ∀ e ∈ es, P e)
      ↔ ∀ c ∈ directCells t, ∃ ce, opEff c.1 (effAll c.2) = some ce ∧ ∀ e ∈ ce, P e := by
  rw [effAll_eq_joinAll, joinAll_forall, List.forall_mem_map]

theorem effOk_iff {inside : List Nat} {e : EffI} :
    effOk inside e = true ↔ e = .read ∨ ∃ o, e = .allocOn o ∧ o ∈ inside := by
  cases e <;> simp [effOk]

theorem wbd_iff {h : Hdr} {rs : T} : wbd h rs = true ↔ h.term = false ∧ h.sym = false ∧
    ∃ es, opEff h (effAll rs) = some es ∧ ∀ e ∈ es, effOk (h.id :: allIds rs) e = true := by
  rw [wbd, Bool.and_eq_true, Bool.and_eq_true, Bool.not_eq_true', Bool.not_eq_true', and_assoc,
    resultOnlyEffects]
  cases opEff h (effAll rs) <;> simp

end Xdsl.DCE
