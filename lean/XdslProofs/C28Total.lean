import XdslProofs.C28
import XdslProofs.Lemmas.EGraphCosts
/-!
# C28 — the no-rule round trip, total correctness

"with no rewrite rules, creating e-classes and extracting gives back a program equivalent to the
original" — at full strength: for every well-formed SSA function `p` (plain single-result operations,
single assignment) and every input on which `p` runs, `eqsat-create-eclasses ; eqsat-add-costs ;
eqsat-extract` **succeeds** (no erase of a value that is still used, no index error, for every default
cost and cost table), its output **runs**, and returns exactly `p`'s results.

Proof structure (`ordered_of_run` below, the rest in `Lemmas/`): a successful run certifies
def-before-use order (`Ordered`);
`createEclasses` establishes the invariant "every class is a singleton placed after its operand and is
that operand's only user" (`CInv`, `EGraphCreate`); `addCosts` writes only valid `min_cost_index`
values (`EGraphCosts`); every iteration of the extraction loop succeeds and keeps the block ordered
(`LInv`, `EGraphExtract`); the re-ordering pass is the identity on an ordered block; ordered blocks
run (`EGraphOrd`); the values are right by `create_extract_id_partial` (`C28`).
-/
namespace Xdsl.EGraph

variable {V : Type}

theorem ordered_of_run (I : Interp V) {p : Prog} {env rs : List V} (hw : WF p)
    (he : evalSeq I p env = some rs) : Ordered p ∧ env.length = p.nargs := by
  obtain ⟨hl, σ, hb, hr⟩ := evalSeq_eq_some.1 he
  have hinit : ∀ x, initEnv env x ≠ none → x < p.nargs := fun x hx => hl ▸ initEnv_ne_none.1 hx
  exact ⟨⟨(ordFrom_of_run I p.body _ σ hb).mono hinit,
    fun x hx => ((evalNodes_dom I hb x).1 (mapM_bound hr x hx)).imp_left (hinit x),
    fun r a m hm => Bool.noConfusion (hw.noCls _ hm)⟩, hl⟩

/-- **create_extract_id** — no rewrite rules: for every default cost and cost table the round trip
`create-eclasses ; add-costs ; extract` of a well-formed function succeeds, and on every input on
which the original function runs, the extracted function runs and returns the same results. -/
theorem create_extract_id [Inhabited V] (I : Interp V) {p : Prog} {env rs : List V} (d : Option Nat)
    (dict : AL String Nat) (hw : WF p) (hrun : evalSeq I p env = some rs) :
    ∃ p', extract (addCosts d dict (createEclasses p)) = some p' ∧ evalSeq I p' env = some rs := by
  obtain ⟨ho, hl⟩ := ordered_of_run I hw hrun
  obtain ⟨_, hc, hn⟩ := createEclasses_cinv hw ho
  obtain ⟨hl2, hn2⟩ := (LInv_of_CInv hc).addCosts d dict
  obtain ⟨p', hx, hop, hnp⟩ := extract_total hl2
  obtain ⟨rs', hr'⟩ := evalSeq_of_ordered I (env := env) hop (by rw [hnp, hn2, hn]; exact hl)
  refine ⟨p', hx, ?_⟩
  rw [hr', create_extract_id_partial I d dict hw hrun hx hr']

/-- the extracted function of the no-rule round trip never contains an e-class … is not claimed: with
`default = none` (no costs) classes without `min_cost_index` are left in place by design and evaluate
to their single alternative; the theorem above covers that case too. -/
example : (extract (addCosts none [] (createEclasses demoP))).map (fun p' => evalSeq demoI p' [21]) =
    some (some [42]) := by decide +kernel

example : extract (addCosts (some 1) [] (createEclasses demoP)) = some demoP := by decide +kernel

end Xdsl.EGraph
