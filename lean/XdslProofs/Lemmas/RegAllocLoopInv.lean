import XdslProofs.Lemmas.RegAllocLoopStack
import XdslProofs.Lemmas.RegAllocLoopSem
/-!
C19 (loops): the invariant of the allocator for blocks with loops.
`LInv` = the invariant `Inv` of the straight-line allocator (on the inner state) + what the
reservations guarantee: the values of `P` (block arguments and iter_args of the loops around the
current point) have a register that is reserved, hence not available and never handed out, although
they need not be live at this point; a live value shares a register with one of them only if the
feasibility witness `a0` puts them into one register as well.
`At` = `LInv` + every seen value is live, protected or gone; the steps of the allocator are rules about `At`.
-/
namespace Xdsl.RegAllocLoop
open Xdsl.RegMachine Xdsl.RegAlloc

/-- `Zc` contains every value that `get_constant_value` can take to be the constant 0 -/
structure ZClosed (zi : ZInfo) (Zc : List ValId) : Prop where
  zk1 : ∀ v ∈ zi.opres, v ∈ zi.zk1 → v ∈ Zc
  mv : ∀ v ∈ zi.opres, ∀ x, AL.get zi.mvs v = some x → x ∈ Zc → v ∈ Zc

theorem isZeroNow_mem {zi : ZInfo} {Zc : List ValId} (hc : ZClosed zi Zc) {asg : AL ValId Reg}
    (h0 : ∀ w ∈ zi.opres, AL.get asg w = some 0 → w ∈ Zc) :
    ∀ (n : Nat) (v : ValId), isZeroNow zi asg n v = true → v ∈ Zc := by
  intro n
  induction n with
  | zero => intro v h; simp [isZeroNow] at h
  | succ n ih =>
    intro v h
    simp only [isZeroNow, Bool.and_eq_true, Bool.or_eq_true, List.contains_eq_mem, decide_eq_true_eq,
      beq_iff_eq] at h
    obtain ⟨hop, h⟩ := h
    rcases h with (h | h) | h
    · exact h0 v hop h
    · exact hc.zk1 v hop h
    · cases hm : AL.get zi.mvs v with
      | none => rw [hm] at h; simp at h
      | some x => rw [hm] at h; exact hc.mv v hop x hm (ih x h)

structure LInv (c : Cfg) (pre : AL ValId Reg) (A0 : List Reg) (Zc : List ValId)
    (Tie : (ValId → Reg) → Prop) (zi : ZInfo) (a0 : ValId → Reg) (s : LSt) (V L P : List ValId) : Prop where
  inv : Inv c pre A0 Zc Tie s.st V L
  rpos : RPos s
  rdisj : ∀ r, s.isReserved r = true → r ∉ s.st.avail
  /-- the protected values have a reserved register -/
  prot : ∀ p ∈ P, (AL.get s.st.asg p).isSome = true ∧ s.isReserved (allocOf s.st.asg p) = true ∧ p ∈ V
  pnz : c.z = true → ∀ p ∈ P, allocOf s.st.asg p ≠ 0
  share : ∀ p ∈ P, ∀ w, (w ∈ L ∨ w ∈ P) → allocOf s.st.asg w = allocOf s.st.asg p → w = p ∨ a0 w = a0 p
  /-- an operation result in `zero` is one of the zero constants -/
  zres : c.z = true → ∀ w ∈ zi.opres, AL.get s.st.asg w = some 0 → w ∈ Zc

theorem LInv.mono {c : Cfg} {pre : AL ValId Reg} {A0 : List Reg} {Zc : List ValId}
    {Tie : (ValId → Reg) → Prop} {zi : ZInfo} {a0 : ValId → Reg} {s : LSt} {V V2 L L2 P : List ValId}
    (h : LInv c pre A0 Zc Tie zi a0 s V L P)
    (hV : ∀ v, v ∈ V ↔ v ∈ V2) (hL : ∀ v ∈ L2, v ∈ L) : LInv c pre A0 Zc Tie zi a0 s V2 L2 P :=
  { h with
    inv := h.inv.mono hV hL
    prot := fun p hp => ⟨(h.prot p hp).1, (h.prot p hp).2.1, (hV p).1 (h.prot p hp).2.2⟩
    share := fun p hp w hw => h.share p hp w (hw.imp (hL w) id) }

/-- a state with the same assignment (as far as lookups go) and the same reservations: the part of
`LInv` on top of `Inv` carries over once no reserved register is on the new stack -/
theorem LInv.frame {c : Cfg} {pre : AL ValId Reg} {A0 : List Reg} {Zc : List ValId}
    {Tie : (ValId → Reg) → Prop} {zi : ZInfo} {a0 : ValId → Reg} {s s2 : LSt} {V L P : List ValId}
    (h : LInv c pre A0 Zc Tie zi a0 s V L P) (hI : Inv c pre A0 Zc Tie s2.st V L)
    (hasg : ∀ v, AL.get s2.st.asg v = AL.get s.st.asg v) (hres : s2.reserved = s.reserved)
    (hdisj : ∀ r, s.isReserved r = true → r ∉ s2.st.avail) :
    LInv c pre A0 Zc Tie zi a0 s2 V L P := by
  have hal : ∀ v, allocOf s2.st.asg v = allocOf s.st.asg v := fun v => by simp [allocOf, hasg v]
  have hR : ∀ r, s2.isReserved r = s.isReserved r := fun r => by simp [LSt.isReserved, hres]
  exact {
    inv := hI
    rpos := fun r n hr => h.rpos r n (hres ▸ hr)
    rdisj := fun r hr => hdisj r (hR r ▸ hr)
    prot := fun p hp => by rw [hasg, hal, hR]; exact h.prot p hp
    pnz := fun hz p hp => by rw [hal]; exact h.pnz hz p hp
    share := fun p hp w hw => by rw [hal, hal]; exact h.share p hp w hw
    zres := fun hz w hw => by rw [hasg]; exact h.zres hz w hw }

theorem LInv.same {c : Cfg} {pre : AL ValId Reg} {A0 : List Reg} {Zc : List ValId}
    {Tie : (ValId → Reg) → Prop} {zi : ZInfo} {a0 : ValId → Reg} {s s2 : LSt} {V L P : List ValId}
    (h : LInv c pre A0 Zc Tie zi a0 s V L P) (hs : Same s s2) : LInv c pre A0 Zc Tie zi a0 s2 V L P :=
  h.frame (h.inv.congr hs.asg hs.avail hs.allocatable hs.nextInf) hs.asg hs.reserved
    fun q hq hm => h.rdisj q hq (hs.avail ▸ hm)

section Steps
variable {x : Ctx} {pre : AL ValId Reg} {A0 : List Reg} {Zc U : List ValId}
  {Tie : (ValId → Reg) → Prop} {a0 : ValId → Reg}

/-- a value that has a register becomes live; `hsh`: what it shares with the protected values -/
theorem LInv.live {s : LSt} {V M P : List ValId} {v : ValId}
    (hinv : LInv x.c pre A0 Zc Tie x.zi a0 s V M P) (hI' : Inv x.c pre A0 Zc Tie s.st (v :: V) (v :: M))
    (hsh : ∀ p ∈ P, allocOf s.st.asg v = allocOf s.st.asg p → v = p ∨ a0 v = a0 p) :
    LInv x.c pre A0 Zc Tie x.zi a0 s (v :: V) (v :: M) P :=
  { hinv with
    inv := hI'
    prot := fun p hp => ⟨(hinv.prot p hp).1, (hinv.prot p hp).2.1, List.mem_cons_of_mem _ (hinv.prot p hp).2.2⟩
    share := fun p hp w hw heq => by
      rcases hw with hw | hw
      · rcases List.mem_cons.1 hw with rfl | hw
        · exact hsh p hp heq
        · exact hinv.share p hp w (Or.inl hw) heq
      · exact hinv.share p hp w (Or.inr hw) heq }

/-- The part of `LInv` on top of `Inv` when the value `v`, so far without a register, receives `r`
(`s1`: the state after a possible `pop`): the protected values keep their reserved registers.
`hP`: if `v` is live from here on, `r` is the register of no protected value; `h0`: an operation
result that is put into `zero` is a zero constant. -/
theorem LInv.assign {s s1 : LSt} {V M V' M' P : List ValId} {v : ValId} {r : Reg}
    (hinv : LInv x.c pre A0 Zc Tie x.zi a0 s V M P)
    (hI' : Inv x.c pre A0 Zc Tie (setReg s1 v r).st V' M')
    (hnone : AL.get s.st.asg v = none) (hasg : s1.st.asg = s.st.asg) (hres : s1.reserved = s.reserved)
    (hav : ∀ q ∈ s1.st.avail, q ∈ s.st.avail)
    (hV : ∀ w ∈ V, w ∈ V') (hM : ∀ w ∈ M', w ≠ v → w ∈ M)
    (hP : v ∈ M' → ∀ p ∈ P, allocOf s.st.asg p ≠ r)
    (h0 : x.c.z = true → r = 0 → v ∈ x.zi.opres → v ∈ Zc) :
    LInv x.c pre A0 Zc Tie x.zi a0 (setReg s1 v r) V' M' P := by
  have hne : ∀ p ∈ P, p ≠ v := fun p hp e => by
    have := (hinv.prot p hp).1; rw [e, hnone] at this; simp at this
  have hget : ∀ w, w ≠ v → AL.get (setReg s1 v r).st.asg w = AL.get s.st.asg w := by
    intro w hw; rw [setReg_get, if_neg hw, hasg]
  have hsame : ∀ w, w ≠ v → allocOf (setReg s1 v r).st.asg w = allocOf s.st.asg w :=
    fun w hw => by simp only [allocOf, hget w hw]
  have hR : ∀ q, (setReg s1 v r).isReserved q = s.isReserved q := fun q => by
    simp [LSt.isReserved, setReg, hres]
  exact {
    inv := hI'
    rpos := fun q n hq => hinv.rpos q n (by simpa [setReg, hres] using hq)
    rdisj := fun q hq hm => hinv.rdisj q (hR q ▸ hq) (hav q hm)
    prot := fun p hp => by
      obtain ⟨h1, h2, h3⟩ := hinv.prot p hp
      rw [hget p (hne p hp), hsame p (hne p hp), hR]
      exact ⟨h1, h2, hV p h3⟩
    pnz := fun hz' p hp => by rw [hsame p (hne p hp)]; exact hinv.pnz hz' p hp
    share := fun p hp w hw heq => by
      rw [hsame p (hne p hp)] at heq
      by_cases hwv : w = v
      · subst hwv
        have hr : allocOf (setReg s1 w r).st.asg w = r := allocOf_set_eq
        rw [hr] at heq
        rcases hw with hw | hw
        · exact absurd heq.symm (hP hw p hp)
        · exact absurd rfl (hne w hw)
      · rw [hsame w hwv] at heq
        exact hinv.share p hp w (hw.imp (fun h => hM w h hwv) id) heq
    zres := fun hz' w hw hw0 => by
      by_cases hwv : w = v
      · subst hwv
        rw [setReg_get, if_pos rfl] at hw0
        exact h0 hz' (Option.some.inj hw0) hw
      · rw [hget w hwv] at hw0
        exact hinv.zres hz' w hw hw0 }

theorem linv_pop_live {s s1 : LSt} {V M P : List ValId} {v : ValId} {r : Reg}
    (hst : Static x.c pre A0 U)
    (hinv : LInv x.c pre A0 Zc Tie x.zi a0 s V M P)
    (hnone : AL.get s.st.asg v = none) (hp : popR x.c s = .ok (r, s1)) :
    LInv x.c pre A0 Zc Tie x.zi a0 (setReg s1 v r) (v :: V) (v :: M) P
    ∧ (x.c.z = true → r ≠ 0) ∧ r ∉ s1.st.avail := by
  obtain ⟨hp', hres1, hnr, _⟩ := popR_ok hp
  obtain ⟨h1, hasg, hna, _, horig, _⟩ := hinv.inv.pop hst hp'
  have hsub : ∀ q ∈ s1.st.avail, q ∈ s.st.avail := fun q hq => by
    rcases (pop_cases hp').2.2 with ⟨hav, _⟩ | ⟨_, hav', _, _⟩
    · rw [hav]; exact List.mem_cons_of_mem _ hq
    · rw [hav'] at hq; cases hq
  have hnz : x.c.z = true → r ≠ 0 := fun hz e => by
    have hb := hst.basePos hz
    rcases horig with h2 | h2
    · exact hst.zeroNotAlloc hz (e ▸ h2)
    · exact absurd (Nat.lt_of_lt_of_le hb (e ▸ h2)) (Nat.lt_irrefl _)
  refine ⟨LInv.assign hinv (inv_pop_live hst hinv.inv hnone hp') hnone hasg hres1 hsub
    (fun w hw => List.mem_cons_of_mem _ hw) (fun w hw hwv => (List.mem_cons.1 hw).resolve_left hwv)
    (fun _ p hp e => ?_) (fun hz e => absurd e (hnz hz)), hnz, hna⟩
  -- the popped register is the register of no protected value: those are reserved, hence not on the
  -- stack, and not new
  obtain ⟨hpS, hpR, _⟩ := hinv.prot p hp
  rcases (pop_cases hp').2.2 with ⟨hav, _⟩ | ⟨_, _, hr, _⟩
  · exact hinv.rdisj r (e ▸ hpR) (by rw [hav]; exact List.mem_cons_self ..)
  · have := hinv.inv.infFresh p r (e ▸ get_of_isSome hpS) (by omega)
    omega

end Steps

/-! ### the allocator at a point of its backward walk

`At G s V M P X` = the invariant `LInv` of the state `s` + the coverage of the seen values: every value
seen so far is live (`M`), protected by a reservation (`P`) or gone (`X`: defined further
down, it will not be met again; or, in a loop header, a block argument or iter_arg whose group is done and
which waits for the reservation, `AtG`).  Each phase of the allocator is a rule `At … → run → At …`; between
phases the live set and the gone set are adapted by the rule of consequence `At.conseq`.

`Given`, `Given.Ok`, `At` and the rules carry the names of their counterparts for the straight-line
allocator (`Xdsl.RegAlloc.At` … in `Lemmas/RegAllocInv.lean`) and hide them in this namespace: the same
records over `LSt`, with the context `x` (configuration and `ZInfo`) for the configuration `c`, `ZClosed`
added to `Given.Ok`, and the protected set `P` and the field `pa0` added to `At`. -/

/-- what one run of the allocator is about, with the feasibility witness `a0` -/
structure Given where
  x : Ctx
  pre : AL ValId Reg
  A0 : List Reg
  Zc : List ValId
  U : List ValId
  Tie : (ValId → Reg) → Prop
  a0 : ValId → Reg

structure Given.Ok (G : Given) : Prop where
  st : Static G.x.c G.pre G.A0 G.U
  zc : ZClosed G.x.zi G.Zc
  ext0 : ∀ v r, AL.get G.pre v = some r → G.a0 v = r
  tie0 : G.Tie G.a0

structure At (G : Given) (s : LSt) (V M P X : List ValId) : Prop where
  inv : LInv G.x.c G.pre G.A0 G.Zc G.Tie G.x.zi G.a0 s V M P
  cov : ∀ v ∈ V, v ∈ M ∨ v ∈ P ∨ v ∈ X
  pa0 : G.x.c.z = true → ∀ p ∈ P, G.a0 p ≠ 0

section Rules
variable {G : Given} {s s' : LSt} {V V' M M' P X X' : List ValId}

/-- rule of consequence: values die (leave `M` for `X'`), the gone set grows -/
theorem At.conseq (h : At G s V M P X) (hV : ∀ v, v ∈ V ↔ v ∈ V') (hM : ∀ v ∈ M', v ∈ M)
    (hdie : ∀ v ∈ M, v ∈ M' ∨ v ∈ P ∨ v ∈ X') (hX : ∀ v ∈ X, v ∈ X') : At G s V' M' P X' where
  inv := h.inv.mono hV hM
  cov := fun v hv => by
    rcases h.cov v ((hV v).2 hv) with h1 | h1 | h1
    · exact hdie v h1
    · exact Or.inr (Or.inl h1)
    · exact Or.inr (Or.inr (hX v h1))
  pa0 := h.pa0

theorem At.seen (h : At G s V M P X) {v : ValId} (hX : v ∉ X) (hv : v ∈ V) : v ∈ M ∨ v ∈ P :=
  (h.cov v hv).elim Or.inl fun h1 => h1.elim Or.inr fun h2 => absurd h2 hX

theorem At.assigned (h : At G s V M P X) {v : ValId} (hv : v ∈ M) : (AL.get s.st.asg v).isSome = true :=
  h.inv.inv.assigned hv

/-- `allocate_value` of a value that is live from here on (an operand, a live-in, a bound) and lies
in `T`, a set that the witness keeps apart: it is not gone, hence live, protected or new -/
theorem At.alloc1 (hG : G.Ok) {T : List ValId} {v : ValId} (h : At G s V M P X)
    (hrun : allocValueR G.x s v = .ok s') (hT : PW G.x.c.z G.a0 T)
    (hv : v ∈ G.U ∧ v ∈ T ∧ v ∉ X) (hMT : ∀ w ∈ M, w ∈ T) : At G s' (v :: V) (v :: M) P X := by
  refine ⟨?_, fun w hw => (List.mem_cons.1 hw).elim (fun e => Or.inl (e ▸ List.mem_cons_self ..))
    fun hw => (h.cov w hw).imp_left (List.mem_cons_of_mem _), h.pa0⟩
  have hinv := h.inv
  have hI := hinv.inv
  have hst := hG.st
  rcases allocValueR_cases hrun with ⟨hsome, rfl⟩ | ⟨hnone, ⟨hz, hzero, rfl⟩ | ⟨r, s1, hp, rfl⟩⟩
  · by_cases hvM : v ∈ M
    · exact hinv.live (inv_allocValue_live hst hI hv.1 (allocValue_of_isSome hsome) (fun _ => hvM) hG.ext0
        hG.tie0 hT hMT hv.2.1) (fun p hp => hinv.share p hp v (Or.inl hvM))
    · by_cases hvP : v ∈ P
      · -- a protected value becomes live: its register is reserved, and no live value sits in it
        refine hinv.live ((hI.addV hsome).live List.mem_cons_self (hinv.rdisj _ (hinv.prot v hvP).2.1)
          fun w hw hne heq => ?_)
          (fun p hp => hinv.share p hp v (Or.inr hvP))
        rcases hinv.share v hvP w (Or.inl hw) heq with e | e
        · exact absurd e hne
        · have := hT w (hMT w hw) v hv.2.1 hne e
          exact absurd (e ▸ this.2) (h.pa0 this.1 v hvP)
      · -- `v` is pre-assigned and not seen so far
        have hVM' : v ∈ V → v ∈ M := fun hvV => (h.seen hv.2.2 hvV).elim id fun hP => absurd hP hvP
        have hpre : (AL.get G.pre v).isSome = true :=
          (hI.only v hsome).resolve_right fun hvV => hvM (hVM' hvV)
        obtain ⟨rv, hrv⟩ := Option.isSome_iff_exists.1 hpre
        refine hinv.live (inv_allocValue_live hst hI hv.1 (allocValue_of_isSome hsome) hVM' hG.ext0 hG.tie0 hT
          hMT hv.2.1) fun p hp heq => ?_
        -- the pre-assigned register of `v` is the register of `p`: `p` is forced into it
        right
        rw [hG.ext0 v rv hrv]
        have hgp := get_of_isSome (hinv.prot p hp).1
        rw [allocOf_of_get (hI.ext v rv hrv)] at heq
        rw [← heq] at hgp
        cases hpp : AL.get G.pre p with
        | some rp =>
          have := hI.ext p rp hpp
          rw [hgp] at this
          rw [hG.ext0 p rp hpp, Option.some.inj this]
        | none =>
          rcases hI.origin p rv hgp hpp with h1 | h1 | h1 | h1
          · exact absurd h1 (hst.usedOut v hv.1 rv hrv)
          · have := hst.preLt v rv hrv; omega
          · exact absurd (heq ▸ h1.2.1) (hinv.pnz h1.1 p hp)
          · exact (h1 G.a0 hG.ext0 hG.tie0).symm
  · have hvZ : v ∈ G.Zc := isZeroNow_mem hG.zc (fun w hw h0 => hinv.zres hz w hw h0) _ v hzero
    have hav : allocValue G.x.c G.Zc s.st v = .ok (setReg s v 0).st := by
      unfold allocValue
      simp [hnone, hz, hvZ, setReg]
    have hVM' : v ∈ V → v ∈ M := fun hvV => by
      have := hI.allocd v hvV; rw [hnone] at this; simp at this
    exact LInv.assign hinv (inv_allocValue_live hst hI hv.1 hav hVM' hG.ext0 hG.tie0 hT hMT hv.2.1) hnone rfl rfl
      (fun _ h => h) (fun w hw => List.mem_cons_of_mem _ hw)
      (fun w hw hwv => (List.mem_cons.1 hw).resolve_left hwv)
      (fun _ p hp => hinv.pnz hz p hp) (fun _ _ _ => hvZ)
  · exact (linv_pop_live hst hinv hnone hp).1

theorem At.alloc (hG : G.Ok) {T vs : List ValId} (h : At G s V M P X)
    (hrun : foldL (allocValueR G.x) s vs = .ok s') (hT : PW G.x.c.z G.a0 T)
    (hvs : ∀ v ∈ vs, v ∈ G.U ∧ v ∈ T ∧ v ∉ X) (hMT : ∀ w ∈ M, w ∈ T) :
    At G s' (vs.reverse ++ V) (vs.reverse ++ M) P X := by
  have := Sat.foldlM_done (fun d t => At G t (d ++ V) (d ++ M) P X ∧ ∀ w ∈ d ++ M, w ∈ T) ⟨h, hMT⟩
    (fun d a r t e ⟨ht, htT⟩ t' hr => by
      have ha : a ∈ vs := e ▸ List.mem_append_right _ List.mem_cons_self
      exact ⟨ht.alloc1 hG hr hT (hvs a ha) htT,
        fun w hw => (List.mem_cons.1 hw).elim (fun e => e ▸ (hvs a ha).2.1) (htT w)⟩) s' (foldL_eq_foldlM .. ▸ hrun)
  exact this.1

/-- `free_value`: the register goes back on the stack unless it is reserved -/
theorem At.free1 (hG : G.Ok) {d : ValId} (h : At G s V M P X) (hd : (AL.get s.st.asg d).isSome = true)
    (hclash : ∀ w ∈ M, allocOf s.st.asg w = allocOf s.st.asg d → (G.x.c.z = true ∧ allocOf s.st.asg d = 0)) :
    At G (freeValueR G.x.c s d) V M P X := by
  refine ⟨?_, h.cov, h.pa0⟩
  have hinv := h.inv
  have hg := get_of_isSome hd
  unfold freeValueR
  rw [hg]
  simp only
  unfold pushR
  split
  · exact hinv.frame hinv.inv (fun _ => rfl) rfl hinv.rdisj
  · rename_i hres
    have hfree : freeValue G.x.c s.st d = push G.x.c s.st (allocOf s.st.asg d) := by
      unfold freeValue; rw [hg]
    have hI' := inv_free hG.st hinv.inv hd hclash
    have hasg' := freeValue_asg G.x.c s.st d
    rw [hfree] at hI' hasg'
    refine hinv.frame hI' (fun v => by rw [hasg']) rfl fun q hq hm => ?_
    -- the pushed register is not reserved
    unfold push at hm
    split at hm
    · exact hinv.rdisj q hq hm
    · rcases List.mem_cons.1 hm with e | e
      · rw [e] at hq; exact hres hq
      · exact hinv.rdisj q hq (List.mem_filter.1 e).1

theorem At.free (hG : G.Ok) (ds : List ValId) (h : At G s V M P X)
    (hd : ∀ d ∈ ds, (AL.get s.st.asg d).isSome = true)
    (hclash : ∀ d ∈ ds, ∀ w ∈ M, allocOf s.st.asg w = allocOf s.st.asg d →
      (G.x.c.z = true ∧ allocOf s.st.asg d = 0)) :
    At G (ds.foldl (freeValueR G.x.c) s) V M P X :=
  (foldl_inv (fun t => At G t V M P X ∧ t.st.asg = s.st.asg)
    (fun a ha t ⟨ht, e⟩ => ⟨ht.free1 hG (by rw [e]; exact hd a ha) (by rw [e]; exact hclash a ha),
      (freeValueR_asg ..).trans e⟩) s ⟨h, rfl⟩).1

end Rules

theorem At.pw_af {G : Given} {af : ValId → Reg} {s : LSt} {V M P X : List ValId} (h : At G s V M P X)
    (hf : ∀ v r, AL.get s.st.asg v = some r → af v = r) : PW G.x.c.z af M := by
  intro v hv w hw hne heq
  rw [af_allocOf hf (h.assigned hv), af_allocOf hf (h.assigned hw)] at heq
  rw [af_allocOf hf (h.assigned hv)]
  exact h.inv.inv.pw v hv w hw hne heq

/-- One plain operation (no in/out pairs: RISC-V): results allocated and freed (they are gone from
here on), operands allocated; the operation passes the validator under every assignment that extends
the one reached. -/
theorem At.op {G : Given} (hG : G.Ok) {o : Op} {Z V L P X : List ValId} {s s' : LSt}
    (h : At G s V L P X) (hrun : allocOpR G.x s o = .ok s') (hio : o.ios = [])
    (hU : ∀ v, v ∈ o.reads ∨ v ∈ o.defs → v ∈ G.U ∧ v ∉ X)
    (hgood : opOk G.x.c.z G.a0 Z (Z ++ newZero true Z o) o L = true)
    (hpw0 : PW G.x.c.z G.a0 (liveIn o L))
    (hZc : ∀ d ∈ o.defs, d ∈ G.Zc → d ∈ Z ++ newZero true Z o)
    (hRD : ∀ v ∈ o.reads, v ∉ o.defs) :
    At G s' (o.reads ++ o.defs ++ V) (liveIn o L) P (o.defs ++ X)
      ∧ ∀ af : ValId → Reg, (∀ v r, AL.get s'.st.asg v = some r → af v = r) →
        opOk G.x.c.z af Z (Z ++ newZero true Z o) o L = true := by
  have hreads : o.reads = o.ins := by simp [Op.reads, hio]
  have hdefs : o.defs = o.outs := by simp [Op.defs, hio]
  obtain ⟨_, s2, hs1, hs2, hs3⟩ := allocOpR_ok hrun
  rw [hio] at hs1
  cases hs1
  -- the results: live at their definition, gone above it
  have h2 := h.alloc hG hs2 (pw_defs_append hgood (pw_step hgood hpw0))
    (fun v hv => ⟨(hU v (Or.inr (hdefs ▸ hv))).1, List.mem_append_left _ (hdefs ▸ hv),
      (hU v (Or.inr (hdefs ▸ hv))).2⟩) (fun w hw => List.mem_append_right _ hw)
  have h2' : At G s2 (o.outs.reverse ++ V) (L.filter fun v => !o.defs.contains v) P (o.defs ++ X) :=
    h2.conseq (fun _ => Iff.rfl) (fun v hv => List.mem_append_right _ (mem_filter_not_contains.1 hv).1)
      (fun v hv => by
        by_cases hd : v ∈ o.defs
        · exact Or.inr (Or.inr (List.mem_append_left _ hd))
        · refine Or.inl (mem_filter_not_contains.2 ⟨(List.mem_append.1 hv).resolve_left fun h1 => hd ?_, hd⟩)
          exact hdefs ▸ List.mem_reverse.1 h1)
      (fun v hv => List.mem_append_right _ hv)
  have h3 := At.free hG o.outs.reverse h2'
    (fun d hd => h2.assigned (List.mem_append_left _ hd))
    (fun d hd w hw heq => by
      have hwne : w ≠ d := fun e => (mem_filter_not_contains.1 hw).2 (e ▸ hdefs ▸ List.mem_reverse.1 hd)
      have := h2.inv.inv.pw w (List.mem_append_right _ (mem_filter_not_contains.1 hw).1) d (List.mem_append_left _ hd)
        hwne heq
      exact ⟨this.1, heq ▸ this.2⟩)
  have h4 := h3.alloc hG hs3 hpw0
    (fun v hv => ⟨(hU v (Or.inl (hreads ▸ hv))).1, mem_liveIn_reads (hreads ▸ hv), fun hx =>
      (List.mem_append.1 hx).elim (hRD v (hreads ▸ hv)) (hU v (Or.inl (hreads ▸ hv))).2⟩)
    (fun w hw => mem_liveIn_of_live (mem_filter_not_contains.1 hw).1 (mem_filter_not_contains.1 hw).2)
  have hlive : ∀ v, v ∈ liveIn o L ↔ v ∈ o.ins.reverse ++ L.filter fun v => !o.defs.contains v := fun v => by
    rw [mem_liveIn, List.mem_append, List.mem_reverse, mem_filter_not_contains, hreads]
  refine ⟨h4.conseq (fun v => by simp only [hreads, hdefs, List.mem_append, List.mem_reverse, or_assoc])
    (fun v hv => (hlive v).1 hv) (fun v hv => Or.inl ((hlive v).2 hv)) (fun _ hv => hv), fun af hf => ?_⟩
  -- results and the values live after the operation were live together at `s2` and keep their registers
  have hext : LExt s2 s' := ((lext_rel G.x.c).freeFold _ s2).trans
    ((lext_rel G.x.c).foldL (fun _ _ _ => (lext_rel G.x.c).allocValueR) hs3)
  have hM : ∀ w ∈ o.defs ++ L, w ∈ o.outs.reverse ++ L := fun w hw => by
    rw [List.mem_append, List.mem_reverse, ← hdefs]; exact List.mem_append.1 hw
  exact h2.inv.inv.opOk hG.st hG.ext0 hG.tie0 hgood hZc hM
    (fun w hw => af_allocOf (af_of_ext hext hf) (h2.assigned (hM w hw))) (fun p hp => by simp [hio] at hp)

end Xdsl.RegAllocLoop
