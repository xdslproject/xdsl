import XdslModel.SsaNames
import XdslProofs.Lemmas.AL
/-!
# C07 — parsing fails only with diagnostics (SSA-name table of the parser)

"… either returns IR or reports a parse or verification diagnostic; it … never escapes with an internal
error such as a ValueError, KeyError, IndexError, AssertionError or TypeError."

`XdslModel/SsaNames.lean` models the name table behind every operand of every operation:
`Parser.resolve_operand` (uses, forward references `%x#i` to values not yet defined),
`Parser._register_ssa_definition` (results and block arguments; resolves the forward references), the
value scope of regions and the final "values used but not defined" test.  Python subscripts are
modelled with an explicit `internal` outcome for the missing key.  For every table state — reachable or
not — and every name, tuple index, type and result list:

* `resolve_no_internal`, `define_no_internal`, `run_no_internal` — no `KeyError` / `IndexError`: a use
  yields a value, a placeholder or a `ParseError`; a definition succeeds or is a `ParseError`;
  a whole parse (any event sequence) ends with `done` or the first `ParseError` (`run_cases`);
* `resolve_forward_again` — a forward reference `%x#i` that is repeated gets the same placeholder;
* `resolve_keeps_forward` — recording a forward reference (`%x#j`, or any other name) never loses a
  recorded one (`%x#i`): all tuple indices of an undefined name stay resolvable — the logic that the
  seeded change C07-D broke;
* `define_clears_forward` — a definition removes the forward references of its name, so the final
  test reports exactly the names never defined after their use.

Tied to `/repo` by correspondence (`harness/props/c07.py`, stream `ssa.prog`): generated modules of
generic operations, regions and block arguments; the outcome of `Parser.parse_module` (IR, or which
`ParseError`) against `run` on the module's event sequence.
-/
namespace Xdsl.SsaNames
open Xdsl

/-- the placeholder recorded for `%name#idx`, if any: `forward_ssa_references[name][idx]` -/
def fwdAt (s : St) (name idx : Nat) : Option Val := (s.fwd.get name).bind (fun refs => refs.get idx)

theorem inFwd_eq (s : St) (name idx : Nat) : inFwd s name idx = (fwdAt s name idx).isSome := by
  unfold inFwd fwdAt
  cases s.fwd.get name <;> rfl

/-- the table after `setdefault(name, {})[idx] = v` with a fresh `v` -/
def record (s : St) (name idx : Nat) (v : Val) : St :=
  { s with fwd := s.fwd.set name (((s.fwd.get name).getD []).set idx v), next := s.next + 1 }

theorem fwdAt_record (s : St) (name idx : Nat) (v : Val) (name' idx' : Nat) :
    fwdAt (record s name idx v) name' idx' =
      if name' = name then (if idx' = idx then some v else fwdAt s name idx') else fwdAt s name' idx' := by
  unfold fwdAt record
  simp only [AL.get_set]
  split
  · subst name'
    cases s.fwd.get name <;> simp [AL.get_set]
  · rfl

/-- The ways a use ends, with the table it leaves: the name and index have a placeholder already; the
name is not defined and a new placeholder is recorded; the name is defined and the use is checked
against the definition (a `ParseError`, or the value).  Only the second changes the table; of the
third the relation keeps no more than that. -/
inductive Resolved (s : St) (name idx ty : Nat) : St × Out → Prop
  | again {v : Val} : fwdAt s name idx = some v → Resolved s name idx ty (s, .forward v)
  | fresh : fwdAt s name idx = none →
      Resolved s name idx ty (record s name idx ⟨s.next, ty⟩, .forward ⟨s.next, ty⟩)
  | diag (m : Msg) : fwdAt s name idx = none → Resolved s name idx ty (s, .diag m)
  | value (v : Val) : fwdAt s name idx = none → Resolved s name idx ty (s, .value v)

theorem resolve_resolved (s : St) (name idx ty : Nat) :
    Resolved s name idx ty (resolve s name idx ty) := by
  unfold resolve
  rw [inFwd_eq]
  cases hf : fwdAt s name idx with
  | some v =>
    have hr := hf
    unfold fwdAt at hr
    cases hg : s.fwd.get name with
    | none => rw [hg] at hr; cases hr
    | some refs =>
      rw [hg] at hr
      rw [if_pos Option.isSome_some, sub, show refs.get idx = some v from hr, sub]
      exact .again hf
  | none =>
    rw [if_neg nofun]
    unfold AL.has
    cases s.vals.get name with
    | none => exact .fresh hf
    | some tup =>
      rw [if_neg nofun, sub]
      split
      · exact .diag _ hf
      · rw [List.getElem?_eq_getElem (by omega), sub]
        split
        · exact .diag _ hf
        · exact .value _ hf

theorem resolve_no_internal (s : St) (name idx ty : Nat) (e : Exn) :
    (resolve s name idx ty).2 ≠ .internal e := by
  have := resolve_resolved s name idx ty
  generalize resolve s name idx ty = q at this
  cases this <;> nofun

theorem resolve_records {s : St} {name idx ty : Nat} {v : Val}
    (h : (resolve s name idx ty).2 = .forward v) : fwdAt (resolve s name idx ty).1 name idx = some v := by
  have := resolve_resolved s name idx ty
  generalize resolve s name idx ty = q at this h
  cases this <;> cases h
  · assumption
  · exact (fwdAt_record ..).trans (by rw [if_pos rfl, if_pos rfl])

/-- **resolve_forward_again** — a forward reference `%x#i` used again (with whatever type) gets the very
same placeholder, and the table does not change: all uses are replaced together at the definition. -/
theorem resolve_forward_again (s : St) (name idx ty ty' : Nat) (v : Val)
    (h : (resolve s name idx ty).2 = .forward v) :
    resolve (resolve s name idx ty).1 name idx ty' = ((resolve s name idx ty).1, .forward v) := by
  have hr := resolve_records h
  have := resolve_resolved (resolve s name idx ty).1 name idx ty'
  generalize resolve (resolve s name idx ty).1 name idx ty' = q at this
  cases this <;> cases hr.symm.trans ‹_›
  rfl

/-- **resolve_keeps_forward** — recording a forward reference never loses a recorded one: after a use
of `%x#i` of an undefined `%x`, a use of `%x#j` (or of any other name and index) leaves `%x#i` recorded
with the same placeholder.  (A per-name table that is overwritten instead of extended — the seeded
change C07-D — makes the next `%x#i` a `KeyError`.) -/
theorem resolve_keeps_forward (s : St) (name idx : Nat) (v : Val) (h : fwdAt s name idx = some v)
    (name' idx' ty' : Nat) : fwdAt (resolve s name' idx' ty').1 name idx = some v := by
  have := resolve_resolved s name' idx' ty'
  generalize resolve s name' idx' ty' = q at this
  cases this
  case fresh hn =>
    rw [fwdAt_record]
    split
    · subst name'
      rw [if_neg (fun e => by subst e; rw [h] at hn; cases hn), h]
    · exact h
  all_goals exact h

theorem checkRefs_no_internal (values : List Val) (refs : AL Nat Val) (e : Exn) :
    checkRefs values refs ≠ .internal e := by
  fun_induction checkRefs values refs
  · nofun
  · nofun
  · next hn => rw [List.getElem?_eq_getElem (by omega)] at hn; cases hn
  · nofun
  · next ih => exact ih

/-- What a definition does: of a defined name it is the `ParseError` "already defined" and leaves the
table alone; otherwise it removes the forward references of that name and of no other, and does not
end with an internal error. -/
inductive Defined (s : St) (name : Nat) : St × Out → Prop
  | redefined : s.vals.has name = true → Defined s name (s, .diag .redefined)
  | fresh {s' : St} {o : Out} :
      (∀ n, s'.fwd.get n = if n = name then none else s.fwd.get n) → (∀ e, o ≠ .internal e) →
      Defined s name (s', o)

theorem define_defined (s : St) (name : Nat) (tys : List Nat) : Defined s name (define s name tys) := by
  unfold define
  cases hv : s.vals.has name with
  | true => exact .redefined hv
  | false =>
    rw [if_neg nofun]
    simp only [AL.has]
    cases hg : s.fwd.get name with
    | none =>
      rw [if_neg nofun]
      exact .fresh (fun n => by split; (subst n; exact hg); rfl) nofun
    | some refs =>
      rw [if_pos Option.isSome_some, sub]
      split
      · exact .fresh (fun n => AL.get_del ..) nofun
      · exact .fresh (fun n => AL.get_del ..) fun e => checkRefs_no_internal _ _ e

theorem define_no_internal (s : St) (name : Nat) (tys : List Nat) (e : Exn) :
    (define s name tys).2 ≠ .internal e := by
  have := define_defined s name tys
  generalize define s name tys = q at this
  cases this with
  | redefined => nofun
  | fresh _ ho => exact ho e

/-- **define_clears_forward** — a definition of a name not yet defined removes every forward reference of
that name (resolved, or reported by the `ParseError` of this definition), and touches no other name's. -/
theorem define_clears_forward (s : St) (name : Nat) (tys : List Nat) (h : s.vals.has name = false) :
    (define s name tys).1.fwd.get name = none ∧
    ∀ name' idx, name' ≠ name → fwdAt (define s name tys).1 name' idx = fwdAt s name' idx := by
  have := define_defined s name tys
  generalize define s name tys = q at this
  cases this with
  | redefined hv => rw [h] at hv; cases hv
  | fresh hs _ =>
    refine ⟨by rw [hs, if_pos rfl], fun n' i hn => ?_⟩
    unfold fwdAt
    rw [hs, if_neg hn]

theorem step_no_internal (s : St) (ev : Ev) (e : Exn) : (step s ev).2 ≠ .internal e := by
  cases ev with
  | use n i t => exact resolve_no_internal s n i t e
  | defn n tys => exact define_no_internal s n tys e
  | push => simp [step, push]
  | pop => simp only [step, pop]; split <;> simp
  | finish => simp only [step, finish]; split <;> simp

/-- **run_cases** — "either returns IR or reports a parse … diagnostic": a parse ends with `done` or with
one of the six `ParseError`s of these functions. -/
theorem run_cases (s : St) (es : List Ev) :
    (run s es).2 = .done ∨ ∃ m, (run s es).2 = .diag m := by
  induction es generalizing s with
  | nil => exact .inl rfl
  | cons ev r ih =>
    simp only [run]
    split
    · next h =>
      cases hq : (step s ev).2 with
      | diag m => exact .inr ⟨m, rfl⟩
      | internal e => exact absurd hq (step_no_internal s ev e)
      | _ => rw [hq] at h; cases h
    · exact ih _

/-- **run_no_internal** — "never escapes with an internal error such as a KeyError, IndexError": whatever
the sequence of uses, definitions and region boundaries of a text, from any table state, no
subscript of the name table fails. -/
theorem run_no_internal (s : St) (es : List Ev) (e : Exn) : (run s es).2 ≠ .internal e := by
  rcases run_cases s es with h | ⟨m, h⟩ <;> rw [h] <;> nofun

/-- the final test passes exactly when no forward reference is left -/
theorem finish_done_iff (s : St) : (finish s).2 = .done ↔ s.fwd = [] := by
  unfold finish
  cases s.fwd <;> simp

/-! ## Non-vacuity -/

/-- `"use"(%r#0, %r#1)` before `%r:2 = …` (C07-D's demo): both uses are placeholders, the definition
resolves them, the parse ends without a diagnostic -/
example : (run {} [.use 0 0 0, .use 0 1 1, .defn 0 [0, 1], .finish]).2 = .done := by decide +kernel

/-- an index the later definition does not have: the diagnostic of the definition -/
example : (run {} [.use 0 0 0, .use 0 3 1, .defn 0 [0, 1], .finish]).2 = .diag .fwdIndexTooLarge := by
  decide +kernel

/-- a value defined inside a region is gone after it; a use after the region is a forward reference that
nothing resolves -/
example : (run {} [.push, .defn 0 [0], .pop, .use 0 0 0, .finish]).2 = .diag .usedNotDefined := by
  decide +kernel

/-- after the definition: index and type are checked at the use -/
example : (run {} [.defn 0 [0, 1], .use 0 2 0]).2 = .diag .indexOutOfBounds ∧
    (run {} [.defn 0 [0, 1], .use 0 1 0]).2 = .diag .useTypeMismatch ∧
    (run {} [.defn 0 [0], .defn 0 [0]]).2 = .diag .redefined ∧
    (run {} [.use 0 0 1, .defn 0 [0]]).2 = .diag .fwdTypeMismatch := by decide +kernel

end Xdsl.SsaNames
