import XdslProofs.C15
import XdslProofs.Lemmas.SemInt
import XdslModel.Generated.ArithInterp
/-!
# C15 ↔ reference semantics: the interpreter kernels compute what the program-level oracle executes

`XdslProofs/C15.lean` states the meaning of every translated kernel `run_*` of
`xdsl/interpreters/arith.py` against `BitVec` operations written out in the theorem statements.  The
program-level checks (C13, C14, C15, C16, C28) compare the real interpreter / real passes against
`Sem.run`, whose integer operations are `Sem.intBin` and `Sem.cmpi`.  This file proves that these are
the *same* definitions: for each of the 11 translated binary kernels, `Sem.intBin "<op>"` applied to
the bit patterns of the operands returns the bit pattern of the kernel's result or reports `ub`
(`intBin_kernel`; `ub` on the inputs excluded by the C15 theorems or more: the equations of
`Lemmas/SemInt.lean` give the condition), and `Sem.cmpi` is C15's `bvcmp`.

`w` is the type's bit width, `a b` arbitrary Python ints (any representative of the operands).
-/
namespace Xdsl.C15Sem
open Xdsl.Generated.Comparisons Xdsl.Generated.ArithInterp Xdsl.Sem Xdsl.SemMeta Xdsl.C15

/-- whenever `Sem` defines the division (returns a value), the Python `assert`s of the three kernels
are satisfied -/
theorem div_pre_of_sem_val (w : Nat) (a b : Int) (h : sdivUB (BitVec.ofInt w a) (BitVec.ofInt w b) = false) :
    run_divsi_pre w a b = true ∧ run_remsi_pre w a b = true ∧ run_floordivsi_pre w a b = true := by
  obtain ⟨hb, hov⟩ := sdivUB_eq_false_iff.mp h
  exact ⟨(run_divsi_spec w a b hb hov).1, (run_remsi_spec w a b hb).1, (run_floordivsi_spec w a b hb).1⟩

/-- the translated kernel for an operation name -/
def kernel : String → Option (Int → Int → Int → Int)
  | "arith.addi" => some run_addi | "arith.subi" => some run_subi | "arith.muli" => some run_muli
  | "arith.andi" => some run_andi | "arith.ori" => some run_ori | "arith.xori" => some run_xori
  | "arith.shli" => some run_shlsi | "arith.shrsi" => some run_shrsi
  | "arith.divsi" => some run_divsi | "arith.remsi" => some run_remsi
  | "arith.floordivsi" => some run_floordivsi
  | _ => none

/-- the 11 operation names with a translated kernel -/
def kernelNames : List String :=
  ["arith.addi", "arith.subi", "arith.muli", "arith.andi", "arith.ori", "arith.xori", "arith.shli",
   "arith.shrsi", "arith.divsi", "arith.remsi", "arith.floordivsi"]

theorem kernel_isSome_iff (nm : String) : (kernel nm).isSome ↔ nm ∈ kernelNames := by
  constructor
  · intro h
    unfold kernel at h
    split at h <;> simp only [kernelNames, List.mem_cons, true_or, or_true]
    -- left over: the arm `_ => none`
    cases h
  · exact (by decide +kernel : ∀ n ∈ kernelNames, (kernel n).isSome = true) nm

/-- the shape of `Sem.intBin` on the operations with undefined inputs -/
theorem ub_or_val {w : Nat} {c : Prop} [Decidable c] {x y : BitVec w} (h : ¬ c → x = y) :
    (if c then IntRes.ub else .val x) = .ub ∨ (if c then IntRes.ub else .val x) = .val y := by
  split
  · exact .inl rfl
  · exact .inr (congrArg _ (h ‹_›))

/-- For each of the 11 operations `Sem.intBin`, applied to the bit patterns of the operands, reports
undefined behaviour (a shift by the width or more; a division inside `sdivUB`) or returns the bit
pattern of the kernel's result — for all widths and all representatives of the operands. -/
theorem intBin_kernel (nm : String) (k : Int → Int → Int → Int) (hk : kernel nm = some k)
    (w : Nat) (a b : Int) :
    intBin nm (BitVec.ofInt w a) (BitVec.ofInt w b) = .ub
    ∨ intBin nm (BitVec.ofInt w a) (BitVec.ofInt w b) = .val (BitVec.ofInt w (k w a b)) := by
  unfold kernel at hk
  split at hk <;> cases hk
  · exact .inr (by rw [intBin_addi, (run_addi_spec w a b).1])
  · exact .inr (by rw [intBin_subi, (run_subi_spec w a b).1])
  · exact .inr (by rw [intBin_muli, (run_muli_spec w a b).1])
  · exact .inr (by rw [intBin_andi, (run_andi_spec w a b).1])
  · exact .inr (by rw [intBin_ori, (run_ori_spec w a b).1])
  · exact .inr (by rw [intBin_xori, (run_xori_spec w a b).1])
  · rw [intBin_shli]; exact ub_or_val fun _ => (run_shlsi_spec w a b).1.symm
  · rw [intBin_shrsi]; exact ub_or_val fun _ => (run_shrsi_spec w a b).1.symm
  · rw [intBin_divsi]
    exact ub_or_val fun h =>
      have ⟨hb, hov⟩ := sdivUB_eq_false_iff.mp (Bool.eq_false_iff.mpr h)
      (run_divsi_spec w a b hb hov).2.1.symm
  · rw [intBin_remsi]
    exact ub_or_val fun h =>
      (run_remsi_range w a b (sdivUB_eq_false_iff.mp (Bool.eq_false_iff.mpr h)).1).1.symm
  · rw [intBin_floordivsi]
    exact ub_or_val fun h =>
      (run_floordivsi_spec w a b (sdivUB_eq_false_iff.mp (Bool.eq_false_iff.mpr h)).1).2.1.symm

/-- **Every value the reference semantics returns for one of the 11 operations is the bit pattern of
the interpreter kernel's result**, for all widths and all representatives of the operands. -/
theorem intBin_val_eq_kernel (nm : String) (k : Int → Int → Int → Int) (hk : kernel nm = some k)
    (w : Nat) (a b : Int) (v : BitVec w)
    (hv : intBin nm (BitVec.ofInt w a) (BitVec.ofInt w b) = .val v) :
    BitVec.ofInt w (k w a b) = v := by
  rcases intBin_kernel nm k hk w a b with h | h <;> rw [h] at hv <;> cases hv
  rfl

/-- program level: when `Sem.pureOp` (what `Sem.runOp` executes for an `arith` operation) returns a
value for one of the 11 operations on integer operands, it is the kernel's result -/
theorem pureOp_val_eq_kernel (o : MiniIR.Op) (k : Int → Int → Int → Int) (hk : kernel o.name = some k)
    (w : Nat) (a b : Int) (rs : List Val)
    (hv : pureOp o [.int w (BitVec.ofInt w a), .int w (BitVec.ofInt w b)] = .ok rs) :
    rs = [.int w (BitVec.ofInt w (k w a b))] := by
  have hne : o.name ≠ "arith.cmpi" := by
    intro e; rw [e] at hk; cases hk
  rw [pureOp_int_bin o _ _ hne] at hv
  split at hv
  · rename_i v hi
    cases hv
    rw [intBin_val_eq_kernel o.name k hk w a b v hi]
  all_goals cases hv

/-- `Sem.cmpi` is the predicate table the C15 theorems are stated against -/
theorem cmpi_eq_bvcmp {w : Nat} (p : Int) (x y : BitVec w) : cmpi p x y = bvcmp p x y := rfl

/-- `eq`, `ne` and the signed predicates: the interpreter kernel agrees with `Sem.cmpi` on the bit
patterns, for every representative of the operands -/
theorem run_cmpi_signed_sem (w : Nat) (p : Int) (hp : 0 ≤ p ∧ p ≤ 5) (a b : Int) :
    run_cmpi w p a b = cmpi p (BitVec.ofInt w a) (BitVec.ofInt w b) := by
  rw [cmpi_eq_bvcmp]; exact run_cmpi_signed_spec w p hp a b

/-- unsigned predicates — **partial** (see `C15.run_cmpi_unsigned_partial`): only for operands given
as their unsigned representatives -/
theorem run_cmpi_unsigned_sem_partial (w : Nat) (p : Int) (hp : 6 ≤ p ∧ p ≤ 9) (a b : Int)
    (ha : 0 ≤ a ∧ a < 2 ^ w) (hb : 0 ≤ b ∧ b < 2 ^ w) :
    run_cmpi w p a b = cmpi p (BitVec.ofInt w a) (BitVec.ofInt w b) := by
  rw [cmpi_eq_bvcmp]; exact run_cmpi_unsigned_partial w p hp a b ha hb

/-- the known disagreement, against `Sem.cmpi`: `ult(-1, 1) : i8` -/
theorem run_cmpi_unsigned_sem_counterexample :
    run_cmpi 8 6 (-1) 1 = some true ∧ cmpi 6 (BitVec.ofInt 8 (-1)) (BitVec.ofInt 8 1) = some false :=
  run_cmpi_unsigned_counterexample

/-- unknown predicates are rejected by both -/
theorem run_cmpi_bad_pred (w : Nat) (p : Int) (hp : p < 0 ∨ 9 < p) (a b : Int) :
    run_cmpi w p a b = none ∧ cmpi p (BitVec.ofInt w a) (BitVec.ofInt w b) = none :=
  have h := bvcmp_none p hp (BitVec.ofInt w a) (BitVec.ofInt w b)
  ⟨(run_cmpi_spec w p a b fun h6 => absurd h6 (by omega)).trans h, h⟩

/-- non-vacuity: `7 / -2 : i4` is defined by `Sem` (outside `sdivUB`) -/
example : sdivUB (BitVec.ofInt 4 7) (BitVec.ofInt 4 (-2)) = false := by decide

end Xdsl.C15Sem
