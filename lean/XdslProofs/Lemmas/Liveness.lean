import XdslModel.Liveness
import XdslProofs.Lemmas.List
/-!
For C25 (model: `XdslModel/Liveness.lean`): the specification (`Root`, `Feeds`, `Live`; `LiveAll` without the
gating) and the lemmas of its proof: what one call of each function of the solver can do (`mark_cases`,
`visit_cases`, `step_facts`); what a state and its successors have in common (`Ext`, and `Adv`, which counts
pops against the termination potential); the solver invariant (`InvAt`; `Inv` between iterations from any
start, `Ready` once initialisation is through).
-/
namespace Xdsl.Liveness

/-- the parent block of `op` is marked executable at some time (before or after the initialisation
of the liveness analysis) — ops of other blocks are never looked at by the analysis -/
def ExecP (p : Prog) (op : Op) : Prop := op.blk ∈ p.pre ∨ op.blk ∈ p.post

/-- `v` is demanded at a boundary: a pre-seeded / exit value, or an operand of an op (in an executable
block) that is not trivially removable (`would_be_trivially_dead(op) = False`: side effects,
terminator such as `func.return`, symbol op). -/
def Root (p : Prog) (v : Nat) : Prop :=
  v ∈ p.seeds ∨ v ∈ p.exits ∨ ∃ op ∈ p.ops, ExecP p op ∧ op.wbd = false ∧ v ∈ op.operands

def Feeds (p : Prog) (a b : Nat) : Prop :=
  ∃ op ∈ p.ops, ExecP p op ∧ a ∈ op.operands ∧ b ∈ op.results

/-- The specified liveness: the least set containing the roots and closed under "operand of an op
with a live result" (restricted to the value ids `< nvals` that have a lattice). -/
inductive Live (p : Prog) : Nat → Prop
  | root {v : Nat} : v < p.nvals → Root p v → Live p v
  | step {v r : Nat} : v < p.nvals → Feeds p v r → Live p r → Live p v

theorem Live.lt {p : Prog} {v : Nat} (h : Live p v) : v < p.nvals := by
  cases h <;> assumption

/-- one application of the closure whose least fixpoint is `Live p` -/
def F (p : Prog) (S : Nat → Prop) (v : Nat) : Prop :=
  v < p.nvals ∧ (Root p v ∨ ∃ r, Feeds p v r ∧ S r)

theorem F_congr (p : Prog) {S T : Nat → Prop} (h : ∀ v, S v ↔ T v) (v : Nat) : F p S v ↔ F p T v := by
  unfold F
  constructor
  · rintro ⟨hlt, hr | ⟨r, hf, hs⟩⟩
    · exact ⟨hlt, Or.inl hr⟩
    · exact ⟨hlt, Or.inr ⟨r, hf, (h r).1 hs⟩⟩
  · rintro ⟨hlt, hr | ⟨r, hf, hs⟩⟩
    · exact ⟨hlt, Or.inl hr⟩
    · exact ⟨hlt, Or.inr ⟨r, hf, (h r).2 hs⟩⟩

/-- "directly or through a chain of operands": `Chain p v u` — `v` reaches `u` along operand→result edges -/
inductive Chain (p : Prog) : Nat → Nat → Prop
  | refl (v : Nat) : Chain p v v
  | cons {a b c : Nat} : Feeds p a b → Chain p b c → Chain p a c

/-- every mentioned operand / seed / exit id has a lattice (`< nvals`) -/
def WF (p : Prog) : Prop :=
  (∀ op ∈ p.ops, ∀ o ∈ op.operands, o < p.nvals) ∧ (∀ v ∈ p.seeds, v < p.nvals) ∧
  (∀ v ∈ p.exits, v < p.nvals)

theorem Root.lt {p : Prog} (hwf : WF p) {v : Nat} (h : Root p v) : v < p.nvals := by
  rcases h with h | h | ⟨op, hop, _, _, ho⟩
  · exact hwf.2.1 v h
  · exact hwf.2.2 v h
  · exact hwf.1 op hop v ho

theorem Feeds.lt {p : Prog} (hwf : WF p) {a b : Nat} (h : Feeds p a b) : a < p.nvals := by
  obtain ⟨op, hop, _, ho, _⟩ := h
  exact hwf.1 op hop a ho

def AllExec (p : Prog) : Prop := ∀ op ∈ p.ops, ExecP p op

/-- the ungated `Root`: every op counts -/
def RootAll (p : Prog) (v : Nat) : Prop :=
  v ∈ p.seeds ∨ v ∈ p.exits ∨ ∃ op ∈ p.ops, op.wbd = false ∧ v ∈ op.operands

def FeedsAll (p : Prog) (a b : Nat) : Prop := ∃ op ∈ p.ops, a ∈ op.operands ∧ b ∈ op.results

/-- the liveness specification of a program all of whose blocks are executable -/
inductive LiveAll (p : Prog) : Nat → Prop
  | root {v : Nat} : v < p.nvals → RootAll p v → LiveAll p v
  | step {v r : Nat} : v < p.nvals → FeedsAll p v r → LiveAll p r → LiveAll p v

theorem Live.toAll {p : Prog} {v : Nat} (h : Live p v) : LiveAll p v := by
  induction h with
  | root hlt hr =>
    refine LiveAll.root hlt ?_
    rcases hr with h | h | ⟨op, hop, _, hw, ho⟩
    · exact Or.inl h
    · exact Or.inr (Or.inl h)
    · exact Or.inr (Or.inr ⟨op, hop, hw, ho⟩)
  | step hlt hf _ ih =>
    obtain ⟨op, hop, _, ho, hr⟩ := hf
    exact LiveAll.step hlt ⟨op, hop, ho, hr⟩ ih

theorem LiveAll.toLive {p : Prog} (hall : AllExec p) {v : Nat} (h : LiveAll p v) : Live p v := by
  induction h with
  | root hlt hr =>
    refine Live.root hlt ?_
    rcases hr with h | h | ⟨op, hop, hw, ho⟩
    · exact Or.inl h
    · exact Or.inr (Or.inl h)
    · exact Or.inr (Or.inr ⟨op, hop, hall op hop, hw, ho⟩)
  | step hlt hf _ ih =>
    obtain ⟨op, hop, ho, hr⟩ := hf
    exact Live.step hlt ⟨op, hop, hall op hop, ho, hr⟩ ih

theorem Live.mono {p q : Prog} (hn : p.nvals = q.nvals) (hr : ∀ v, Root p v → Root q v)
    (hf : ∀ a b, Feeds p a b → Feeds q a b) {v : Nat} (h : Live p v) : Live q v := by
  induction h with
  | root hlt hr' => exact .root (hn ▸ hlt) (hr _ hr')
  | step hlt hf' _ ih => exact .step (hn ▸ hlt) (hf _ _ hf') ih

theorem Live.mono_exec {p q : Prog} (hn : q.nvals = p.nvals) (ho : q.ops = p.ops)
    (hs : q.seeds = p.seeds) (he : q.exits = p.exits)
    (hx : ∀ b, (b ∈ p.pre ∨ b ∈ p.post) → (b ∈ q.pre ∨ b ∈ q.post)) {v : Nat} (h : Live p v) :
    Live q v :=
  h.mono hn.symm
    (fun _ hr => hr.imp (hs ▸ ·) (Or.imp (he ▸ ·) fun ⟨op, hop, hex, hw, hv⟩ =>
      ⟨op, ho ▸ hop, hx _ hex, hw, hv⟩))
    (fun _ _ ⟨op, hop, hex, hv, hr⟩ => ⟨op, ho ▸ hop, hx _ hex, hv, hr⟩)

theorem Live.used {p : Prog} {v : Nat} (h : Live p v) :
    v ∈ p.seeds ∨ v ∈ p.exits ∨ ∃ op ∈ p.ops, ExecP p op ∧ v ∈ op.operands := by
  cases h with
  | root _ hr =>
    rcases hr with h | h | ⟨op, hop, hex, _, hv⟩
    · exact Or.inl h
    · exact Or.inr (Or.inl h)
    · exact Or.inr (Or.inr ⟨op, hop, hex, hv⟩)
  | step _ hf _ =>
    obtain ⟨op, hop, hex, hv, _⟩ := hf
    exact Or.inr (Or.inr ⟨op, hop, hex, hv⟩)

theorem lt_of_getElem? {α : Type} {l : List α} {i : Nat} {a : α} (h : l[i]? = some a) : i < l.length :=
  (List.getElem?_eq_some_iff.1 h).1

theorem getD_set_true_iff (l : List Bool) (v u : Nat) :
    (l.set v true).getD u false = true ↔ l.getD u false = true ∨ (u = v ∧ v < l.length) := by
  rw [getD_set]
  split <;> rename_i h
  · exact iff_of_true rfl (Or.inr h)
  · exact (or_iff_left h).symm

theorem getD_set_true_mono (l : List Bool) (j i : Nat) (h : l.getD i false = true) :
    (l.set j true).getD i false = true := (getD_set_true_iff l j i).2 (Or.inl h)

theorem getD_set_true_self (l : List Bool) (j : Nat) (h : j < l.length) :
    (l.set j true).getD j false = true := (getD_set_true_iff l j j).2 (Or.inr ⟨rfl, h⟩)

theorem getD_set_true_ne (l : List Bool) (j i : Nat) (hne : i ≠ j)
    (h : (l.set j true).getD i false = true) : l.getD i false = true :=
  ((getD_set_true_iff l j i).1 h).resolve_right fun e => hne e.1

theorem mark_cases (p : Prog) (st : St) (v : Nat) :
    (mark p st v = st ∧ (v < st.live.length → isLive st v = true)) ∨
    (v < st.live.length ∧ isLive st v = false ∧
      mark p st v = { st with live := st.live.set v true, wl := st.wl ++ deps p st v }) := by
  unfold mark
  split
  · rename_i h
    simp only [Bool.and_eq_true, decide_eq_true_eq, Bool.not_eq_true'] at h
    exact Or.inr ⟨h.1, h.2, rfl⟩
  · rename_i h
    refine Or.inl ⟨rfl, fun hlt => ?_⟩
    cases hl : isLive st v
    · simp only [hlt, hl, decide_true, Bool.not_false, Bool.and_self, not_true_eq_false] at h
    · rfl

theorem mem_deps {p : Prog} {st : St} {v i : Nat} {op : Op} (hop : p.ops[i]? = some op)
    (hreg : st.reg.getD i false = true) (hr : v ∈ op.results) : i ∈ deps p st v := by
  refine List.mem_filter.2 ⟨List.mem_range.2 (lt_of_getElem? hop), ?_⟩
  simp only [hreg, hasResult, hop, Bool.true_and, List.contains_iff_mem, hr]

theorem deps_length (p : Prog) (st : St) (v : Nat) : (deps p st v).length ≤ p.ops.length :=
  Nat.le_trans (List.length_filter_le _ _) (Nat.le_of_eq List.length_range)

theorem markAll_nil (p : Prog) (st : St) : markAll p st [] = st := rfl

theorem markAll_cons (p : Prog) (st : St) (v : Nat) (vs : List Nat) :
    markAll p st (v :: vs) = markAll p (mark p st v) vs := rfl

-- `st0`, `st1`, `visitBody`: the body of `visit` cut at its `let`s (`visit_eq`), a lemma for each stage
def st0 (j : Nat) (st : St) : St := { st with reg := st.reg.set j true }

def st1 (p : Prog) (j : Nat) (op : Op) (st : St) : St :=
  if op.wbd then st0 j st else markAll p (st0 j st) op.operands

def visitBody (p : Prog) (j : Nat) (op : Op) (st : St) : St :=
  if op.results.any (isLive (st1 p j op st)) then markAll p (st1 p j op st) op.operands
  else st1 p j op st

theorem visit_eq (p : Prog) (j : Nat) (st : St) :
    visit p j st = match p.ops[j]? with
      | none => st
      | some op =>
        if op.operands.isEmpty then st
        else if !isExec st op.blk then st else visitBody p j op st := rfl

theorem isLive_st0 (j : Nat) (st : St) (v : Nat) : isLive (st0 j st) v = isLive st v := rfl

theorem visitBody_ind (Q : St → Prop) (p : Prog) (j : Nat) (op : Op) (st : St) (h0 : Q (st0 j st))
    (hm : ∀ s, Q s → Q (markAll p s op.operands)) : Q (visitBody p j op st) := by
  have h1 : Q (st1 p j op st) := by
    unfold st1; split
    · exact h0
    · exact hm _ h0
  unfold visitBody; split
  · exact hm _ h1
  · exact h1

theorem visit_cases (p : Prog) (j : Nat) (st : St) :
    (visit p j st = st ∧ ∀ op, p.ops[j]? = some op → op.operands = [] ∨ isExec st op.blk = false) ∨
    ∃ op, p.ops[j]? = some op ∧ op.operands ≠ [] ∧ isExec st op.blk = true ∧
      visit p j st = visitBody p j op st := by
  cases hop : p.ops[j]? with
  | none => exact Or.inl ⟨by rw [visit_eq, hop], fun _ h => nomatch h⟩
  | some op =>
    have e : visit p j st =
        if op.operands.isEmpty then st else if !isExec st op.blk then st else visitBody p j op st := by
      rw [visit_eq, hop]
    rw [e]
    by_cases he : op.operands.isEmpty = true
    · rw [if_pos he]
      exact Or.inl ⟨rfl, fun _ h => Option.some.inj h ▸ Or.inl (List.isEmpty_iff.1 he)⟩
    · rw [if_neg he]
      cases hx : isExec st op.blk with
      | false => exact Or.inl ⟨rfl, fun _ h => Option.some.inj h ▸ Or.inr hx⟩
      | true => exact Or.inr ⟨op, rfl, fun e => he (List.isEmpty_iff.2 e), hx, rfl⟩

/-- `visit` does nothing or registers `j` and then marks values: what registering and marking keep, it
keeps -/
theorem visit_ind (Q : St → Prop) (p : Prog) (j : Nat) (st : St) (h : Q st) (h0 : Q (st0 j st))
    (hm : ∀ s v, Q s → Q (mark p s v)) : Q (visit p j st) := by
  rcases visit_cases p j st with ⟨e, _⟩ | ⟨op, _, _, _, e⟩ <;> rw [e]
  · exact h
  · exact visitBody_ind Q p j op st h0 fun s hs => foldl_inv Q (fun v _ s => hm s v) s hs

def walk (p : Prog) (js : List Nat) (st : St) : St := js.foldl (fun st j => visit p j st) st

def enableAll (p : Prog) (st : St) (bs : List Nat) : St := bs.foldl (enable p) st

theorem init_eq (p : Prog) :
    init p = enableAll p
      (markAll p (walk p (List.range p.ops.length).reverse (init0 p)) p.exits) p.post := rfl

theorem isExec_enable (p : Prog) (st : St) (b c : Nat) :
    isExec (enable p st b) c = true ↔ isExec st c = true ∨ c = b := by
  unfold enable
  split
  · rename_i h
    exact ⟨Or.inl, fun h' => h'.elim id fun e => e ▸ h⟩
  · simp only [isExec, List.contains_cons, Bool.or_eq_true, beq_iff_eq]
    exact or_comm

theorem enable_trace (p : Prog) (st : St) (b : Nat) : (enable p st b).trace = st.trace := by
  unfold enable; split <;> rfl

theorem enableAll_trace (p : Prog) (bs : List Nat) (st : St) :
    (enableAll p st bs).trace = st.trace :=
  foldl_inv (·.trace = st.trace) (fun b _ s h => (enable_trace p s b).trans h) st rfl

theorem mem_blockOps {p : Prog} {i : Nat} {op : Op} (hop : p.ops[i]? = some op) :
    i ∈ blockOps p op.blk := by
  refine List.mem_filter.2 ⟨List.mem_range.2 (lt_of_getElem? hop), ?_⟩
  simp only [hop, beq_self_eq_true]

theorem mem_eraseIdx_of_ne {l : List Nat} {i x j : Nat} (hx : x ∈ l) (hj : l[i]? = some j)
    (hne : x ≠ j) : x ∈ l.eraseIdx i := by
  obtain ⟨m, hm, e⟩ := List.mem_iff_getElem.1 hx
  refine List.mem_eraseIdx_iff_getElem.2 ⟨m, hm, ?_, e⟩
  rintro rfl
  rw [List.getElem?_eq_getElem hm] at hj
  exact hne (e.symm.trans (Option.some.inj hj))

theorem step_facts (p : Prog) (pick : Sched) (k : Nat) (st : St) (hne : st.wl ≠ []) :
    ∃ i j, i < st.wl.length ∧ st.wl[i]? = some j ∧
      step p pick k st = visit p j { st with wl := st.wl.eraseIdx i, trace := j :: st.trace } := by
  have hpos : 0 < st.wl.length := List.length_pos_iff.2 hne
  refine ⟨pick k st.wl % st.wl.length, st.wl.getD (pick k st.wl % st.wl.length) 0,
    Nat.mod_lt _ hpos, ?_, rfl⟩
  rw [List.getD_eq_getElem?_getD, List.getElem?_eq_getElem (Nat.mod_lt _ hpos)]
  rfl

theorem run_zero (p : Prog) (pick : Sched) (k : Nat) (st : St) : run p pick 0 k st = st := rfl

theorem run_succ (p : Prog) (pick : Sched) (f k : Nat) (st : St) :
    run p pick (f + 1) k st =
      if st.wl.isEmpty then st else run p pick f (k + 1) (step p pick k st) := rfl

theorem run_ind (Q : St → Prop) (p : Prog) (pick : Sched)
    (hstep : ∀ k st, Q st → st.wl ≠ [] → Q (step p pick k st)) (f k : Nat) (st : St) (h : Q st) :
    Q (run p pick f k st) := by
  fun_induction run p pick f k st with
  | case1 | case2 => exact h
  | case3 f k st hne ih => exact ih (hstep k st h fun e => hne (e ▸ rfl))

theorem run_of_wl_nil (p : Prog) (pick : Sched) (f k : Nat) (st : St) (h : st.wl = []) :
    run p pick f k st = st := by
  fun_cases run p pick f k st
  · rfl
  · rfl
  · rename_i hne; exact absurd (h ▸ rfl) hne

theorem run_extra (p : Prog) (pick : Sched) (f e k : Nat) (st : St)
    (h : (run p pick f k st).wl = []) : run p pick (f + e) k st = run p pick f k st := by
  fun_induction run p pick f k st with
  | case1 k st => rw [Nat.zero_add]; exact run_of_wl_nil p pick e k st h
  | case2 f k st he => exact run_of_wl_nil p pick _ k st (List.isEmpty_iff.1 he)
  | case3 f k st hne ih => rw [Nat.succ_add, run, if_neg hne]; exact ih h

/-- Every function of the solver only sets bits and enables blocks: what is live, registered or executable
stays so. -/
structure Ext (s t : St) : Prop where
  len  : t.live.length = s.live.length
  live : ∀ v, isLive s v = true → isLive t v = true
  reg  : ∀ i, s.reg.getD i false = true → t.reg.getD i false = true
  exec : ∀ b, isExec s b = true → isExec t b = true

theorem Ext.refl (s : St) : Ext s s := ⟨rfl, fun _ h => h, fun _ h => h, fun _ h => h⟩

theorem Ext.trans {a b c : St} (h1 : Ext a b) (h2 : Ext b c) : Ext a c :=
  ⟨h2.len.trans h1.len, fun v h => h2.live v (h1.live v h), fun i h => h2.reg i (h1.reg i h),
    fun b h => h2.exec b (h1.exec b h)⟩

def dead (st : St) : Nat := st.live.count false

/-- one `mark` turns one dead value live and enqueues its dependents, at most `p.ops.length` of them
(`deps_length`): a dead value is worth that many work items -/
def pot (p : Prog) (st : St) : Nat := st.wl.length + p.ops.length * dead st

theorem count_false_set {l : List Bool} {v : Nat} (hv : v < l.length) (hd : l.getD v false = false) :
    (l.set v true).count false + 1 = l.count false := by
  have e : l[v] = false := by
    simpa [List.getD_eq_getElem?_getD, List.getElem?_eq_getElem hv] using hd
  have hpos : 0 < l.count false := List.count_pos_iff.2 (e ▸ List.getElem_mem hv)
  rw [List.count_set hv, e]
  simp
  omega

/-- `t` comes from `s` by `n` pops and any number of registrations and marks (no block is enabled):
each pop lengthens the trace by one and is paid for out of the potential.  Every function but `enable`
is such a step for some `n`; termination, the pop bound and `Le` are read off `run_adv`. -/
structure Adv (p : Prog) (n : Nat) (s t : St) : Prop extends Ext s t where
  trace : t.trace.length = s.trace.length + n
  pot   : pot p t + n ≤ pot p s

theorem Adv.refl (p : Prog) (s : St) : Adv p 0 s s := ⟨Ext.refl s, rfl, Nat.le_refl _⟩

theorem Adv.trans {p : Prog} {n m : Nat} {a b c : St} (h1 : Adv p n a b) (h2 : Adv p m b c) :
    Adv p (n + m) a c :=
  ⟨h1.toExt.trans h2.toExt, by rw [h2.trace, h1.trace, Nat.add_assoc], by
    have := h1.pot; have := h2.pot; omega⟩

theorem Adv.foldl {α : Type} (p : Prog) (f : St → α → St) (l : List α) (s : St)
    (hf : ∀ s, ∀ a ∈ l, Adv p 0 s (f s a)) : Adv p 0 s (l.foldl f s) :=
  foldl_inv (Adv p 0 s) (fun a ha s' h => h.trans (hf s' a ha)) s (Adv.refl p s)

theorem mark_adv (p : Prog) (st : St) (v : Nat) : Adv p 0 st (mark p st v) := by
  rcases mark_cases p st v with ⟨e, _⟩ | ⟨h1, h2, e⟩ <;> rw [e]
  · exact Adv.refl p st
  · refine ⟨⟨List.length_set, fun u => getD_set_true_mono st.live v u, fun _ h => h, fun _ h => h⟩, rfl, ?_⟩
    have hd := count_false_set h1 h2
    have hl := deps_length p st v
    simp only [pot, dead, List.length_append]
    rw [← hd, Nat.mul_add]
    omega

theorem st0_adv (p : Prog) (j : Nat) (st : St) : Adv p 0 st (st0 j st) :=
  ⟨⟨rfl, fun _ h => h, fun i => getD_set_true_mono st.reg j i, fun _ h => h⟩, rfl, Nat.le_refl _⟩

theorem markAll_adv (p : Prog) (st : St) (vs : List Nat) : Adv p 0 st (markAll p st vs) :=
  Adv.foldl p _ vs st fun s v _ => mark_adv p s v

theorem st1_adv (p : Prog) (j : Nat) (op : Op) (st : St) : Adv p 0 st (st1 p j op st) := by
  unfold st1; split
  · exact st0_adv p j st
  · exact (st0_adv p j st).trans (markAll_adv p _ _)

theorem visit_adv (p : Prog) (j : Nat) (st : St) : Adv p 0 st (visit p j st) :=
  visit_ind (Adv p 0 st) p j st (Adv.refl p st) (st0_adv p j st) fun s v h => h.trans (mark_adv p s v)

theorem walk_adv (p : Prog) (js : List Nat) (st : St) : Adv p 0 st (walk p js st) :=
  Adv.foldl p _ js st fun s j _ => visit_adv p j s

theorem step_adv (p : Prog) (pick : Sched) (k : Nat) (st : St) (hne : st.wl ≠ []) :
    Adv p 1 st (step p pick k st) := by
  obtain ⟨i, j, hi, _, heq⟩ := step_facts p pick k st hne
  rw [heq]
  have hpop : Adv p 1 st { st with wl := st.wl.eraseIdx i, trace := j :: st.trace } := by
    refine ⟨⟨rfl, fun _ h => h, fun _ h => h, fun _ h => h⟩, rfl, ?_⟩
    simp only [pot, dead, List.length_eraseIdx, hi, if_true]
    omega
  exact hpop.trans (visit_adv p j _)

theorem run_adv (p : Prog) (pick : Sched) (f k : Nat) (st : St) :
    ∃ n, n ≤ f ∧ Adv p n st (run p pick f k st) ∧ ((run p pick f k st).wl = [] ∨ n = f) := by
  fun_induction run p pick f k st with
  | case1 k st => exact ⟨0, Nat.le_refl _, Adv.refl p st, Or.inr rfl⟩
  | case2 f k st he => exact ⟨0, Nat.zero_le _, Adv.refl p st, Or.inl (List.isEmpty_iff.1 he)⟩
  | case3 f k st hne ih =>
    obtain ⟨n, hn, ha, hw⟩ := ih
    refine ⟨1 + n, by omega, (step_adv p pick k st fun e => hne (e ▸ rfl)).trans ha, hw.imp id ?_⟩
    omega

def Le (st st' : St) : Prop :=
  (∀ v, isLive st v = true → isLive st' v = true) ∧
  (∀ i, st.reg.getD i false = true → st'.reg.getD i false = true)

theorem Le.refl (st : St) : Le st st := ⟨fun _ h => h, fun _ h => h⟩

theorem Le.trans {a b c : St} (h1 : Le a b) (h2 : Le b c) : Le a c :=
  ⟨fun v h => h2.1 v (h1.1 v h), fun i h => h2.2 i (h1.2 i h)⟩

theorem Ext.le {s t : St} (h : Ext s t) : Le s t := ⟨h.live, h.reg⟩

theorem run_le (p : Prog) (pick : Sched) (f k : Nat) (st : St) : Le st (run p pick f k st) :=
  let ⟨_, _, h, _⟩ := run_adv p pick f k st; h.toExt.le

theorem run_wl (p : Prog) (pick : Sched) (f k : Nat) (st : St) (h : pot p st ≤ f) :
    (run p pick f k st).wl = [] := by
  obtain ⟨n, _, ha, hw | rfl⟩ := run_adv p pick f k st
  · exact hw
  · have := ha.pot
    exact List.length_eq_zero_iff.1 (by unfold pot at this h; omega)

theorem run_trace (p : Prog) (pick : Sched) (f k : Nat) (st : St) :
    (run p pick f k st).trace.length ≤ st.trace.length + f := by
  obtain ⟨n, hn, ha, _⟩ := run_adv p pick f k st
  rw [ha.trace]; omega

theorem pot_le_fuel (p : Prog) (st : St) (hlen : st.live.length = p.nvals) : pot p st ≤ fuel p st := by
  unfold pot fuel dead
  have : st.live.count false ≤ p.nvals := hlen ▸ List.count_le_length
  exact Nat.add_le_add_left (Nat.mul_le_mul_left _ this) _

theorem enable_ext (p : Prog) (st : St) (b : Nat) : Ext st (enable p st b) := by
  unfold enable; split
  · exact Ext.refl st
  · exact ⟨rfl, fun _ h => h, fun _ h => h, fun c h => by
      simp only [isExec, List.contains_cons, Bool.or_eq_true] at h ⊢; exact Or.inr h⟩

theorem enableAll_ext (p : Prog) (st : St) (bs : List Nat) : Ext st (enableAll p st bs) :=
  foldl_inv (Ext st) (fun b _ s h => h.trans (enable_ext p s b)) st (Ext.refl st)

theorem enableAll_exec (p : Prog) (bs : List Nat) (st : St) (c : Nat) (hc : c ∈ bs) :
    isExec (enableAll p st bs) c = true :=
  foldl_hit (P := fun s => isExec s c = true) (fun b _ s => (enable_ext p s b).exec c) hc
    (fun s => (isExec_enable p s c c).2 (Or.inr rfl)) st

theorem init_trace (p : Prog) : (init p).trace = [] := by
  have h := ((walk_adv p (List.range p.ops.length).reverse (init0 p)).trans
    (markAll_adv p _ p.exits)).trace
  rw [init_eq, enableAll_trace]
  exact List.length_eq_zero_iff.1 h

/-- nothing left to do at `op` -/
def Stable (p : Prog) (st : St) (op : Op) : Prop :=
  (op.wbd = false ∨ ∃ r ∈ op.results, isLive st r = true) →
    ∀ o ∈ op.operands, o < p.nvals → isLive st o = true

theorem markAll_all_live (p : Prog) (st : St) (vs : List Nat) (o : Nat) (ho : o ∈ vs)
    (hlt : o < st.live.length) : isLive (markAll p st vs) o = true :=
  foldl_hit (P := fun s => o < s.live.length → isLive s o = true)
    (fun v _ s h hl => (mark_adv p s v).live o (h ((mark_adv p s v).len ▸ hl))) ho
    (fun s hl => by
      rcases mark_cases p s o with ⟨e, hv⟩ | ⟨h1, _, e⟩ <;> rw [e] at hl ⊢
      · exact hv hl
      · exact getD_set_true_self _ _ h1) st
    ((markAll_adv p st vs).len ▸ hlt)

theorem visitBody_reg_self (p : Prog) (j : Nat) (op : Op) (st : St) (hj : j < st.reg.length) :
    (visitBody p j op st).reg.getD j false = true :=
  visitBody_ind (·.reg.getD j false = true) p j op st (getD_set_true_self _ _ hj)
    fun s h => (markAll_adv p s _).reg j h

theorem visitBody_stable (p : Prog) (j : Nat) (op : Op) (st : St) (hlen : st.live.length = p.nvals) :
    Stable p (visitBody p j op st) op := by
  have hl : ∀ o, o < p.nvals → o < (st1 p j op st).live.length := fun o h => by
    rw [(st1_adv p j op st).len, hlen]; exact h
  unfold visitBody
  split
  · exact fun _ o ho hlt => markAll_all_live p _ _ o ho (hl o hlt)
  · rename_i hany
    rintro (hw | ⟨r, hr, hrl⟩) o ho hlt
    · unfold st1
      simp only [hw, Bool.false_eq_true, if_false]
      exact markAll_all_live p _ _ o ho (hlen ▸ hlt)
    · exact absurd (List.any_eq_true.2 ⟨r, hr, hrl⟩) hany

def Sound (p : Prog) (st : St) : Prop := ∀ v, isLive st v = true → Live p v

/-- The invariant of initialisation and loop.  `X`: registered ops that may be unstable off the worklist (the
op being visited).  `Y`: ops `visit` would not skip that may be unregistered off the worklist (not reached yet
by the initialisation walk; with `Y` everything, no claim that every op has been reached: the invariant the
loop keeps from any start). -/
structure InvAt (X Y : Nat → Prop) (p : Prog) (st : St) : Prop where
  len : st.live.length = p.nvals
  rlen : st.reg.length = p.ops.length
  sound : Sound p st
  execSub : ∀ b, isExec st b = true → b ∈ p.pre ∨ b ∈ p.post
  regExec : ∀ i op, p.ops[i]? = some op → st.reg.getD i false = true → isExec st op.blk = true
  sched : ∀ i op, p.ops[i]? = some op → st.reg.getD i false = true → ¬ X i → i ∈ st.wl ∨ Stable p st op
  cover : ∀ i op, p.ops[i]? = some op → op.operands ≠ [] → isExec st op.blk = true → ¬ Y i →
    i ∈ st.wl ∨ st.reg.getD i false = true

theorem InvAt.mono {X Y X' Y' : Nat → Prop} {p : Prog} {st : St} (h : InvAt X Y p st)
    (hx : ∀ i, X i → X' i) (hy : ∀ i, Y i → Y' i) : InvAt X' Y' p st :=
  { h with
    sched := fun i op hop hr hX => h.sched i op hop hr fun hxi => hX (hx i hxi)
    cover := fun i op hop hne he hY => h.cover i op hop hne he fun hyi => hY (hy i hyi) }

/-- marking a specified-live value: a stable op with that result is registered, so it is enqueued -/
theorem InvAt.mark {X Y : Nat → Prop} {p : Prog} {st : St} (h : InvAt X Y p st) (v : Nat)
    (hv : v < p.nvals → Live p v) : InvAt X Y p (mark p st v) := by
  rcases mark_cases p st v with ⟨e, _⟩ | ⟨hlt, _, e⟩ <;> rw [e]
  · exact h
  · refine ⟨List.length_set.trans h.len, h.rlen, fun u hu => ?_, h.execSub, h.regExec,
      fun i op hop hreg hX => ?_,
      fun i op hop hne hx hY => (h.cover i op hop hne hx hY).imp (List.mem_append_left _) id⟩
    · rcases (getD_set_true_iff st.live v u).1 hu with h1 | ⟨rfl, _⟩
      · exact h.sound u h1
      · exact hv (h.len ▸ hlt)
    · rcases h.sched i op hop hreg hX with hw | hs
      · exact Or.inl (List.mem_append_left _ hw)
      · by_cases hc : v ∈ op.results
        · exact Or.inl (List.mem_append_right _ (mem_deps hop hreg hc))
        · refine Or.inr fun hpre o ho holt => getD_set_true_mono _ _ _ (hs ?_ o ho holt)
          exact hpre.imp id fun ⟨r, hr, hrl⟩ =>
            ⟨r, hr, getD_set_true_ne st.live v r (fun e => hc (e ▸ hr)) hrl⟩

theorem InvAt.markAll {X Y : Nat → Prop} {p : Prog} {st : St} (h : InvAt X Y p st) (vs : List Nat)
    (hv : ∀ v ∈ vs, v < p.nvals → Live p v) : InvAt X Y p (markAll p st vs) :=
  foldl_inv (InvAt X Y p) (fun v hm _ hs => hs.mark v (hv v hm)) st h

/-- the marks of a visit are the two clauses of the specification -/
theorem InvAt.visitBody {X Y : Nat → Prop} {p : Prog} {st : St} (h : InvAt X Y p st) {j : Nat} {op : Op}
    (hop : p.ops[j]? = some op) (hx : isExec st op.blk = true) (hj : X j) :
    InvAt X Y p (visitBody p j op st) := by
  have hmem := List.mem_of_getElem? hop
  have hex : ExecP p op := h.execSub _ hx
  have h0 : InvAt X Y p (st0 j st) := by
    refine ⟨h.len, List.length_set.trans h.rlen, h.sound, h.execSub, fun i op' hop' hreg => ?_,
      fun i op' hop' hreg hX => ?_,
      fun i op' hop' hne hx' hY => (h.cover i op' hop' hne hx' hY).imp id (getD_set_true_mono st.reg j i)⟩
    · by_cases hij : i = j
      · subst hij; cases hop.symm.trans hop'; exact hx
      · exact h.regExec i op' hop' (getD_set_true_ne st.reg j i hij hreg)
    · exact h.sched i op' hop' (getD_set_true_ne st.reg j i (fun e => hX (e ▸ hj)) hreg) hX
  have h1 : InvAt X Y p (st1 p j op st) := by
    unfold st1
    cases hw : op.wbd
    · exact h0.markAll _ fun v hv hlt => Live.root hlt (Or.inr (Or.inr ⟨op, hmem, hex, hw, hv⟩))
    · exact h0
  unfold Liveness.visitBody
  split
  · rename_i hany
    obtain ⟨r, hr, hrl⟩ := List.any_eq_true.1 hany
    exact h1.markAll _ fun v hv hlt => Live.step hlt ⟨op, hmem, hex, hv, hr⟩ (h1.sound r hrl)
  · exact h1

/-- a visit pays the debts of its op -/
theorem InvAt.visit {X Y : Nat → Prop} {p : Prog} {st : St} (h : InvAt X Y p st) (j : Nat) :
    InvAt (fun i => X i ∧ i ≠ j) (fun i => Y i ∧ i ≠ j) p (visit p j st) := by
  rcases visit_cases p j st with ⟨e, hskip⟩ | ⟨op, hop, _, hx, e⟩ <;> rw [e]
  · refine { h with sched := fun i op hop hreg hX => ?_, cover := fun i op hop hne hx hY => ?_ }
    · by_cases hij : i = j
      · subst hij
        refine Or.inr fun _ o ho => ?_
        -- skipped though registered: its block is executable (`regExec`), so it has no operands
        rcases hskip op hop with h1 | h1
        · rw [h1] at ho; cases ho
        · rw [h.regExec i op hop hreg] at h1; cases h1
      · exact h.sched i op hop hreg fun hxi => hX ⟨hxi, hij⟩
    · by_cases hij : i = j
      · subst hij
        rcases hskip op hop with h1 | h1
        · exact absurd h1 hne
        · rw [hx] at h1; cases h1
      · exact h.cover i op hop hne hx fun hyi => hY ⟨hyi, hij⟩
  · have hb := (h.mono (X' := fun i => X i ∨ i = j) (fun _ => Or.inl) fun _ => id).visitBody hop hx
      (Or.inr rfl)
    refine { hb with sched := fun i op' hop' hreg hX => ?_, cover := fun i op' hop' hne hx' hY => ?_ }
    · by_cases hij : i = j
      · subst hij; cases hop.symm.trans hop'
        exact Or.inr (visitBody_stable p i op st h.len)
      · exact hb.sched i op' hop' hreg fun hxi => hxi.elim (fun hxi => hX ⟨hxi, hij⟩) hij
    · by_cases hij : i = j
      · subst hij
        exact Or.inr (visitBody_reg_self p i op st (h.rlen ▸ lt_of_getElem? hop))
      · exact hb.cover i op' hop' hne hx' fun hyi => hY ⟨hyi, hij⟩

theorem InvAt.walk {p : Prog} (js : List Nat) : ∀ {X Y : Nat → Prop} {st : St},
    InvAt X (fun i => Y i ∨ i ∈ js) p st → InvAt X Y p (walk p js st) := by
  induction js with
  | nil => exact fun h => h.mono (fun _ => id) fun i hi => hi.resolve_right (List.not_mem_nil)
  | cons a js ih =>
    intro X Y st h
    refine ih ((h.visit a).mono (fun _ => And.left) fun i ⟨hi, hne⟩ => hi.imp id fun hm => ?_)
    exact (List.mem_cons.1 hm).resolve_left hne

theorem InvAt.enable {X Y : Nat → Prop} {p : Prog} {st : St} (h : InvAt X Y p st) {b : Nat}
    (hb : b ∈ p.post) : InvAt X Y p (enable p st b) := by
  unfold Liveness.enable; split
  · exact h
  · refine ⟨h.len, h.rlen, h.sound, fun c hc => ?_, fun i op hop hreg => ?_,
      fun i op hop hreg hX => (h.sched i op hop hreg hX).imp (List.mem_append_left _) id,
      fun i op hop hne hx hY => ?_⟩
    · rcases List.mem_cons.1 (List.contains_iff_mem.1 hc) with rfl | hc
      · exact Or.inr hb
      · exact h.execSub c (List.contains_iff_mem.2 hc)
    · exact List.contains_iff_mem.2
        (List.mem_cons_of_mem _ (List.contains_iff_mem.1 (h.regExec i op hop hreg)))
    · rcases List.mem_cons.1 (List.contains_iff_mem.1 hx) with e | hx
      · exact Or.inl (List.mem_append_right _ (e ▸ mem_blockOps hop))
      · exact (h.cover i op hop hne (List.contains_iff_mem.2 hx) hY).imp (List.mem_append_left _) id

theorem foldl_set_len (vs : List Nat) (l : List Bool) :
    (vs.foldl (fun l v => l.set v true) l).length = l.length := by
  induction vs generalizing l with
  | nil => rfl
  | cons v vs ih => simp only [List.foldl_cons]; rw [ih, List.length_set]

theorem foldl_set_getD (vs : List Nat) (l : List Bool) (u : Nat) :
    (vs.foldl (fun l v => l.set v true) l).getD u false = true ↔
      l.getD u false = true ∨ (u ∈ vs ∧ u < l.length) := by
  induction vs generalizing l with
  | nil => simp
  | cons v vs ih =>
    simp only [List.foldl_cons]
    rw [ih, getD_set_true_iff, List.length_set]
    constructor
    · rintro ((h | ⟨rfl, h⟩) | ⟨h1, h2⟩)
      · exact Or.inl h
      · exact Or.inr ⟨List.mem_cons_self, h⟩
      · exact Or.inr ⟨List.mem_cons_of_mem _ h1, h2⟩
    · rintro (h | ⟨h1, h2⟩)
      · exact Or.inl (Or.inl h)
      · rcases List.mem_cons.1 h1 with rfl | h1
        · exact Or.inl (Or.inr ⟨rfl, h2⟩)
        · exact Or.inr ⟨h1, h2⟩

theorem replicate_false_getD (n i : Nat) : (List.replicate n false).getD i false = false := by
  simp only [List.getD_eq_getElem?_getD, List.getElem?_replicate]
  split <;> rfl

theorem isLive_init0 (p : Prog) (v : Nat) :
    isLive (init0 p) v = true ↔ v ∈ p.seeds ∧ v < p.nvals := by
  show (p.seeds.foldl (fun l v => l.set v true) (List.replicate p.nvals false)).getD v false = true ↔ _
  rw [foldl_set_getD, replicate_false_getD, List.length_replicate]
  exact ⟨fun h => h.resolve_left nofun, Or.inr⟩

/-- at the start no op is registered and every op is still to be reached -/
theorem init0_invAt (p : Prog) (X Y : Nat → Prop) (hY : ∀ i < p.ops.length, Y i) :
    InvAt X Y p (init0 p) :=
  ⟨by simp [init0, foldl_set_len], by simp [init0],
    fun v hv => Live.root ((isLive_init0 p v).1 hv).2 (Or.inl ((isLive_init0 p v).1 hv).1),
    fun _ hb => Or.inl (List.contains_iff_mem.1 hb),
    fun i _ _ hreg => (nomatch (replicate_false_getD p.ops.length i).symm.trans hreg),
    fun i _ _ hreg => (nomatch (replicate_false_getD p.ops.length i).symm.trans hreg),
    fun i _ hop _ _ hn => absurd (hY i (lt_of_getElem? hop)) hn⟩

/-- the invariant between two iterations of the worklist loop, from any start: computed ⊆ specified
liveness, every registered op is stable or on the worklist -/
abbrev Inv (p : Prog) (st : St) : Prop := InvAt (fun _ => False) (fun _ => True) p st

/-- `Inv`, and initialisation has done its part: every op `visit` would not skip is registered or on the
worklist, every block of `pre`/`post` is executable, the boundary values are live (the last three kept
by `Ext`) -/
structure Ready (p : Prog) (st : St) : Prop extends InvAt (fun _ => False) (fun _ => False) p st where
  execAll : ∀ b, b ∈ p.pre ∨ b ∈ p.post → isExec st b = true
  seeds : ∀ v ∈ p.seeds, v < p.nvals → isLive st v = true
  exits : ∀ v ∈ p.exits, v < p.nvals → isLive st v = true

theorem Ready.ext {p : Prog} {s t : St} (h : Ready p s) (he : Ext s t)
    (ht : InvAt (fun _ => False) (fun _ => False) p t) : Ready p t :=
  ⟨ht, fun b hb => he.exec b (h.execAll b hb), fun v hv hlt => he.live v (h.seeds v hv hlt),
    fun v hv hlt => he.live v (h.exits v hv hlt)⟩

theorem init_ready (p : Prog) : Ready p (init p) := by
  rw [init_eq]
  have hw : InvAt (fun _ => False) (fun _ => False) p (walk p (List.range p.ops.length).reverse (init0 p)) :=
    InvAt.walk _ (init0_invAt p _ _ fun i hi => Or.inr (by simp [hi]))
  have hm := hw.markAll p.exits fun v hv hlt => Live.root hlt (Or.inr (Or.inl hv))
  have he := enableAll_ext p (markAll p (walk p (List.range p.ops.length).reverse (init0 p)) p.exits) p.post
  have h0 := ((walk_adv p _ (init0 p)).trans (markAll_adv p _ p.exits)).toExt.trans he
  refine ⟨foldl_inv (InvAt _ _ p) (fun b hb _ hs => hs.enable hb) _ hm, fun b hb => ?_,
    fun v hv hlt => h0.live v ((isLive_init0 p v).2 ⟨hv, hlt⟩),
    fun v hv hlt => he.live v (markAll_all_live p _ _ v hv (by rw [hw.len]; exact hlt))⟩
  rcases hb with hb | hb
  · exact h0.exec b (List.contains_iff_mem.2 hb)
  · exact enableAll_exec p _ _ b hb

/-- the pop puts `j` in debt … -/
theorem InvAt.pop {X Y : Nat → Prop} {p : Prog} {st : St} (h : InvAt X Y p st) {i j : Nat}
    (hj : st.wl[i]? = some j) :
    InvAt (fun x => X x ∨ x = j) (fun x => Y x ∨ x = j) p
      { st with wl := st.wl.eraseIdx i, trace := j :: st.trace } :=
  { h with
    sched := fun i' op hop hreg hX =>
      (h.sched i' op hop hreg fun hxi => hX (Or.inl hxi)).imp
        (fun hw => mem_eraseIdx_of_ne hw hj fun e => hX (Or.inr e)) id
    cover := fun i' op hop hne hx hY =>
      (h.cover i' op hop hne hx fun hyi => hY (Or.inl hyi)).imp
        (fun hw => mem_eraseIdx_of_ne hw hj fun e => hY (Or.inr e)) id }

/-- … and the visit pays it -/
theorem step_invAt {X Y : Nat → Prop} (p : Prog) (pick : Sched) (k : Nat) (st : St) (h : InvAt X Y p st)
    (hne : st.wl ≠ []) : InvAt X Y p (step p pick k st) := by
  obtain ⟨i, j, _, hj, heq⟩ := step_facts p pick k st hne
  rw [heq]
  exact ((h.pop hj).visit j).mono (fun i hi => hi.1.resolve_right hi.2) fun i hi => hi.1.resolve_right hi.2

theorem run_invAt {X Y : Nat → Prop} (p : Prog) (pick : Sched) (f k : Nat) (st : St) (h : InvAt X Y p st) :
    InvAt X Y p (run p pick f k st) :=
  run_ind (InvAt X Y p) p pick (fun k st h hne => step_invAt p pick k st h hne) f k st h

theorem run_inv (p : Prog) (pick : Sched) (f k : Nat) (st : St) (h : Inv p st) :
    Inv p (run p pick f k st) := run_invAt p pick f k st h

theorem run_ready (p : Prog) (pick : Sched) (f k : Nat) (st : St) (h : Ready p st) :
    Ready p (run p pick f k st) :=
  let ⟨_, _, ha, _⟩ := run_adv p pick f k st
  h.ext ha.toExt (run_invAt p pick f k st h.toInvAt)

theorem complete_of_wl_nil (p : Prog) (st : St) (hr : Ready p st) (hwl : st.wl = [])
    (v : Nat) (h : Live p v) : isLive st v = true := by
  have stable : ∀ op ∈ p.ops, op.operands ≠ [] → ExecP p op → Stable p st op := by
    intro op hop hne hex
    obtain ⟨i, hi, e⟩ := List.mem_iff_getElem.1 hop
    have hop' : p.ops[i]? = some op := by rw [List.getElem?_eq_getElem hi, e]
    have hnw : ∀ {P : Prop}, i ∈ st.wl ∨ P → P := fun h => h.resolve_left (hwl ▸ List.not_mem_nil)
    exact hnw (hr.sched i op hop' (hnw (hr.cover i op hop' hne (hr.execAll _ hex) id)) id)
  induction h with
  | root hlt hroot =>
    rcases hroot with hs | he | ⟨op, hop, hex, hw, ho⟩
    · exact hr.seeds _ hs hlt
    · exact hr.exits _ he hlt
    · exact stable op hop (List.ne_nil_of_mem ho) hex (Or.inl hw) _ ho hlt
  | step hlt hf _ ih =>
    obtain ⟨op, hop, hex, ho, hres⟩ := hf
    exact stable op hop (List.ne_nil_of_mem ho) hex (Or.inr ⟨_, hres, ih⟩) _ ho hlt

/-- whatever schedule led there: a ready state with an empty worklist holds exactly the specified liveness -/
theorem Ready.live_iff {p : Prog} {st : St} (hr : Ready p st) (hwl : st.wl = []) (v : Nat) :
    isLive st v = true ↔ Live p v :=
  ⟨hr.sound v, complete_of_wl_nil p st hr hwl v⟩

end Xdsl.Liveness
