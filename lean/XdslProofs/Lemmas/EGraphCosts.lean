import XdslProofs.Lemmas.EGraphCreate
import XdslProofs.Lemmas.AL
/-!
`addCosts` only writes valid `min_cost_index` values and so keeps the extraction invariant `LInv`
(C28, totality part).  No Mathlib.
-/
namespace Xdsl.EGraph

/-- every recorded `min_cost_index` of class `r` is a position of `r`'s operand list -/
def MOK (body : List Node) (mci : AL Nat Nat) : Prop :=
  ∀ r i, AL.get mci r = some i → ∀ a m, Node.cls r a m ∈ body → i < a.length

theorem costClass_mok {g : Prog} {d : Option Nat} {r : Nat} {args : List Nat} {m0 : Option Nat}
    (hnd : (g.body.map (·.res)).Nodup) (hmem : Node.cls r args m0 ∈ g.body) (st : CostSt)
    (h : MOK g.body st.mci) : MOK g.body (costClass g d r args st).mci := by
  unfold costClass
  refine foldl_inv (fun st : CostSt => MOK g.body st.mci) (fun ai hai st h => ?_) _ h
  -- the index written for `r` is a position of `args`, the operand list of the only node defining `r`
  have hset : MOK g.body (AL.set st.mci r ai.2) := by
    intro r' i hget a m hm
    rw [AL.get_set] at hget
    split at hget
    · rename_i e
      subst e
      cases hget
      cases eq_of_res_eq hnd hm hmem rfl
      have := List.mem_zipIdx hai
      omega
    · exact h r' i hget a m hm
  split
  · exact h
  · split
    · split
      · exact hset
      · exact h
    · exact hset

theorem costPass_mok {g : Prog} {d : Option Nat} (hnd : (g.body.map (·.res)).Nodup) (st : CostSt)
    (h : MOK g.body st.mci) : MOK g.body (costPass g d st).mci := by
  unfold costPass
  refine foldl_inv (fun st : CostSt => MOK g.body st.mci) (fun n hn st h => ?_) _ h
  cases n with
  | op _ _ _ _ _ => exact h
  | cls r args m => exact costClass_mok hnd hn st h

theorem costFix_mok {g : Prog} {d : Option Nat} (hnd : (g.body.map (·.res)).Nodup) :
    ∀ (fuel : Nat) (st : CostSt), MOK g.body st.mci → MOK g.body (costFix g d fuel st).1.mci := by
  intro fuel
  induction fuel with
  | zero => intro st h; exact h
  | succ fuel ih =>
    intro st h
    simp only [costFix]
    split
    · exact ih _ (costPass_mok hnd st h)
    · exact costPass_mok hnd st h

theorem classIds_map (f : Node → Node) (hf : ∀ n : Node, n.sameSem (f n)) (body : List Node) :
    classIds (body.map f) = classIds body := by
  induction body with
  | nil => rfl
  | cons n rest ih =>
    simp only [classIds, List.map_cons, List.filter_cons, (hf n).isCls] at ih ⊢
    split
    · rw [List.map_cons, List.map_cons, (hf n).res, ih]
    · exact ih

theorem LInv.addCosts {g : Prog} (d : Option Nat) (dict : AL String Nat) (h : LInv g (classIds g.body).reverse) :
    LInv (addCosts d dict g) (classIds (addCosts d dict g).body).reverse ∧ (addCosts d dict g).nargs = g.nargs := by
  unfold Xdsl.EGraph.addCosts addCostsFuel
  simp only
  -- first loop: class nodes are left as they are
  have h1 : LInv { g with body := assignBaseCosts d dict g.body } (classIds g.body).reverse :=
    h.map _ (assignBaseCosts_sameSem d dict) fun _ _ _ _ _ e hv => by cases e; exact hv
  have hc1 : classIds (assignBaseCosts d dict g.body) = classIds g.body :=
    classIds_map _ (assignBaseCosts_sameSem d dict) _
  have hmok := costFix_mok (g := { g with body := assignBaseCosts d dict g.body }) (d := d) h1.nodup
    ((assignBaseCosts d dict g.body).length + 2) {} (by intro r i hget; simp at hget)
  generalize (costFix { g with body := assignBaseCosts d dict g.body } d ((assignBaseCosts d dict g.body).length + 2) {}).1 = st at hmok
  -- write-back: a recorded index of a singleton class is `0`
  have h2 : LInv { g with body := writeMci st.mci (assignBaseCosts d dict g.body) } (classIds g.body).reverse := by
    refine h1.map _ (writeMci_sameSem st.mci) fun c x m m' hmem e hv => ?_
    cases hg : AL.get st.mci c with
    | none => simp only [hg] at e; cases e; exact hv
    | some i =>
      simp only [hg] at e
      cases e
      have := hmok c i hg [x] m hmem
      exact Or.inr (congrArg some (Nat.lt_one_iff.1 this))
  have hc2 : classIds (writeMci st.mci (assignBaseCosts d dict g.body)) = classIds g.body :=
    (classIds_map _ (writeMci_sameSem st.mci) _).trans hc1
  exact ⟨hc2 ▸ h2, trivial⟩

end Xdsl.EGraph
