import XdslProofs.Lemmas.RewriteDriverSteps
/-!
# C11 — the greedy rewrite driver reaches a fixpoint and observes every IR change

Property theorems over `XdslModel/RewriteDriver.lean`.  Everything is stated for an arbitrary
pattern `P.pat : IR → Nat → List Action × IR`, an arbitrary schedule `P.pick` (`none` = LIFO pop,
`some f` = the perturbed worklist), an arbitrary walk order `P.enum`, both values of
`apply_recursively`, with or without a post-walk function.  Termination is a hypothesis: the
theorems speak about runs for which `rewriteRegion P fuel d` returns `some _`.
The section titles number the five clauses of the sentence in its order: (1) fixpoint on return,
(2) the returned flag, (3) no invocation on erased/detached ops, (4) notification of the listeners,
(5) the action flag.
The hypothesis bundles `Disciplined` (patterns only hand attached ops to the listeners) and
`ThroughRewriter` (patterns are functions of the IR and mutate it only through flag-setting
rewriter calls) and the trace classifiers are defined in `Lemmas/RewriteDriverSteps.lean`; what one
call delivers, queues, unqueues and attaches (`Action.events`, `Action.queued`, `Action.unqueued`,
`attAfter`) and `Sub` (worklist ⊆ attached ops) in `Lemmas/RewriteDriver.lean`.
-/
namespace Xdsl.RewriteDriver
open Xdsl.Worklist (WL Inv abs)

variable {IR : Type}

/-- The driver keeps the representation invariant of the C12 worklist (index map ↔ stack slots),
so the C12 refinement theorem applies to every worklist operation it performs. -/
theorem driver_wlInv (P : Params IR) (fuel : Nat) (d : D IR) (r : D IR × Bool)
    (h : Inv d.st.wl) (hrun : rewriteRegion P fuel d = some r) : Inv r.1.st.wl :=
  rewriteRegion_induct P (fun d => Inv d.st.wl) (fun d => populate_wlInv P (sweepStart d))
    (fun _ x _ hd hp => matchOp_wlInv P _ x (popNext_some _ _ _ _ hd hp).1) (postWalk_wlInv P)
    fuel d r h hrun

/-! ## (1) fixpoint on return -/

/-- "When the greedy pattern-rewrite walker returns with recursive application enabled, no pattern
would change any operation of the rewritten region any more": for every schedule and walk order,
in the IR at return no attached op has a flag-setting rewriter call left (the pattern, applied to
any op of the region, does nothing), and the post-walk function reports no change.
Hypotheses: termination (`= some r`), a start worklist satisfying the C12 invariant, and
`ThroughRewriter` (patterns are functions of the IR and mutate it only through the rewriter). -/
theorem fixpoint_on_return (P : Params IR) (hT : ThroughRewriter P) (hrec : P.recursive = true)
    (fuel : Nat) (d : D IR) (r : D IR × Bool) (hinv : Inv d.st.wl)
    (hrun : rewriteRegion P fuel d = some r) :
    (∀ x ∈ r.1.st.attached, ∀ a ∈ (P.pat r.1.ir x).1, a.setsFlag = false) ∧
    (∀ f, P.post = some f → (f r.1.ir).2.2 = false) := by
  simp only [rewriteRegion, hrec] at hrun
  split at hrun
  · cases hrun
  · rename_i d1 h1
    simp only [Bool.not_true, Bool.false_eq_true, if_false, Option.map_eq_some_iff] at hrun
    obtain ⟨d2, h2, rfl⟩ := hrun
    obtain ⟨_, c, hr⟩ := outer_last_sweep P fuel (fun d => Inv d.st.wl) (sweep_wlInv P fuel) fuel _ _
      (sweep_wlInv P fuel _ _ hinv h1) h2
    rcases hr with rfl | ⟨dp, hp, hs⟩
    · exact sweep_quiet P hT fuel d _ hinv h1 c
    · exact sweep_quiet P hT fuel dp _ hp hs c

/-- In non-recursive mode `rewrite_region` is a single sweep (populate, `_process_worklist`,
post-walk) and returns that sweep's flag; no fixpoint is claimed (the sentence's clause is about
`apply_recursively=True` only). -/
theorem nonrecursive_single_sweep (P : Params IR) (hrec : P.recursive = false) (fuel : Nat)
    (d : D IR) (r : D IR × Bool) (hrun : rewriteRegion P fuel d = some r) :
    sweep P fuel d = some r.1 ∧ r.2 = r.1.st.changed := by
  simp only [rewriteRegion, hrec] at hrun
  split at hrun
  · cases hrun
  · rename_i d1 h1
    simp only [Bool.not_false, if_true, Option.some.injEq] at hrun
    subst hrun
    exact ⟨h1, rfl⟩

/-! ## (2) the returned flag -/

/-- "the walker reports a modification whenever the IR changed": the boolean returned by
`rewrite_region` is true exactly when, anywhere in the run (in any sweep), some match left
`has_done_action` set or some post-walk call reported a change. -/
theorem changed_iff (P : Params IR) (fuel : Nat) (d : D IR) (r : D IR × Bool)
    (h : rewriteRegion P fuel d = some r) :
    ∃ t, r.1.st.trace = d.st.trace ++ t ∧ r.2 = t.any TraceItem.reportsChange := by
  simp only [rewriteRegion] at h
  split at h
  · cases h
  · rename_i d1 h1
    obtain ⟨t1, a1, b1⟩ := sweep_changed P fuel _ _ h1
    split at h
    · cases h; exact ⟨t1, a1, b1⟩
    · simp only [Option.map_eq_some_iff] at h
      obtain ⟨d2, h2, rfl⟩ := h
      obtain ⟨t2, a2, b2⟩ := outer_changed P fuel fuel _ _ h2
      refine ⟨t1 ++ t2, by rw [a2, a1, List.append_assoc], ?_⟩
      show d1.st.changed = _
      rw [List.any_append, ← b1]
      cases hc : d1.st.changed with
      | true => rfl
      | false => rw [b2 hc]; rfl

/-- Without a post-walk function the returned boolean is true exactly when some executed rewriter
call was a flag-setting one (i.e. anything but a `replace_all_uses_with` of an unused value):
"the walker reports a modification whenever the IR changed". -/
theorem changed_iff_executed (P : Params IR) (hpost : P.post = none) (fuel : Nat) (d : D IR)
    (r : D IR × Bool) (h : rewriteRegion P fuel d = some r) :
    ∃ es, r.1.st.executed = d.st.executed ++ es ∧ r.2 = es.any Action.setsFlag := by
  obtain ⟨t, ht, hr⟩ := changed_iff P fuel d r h
  have key := rewriteRegion_induct P (fun e => ∃ t es, e.st.trace = d.st.trace ++ t ∧
      e.st.executed = d.st.executed ++ es ∧ t.any TraceItem.reportsChange = es.any Action.setsFlag)
    ?_ ?_ ?_ fuel d r ⟨[], [], by simp, by simp, rfl⟩ h
  · obtain ⟨t', es, h1, h2, h3⟩ := key
    have : t = t' := List.append_cancel_left (ht.symm.trans h1)
    subst this
    exact ⟨es, h2, hr.trans h3⟩
  · intro e ⟨t, es, h1, h2, h3⟩
    refine ⟨t ++ [.sweep (P.enum e.ir e.st.attached) e.st.attached], es, ?_, h2, ?_⟩
    · show e.st.trace ++ _ = _
      rw [h1, List.append_assoc]
    · rw [List.any_append, h3]; simp [TraceItem.reportsChange]
  · intro e x w ⟨t, es, h1, h2, h3⟩ _
    obtain ⟨it, m1, m2, _⟩ := matchOp_trace P (popped e w) x
    refine ⟨t ++ [it], es ++ (P.pat e.ir x).1, ?_, ?_, ?_⟩
    · rw [m1, ← List.append_assoc]; exact congrArg (· ++ _) h1
    · rw [matchOp_executed, ← List.append_assoc]; exact congrArg (· ++ _) h2
    · rw [List.any_append, List.any_append, h3, List.any_cons, List.any_nil, Bool.or_false, m2]
  · intro e he
    rw [postWalk_none P e hpost]
    exact he

/-! ## (3) patterns are only invoked on attached operations -/

/-- The worklist only ever holds attached ops (the removal handler deletes the erased op and all
ops nested in it; everything pushed by a handler is attached — that is the hypothesis `Disciplined`):
invariant of the whole driver, for every schedule, walk order and configuration. -/
theorem worklist_attached (P : Params IR) (R : IR → List Nat → Prop) (hD : Disciplined P R)
    (fuel : Nat) (d : D IR) (r : D IR × Bool)
    (hinv : Inv d.st.wl) (hsub : Sub d.st) (hR : R d.ir d.st.attached)
    (hrun : rewriteRegion P fuel d = some r) : ∀ x ∈ abs r.1.st.wl, x ∈ r.1.st.attached :=
  (run_vinv P R hD fuel d r ⟨hinv, hsub, hR⟩ hrun).1.sub

/-- "Patterns are never invoked on operations that have been erased or detached from the region":
for every schedule, walk order and configuration, every pattern invocation recorded in the trace
of a run happened on an op that was attached at that moment.
Hypotheses: termination, `Disciplined`, and a start with only attached ops on the worklist. -/
theorem visit_attached (P : Params IR) (R : IR → List Nat → Prop) (hD : Disciplined P R)
    (fuel : Nat) (d : D IR) (r : D IR × Bool)
    (hinv : Inv d.st.wl) (hsub : Sub d.st) (hR : R d.ir d.st.attached) (h0 : d.st.trace = [])
    (hrun : rewriteRegion P fuel d = some r) :
    ∀ x att flag wl ev atts, TraceItem.visit x att flag wl ev atts ∈ r.1.st.trace → att = true := by
  intro x att flag wl ev atts hmem
  simpa [h0, TraceItem.visitedDetached] using
    (run_vinv P R hD fuel d r ⟨hinv, hsub, hR⟩ hrun).2 _ hmem

/-! ## (4) every call is reported to the listeners -/

/-- The listener log is exactly the concatenation of the events of the executed calls, in order:
nothing is dropped or reordered anywhere in the driver (matches, sweeps, post-walks). -/
theorem log_eq (P : Params IR) (fuel : Nat) (d : D IR) (r : D IR × Bool)
    (h : rewriteRegion P fuel d = some r) :
    ∃ es, r.1.st.executed = d.st.executed ++ es ∧ r.1.st.log = d.st.log ++ es.flatMap Action.events := by
  refine rewriteRegion_induct P (fun e => ∃ es, e.st.executed = d.st.executed ++ es ∧
    e.st.log = d.st.log ++ es.flatMap Action.events) ?_ ?_ ?_ fuel d r ⟨[], by simp⟩ h
  · intro e h; exact h
  · intro e x w ⟨es, h1, h2⟩ _
    refine ⟨es ++ (P.pat e.ir x).1, ?_, ?_⟩
    · rw [matchOp_executed, ← List.append_assoc]; exact congrArg (· ++ _) h1
    · rw [matchOp_log, List.flatMap_append, ← List.append_assoc]; exact congrArg (· ++ _) h2
  · intro e ⟨es, h1, h2⟩
    cases hpost : P.post with
    | none => rw [postWalk_none P e hpost]; exact ⟨es, h1, h2⟩
    | some f =>
      rw [postWalk_some P e hpost]
      refine ⟨es ++ (f e.ir).1, ?_, ?_⟩
      · show (execAll _ _ _).executed = _
        rw [execAll_executed, h1, List.append_assoc]
      · show (execAll _ _ _).log = _
        rw [execAll_log, h2, List.flatMap_append, List.append_assoc]

/-- What the sentence demands of one call: "every insertion, removal, replacement and in-place
modification made through the rewriter is reported".  `inline_block(…, arg_values)` rewrites the
operands of the users of the block arguments — an in-place modification of each of them. -/
def Action.demanded : Action → List Event
  | .insert op _ => [.inserted op]
  | .replaced op _ => [.replaced op]
  | .rauw _ users => users.map .modified
  | .erase op _ _ => [.removed op]
  | .modify op => [.modified op]
  | .inlineBlock _ users => users.map .modified
  | .blockArg => []
  | .createBlock => []

/-- PARTIAL (known finding `PatternRewriter.inline_block`): every event the sentence demands for
an executed call is in the listener log, *except* for `inline_block` calls that rewrite operands
(`users ≠ []`).  Full statement (false of the code): the same without the premise
`∀ m u, a = .inlineBlock m u → u = []`. -/
theorem all_notified_partial (P : Params IR) (fuel : Nat) (d : D IR) (r : D IR × Bool)
    (h : rewriteRegion P fuel d = some r) :
    ∃ es, r.1.st.executed = d.st.executed ++ es ∧
      ∀ a ∈ es, (∀ m u, a = .inlineBlock m u → u = []) → ∀ e ∈ a.demanded, e ∈ r.1.st.log := by
  obtain ⟨es, h1, h2⟩ := log_eq P fuel d r h
  refine ⟨es, h1, fun a ha hin e he => ?_⟩
  rw [h2]
  refine List.mem_append_right _ (List.mem_flatMap.mpr ⟨a, ha, ?_⟩)
  -- `demanded` and `events` differ on `inline_block` (excluded by `hin`) and `create_block` only
  cases a with
  | inlineBlock m u => rw [hin m u rfl] at he; cases he
  | createBlock => cases he
  | _ => exact he

/-- The witness behind the known finding: inlining a block whose argument is used by op `2`
modifies op `2` in place and no listener hears of it. -/
theorem inline_block_users_unreported_counterexample :
    ∃ (s : St) (a : Action) (e : Event),
      e ∈ a.demanded ∧ e ∉ (exec true s a).log ∧ (exec true s a).flag = true :=
  ⟨{ attached := [0, 1, 2] }, .inlineBlock [2] [2], .modified 2, by decide, by decide, by decide⟩

/-! ## (5) the action flag -/

/-- "the rewriter's action flag is set whenever a match mutated the IR": after a match,
`has_done_action` is true exactly when the match made a flag-setting call … -/
theorem flag_iff (P : Params IR) (d : D IR) (x : Nat) :
    (matchOp P d x).st.flag = (P.pat d.ir x).1.any Action.setsFlag := matchOp_flag P d x

/-- … and the only call that does not set it is `replace_all_uses_with(v, w)` on a value without
uses (with `w` not `None`), which changes nothing.  (`create_block` sets it in the fixed code.) -/
theorem only_useless_rauw_keeps_flag (a : Action) : a.setsFlag = false ↔ a = .rauw false [] :=
  not_setsFlag_iff a

/-! ## worklist bookkeeping seen through the driver

The C12 refinement applied to the worklist operations the driver itself performs: which op is
handed to the pattern next, which ops a rewriter call takes off / puts on / leaves on the worklist.
These are the facts a wrong index in `Worklist.push`/`remove` voids (an erased op that stays
queued, a live queued op that is silently dropped). -/

/-- "Patterns are never invoked on erased operations", worklist side: after `erase(op)` neither `op`
nor any op nested in it is queued, whatever was pushed during the same call. -/
theorem erase_unqueues (r : Bool) (s : St) (op : Nat) (nested defs : List Nat) (h : Inv s.wl) :
    ∀ y ∈ op :: nested, y ∉ abs (exec r s (.erase op nested defs)).wl := by
  intro y hy hmem
  rw [exec_worklist_spec r s _ h y] at hmem
  exact hmem.2 hy

/-- A queued op stays queued through every rewriter call that does not erase it (or an ancestor):
no live op is silently dropped. -/
theorem exec_keeps_queued (r : Bool) (s : St) (a : Action) (h : Inv s.wl) (y : Nat)
    (hy : y ∈ abs s.wl) (hne : y ∉ a.unqueued) : y ∈ abs (exec r s a).wl :=
  (exec_worklist_spec r s a h y).2 ⟨Or.inl hy, hne⟩

/-- In recursive mode every op a handler is told about (inserted, modified, user of a replaced
value, single-use operand definer of an erased op) is queued after the call, unless the same call
erased it. -/
theorem exec_queues_notified (s : St) (a : Action) (h : Inv s.wl) (y : Nat)
    (hy : y ∈ a.queued) (hne : y ∉ a.unqueued) : y ∈ abs (exec true s a).wl :=
  (exec_worklist_spec true s a h y).2 ⟨Or.inr ⟨rfl, hy⟩, hne⟩

/-- LIFO schedule: the op handed to the pattern next is the top of the abstract stack, and the
rest of the stack is exactly what remains queued. -/
theorem pop_lifo_top (w w' : WL) (x : Nat) (h : Inv w) (hp : popNext none w = some (x, w')) :
    abs w = x :: abs w' := by
  have hs := popNext_spec none w h
  rw [hp] at hs
  exact hs.2

/-- Perturbed schedule: the op handed to the pattern was queued, and exactly that op leaves the
worklist (order of the others unchanged). -/
theorem pop_pick_removes (f : List Nat → Nat) (w w' : WL) (x : Nat) (h : Inv w)
    (hp : popNext (some f) w = some (x, w')) :
    x ∈ abs w ∧ abs w' = (abs w).filter (· ≠ x) := by
  have hs := popNext_spec (some f) w h
  rw [hp] at hs
  exact hs.2

/-! ## histories of calls on one walker: who hears what -/

/-- One call delivers its whole listener log — which by `log_eq` is the concatenation of the
events of the calls executed during it — to the handlers registered on `walker.listener` **when
the call is made**, and to nobody else. -/
theorem call_delivers (P : Params IR) (fuel : Nat) (w w' : Walker) (ir : IR) (att : List Nat)
    (d : D IR) (b : Bool) (hc : call P fuel w ir att = some (w', d, b)) :
    w'.registered = w.registered ∧
    w'.delivered = w.delivered ++ deliver w.registered d.st.log ∧
    rewriteRegion P fuel { ir := ir, st := { attached := att, wl := w.wl } } = some (d, b) := by
  unfold call at hc
  split at hc
  · cases hc
  · rename_i d0 b0 hr
    simp only [Option.some.injEq, Prod.mk.injEq] at hc
    obtain ⟨rfl, rfl, rfl⟩ := hc
    exact ⟨rfl, rfl, hr⟩

/-- What a history delivers: call by call, the call's listener log to the handlers registered when it
was made; and within every call the log holds what `all_notified_partial` says. -/
theorem history_delivered (P : Params IR) (fuel : Nat) :
    ∀ (stages : List (Stage IR)) (w w' : Walker) (ir ir' : IR) (recs : List CallRec),
      history P fuel w ir stages = some (w', ir', recs) →
      w'.delivered = w.delivered ++ recs.flatMap (fun c => deliver c.registered c.log) ∧
      ∀ c ∈ recs, ∀ a ∈ c.executed,
        (∀ m u, a = .inlineBlock m u → u = []) → ∀ e ∈ a.demanded, e ∈ c.log := by
  intro stages w w' ir ir' recs hh
  fun_induction history P fuel w ir stages generalizing w' ir' recs with
  | case1 => cases hh; exact ⟨by simp, fun c hc => nomatch hc⟩
  | case2 => cases hh
  | case3 => cases hh
  | case4 w ir s rest w1 p w2 d b hcall w3 ir3 recs3 hrest ih =>
    cases hh
    obtain ⟨_, c2, c3⟩ := call_delivers P fuel _ _ _ _ _ _ hcall
    obtain ⟨i1, i2⟩ := ih _ _ _ hrest
    refine ⟨by rw [i1, c2, edits_delivered, List.flatMap_cons, List.append_assoc], fun c hc => ?_⟩
    rcases List.mem_cons.mp hc with rfl | hc
    · -- the ghost lists of a call start empty
      obtain ⟨es, x1, x2⟩ := all_notified_partial P fuel _ _ c3
      have x1 : d.st.executed = es := x1
      exact fun a ha => x2 a (x1 ▸ ha)
    · exact i2 c hc

/-- Histories (several `rewrite_region`/`rewrite_module` calls on one walker, with handlers added to
`walker.listener` or the listener replaced in between): what a handler has received at the end is
exactly, in order, the listener logs of the calls during which it was registered — a handler added
or assigned after an earlier call hears everything from the next call on, a replaced one nothing.
For handler lists without duplicates (`Nodup`): a handler held `n` times hears every event `n` times
(`view_deliver`). -/
theorem history_view (P : Params IR) (fuel : Nat) (h : Nat) :
    ∀ (stages : List (Stage IR)) (w w' : Walker) (ir ir' : IR) (recs : List CallRec),
      history P fuel w ir stages = some (w', ir', recs) →
      (∀ c ∈ recs, c.registered.Nodup) →
      view h w'.delivered =
        view h w.delivered ++ recs.flatMap fun c => if h ∈ c.registered then c.log else [] := by
  intro stages w w' ir ir' recs hh hn
  rw [(history_delivered P fuel stages w w' ir ir' recs hh).1, view_append]
  congr 1
  clear hh
  induction recs with
  | nil => rfl
  | cons c t ih =>
    rw [List.flatMap_cons, List.flatMap_cons, view_append, view_deliver_nodup h _ _ (hn c List.mem_cons_self),
      ih fun c hc => hn c (List.mem_cons_of_mem _ hc)]

/-- The notification clause for histories: every event the sentence demands of a rewriter call
executed during some call of the history has been delivered to every handler that was registered
when that call was made (same exception as `all_notified_partial`: operand rewrites of
`inline_block`). -/
theorem history_all_notified_partial (P : Params IR) (fuel : Nat) :
    ∀ (stages : List (Stage IR)) (w w' : Walker) (ir ir' : IR) (recs : List CallRec),
      history P fuel w ir stages = some (w', ir', recs) →
      ∀ c ∈ recs, ∀ h ∈ c.registered, ∀ a ∈ c.executed,
        (∀ m u, a = .inlineBlock m u → u = []) → ∀ e ∈ a.demanded, (h, e) ∈ w'.delivered := by
  intro stages w w' ir ir' recs hh c hc h hh' a ha hin e he
  obtain ⟨h1, h2⟩ := history_delivered P fuel stages w w' ir ir' recs hh
  rw [h1]
  refine List.mem_append_right _ (List.mem_flatMap.mpr ⟨c, hc, ?_⟩)
  simp only [deliver, List.mem_flatMap, List.mem_map]
  exact ⟨e, h2 c hc a ha hin e he, h, hh', rfl⟩

/-! ## non-vacuity -/

/-- A concrete run: `IR = Nat` counts the remaining applications of a countdown pattern on op `1`;
op `0` is erased when seen.  LIFO and a perturbed schedule both return `true` and end in the same
fixpoint. -/
def demoParams (pick : Option (Nat → List Nat → Nat)) : Params Nat where
  recursive := true
  pat := fun n x => if x = 0 then ([.erase 0 [] []], n) else if n = 0 then ([], n) else ([.modify x], n - 1)
  post := none
  enum := fun _ att => att.reverse
  pick := pick

example : (rewriteRegion (demoParams none) 50 { ir := 2, st := { attached := [0, 1] } }).map
    (fun r => (r.1.st.attached, r.1.ir, r.2, r.1.st.log)) =
    some ([1], 0, true, [.removed 0, .modified 1, .modified 1]) := by decide

example : (rewriteRegion (demoParams (some fun _ l => l.length - 1)) 50
    { ir := 2, st := { attached := [0, 1] } }).map
    (fun r => (r.1.st.attached, r.1.ir, r.2, r.1.st.log)) =
    some ([1], 0, true, [.modified 1, .removed 0, .modified 1]) := by decide

/-- the hypotheses of `visit_attached` and `fixpoint_on_return` are satisfiable -/
example (pk : Option (Nat → List Nat → Nat)) : Disciplined (demoParams pk) (fun _ _ => True) where
  pat_wf := by
    intro ir att x _ hx
    simp only [demoParams]
    split
    · simp [wfActs, Action.wf]
    · split
      · simp [wfActs]
      · simp [wfActs, Action.wf, hx]
  pat_R := fun _ _ _ _ _ => trivial
  post_wf := by intro f _ _ hf; simp [demoParams] at hf
  post_R := fun _ _ _ _ _ => trivial
  enum_sub := by intro ir att _ y hy; simpa [demoParams] using hy

example (pk : Option (Nat → List Nat → Nat)) : ThroughRewriter (demoParams pk) where
  pat_quiet := by
    intro ir x h
    simp only [demoParams] at h ⊢
    split
    · rfl
    · split
      · rfl
      · rename_i h1 h2
        simp [h1, h2, Action.setsFlag] at h
  post_quiet := by intro f _ hf; simp [demoParams] at hf
  enum_all := by intro ir att y hy; simpa [demoParams] using hy

/-- A history on one walker: first call with handler `7` registered, then handler `8` is added and
the IR is re-armed; `8` hears the second call only, `7` both. -/
example : (history (demoParams none) 50 { registered := [7] } 1
    [{ edits := [], prep := fun n => (n, [0, 1]) },
     { edits := [.add 8], prep := fun _ => (1, [1]) }]).map
    (fun r => (view 7 r.1.delivered, view 8 r.1.delivered, r.2.2.map (·.ret))) =
    some ([.removed 0, .modified 1, .modified 1], [.modified 1], [true, true]) := by decide

/-- the erased op leaves the worklist even when the same call re-queues it as an operand definer -/
example : abs (exec true { wl := pushAll {} [3, 2, 1] } (.erase 2 [] [2, 3])).wl = [1, 3] := by decide

end Xdsl.RewriteDriver
