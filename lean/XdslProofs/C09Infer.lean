import XdslProofs.C09
import XdslProofs.Lemmas.ConstraintInfer
/-!
# C09 — inference part

"whenever a constraint says it can infer an attribute the inferred attribute satisfies it."

The full statement
  `∀ c ctx a, canInfer U (ctxVars ctx) c = true → infer U c ctx = some a → ∃ ctx', verify U c a ctx = some ctx'`
is FALSE of the current code (`infer_verifies_counterexample`): `AllOf.can_infer` is "some conjunct
can infer" and `AllOf.infer` returns that conjunct's attribute without consulting the others
(known finding, `xdsl.irdl.constraints.AllOf.infer`).  `infer_verifies_partial` carries the excluded
region as the explicit hypothesis `AllOfAgree` and additionally assumes that the variables occurring
in the constraint are bound in the context (the situation of operation result inference; a variable
that is unbound but whose own constraint is inferable is NOT covered).  Class-definition invariants
checked by `ParametrizedAttribute.new` are outside the model.
-/
namespace Xdsl.Constraint

/-- the inferred attribute verifies in the very context it was inferred from (which stays as is) -/
theorem infer_verifies_partial (U : Univ) (c : C) (ctx : Ctx) (a : Attr)
    (hb : ∀ n ∈ vars c, (AL.get ctx n).isSome = true) (hag : AllOfAgree U ctx c)
    (hc : canInfer U (ctxVars ctx) c = true) (h : infer U c ctx = some a) :
    verify U c a ctx = some ctx := infer_verify U c ctx a hb hag hc h

/-- what `AllOf.infer` does deliver: the attribute inferred by its first inferable conjunct, which
satisfies *that* conjunct -/
theorem allOf_infer_first (U : Univ) (cs : List C) (ctx : Ctx) (a : Attr)
    (hb : ∀ n ∈ vars (.allOf cs), (AL.get ctx n).isSome = true)
    (hag : ∀ c ∈ cs, AllOfAgree U ctx c) (h : infer U (.allOf cs) ctx = some a) :
    ∃ c ∈ cs, canInfer U (ctxVars ctx) c = true ∧ infer U c ctx = some a ∧ verify U c a ctx = some ctx := by
  simp only [infer] at h
  obtain ⟨c, hc, h1, h2⟩ := inferFirst_spec U ctx cs a h
  refine ⟨c, hc, h1, h2, infer_verify U c ctx a (fun n hn => hb n ?_) (hag c hc) h1 h2⟩
  simp only [vars]; exact mem_varsL hc hn

/-- what the hypothesis `AllOfAgree` asks of a one-conjunct `AllOf`: exactly that the attribute inferred
from the conjunct verifies -/
theorem allOfAgree_of_single (U : Univ) (ctx : Ctx) (c : C) (hag : AllOfAgree U ctx c) :
    AllOfAgree U ctx (.allOf [c]) ↔
      (canInfer U (ctxVars ctx) c = true → ∀ a, infer U c ctx = some a → verify U c a ctx = some ctx) := by
  -- the hypothesis `hag` is not used: the equivalence is `AllOfAgree` unfolded on the one conjunct
  have _ := hag
  simp only [AllOfAgree, inferFirst, verifyAll]
  constructor
  · intro h hc a ha
    have := h a (by simp [hc, ha])
    cases hv : verify U c a ctx with
    | none => simp [hv] at this
    | some c1 => simp only [hv] at this; cases this; rfl
  · intro h a ha
    split at ha
    · rename_i hc; simp [h hc a ha]
    · cases ha

/-- witness of the known finding: `AllOf((BaseAttr(IndexType-like), EqAttrConstraint("s7")))` says it
can infer, infers the parameterless type, and rejects it -/
theorem infer_verifies_counterexample :
    canInfer U0 [] (.allOf [.base 0, .eq (.data 2 7)]) = true
    ∧ infer U0 (.allOf [.base 0, .eq (.data 2 7)]) [] = some (.param 0 [])
    ∧ verify U0 (.allOf [.base 0, .eq (.data 2 7)]) (.param 0 []) [] = none := by decide

/-- non-vacuity of the partial theorem: `Pair[T, eq s7]` with `T` bound -/
example : canInfer U0 [0] (.param 1 [.var 0 (.base 3), .eq (.data 2 7)]) = true
    ∧ infer U0 (.param 1 [.var 0 (.base 3), .eq (.data 2 7)]) [(0, .param 0 [])]
        = some (.param 1 [.param 0 [], .data 2 7])
    ∧ verify U0 (.param 1 [.var 0 (.base 3), .eq (.data 2 7)]) (.param 1 [.param 0 [], .data 2 7]) [(0, .param 0 [])]
        = some [(0, .param 0 [])] := by decide

end Xdsl.Constraint
