import XdslProofs.Lemmas.X86Rules
import XdslModel.Sem
/-!
# C21 (rules) — every scalar-integer pattern of the x86 back end is sound, once and for all

Property clause: *"when called natively returns the result the source program computes for every
input"* — here for the LOWERINGS themselves instead of per compiled program.  For every rule of
`XdslModel/X86Rules.lean` (the harness compares what the rule emits with what the real pattern emits
on single-operation inputs, over operations × types × immediates × operand shapes):

  for ALL operand values and EVERY machine state that satisfies the rule's register precondition,
  executing the emitted sequence leaves the `BitVec` result of the source operation (MLIR `arith`
  semantics of `XdslModel/Sem.lean`) in the destination at the operand size of the type, and changes no
  other register and no memory (frame).  All widths the lowering supports (64/32/16/8).

Register preconditions are what the register allocator owes the rule (the destination of an in-place
update must not be the register of the other operand); each is shown necessary by a counterexample.
What a pattern rejects is part of the rule (`raise` / `nomatch`) and characterised by the `*_ok_iff`
theorems.  The machine has no flags register (no modelled instruction reads flags).

`lowerSrc_sound` composes the rules: the code that `convert-func-to-x86-func` followed by
`convert-arith-to-x86` produces for ANY straight-line function over constants/`addi`/`muli` (before
register allocation, one unallocated register per SSA value) returns the MLIR result in `rax` from
every entry state and preserves every physical register except `rax`/`rsp`, and memory.

Canonicalization patterns (`canonicalization_patterns/x86.py`): if the rule fires and the facts read
off the defining operations hold in the machine state, the rewritten code computes the same state —
exactly, except that removing a 32-bit `mov r, r` / `add r, 0` leaves the upper half of `r` as it was
instead of zeroing it (`EqUpTo`: equal at the operand size).
-/
namespace Xdsl.X86.Lower
open Xdsl.X86

/-! ## ArithConstantToX86 -/

/-- what the pattern accepts: an `IntegerAttr` of a type with a register class (i64/i32/i16/i8, index)
whose value fits the `si32` immediate of `x86.di.mov`; everything else raises -/
theorem lowerConstant_ok_iff (isInt : Bool) (ty : Ty) (c : Int) (t : Nat) :
    (∃ out, lowerConstant isInt ty c t = .ok out) ↔
      isInt = true ∧ (regSz ty).isSome = true ∧ fitsSI32 c = true := by
  fun_cases lowerConstant isInt ty c t <;> simp_all

theorem lowerConstant_raise_or_ok (isInt : Bool) (ty : Ty) (c : Int) (t : Nat) :
    lowerConstant isInt ty c t = .raise ∨ ∃ out, lowerConstant isInt ty c t = .ok out := by
  fun_cases lowerConstant isInt ty c t <;> simp

/-- **`arith.constant c : ty`** — for every machine state, after the emitted code the new register
holds `c` at the width of the type; nothing else changes. -/
theorem lowerConstant_sound (isInt : Bool) (ty : Ty) (c : Int) (t : Nat) (out : List XInstr)
    (h : lowerConstant isInt ty c t = .ok out) (σ : St) :
    ∃ sz, regSz ty = some sz ∧ trunc sz ((xexec out σ).reg t) = BitVec.ofInt sz.bits c ∧
      OnlyReg t σ (xexec out σ) := by
  revert h
  fun_cases lowerConstant isInt ty c t <;> intro h <;> cases h
  next sz hsz _ =>
    rw [xexec_lift]
    exact ⟨sz, hsz, constCode_rd sz t c σ, (constCode_regCode sz t c).exec_eq σ⟩

/-! ## ArithBinaryToX86 -/

def BinKind.name : BinKind → String
  | .addi => "arith.addi"
  | .muli => "arith.muli"
  | .other => "(not in X86_OP_BY_ARITH_BINARY_OP)"

/-- what the pattern accepts: `arith.addi` on i64/i32/i16/i8/index, `arith.muli` on i64/i32/i16/index
(x86 has no two-operand 8-bit `imul`); shaped operands and types without register class raise; any
other operation is left alone -/
theorem lowerBinary_ok_iff (k : BinKind) (ty : Ty) (t lhs rhs : Nat) :
    (∃ out, lowerBinary k ty t lhs rhs = .ok out) ↔
      k ≠ .other ∧ ty.isShaped = false ∧ ¬ (k = .muli ∧ ty.bitwidth? = some 8) ∧ (regSz ty).isSome = true := by
  fun_cases lowerBinary k ty t lhs rhs <;> cases k <;> simp_all [BinKind.alu?]

theorem lowerBinary_nomatch_iff (k : BinKind) (ty : Ty) (t lhs rhs : Nat) :
    lowerBinary k ty t lhs rhs = .nomatch ↔ k = .other := by
  fun_cases lowerBinary k ty t lhs rhs <;> cases k <;> simp_all [BinKind.alu?]

/-- **`arith.addi` / `arith.muli`** — `mov t, rhs ; op t, lhs`.  For all operand values, in every
state, provided the new register `t` is not the register of the left operand (it may be the register
of the right operand, and the operands may share a register): `t` ends up holding the MLIR result at
the width of the type, and nothing else changes. -/
theorem lowerBinary_sound (k : BinKind) (ty : Ty) (t lhs rhs : Nat) (out : List XInstr)
    (h : lowerBinary k ty t lhs rhs = .ok out) (σ : St) (ht : t ≠ lhs) :
    ∃ sz, regSz ty = some sz ∧
      Sem.intBin k.name (trunc sz (σ.reg lhs)) (trunc sz (σ.reg rhs))
        = .val (trunc sz ((xexec out σ).reg t)) ∧
      OnlyReg t σ (xexec out σ) := by
  revert h
  fun_cases lowerBinary k ty t lhs rhs <;> intro h <;> cases h
  next op hop _ _ sz hsz =>
    rw [xexec_lift]
    refine ⟨sz, hsz, ?_, (binCode_regCode op sz t lhs rhs).exec_eq σ⟩
    have hv := binCode_rd op sz t lhs rhs σ (Ne.symm ht)
    rw [rd] at hv
    cases k
    · cases hop; rw [hv, aluOp, trunc_add, BitVec.add_comm]; rfl
    · cases hop; rw [hv, aluOp, trunc_mul, BitVec.mul_comm]; rfl
    · cases hop

/-- the precondition `t ≠ lhs` is necessary: with `t = lhs` the copy of the right operand destroys
the left one (`mov t, rhs ; add t, t` computes `2·rhs`) -/
theorem lowerBinary_alias_counterexample :
    ∃ (σ : St) (out : List XInstr), lowerBinary .addi (.int 64) 1 1 2 = .ok out ∧
      trunc .q (σ.reg 1) + trunc .q (σ.reg 2) ≠ trunc .q ((xexec out σ).reg 1) := by
  refine ⟨{ reg := fun r => if r = 1 then 1#64 else 2#64, mem := fun _ => 0#64 }, _, rfl, ?_⟩
  decide +kernel

/-! ## LowerFuncOp: the entry sequence -/

/-- when the pattern emits code: the function has a body, its parameters all have a register class and
are neither shaped nor wider than 64 bits, and the code is the entry sequence whatever the result types -/
theorem lowerFuncEntry_ok (hasBody : Bool) (tys outs : List Ty) (temps : List Nat) (out : List XInstr)
    (h : lowerFuncEntry hasBody tys outs temps = .ok out) :
    hasBody = true ∧ (∀ t ∈ tys, t.isShaped = false ∧ tooWide t = false) ∧
      ∃ szs, tys.mapM regSz = some szs ∧ out = lift (entryFrom 0 (szs.zip temps)) := by
  revert h
  fun_cases lowerFuncEntry hasBody tys outs temps <;> intro h <;> first | cases h | skip
  -- the code is the entry sequence whether there is one result type (with a register class) or not
  all_goals
    cases Out.ok.inj h
    refine ⟨by simpa using ‹¬(!hasBody) = true›, fun t ht => ?_, _, ‹tys.mapM regSz = some _›, rfl⟩
    simpa using fun e =>
      ‹¬(tys.any fun t => t.isShaped || tooWide t) = true› (List.any_eq_true.mpr ⟨t, ht, e⟩)

/-- **`func.func` entry** — parameter `i` (i64/i32/i16/i8/index/ptr) is copied from `rdi, rsi, rdx,
rcx, r8, r9` resp. loaded from `[rsp+8(i-5)]` into its new register.  For every entry state and any
assignment of new registers satisfying `EntryOk`: every new register holds its SysV argument at the
width of the parameter type; memory and every other register (in particular `rsp` and the
callee-saved registers, when they are not among the new registers) are unchanged. -/
theorem lowerFuncEntry_sound (hasBody : Bool) (tys outs : List Ty) (temps : List Nat) (out : List XInstr)
    (h : lowerFuncEntry hasBody tys outs temps = .ok out) (σ : St)
    (hok : ∀ szs, tys.mapM regSz = some szs → EntryOk 0 (szs.zip temps)) :
    ∃ szs, tys.mapM regSz = some szs ∧
      (∀ (i : Nat) (sz : Sz) (t : Nat), szs[i]? = some sz → temps[i]? = some t →
        trunc sz ((xexec out σ).reg t) = trunc sz (argOf σ i)) ∧
      (xexec out σ).mem = σ.mem ∧
      (∀ r, r ∉ temps → (xexec out σ).reg r = σ.reg r) := by
  obtain ⟨_, _, szs, hszs, rfl⟩ := lowerFuncEntry_ok _ _ _ _ _ h
  have hv := entryFrom_sound (szs.zip temps) 0 σ (hok szs hszs)
  obtain ⟨hm, hr⟩ := (entryFrom_regCode (szs.zip temps) 0).exec_eq σ
  rw [xexec_lift]
  refine ⟨szs, hszs, ?_, hm, fun x hx => hr x fun ⟨p, hp, e⟩ => hx (e ▸ (List.of_mem_zip hp).2)⟩
  intro i sz t hsz ht
  have := hv i (sz, t) (by simp [List.getElem?_zip_eq_some, hsz, ht])
  simpa using this

/-- `EntryOk` is necessary: if the register of parameter 0 is the argument register of parameter 1
(`mov rsi, rdi ; mov t, rsi`), parameter 1 is lost -/
theorem entry_alias_counterexample :
    ∃ σ : St, trunc .q ((exec (entryFrom 0 [(.q, 6), (.q, 1)]) σ).reg 1) ≠ trunc .q (argOf σ 1) := by
  refine ⟨{ reg := fun r => if r = 7 then 1#64 else 2#64, mem := fun _ => 0#64 }, ?_⟩
  decide +kernel

/-! ## LowerReturnOp -/

theorem lowerReturn_ok_iff (ty : Ty) (v : Nat) :
    (∃ out, lowerReturn [ty] [v] = .ok out) ↔
      ty.isShaped = false ∧ tooWide ty = false ∧ (regSz ty).isSome = true := by
  rw [lowerReturn.eq_2]
  cases hs : ty.isShaped <;> cases hw : tooWide ty <;> cases hr : regSz ty <;> simp

/-- more than one returned value raises -/
theorem lowerReturn_many (t1 t2 : Ty) (ts : List Ty) (vals : List Nat) :
    lowerReturn (t1 :: t2 :: ts) vals = .raise := by
  unfold lowerReturn; rfl

/-- **`func.return v`** — `mov rax/eax/ax/al, v ; ret`: from every state the code returns, `rax`
holds the value at the width of its type, the return address is popped, nothing else changes. -/
theorem lowerReturn_sound (ty : Ty) (v : Nat) (out : List XInstr)
    (h : lowerReturn [ty] [v] = .ok out) (σ : St) :
    ∃ sz l σ', regSz ty = some sz ∧ out = lift l ∧ run l σ = some σ' ∧
      trunc sz (σ'.reg RAX) = trunc sz (σ.reg v) ∧ σ'.reg RSP = σ.reg RSP + 8 ∧
      σ'.mem = σ.mem ∧ ∀ r, r ≠ RAX → r ≠ RSP → σ'.reg r = σ.reg r := by
  rw [lowerReturn.eq_2] at h
  split at h
  · cases h
  · split at h
    · cases h
    · split at h
      · cases h
      · next sz hsz =>
        cases h
        refine ⟨sz, [.mov sz RAX v, .ret], _, hsz, rfl, rfl, ?_, ?_, rfl, ?_⟩
        · simp [retStep, step, RAX, RSP, trunc_wr]
        · simp [retStep, step, RAX, RSP]
        · intro r h0 h4; simp [retStep, step, h0, h4]

/-- **`func.return`** without value — `ret` -/
theorem lowerReturn_void (vals : List Nat) (σ : St) :
    lowerReturn [] vals = .ok (lift [.ret]) ∧ run [.ret] σ = some (retStep σ) := ⟨rfl, rfl⟩

/-! ## whole straight-line functions -/

/-- **`convert-func-to-x86-func` + `convert-arith-to-x86` preserve the result of every straight-line
integer function** (constants, `addi`, `muli`; any number of parameters; width 64/32/16/8; before
register allocation, SSA values numbered from `base ≥ 16`): if the lowering succeeds — it refuses
constants outside `si32` and 8-bit multiplication, like the real patterns — then from EVERY entry
state the code returns, `rax` holds the MLIR value of the function on its SysV arguments at the width
of the type, the return address is popped, memory is unchanged and no physical register other than
`rax` and `rsp` changes (in particular all callee-saved registers). -/
theorem lowerSrc_sound (s : Src) (base : Nat) (hb : 16 ≤ base) (a : List Instr)
    (h : lowerSrc s base = some a) (σ0 : St) :
    ∃ σ', run a σ0 = some σ' ∧
      evalSrc s (fun i => trunc s.sz (argOf σ0 i)) = some (trunc s.sz (σ'.reg RAX)) ∧
      σ'.reg RSP = σ0.reg RSP + 8 ∧ σ'.mem = σ0.mem ∧
      ∀ r, r < 16 → r ≠ RAX → r ≠ RSP → σ'.reg r = σ0.reg r := by
  revert h
  fun_cases lowerSrc s base <;> intro h <;> cases h
  next temps code regs hbody v hv =>
    let l : List (Sz × Nat) := (paramRegs base s.nargs).map fun t => (s.sz, t)
    have hl2 : l.map (·.2) = paramRegs base s.nargs := by simp [l, List.map_map, Function.comp_def]
    have hmem : ∀ p ∈ l, base ≤ p.2 ∧ p.2 < base + s.nargs := fun p hp =>
      mem_paramRegs (hl2 ▸ List.mem_map_of_mem hp)
    have hok : EntryOk 0 l :=
      entryOk_virtual l 0 (fun p hp => by have := hmem p hp; omega) (hl2 ▸ paramRegs_nodup ..)
    have ev := entryFrom_sound l 0 σ0 hok
    have hargs : (paramRegs base s.nargs).map (rd s.sz (exec (entryFrom 0 l) σ0))
        = (List.range s.nargs).map (fun i => trunc s.sz (argOf σ0 i)) := by
      simp only [paramRegs, List.map_map]
      apply List.map_congr_left
      intro i hi
      have hi' : i < s.nargs := List.mem_range.mp hi
      have := ev i (s.sz, base + i) (by simp [l, List.getElem?_map, paramRegs_getElem? base s.nargs i hi'])
      simpa [rd] using this
    obtain ⟨be, hcode⟩ := lowerBody_sound s.sz s.ops (base + s.nargs) _ code regs
      (exec (entryFrom 0 l) σ0) hbody fun r hr => (mem_paramRegs hr).2
    -- everything before `ret` is register code on the new registers and `rax`
    obtain ⟨pre, hpre⟩ : ∃ pre, pre = Instr.label :: (entryFrom 0 l ++ code ++ [Instr.mov s.sz RAX v]) :=
      ⟨_, rfl⟩
    have hall : RegCode (fun r => base ≤ r ∨ r = RAX) pre :=
      hpre ▸ (((entryFrom_regCode l 0).mono fun d ⟨p, hp, e⟩ => .inl (e ▸ (hmem p hp).1)).append
        (hcode.mono fun d hd => .inl (by omega)) |>.append (.cons rfl (.inr rfl) .nil)).label
    obtain ⟨fm, fr⟩ := hall.exec_eq σ0
    have hrax : trunc s.sz ((exec pre σ0).reg RAX) = rd s.sz (exec code (exec (entryFrom 0 l) σ0)) v := by
      rw [hpre, exec_cons, exec_append, exec_append]
      exact (congrArg (trunc s.sz) (if_pos rfl)).trans (trunc_wr ..)
    have hrun : run (Instr.label :: (entryFrom 0 l ++ code ++ retCode s.sz v)) σ0
        = some (retStep (exec pre σ0)) := by
      rw [← run_append_ret _ [] hall.ne_ret, hpre]; simp [retCode]
    generalize exec pre σ0 = σ3 at fm fr hrax hrun
    refine ⟨retStep σ3, hrun, ?_, ?_, fm, ?_⟩
    · rw [evalSrc, ← hargs, be]
      show (regs.map _)[s.ret]? = _
      rw [List.getElem?_map, hv, retStep, setReg_reg, if_neg (by decide), hrax]
      rfl
    · rw [retStep, setReg_reg, if_pos rfl, fr RSP (by simp only [RSP, RAX]; omega)]
    · intro r hr h0 h4
      exact (if_neg h4).trans (fr r (by omega))

/-- non-vacuity: `f(a0..a6) = a0*a6 + 3 : i32` (seventh parameter on the stack) is lowered -/
example : lowerSrc { sz := .d, nargs := 7, ops := [.mul 0 6, .const 3, .add 7 8], ret := 9 } 200 =
    some [.label, .mov .d 200 7, .mov .d 201 6, .mov .d 202 2, .mov .d 203 1, .mov .d 204 8, .mov .d 205 9,
      .load .d 206 8, .mov .d 207 206, .alu .imul .d 207 200, .movi .d 208 3, .mov .d 209 208,
      .alu .add .d 209 207, .mov .d 0 209, .ret] := by decide +kernel

/-! ## convert_ptr_to_x86 (scalar) -/

/-- **`ptr_xdsl.ptradd p, off`** — `mov t, p ; add t, off`: `t = p + off` (64 bits) provided `t` is
not the register of the offset; nothing else changes. -/
theorem lowerPtrAdd_sound (t p off : Nat) (out : List XInstr) (h : lowerPtrAdd t p off = .ok out)
    (σ : St) (ht : t ≠ off) :
    (xexec out σ).reg t = σ.reg p + σ.reg off ∧ OnlyReg t σ (xexec out σ) := by
  cases h
  have ho : off ≠ t := fun e => ht e.symm
  refine ⟨?_, rfl, ?_⟩
  · simp [step, aluOp, wr, ho]
  · intro r hr; simp [step, hr]

/-- **`ptr_xdsl.load p`** (non-vector value) — `mov d, [p]` with a 64-bit destination whatever the
value type: `d` holds the whole slot, hence the value at every narrower width too. -/
theorem lowerPtrLoad_sound (ty : Ty) (d p : Nat) (out : List XInstr) (h : lowerPtrLoad ty d p = .ok out)
    (σ : St) :
    (xexec out σ).reg d = σ.mem (σ.reg p) ∧ OnlyReg d σ (xexec out σ) := by
  revert h
  fun_cases lowerPtrLoad ty d p <;> intro h <;> cases h
  refine ⟨by simp [xstep, wr, maddr_zero], rfl, ?_⟩
  intro r hr; simp [xstep, hr]

/-- **`ptr_xdsl.store v, p`** (non-vector value with a register class) — `mov [p], v` at the operand
size of the value type: the slot at `p` holds the value at that width (its upper bits and every other
slot keep their content), no register changes. -/
theorem lowerPtrStore_sound (ty : Ty) (p v : Nat) (out : List XInstr) (h : lowerPtrStore ty p v = .ok out)
    (σ : St) :
    ∃ sz, regSz ty = some sz ∧ (xexec out σ).reg = σ.reg ∧
      trunc sz ((xexec out σ).mem (σ.reg p)) = trunc sz (σ.reg v) ∧
      (xexec out σ).mem (σ.reg p) = mwr sz (σ.mem (σ.reg p)) (σ.reg v) ∧
      ∀ a, a ≠ σ.reg p → (xexec out σ).mem a = σ.mem a := by
  revert h
  fun_cases lowerPtrStore ty p v <;> intro h <;> cases h
  next sz hsz =>
    refine ⟨sz, hsz, rfl, ?_, ?_, ?_⟩
    · simp [xstep, maddr_zero, trunc_mwr]
    · simp [xstep, maddr_zero]
    · intro a ha; simp [xstep, maddr_zero, ha]

/-! ## canonicalization patterns -/

/-- **RemoveRedundantDS_Mov** — `mov r, r` on an allocated register is dropped: same state, except
that the 32-bit form no longer zeroes the upper half of `r` -/
theorem removeRedundantDSMov_sound (ins : XInstr) (out : List XInstr)
    (h : Canon.removeRedundantDSMov ins = some out) (σ : St) :
    EqUpTo ins.size ins.dst (xexec out σ) (xexec [ins] σ) ∧
      (ins.size ≠ .d → xexec out σ = xexec [ins] σ) := by
  revert h
  fun_cases Canon.removeRedundantDSMov ins <;> intro h <;> cases h
  next sz d s hg =>
    obtain ⟨rfl, _⟩ := hg
    exact EqUpTo.drop_write sz d (σ.reg d) σ rfl

/-- **RS_Add_Zero** — `add r, s` where `s` is a known constant 0 is dropped (the result is
`register_in`): same state, except that the 32-bit form no longer zeroes the upper half of `r` -/
theorem rsAddZero_sound (fs : List Fact) (ins : XInstr) (out : List XInstr)
    (h : Canon.rsAddZero fs ins = some out) (σ : St) (hf : ∀ f ∈ fs, f.Holds ins.size σ) :
    EqUpTo ins.size ins.dst (xexec out σ) (xexec [ins] σ) ∧
      (ins.size ≠ .d → xexec out σ = xexec [ins] σ) := by
  revert h
  fun_cases Canon.rsAddZero fs ins <;> intro h <;> cases h
  next sz d s hc =>
    have h0 : trunc sz (σ.reg s) = BitVec.ofInt sz.bits 0 := hf _ (constOf_mem hc)
    exact EqUpTo.drop_write sz d (σ.reg d + σ.reg s) σ (by rw [trunc_add, h0]; simp)

/-- **DM_Operation_ConstantOffset** — `mov d, [m+k]` where `m = b + c` becomes `mov d, [b+k+c]`: same
state, given that `m = b + c` holds when the load executes -/
theorem dmConstantOffset_sound (g : Bool) (fs : List Fact) (ins : XInstr) (out : List XInstr)
    (h : Canon.dmConstantOffset g fs ins = some out) (σ : St) (hf : ∀ f ∈ fs, f.Holds ins.size σ) :
    xexec out σ = xexec [ins] σ := by
  revert h
  fun_cases Canon.dmConstantOffset g fs ins <;> intro h <;> cases h
  next sz d m k b c hm _ => simp [xstep, maddr_fold σ m b c k (hf _ (movAddOf_mem hm))]

/-- **MS_Operation_ConstantOffset** — `mov [m+k], s` where `m = b + c` becomes `mov [b+k+c], s` -/
theorem msConstantOffset_sound (g : Bool) (fs : List Fact) (ins : XInstr) (out : List XInstr)
    (h : Canon.msConstantOffset g fs ins = some out) (σ : St) (hf : ∀ f ∈ fs, f.Holds ins.size σ) :
    xexec out σ = xexec [ins] σ := by
  revert h
  fun_cases Canon.msConstantOffset g fs ins <;> intro h <;> cases h
  next sz m k s b c hm _ => simp [xstep, maddr_fold σ m b c k (hf _ (movAddOf_mem hm))]

/-- **x86 canonicalization never changes results** (per pattern application): if a rule of
`canonicalization_patterns/x86.py` fires on an instruction and the facts hold in the machine state,
the rewritten code and the original instruction produce the same memory and the same registers —
the destination compared at the operand size, exactly when the operand size is not 32 bits. -/
theorem x86_canon_sound (name : String) (fs : List Fact) (ins : XInstr) (out : List XInstr)
    (h : canon name fs ins = some out) (σ : St) (hf : ∀ f ∈ fs, f.Holds ins.size σ) :
    EqUpTo ins.size ins.dst (xexec out σ) (xexec [ins] σ) ∧
      (ins.size ≠ .d → xexec out σ = xexec [ins] σ) := by
  revert h
  fun_cases canon name fs ins <;> intro h <;> first | cases h | skip
  next f hl =>
    have hm := lookupCanon_mem hl
    simp only [canonTable, List.mem_cons, List.not_mem_nil, or_false, Prod.mk.injEq] at hm
    rcases hm with ⟨_, rfl⟩ | ⟨_, rfl⟩ | ⟨_, rfl⟩ | ⟨_, rfl⟩ | ⟨_, rfl⟩ | ⟨_, rfl⟩
    · exact removeRedundantDSMov_sound ins out h σ
    · exact rsAddZero_sound fs ins out h σ hf
    · exact EqUpTo.of_eq (dmConstantOffset_sound _ fs ins out h σ hf)
    · exact EqUpTo.of_eq (msConstantOffset_sound _ fs ins out h σ hf)
    · exact EqUpTo.of_eq (dmConstantOffset_sound _ fs ins out h σ hf)
    · exact EqUpTo.of_eq (msConstantOffset_sound _ fs ins out h σ hf)

/-- The hypothesis "the facts hold when the instruction executes" is not implied by SSA once registers
are allocated: `m = b + 16` was true when `m` was computed, then the register of `b` (`rdi`) received
another value; the pinned pattern (no guard) still rewrites `[m+8]` to `[b+24]` and the load reads
another slot.  The guarded variant does not fire on an allocated copy. -/
theorem dmConstantOffset_clobbered_counterexample :
    ∃ σ : St,
      Canon.dmConstantOffset false [.movAdd 0 7 16] (.ldm .q 2 0 8) = some [.ldm .q 2 7 24] ∧
      Canon.dmConstantOffset true [.movAdd 0 7 16] (.ldm .q 2 0 8) = none ∧
      (xexec (lift [.mov .q 0 7, .movi .q 1 16, .alu .add .q 0 1, .movi .q 7 0] ++ [.ldm .q 2 0 8]) σ).reg 2 ≠
      (xexec (lift [.mov .q 0 7, .movi .q 1 16, .alu .add .q 0 1, .movi .q 7 0] ++ [.ldm .q 2 7 24]) σ).reg 2 := by
  refine ⟨{ reg := fun r => if r = 7 then 0x1000#64 else 0#64, mem := fun a => a }, rfl, rfl, ?_⟩
  decide +kernel

/-- the 32-bit exception is real: dropping `mov eax, eax` keeps the upper half of `rax` -/
theorem removeRedundantDSMov_upper_counterexample :
    ∃ σ : St, Canon.removeRedundantDSMov (.base (.mov .d 0 0)) = some [] ∧
      (xexec [] σ).reg 0 ≠ (xexec [.base (.mov .d 0 0)] σ).reg 0 := by
  refine ⟨{ reg := fun _ => 0xFFFFFFFFFFFFFFFF#64, mem := fun _ => 0#64 }, rfl, ?_⟩
  decide +kernel

/-! ## non-vacuity -/

example : lowerBinary .addi (.int 32) 200 100 101 = .ok [.base (.mov .d 200 101), .base (.alu .add .d 200 100)] := rfl
example : lowerBinary .muli (.int 8) 200 100 101 = .raise := rfl
example : lowerBinary .other (.int 8) 200 100 101 = .nomatch := rfl
example : lowerConstant true (.int 64) 2147483648 200 = .raise := by decide
example : lowerConstant true .index (-5) 200 = .ok [.base (.movi .q 200 (-5))] := by decide
example : lowerFuncEntry true [.int 64, .int 8] [.int 8] [200, 201] =
    .ok [.base (.mov .q 200 7), .base (.mov .b 201 6)] := by decide
example : EntryOk 0 [(.q, 200), (.b, 201)] :=
  entryOk_virtual _ _ (by simp) (by simp)

end Xdsl.X86.Lower
