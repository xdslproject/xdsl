import XdslProofs.Lemmas.RegAllocLoopSem
/-!
C19 (loops): what the proof about the allocator needs of the validator besides `RegAllocLoopSem`.
`liveT` is the live set that `checkT` returns (`checkT_eq_liveT`), and `GoodT` is the logical reading of a successful
run of `checkT`.  `liveIns` and `liveT` stay within the values of the block (`liveIns_sub`, `liveT_sub`): every
live set formed at a loop adds values of the loop header `Loop.hdr` only.  Then which values the loop-carried
groups of a loop header hold (`Loop.mem_groups`), and what the validator looks at in an assignment
(`LoopGood.transfer`; `yield_sep`, `res_sep`: once the groups are tied and the values live at the end of the
body sit apart, a result's register holds nothing that is live throughout the loop).
-/
namespace Xdsl.RegAllocLoop
open Xdsl.RegMachine Xdsl.RegAlloc

theorem checkT_eq_liveT {z : Bool} {a : ValId → Reg} : ∀ (t : LT) (Z L Lin : List ValId),
    checkT z a Z t L = some Lin → Lin = liveT t L := by
  intro t Z L Lin h
  fun_induction checkT z a Z t L generalizing Lin with
  | case1 => cases h; rfl
  | case3 Z o next L L' hL' hok ih => cases h; rw [ih _ hL']; rfl
  | case7 Z hd body next L L' hL' bi hbody hok ihn ihb => cases h; rw [ihb _ hbody, ihn _ hL']; rfl
  | _ => cases h

/-- everything a successful validation says, node by node -/
def GoodT (z : Bool) (a : ValId → Reg) : List ValId → LT → List ValId → Prop
  | _, .nil, L => PW z a L
  | Z, .op o next, L =>
    GoodT z a (Z ++ newZero true Z o) next L
    ∧ opOk z a Z (Z ++ newZero true Z o) o (liveT next L) = true
    ∧ PW z a (liveT (.op o next) L)
  | Z, .loop h body next, L =>
    GoodT z a Z next L
    ∧ GoodT z a Z body (bodyOutOf h (throughOf h body (liveT next L)))
    ∧ LoopGood z a Z h (liveT next L) (throughOf h body (liveT next L))
        (bodyOutOf h (throughOf h body (liveT next L)))
        (liveT body (bodyOutOf h (throughOf h body (liveT next L))))
        (atEntryOf h (liveT body (bodyOutOf h (throughOf h body (liveT next L)))) (throughOf h body (liveT next L)))
    ∧ PW z a (liveT (.loop h body next) L)

theorem goodT_of_check {z : Bool} {a : ValId → Reg} : ∀ (t : LT) (Z L Lin : List ValId),
    checkT z a Z t L = some Lin → PW z a Lin → GoodT z a Z t L := by
  intro t Z L Lin h hpw
  have hLin := checkT_eq_liveT t Z L Lin h
  fun_induction checkT z a Z t L generalizing Lin with
  | case1 => cases h; exact hpw
  | case3 Z o next L L' hL' hok ih =>
    cases checkT_eq_liveT _ _ _ _ hL'
    cases h
    exact ⟨ih _ hL' (pw_step hok hpw) rfl, hok, hLin ▸ hpw⟩
  | case7 Z hd body next L L' hL' bi hbody hok ihn ihb =>
    cases checkT_eq_liveT _ _ _ _ hL'
    cases checkT_eq_liveT _ _ _ _ hbody
    have G := loopOk_iff.1 hok
    exact ⟨ihn _ hL' G.pwAfter rfl, ihb _ hbody (pw_sub G.pwEntry fun v hv => mem_atEntryOf.2 (Or.inl hv)) rfl, G,
      hLin ▸ hpw⟩
  | _ => cases h

section
variable (h : Loop) (v : ValId)
theorem Loop.barg_bound (hv : v ∈ h.bargs) : v ∈ h.bound := List.mem_append_right _ hv
theorem Loop.iv_bound (hv : v ∈ optL h.iv) : v ∈ h.bound := List.mem_append_left _ hv
theorem Loop.init_operand (hv : v ∈ h.inits) : v ∈ h.operands := List.mem_append_right _ hv
theorem Loop.lb_operand (hv : v ∈ optL h.lb) : v ∈ h.operands := by simp [Loop.operands, hv]
theorem Loop.ub_operand (hv : v ∈ optL h.ub) : v ∈ h.operands := by simp [Loop.operands, hv]
theorem Loop.step_operand (hv : v ∈ optL h.step) : v ∈ h.operands := by simp [Loop.operands, hv]
theorem Loop.rep_operand (hv : v ∈ optL h.rep) : v ∈ h.operands :=
  List.mem_append_left _ (List.mem_append_right _ hv)
theorem Loop.operand_hdr (hv : v ∈ h.operands) : v ∈ h.hdr := by simp [Loop.hdr, hv]
theorem Loop.res_hdr (hv : v ∈ h.res) : v ∈ h.hdr := by simp [Loop.hdr, hv]
theorem Loop.bound_hdr (hv : v ∈ h.bound) : v ∈ h.hdr := by simp [Loop.hdr, hv]
theorem Loop.yield_hdr (hv : v ∈ h.yields) : v ∈ h.hdr := by simp [Loop.hdr, hv]
end

theorem mem_allValsT_loop {h : Loop} {body next : LT} {v : ValId} :
    v ∈ allValsT (.loop h body next) ↔ v ∈ h.hdr ∨ v ∈ allValsT body ∨ v ∈ allValsT next := by
  simp only [allValsT, Loop.hdr, List.mem_append, or_assoc]

theorem mem_ounion {a b : List ValId} {v : ValId} : v ∈ ounion a b ↔ v ∈ a ∨ v ∈ b := by
  unfold ounion
  induction b generalizing a with
  | nil => simp
  | cons x b ih =>
    simp only [List.foldl_cons]
    rw [ih]
    split
    · rename_i hc
      simp only [List.contains_eq_mem, decide_eq_true_eq] at hc
      simp only [List.mem_cons]
      constructor
      · rintro (h | h)
        · exact Or.inl h
        · exact Or.inr (Or.inr h)
      · rintro (h | h | h)
        · exact Or.inl h
        · exact Or.inl (h ▸ hc)
        · exact Or.inr h
    · simp only [List.mem_append, List.mem_cons, List.not_mem_nil, or_false]
      constructor
      · rintro ((h | h) | h)
        · exact Or.inl h
        · exact Or.inr (Or.inl h)
        · exact Or.inr (Or.inr h)
      · rintro (h | h | h)
        · exact Or.inl (Or.inl h)
        · exact Or.inl (Or.inr h)
        · exact Or.inr h

theorem mem_odiff {a b : List ValId} {v : ValId} : v ∈ odiff a b ↔ v ∈ a ∧ v ∉ b :=
  mem_filter_not_contains

theorem liveAcc_sub : ∀ (t : LT) (acc : List ValId), ∀ v ∈ liveAcc t acc, v ∈ allValsT t ∨ v ∈ acc := by
  intro t
  induction t with
  | nil => intro acc v hv; exact Or.inr hv
  | op o next ih =>
    intro acc v hv
    simp only [liveAcc, mem_ounion, mem_odiff] at hv
    simp only [allValsT, List.mem_append]
    rcases hv with ⟨h1, _⟩ | h1
    · rcases ih acc v h1 with h | h
      · exact Or.inl (Or.inr h)
      · exact Or.inr h
    · exact Or.inl (Or.inl (Or.inl h1))
  | loop hd body next ihb ihn =>
    intro acc v hv
    simp only [liveAcc, mem_ounion, mem_odiff] at hv
    rw [mem_allValsT_loop]
    rcases hv with (⟨h1, _⟩ | h1) | ⟨h1, _⟩
    · exact (ihn acc v h1).imp_left fun h => Or.inr (Or.inr h)
    · exact Or.inl (Or.inl (hd.operand_hdr v h1))
    · rcases ihb _ v h1 with h | h
      · exact Or.inl (Or.inr (Or.inl h))
      · rcases mem_ounion.1 h with h | h
        · cases h
        · exact Or.inl (Or.inl (hd.yield_hdr v h))

theorem liveIns_sub (h : Loop) (body : LT) : ∀ v ∈ liveIns h body, (v ∈ allValsT body ∨ v ∈ h.yields) ∧ v ∉ h.bound := by
  intro v hv
  unfold liveIns at hv
  rw [mem_odiff] at hv
  refine ⟨?_, hv.2⟩
  rcases liveAcc_sub body _ v hv.1 with h1 | h1
  · exact Or.inl h1
  · rw [mem_ounion] at h1
    rcases h1 with h1 | h1
    · simp at h1
    · exact Or.inr h1

section
variable {h : Loop} {body : LT} {v : ValId}

theorem throughOf_sub {L' : List ValId} (hv : v ∈ throughOf h body L') :
    v ∈ L' ∨ v ∈ h.hdr ∨ v ∈ allValsT body := by
  rcases mem_throughOf.1 hv with ⟨h1, _⟩ | h1 | h1 | h1
  · exact Or.inl h1
  · exact Or.inr ((liveIns_sub h body v h1).1.elim Or.inr fun hy => Or.inl (h.yield_hdr v hy))
  · exact Or.inr (Or.inl (h.operand_hdr v (h.ub_operand v h1)))
  · exact Or.inr (Or.inl (h.operand_hdr v (h.step_operand v h1)))

theorem bodyOutOf_sub {th : List ValId} (hv : v ∈ bodyOutOf h th) : v ∈ th ∨ v ∈ h.hdr := by
  rcases mem_bodyOutOf.1 hv with h1 | h1 | h1
  · exact Or.inl h1
  · exact Or.inr (h.bound_hdr v (h.iv_bound v h1))
  · exact Or.inr (h.yield_hdr v h1)

theorem atEntryOf_sub {bi th : List ValId} (hv : v ∈ atEntryOf h bi th) : v ∈ bi ∨ v ∈ th ∨ v ∈ h.hdr := by
  rcases mem_atEntryOf.1 hv with h1 | h1 | h1
  · exact Or.inl h1
  · exact Or.inr (Or.inl h1)
  · exact Or.inr (Or.inr (h.bound_hdr v (h.iv_bound v h1)))

theorem beforeOf_sub {ae : List ValId} (hv : v ∈ beforeOf h ae) : v ∈ ae ∨ v ∈ h.hdr := by
  rcases mem_beforeOf.1 hv with ⟨h1, _⟩ | h1 | h1 | h1
  · exact Or.inl h1
  · exact Or.inr (h.operand_hdr v (h.lb_operand v h1))
  · exact Or.inr (h.operand_hdr v (h.rep_operand v h1))
  · exact Or.inr (h.operand_hdr v (h.init_operand v h1))
end

theorem liveT_of_live : ∀ (t : LT) (L : List ValId) (v : ValId), v ∈ L → v ∉ defsT t → v ∈ liveT t L := by
  intro t
  induction t with
  | nil => intro L v hv _; exact hv
  | op o next ih =>
    intro L v hv hd
    simp only [defsT, List.mem_append, not_or] at hd
    simp only [liveT]
    exact mem_liveIn_of_live (ih L v hv hd.2) hd.1
  | loop hd body next ihb ihn =>
    intro L v hv hdf
    simp only [defsT, List.mem_append, not_or] at hdf
    obtain ⟨⟨⟨hb, hr⟩, hdb⟩, hdn⟩ := hdf
    simp only [liveT]
    rw [mem_beforeOf]
    left
    refine ⟨?_, hb⟩
    rw [mem_atEntryOf]
    right; left
    rw [mem_throughOf]
    exact Or.inl ⟨ihn L v hv hdn, hr⟩

theorem liveT_sub : ∀ (t : LT) (L : List ValId), ∀ v ∈ liveT t L, v ∈ allValsT t ∨ v ∈ L := by
  intro t
  induction t with
  | nil => intro L v hv; exact Or.inr hv
  | op o next ih =>
    intro L v hv
    simp only [allValsT, List.mem_append]
    rcases mem_liveIn.1 hv with h | ⟨h, _⟩
    · exact Or.inl (Or.inl (Or.inl h))
    · exact (ih L v h).imp_left Or.inr
  | loop hd body next ihb ihn =>
    intro L v hv
    rw [mem_allValsT_loop]
    have hdr : v ∈ hd.hdr → (v ∈ hd.hdr ∨ v ∈ allValsT body ∨ v ∈ allValsT next) ∨ v ∈ L :=
      fun h => Or.inl (Or.inl h)
    have bdy : v ∈ allValsT body → (v ∈ hd.hdr ∨ v ∈ allValsT body ∨ v ∈ allValsT next) ∨ v ∈ L :=
      fun h => Or.inl (Or.inr (Or.inl h))
    have th : v ∈ throughOf hd body (liveT next L) → _ := fun h =>
      (throughOf_sub h).elim (fun h => (ihn L v h).imp_left fun h => Or.inr (Or.inr h)) fun h => h.elim hdr bdy
    rcases beforeOf_sub (show v ∈ beforeOf hd _ from hv) with h | h
    · rcases atEntryOf_sub h with h | h | h
      · rcases ihb _ v h with h | h
        · exact bdy h
        · exact (bodyOutOf_sub h).elim th hdr
      · exact th h
      · exact hdr h
    · exact hdr h

theorem Loop.gmem (hd : Loop) {g : List ValId} (hg : g ∈ hd.groups) :
    gB g ∈ hd.bargs ∧ gI g ∈ hd.inits ∧ gY g ∈ hd.yields ∧ gR g ∈ hd.res :=
  groups_mem hd.bargs hd.inits hd.yields hd.res g hg

theorem Loop.member (hd : Loop) {g : List ValId} (hg : g ∈ hd.groups) {m : ValId} (hm : m ∈ g) :
    m ∈ hd.hdr ∧ (m ∈ hd.bound ∨ m ∈ hd.inits ∨ m ∈ hd.yields ∨ m ∈ hd.res) := by
  rw [groups_shape _ _ _ _ g hg] at hm
  obtain ⟨h1, h2, h3, h4⟩ := hd.gmem hg
  simp only [List.mem_cons, List.not_mem_nil, or_false] at hm
  rcases hm with e | e | e | e
  · exact ⟨hd.bound_hdr m (e ▸ hd.barg_bound _ h1), Or.inl (e ▸ hd.barg_bound _ h1)⟩
  · exact ⟨hd.operand_hdr m (e ▸ hd.init_operand _ h2), Or.inr (Or.inl (e ▸ h2))⟩
  · exact ⟨hd.yield_hdr m (e ▸ h3), Or.inr (Or.inr (Or.inl (e ▸ h3)))⟩
  · exact ⟨hd.res_hdr m (e ▸ h4), Or.inr (Or.inr (Or.inr (e ▸ h4)))⟩

theorem Loop.mem_groups (hd : Loop) (lenB : hd.bargs.length = hd.inits.length)
    (lenY : hd.yields.length = hd.inits.length) (lenR : hd.res.length = hd.inits.length) {v : ValId} :
    (∃ g ∈ hd.groups, v ∈ g) ↔ (v ∈ hd.bargs ∨ v ∈ hd.inits ∨ v ∈ hd.yields ∨ v ∈ hd.res) := by
  obtain ⟨mB, mI, mY, mR⟩ := groups_maps hd.bargs hd.inits hd.yields hd.res lenB lenY lenR
  change hd.groups.map gB = _ at mB; change hd.groups.map gI = _ at mI
  change hd.groups.map gY = _ at mY; change hd.groups.map gR = _ at mR
  constructor
  · rintro ⟨g, hg, hm⟩
    rw [groups_shape _ _ _ _ g hg] at hm
    obtain ⟨h1, h2, h3, h4⟩ := hd.gmem hg
    simp only [List.mem_cons, List.not_mem_nil, or_false] at hm
    rcases hm with e | e | e | e
    · exact Or.inl (e ▸ h1)
    · exact Or.inr (Or.inl (e ▸ h2))
    · exact Or.inr (Or.inr (Or.inl (e ▸ h3)))
    · exact Or.inr (Or.inr (Or.inr (e ▸ h4)))
  · have sel := fun g hg => sel_mem (groups_shape hd.bargs hd.inits hd.yields hd.res g hg)
    rintro (h | h | h | h)
    · rw [← mB] at h; obtain ⟨g, hg, rfl⟩ := List.mem_map.1 h; exact ⟨g, hg, (sel g hg).1⟩
    · rw [← mI] at h; obtain ⟨g, hg, rfl⟩ := List.mem_map.1 h; exact ⟨g, hg, (sel g hg).2.1⟩
    · rw [← mY] at h; obtain ⟨g, hg, rfl⟩ := List.mem_map.1 h; exact ⟨g, hg, (sel g hg).2.2.1⟩
    · rw [← mR] at h; obtain ⟨g, hg, rfl⟩ := List.mem_map.1 h; exact ⟨g, hg, (sel g hg).2.2.2⟩

theorem groups_tied_of {a : ValId → Reg} : ∀ (bs is ys rs : List ValId),
    (∀ g ∈ groups bs is ys rs, ∀ v ∈ g, ∀ w ∈ g, a v = a w) → ∀ g ∈ groups bs is ys rs, tiedB a g = true := by
  intro bs is ys rs h g hg
  have hs := h g hg
  cases g with
  | nil => rfl
  | cons v vs =>
    simp only [tiedB, List.all_eq_true, beq_iff_eq]
    intro w hw
    exact hs w (List.mem_cons_of_mem _ hw) v (List.mem_cons_self ..)

section sep
variable {z : Bool} {a : ValId → Reg} {h : Loop} {th : List ValId}
  (htied : ∀ g ∈ h.groups, tiedB a g = true) (hnz : z = true → ∀ v ∈ h.bound ++ h.res, a v ≠ 0)
  (hbo : PW z a (bodyOutOf h th))
include htied hnz hbo

/-- A yielded value shares its register with nothing else that is live at the end of the body: the block
argument of its group keeps the register out of `zero`. -/
theorem yield_sep {g : List ValId} (hg : g ∈ h.groups) {w : ValId} (hw : w ∈ bodyOutOf h th)
    (hne : w ≠ gY g) : a w ≠ a (gY g) :=
  hbo.ne hw (mem_bodyOutOf.2 (Or.inr (Or.inr (h.gmem hg).2.2.1))) hne fun ⟨hz, h0⟩ =>
    hnz hz (gB g) (List.mem_append_left _ (h.barg_bound _ (h.gmem hg).1))
      (((group_tied hg).1 (htied g hg)).2.1 ▸ h0)

/-- … hence a result, which sits in the register of its yielded value, shares it with nothing that is live
throughout the loop (no yielded value is). -/
theorem res_sep (lenB : h.bargs.length = h.inits.length) (lenY : h.yields.length = h.inits.length)
    (lenR : h.res.length = h.inits.length) (hYth : ∀ y ∈ h.yields, y ∉ th) :
    ∀ d ∈ h.res, ∀ w ∈ th, a w ≠ a d := by
  intro d hd w hw heq
  obtain ⟨_, _, _, mR⟩ := groups_maps h.bargs h.inits h.yields h.res lenB lenY lenR
  obtain ⟨g, hg, rfl⟩ := List.mem_map.1 (show d ∈ h.groups.map gR from mR ▸ hd)
  obtain ⟨_, t2, t3⟩ := (group_tied hg).1 (htied g hg)
  exact yield_sep htied hnz hbo hg (mem_bodyOutOf.2 (Or.inl hw)) (fun e => hYth _ (h.gmem hg).2.2.1 (e ▸ hw))
    (heq.trans (t3.trans t2.symm))

end sep

/-- At a loop the validator looks at the assignment only through the ties of the groups, which
loop-bound values sit in `zero`, which values of three live sets (after the loop, at the end and at the
start of the body) share a register, and whether an iter_arg sits in the register of the induction
variable.  An assignment `af` that satisfies these is accepted where an accepted one (`a0`, which fixes
the shape) is, provided no yielded value is live throughout the loop or is the induction variable, and
the induction variable and what is live throughout the loop are live at the start of the body. -/
theorem LoopGood.transfer {z : Bool} {a0 af : ValId → Reg} {Z : List ValId} {h : Loop} {body : LT}
    {L' bi : List ValId}
    (G0 : LoopGood z a0 Z h L' (throughOf h body L') (bodyOutOf h (throughOf h body L')) bi
      (atEntryOf h bi (throughOf h body L')))
    (htied : ∀ g ∈ h.groups, tiedB af g = true)
    (hnz : z = true → ∀ v ∈ h.bound ++ h.res, af v ≠ 0)
    (hL : PW z af L') (hbo : PW z af (bodyOutOf h (throughOf h body L'))) (hbi : PW z af bi)
    (hinit : ∀ i ∈ h.inits, ∀ d ∈ optL h.iv, af i ≠ af d)
    (hYth : ∀ y ∈ h.yields, y ∉ throughOf h body L') (hIvY : ∀ v ∈ optL h.iv, v ∉ h.yields)
    (hthbi : ∀ w ∈ throughOf h body L', w ∈ bi) (hivbi : ∀ w ∈ optL h.iv, w ∈ bi) :
    LoopGood z af Z h L' (throughOf h body L') (bodyOutOf h (throughOf h body L')) bi
      (atEntryOf h bi (throughOf h body L')) := by
  have haebi : ∀ w ∈ atEntryOf h bi (throughOf h body L'), w ∈ bi := fun w hw => by
    rcases mem_atEntryOf.1 hw with h1 | h1 | h1
    · exact h1
    · exact hthbi w h1
    · exact hivbi w h1
  have hivnz : ∀ d ∈ optL h.iv, ¬ (z = true ∧ af d = 0) := fun d hd ⟨hz, h0⟩ =>
    hnz hz d (List.mem_append_left _ (List.mem_append_left _ hd)) h0
  exact { G0 with
    tied := htied, nz := hnz, pwAfter := hL, pwOut := hbo
    pwEntry := pw_sub hbi haebi
    ivY := fun d hd y hy => hbo.ne (mem_bodyOutOf.2 (Or.inr (Or.inr hy))) (mem_bodyOutOf.2 (Or.inr (Or.inl hd)))
      (fun e => hIvY d hd (e ▸ hy)) (hivnz d hd)
    ivFree := fun d hd w hw => by
      rcases hw with ⟨h1, h2⟩ | h1
      · exact hbi.ne (haebi w h1) (hivbi d hd) (fun e => h2 (e ▸ List.mem_append_left _ hd)) (hivnz d hd)
      · exact hinit w h1 d hd
    resFree := fun d hd w hw hwr =>
      res_sep htied hnz hbo G0.lenB G0.lenY G0.lenR hYth d hd w (mem_throughOf.2 (Or.inl ⟨hw, hwr⟩)) }

end Xdsl.RegAllocLoop
