import XdslProofs.Lemmas.DCEMiniCalm
import XdslProofs.Lemmas.DCEMiniSim
import XdslProofs.Lemmas.DCEMiniDel
import XdslProofs.Lemmas.DCEEff
/-!
From the model of the pass to the simulation (C13): the decidable hypotheses `cert` of
`XdslModel/DCEMini.lean` give `SimOK`/`CallOK` of `Lemmas/DCEMiniSim.lean`, once the operations `delA`
erases are known to be dead (`Lemmas/DCEMiniDel.lean`).

* `calm_of_wbd`: an operation `would_be_trivially_dead` accepts, with trait flags that agree with the names
  (`hdrOk`, `hdrOkAll`), is calm by its names and no terminator of `Sem` (so `quiet_of_calm` applies).
* `simOK_of_cert`: `SimOK` from the checks (`certB`: scoping of values defined inside erased operations /
  blocks, trait flags against names on erased operations; `succB`: kept successors), given that erased
  operations are dead.
* `callOK_of_cert`: the checks on the module body (`certTop`) give what the simulation of a call needs (`CallOK`).
-/
namespace Xdsl.DCEM
open Xdsl.DCE Xdsl.MiniIR Xdsl.Sem

variable {P : Prog} {D : Nat → Prop} {live hid : List Nat}

/-- an effect that `would_be_trivially_dead` tolerates somewhere: a read, or an allocation attached to a value -/
def Harmless (e : EffI) : Prop := e = .read ∨ ∃ o, e = .allocOn o

theorem harmless_of_effOk {ins : List Nat} {e : EffI} (h : effOk ins e = true) : Harmless e := by
  cases e with
  | read => exact Or.inl rfl
  | allocOn o => exact Or.inr ⟨o, rfl⟩
  | write => simp [effOk] at h
  | free => simp [effOk] at h
  | alloc => simp [effOk] at h

theorem not_loud {h : Hdr} {own : List EffI} (he : h.eff = some own) (hh : ∀ e ∈ own, Harmless e) : loud h = false := by
  unfold loud
  rw [he]
  simp only [List.any_eq_false]
  intro e hm
  rcases hh e hm with rfl | ⟨o, rfl⟩ <;> simp

/-- the operation case of `calm_of_eff`, with that statement for the regions as the hypothesis `ih`; `calm_of_wbd` uses
it once more, on the erased operation itself -/
theorem calmCell_of_eff {h : Hdr} {m : MHdr} {rs : AT} {es : List EffI}
    (ih : ∀ es, effAll (toT rs) = some es → (∀ e ∈ es, Harmless e) → hdrOkAll rs = true → calm rs = true)
    (he : opEff h (effAll (toT rs)) = some es) (hh : ∀ e ∈ es, Harmless e)
    (hok : hdrOk h m = true) (hokr : hdrOkAll rs = true) : calmCell m rs = true := by
  unfold opEff at he
  cases hown : h.eff with
  | none => rw [hown] at he; cases he
  | some own =>
    rw [hown] at he
    simp only at he
    simp only [hdrOk, Bool.and_eq_true, Bool.or_eq_true] at hok
    unfold calmCell
    simp only [Bool.or_eq_true, Bool.and_eq_true]
    cases hrec : h.recursive with
    | false =>
      simp only [hrec, Bool.false_eq_true, if_false, Option.some.injEq] at he
      subst he
      rcases hok.2 with ((h1 | h1) | h1) | h1
      · exact Or.inl (Or.inl h1)
      · exact Or.inl (Or.inr h1)
      · rw [hrec] at h1; simp at h1
      · rw [not_loud hown hh] at h1; cases h1
    | true =>
      simp only [hrec, if_true] at he
      cases hin : effAll (toT rs) with
      | none => rw [hin] at he; cases he
      | some inner =>
        rw [hin] at he
        simp only [Option.map, Option.some.injEq] at he
        subst he
        rcases hok.2 with ((h1 | h1) | h1) | h1
        · exact Or.inl (Or.inl h1)
        · exact Or.inl (Or.inr h1)
        · exact Or.inr ⟨h1.1, ih inner hin (fun e hm => hh e (List.mem_append_right _ hm)) hokr⟩
        · rw [not_loud hown (fun e hm => hh e (List.mem_append_left _ hm))] at h1; cases h1

theorem calm_of_eff (a : AT) : ∀ es, effAll (toT a) = some es → (∀ e ∈ es, Harmless e) →
    hdrOkAll a = true → calm a = true := by
  induction a with
  | nil => intro _ _ _ _; rfl
  | op h m rs next ihr ihn =>
    intro es he hh hok
    simp only [toT_op] at he
    obtain ⟨x, y, h1, h2, rfl⟩ := effAll_op.mp he
    simp only [hdrOkAll, Bool.and_eq_true] at hok
    have hc := calmCell_of_eff ihr h1 (fun e hm => hh e (List.mem_append_left _ hm)) hok.1.1 hok.1.2
    have hn := ihn y h2 (fun e hm => hh e (List.mem_append_right _ hm)) hok.2
    unfold calmCell at hc
    simp only [calm, hc, hn, Bool.and_self]
  | block i args ops next iho ihn =>
    intro es he hh hok
    simp only [toT_block] at he
    obtain ⟨x, y, h1, h2, rfl⟩ := effAll_block.mp he
    simp only [hdrOkAll, Bool.and_eq_true] at hok
    simp only [calm, iho x h1 (fun e hm => hh e (List.mem_append_left _ hm)) hok.1,
      ihn y h2 (fun e hm => hh e (List.mem_append_right _ hm)) hok.2, Bool.and_self]
  | region bs next ihb ihn =>
    intro es he hh hok
    simp only [toT_region] at he
    obtain ⟨x, y, h1, h2, rfl⟩ := effAll_region.mp he
    simp only [hdrOkAll, Bool.and_eq_true] at hok
    simp only [calm, ihb x h1 (fun e hm => hh e (List.mem_append_left _ hm)) hok.1,
      ihn y h2 (fun e hm => hh e (List.mem_append_right _ hm)) hok.2, Bool.and_self]

/-- **`would_be_trivially_dead` operations are calm**, when the trait flags agree with the names on the
operation and on everything nested in it -/
theorem calm_of_wbd {h : Hdr} {m : MHdr} {rs : AT} (hw : wbd h (toT rs) = true) (hok : hdrOk h m = true)
    (hokr : hdrOkAll rs = true) : calmCell m rs = true ∧ termNames.contains m.name = false := by
  simp only [wbd, Bool.and_eq_true, Bool.not_eq_true'] at hw
  obtain ⟨⟨ht, _⟩, hr⟩ := hw
  unfold resultOnlyEffects at hr
  split at hr
  · cases hr
  · rename_i es he
    have hh : ∀ e ∈ es, Harmless e := fun e hm => harmless_of_effOk (List.all_eq_true.mp hr e hm)
    refine ⟨calmCell_of_eff (fun es => calm_of_eff rs es) he hh hok hokr, ?_⟩
    simp only [hdrOk, Bool.and_eq_true, Bool.or_eq_true, Bool.not_eq_true'] at hok
    rcases hok.1 with h1 | h1
    · exact h1
    · rw [ht] at h1; cases h1

theorem SimOK.regions_any {rs : AT} {K K' : Nat → Prop} {f f' : Bool} (h : SimOK P D live rs .regions K f) :
    SimOK P D live rs .regions K' f' := by
  cases rs with
  | nil => trivial
  | op _ _ _ _ => exact h.elim
  | block _ _ _ _ => exact h.elim
  | region _ _ => exact h

/-- `SimOK` from the decidable checks (`certB`), given that every operation `delA` erases from a kept block
is `would_be_trivially_dead` and defines values of `D` only, that what disappears inside erased operations
and blocks is in `D`, and that a kept operation reads a value of `D` only if it is one of `hid` (which
`certB` excludes) -/
theorem simOK_of_cert (a : AT) (s : Srt) (kb : Nat → Bool) (f : Bool) : ∀ (K : Nat → Prop),
    certB live hid a s kb f = true → succB live a s kb f = true → (∀ b, kb b = true → K b) →
    (∀ c ∈ dropCells live a f, wbd c.1 (toT c.2.2) = true ∧ ∀ r ∈ c.2.1.results, D r.1) →
    (∀ v ∈ hiddenDefs live a f, D v) →
    (∀ c ∈ cellsA a, live.contains c.1.id = true → ∀ v ∈ uses c.2.1, D v → v ∈ hid) →
    SimOK P D live a s K f := by
  fun_induction certB live hid a s kb f with
  | case1 s => intro K _ _ _ _ _ _; cases s <;> trivial
  | case2 h m rs next kb f ihr ihn =>
    intro K hc hsb hK hdrop hhid hG
    simp only [Bool.and_eq_true] at hc
    simp only [succB, Bool.and_eq_true] at hsb
    simp only [dropCells, List.mem_append] at hdrop
    simp only [hiddenDefs, List.mem_append] at hhid
    simp only [cellsA, List.mem_cons, List.mem_append] at hG
    refine ⟨?_, ihn K hc.2 hsb.2 hK (fun c hc => hdrop c (Or.inr hc)) (fun v hv => hhid v (Or.inr hv))
      (fun c hc => hG c (Or.inr (Or.inr hc)))⟩
    cases hl : live.contains h.id with
    | true =>
      simp only [hl, if_true, Bool.and_eq_true, List.all_eq_true, Bool.not_eq_true',
        List.contains_eq_mem, decide_eq_false_iff_not] at hc hdrop hhid ⊢
      simp only [hl, Bool.not_true, Bool.false_or, Bool.and_eq_true, List.all_eq_true] at hsb
      exact ⟨fun v hv hd => hc.1.1 v hv (hG (h, m, rs) (Or.inl rfl) (by simpa using hl) v hv hd),
        fun s hs => hK _ (hsb.1.1 s hs),
        ihr (fun _ => True) hc.1.2 hsb.1.2 (fun _ _ => trivial)
          (fun c hc => hdrop c (Or.inl hc)) (fun v hv => hhid v (Or.inl hv)) (fun c hc => hG c (Or.inr (Or.inl hc)))⟩
    | false =>
      simp only [hl, Bool.false_eq_true, if_false, Bool.and_eq_true] at hc hdrop hhid ⊢
      obtain ⟨hw, hres⟩ := hdrop (h, m, rs) (Or.inl (List.mem_singleton.mpr rfl))
      obtain ⟨hcalm, hterm⟩ := calm_of_wbd hw hc.1.1 hc.1.2
      exact quiet_of_calm hcalm hterm hres (fun v hv => hhid v (Or.inl hv))
  | case3 i args ops next kb f iho ihn =>
    intro K hc hsb hK hdrop hhid hG
    simp only [Bool.and_eq_true] at hc
    simp only [succB, Bool.and_eq_true] at hsb
    simp only [dropCells, List.mem_append] at hdrop
    simp only [hiddenDefs, List.mem_append] at hhid
    simp only [cellsA, List.mem_append] at hG
    refine ⟨?_, ihn K hc.2 hsb.2 hK (fun c hc => hdrop c (Or.inr hc)) (fun v hv => hhid v (Or.inr hv))
      (fun c hc => hG c (Or.inr hc))⟩
    intro hkeep
    have hk : (!f && !anyLiveA live ops) = false := by
      rcases hkeep with h | h <;> simp [h]
    simp only [hk, Bool.false_eq_true, Bool.false_or, if_false] at hc hsb hdrop hhid
    exact iho K hc.1 hsb.1 hK (fun c hc => hdrop c (Or.inl hc)) (fun v hv => hhid v (Or.inl hv))
      (fun c hc => hG c (Or.inl hc))
  | case4 bs next kb f ihb ihn =>
    intro K hc hsb hK hdrop hhid hG
    simp only [Bool.and_eq_true] at hc
    simp only [succB, Bool.and_eq_true] at hsb
    simp only [dropCells, List.mem_append] at hdrop
    simp only [hiddenDefs, List.mem_append] at hhid
    simp only [cellsA, List.mem_append] at hG
    exact ⟨ihb _ hc.1 hsb.1 (fun b hb => (firstKeptB_iff b bs true).mp hb)
        (fun c hc => hdrop c (Or.inl hc)) (fun v hv => hhid v (Or.inl hv)) (fun c hc => hG c (Or.inl hc)),
      ihn _ hc.2 hsb.2 (fun _ _ => trivial)
        (fun c hc => hdrop c (Or.inr hc)) (fun v hv => hhid v (Or.inr hv)) (fun c hc => hG c (Or.inr hc))⟩
  | case5 => intro _ hc; cases hc

theorem bodyOf_some {l : List Region} {r : Region} (h : bodyOf l = some r) : l = [r] := by
  unfold bodyOf at h
  split at h
  · cases h; rfl
  · cases h

theorem bodyOf_self {l : List Region} {r x : Region} (hl : l = [r]) (h : bodyOf l = some x) : x = r := by
  have := bodyOf_some h
  rw [hl] at this
  simpa using this.symm

/-- what the simulation of a call needs, for the functions of a list `a` of module-level operations, from the checks on
the module body (`certTop`): every `func.func` is kept, its body satisfies `SimOK` (`simOK_of_cert`), and a body with a
non-empty entry block keeps one, so a function is external after the erasure exactly when it was before -/
theorem callOK_of_cert (mask : List Bool) (a : AT) (kb : Nat → Bool) (hc : certTop live hid a = true)
    (hsb : succB live a .ops kb false = true)
    (hdrop : ∀ c ∈ dropCells live a false, wbd c.1 (toT c.2.2) = true ∧ ∀ r ∈ c.2.1.results, D r.1)
    (hhid : ∀ v ∈ hiddenDefs live a false, D v)
    (hG : ∀ c ∈ cellsA a, live.contains c.1.id = true → ∀ v ∈ uses c.2.1, D v → v ∈ hid) :
    CallOK D live ⟨funcsOf a⟩ ⟨funcsOf (delA live a false mask)⟩ := by
  -- the induction shortens the list the functions are looked up in, while `Quiet` in `SimOK` speaks of one program throughout
  suffices h : ∀ P name fn, findFunc ⟨funcsOf a⟩ name = some fn →
      ∃ fn', findFunc ⟨funcsOf (delA live a false mask)⟩ name = some fn' ∧
        ((fn.body = none ∧ fn'.body = none) ∨
         ∃ bs mask, fn.body = some (.mk (blocksOf bs)) ∧ fn'.body = some (.mk (blocksOf (delA live bs true mask)))
            ∧ SimOK P D live bs .blocks (fun b => FirstKept live b bs true) true) from h _
  intro P
  induction a with
  | nil => intro name fn h; simp [findFunc, funcsOf] at h
  | block _ _ _ _ _ _ => intro name fn h; simp [findFunc, funcsOf] at h
  | region _ _ _ _ => intro name fn h; simp [findFunc, funcsOf] at h
  | op h m rs next _ ihn =>
    intro name fn hf
    simp only [succB, Bool.and_eq_true] at hsb
    simp only [dropCells, List.mem_append] at hdrop
    simp only [certTop, Bool.and_eq_true, Bool.or_eq_true, bne_iff_ne, ne_eq, beq_iff_eq] at hc
    simp only [hiddenDefs, List.mem_append] at hhid
    simp only [cellsA, List.mem_cons, List.mem_append] at hG
    have hnext := ihn hc.2 hsb.2 (fun c hc => hdrop c (Or.inr hc)) (fun v hv => hhid v (Or.inr hv))
      (fun c hc => hG c (Or.inr (Or.inr hc))) name fn
    by_cases hname : m.name = "func.func"
    · obtain ⟨⟨hl, hcb⟩, hbody⟩ := hc.1.resolve_left (fun h0 => h0 hname)
      simp only [hl, if_true, Bool.not_true, Bool.false_or, Bool.and_eq_true] at hdrop hhid hsb
      have hsim : SimOK P D live rs .regions (fun _ => True) true :=
        simOK_of_cert rs .regions _ true _ hcb hsb.1.2 (fun _ _ => trivial) (fun c hc => hdrop c (Or.inl hc))
          (fun v hv => hhid v (Or.inl hv)) (fun c hc => hG c (Or.inr (Or.inl hc)))
      simp only [findFunc, funcsOf, hname, if_true, List.find?_cons] at hf
      simp only [delA, hl, if_true, findFunc, funcsOf, hname, List.find?_cons]
      by_cases hn : symName m = name
      · simp only [hn, decide_true] at hf ⊢
        cases hf
        refine ⟨_, rfl, ?_⟩
        simp only
        obtain ⟨l, e1, e2, e3⟩ := regions_sim hsim true []
        cases hb : bodyOf (regionsOf rs) with
        | none =>
          rw [hb] at hbody
          exact Or.inl ⟨rfl, Option.not_isSome_iff_eq_none.mp (by rw [← hbody]; simp)⟩
        | some r =>
          rw [hb] at hbody
          obtain ⟨r', hb'⟩ := Option.isSome_iff_exists.mp hbody.symm
          have hr := bodyOf_some hb
          have hr' := bodyOf_some hb'
          rw [e1] at hr
          rw [e2] at hr'
          rcases l with _ | ⟨p, _ | ⟨q, l⟩⟩
          · cases hr
          · simp only [List.map, List.cons.injEq, and_true] at hr hr'
            exact Or.inr ⟨p.1, p.2, by rw [← hr], by rw [hb', hr'], e3 p (by simp)⟩
          · simp at hr
      · simp only [hn, decide_false] at hf ⊢
        exact hnext (by simpa [findFunc] using hf)
    · simp only [findFunc, funcsOf, hname, if_false] at hf
      have := hnext (by simpa [findFunc] using hf)
      simp only [delA]
      split
      · simpa [findFunc, funcsOf, hname] using this
      · exact this

end Xdsl.DCEM
