/-!
# `Except`: when a `do` block returns `ok`, and partial-correctness rules for it

Shared by the proofs about models written in `Except`: the IR store (all of it), the two register allocators (the
loop rules), the affine expressions and the operation definitions (`bind_eq_ok`).

`bind_eq_ok`: a `do` block returns `ok` iff each of its steps does.  `Sat r Q`: if the computation `r` succeeds, its
value satisfies `Q`.  The rules follow the shape of a `do` block (`bind`, the `if … then throw` guard, `foldlM`), so a
proof about a composite method of the IR store names the facts of its parts and never looks at an `= .ok` equation.
`Sat r Q` unfolds to `∀ a, r = .ok a → Q a`, so the loop rules serve as well where a run is held as an equation: the
allocators apply them to `s' h` with `h : … = .ok s'` (their `foldE`, `foldL` are `List.foldlM`).
-/
namespace Xdsl

section ExceptLemmas
variable {ε α β : Type}

@[simp] theorem bind_eq_ok {x : Except ε α} {f : α → Except ε β} {b : β} :
    (x >>= f) = .ok b ↔ ∃ a, x = .ok a ∧ f a = .ok b := by
  cases x <;> simp [bind, Except.bind]

@[simp] theorem pure_eq_ok {a b : α} : (pure a : Except ε α) = .ok b ↔ a = b := by
  simp [pure, Except.pure]

/-- `let x ← if c then a else b; rest` is elaborated with `rest` in both branches; this puts it back -/
theorem ite_bind (c : Prop) [Decidable c] (x y : Except ε α) (f : α → Except ε β) :
    (if c then x >>= f else y >>= f) = (if c then x else y) >>= f := by
  split <;> rfl

def Sat (r : Except ε α) (Q : α → Prop) : Prop := ∀ a, r = .ok a → Q a

theorem Sat.ok {a : α} {Q : α → Prop} (h : Q a) : Sat (.ok a : Except ε α) Q :=
  fun _ e => Except.ok.inj e ▸ h

theorem Sat.pure {a : α} {Q : α → Prop} (h : Q a) : Sat (pure a : Except ε α) Q := Sat.ok h

theorem Sat.error {e : ε} {Q : α → Prop} : Sat (.error e : Except ε α) Q := nofun

theorem Sat.imp {r : Except ε α} {P Q : α → Prop} (h : Sat r P) (hq : ∀ a, P a → Q a) : Sat r Q :=
  fun a e => hq a (h a e)

theorem Sat.bind {r : Except ε α} {k : α → Except ε β} {P : α → Prop} {Q : β → Prop}
    (h : Sat r P) (hk : ∀ a, P a → Sat (k a) Q) : Sat (r >>= k) Q := fun b e => by
  obtain ⟨a, ha, hb⟩ := bind_eq_ok.mp e
  exact hk a (h a ha) b hb

theorem Sat.ite {c : Prop} [Decidable c] {x y : Except ε α} {Q : α → Prop} (hx : c → Sat x Q)
    (hy : ¬ c → Sat y Q) : Sat (if c then x else y) Q := by
  by_cases hc : c
  · rw [if_pos hc]; exact hx hc
  · rw [if_neg hc]; exact hy hc

/-- `if c then throw e` in front of the rest `r` of a `do` block (the elaborator puts `r` behind both
branches) -/
theorem Sat.guard {c : Prop} [Decidable c] {e : ε} {k : α → Except ε β} {r : Except ε β} {Q : β → Prop}
    (h : ¬ c → Sat r Q) : Sat (if c then MonadExcept.throw e >>= k else r) Q := by
  by_cases hc : c
  · rw [if_pos hc]; exact nofun
  · rw [if_neg hc]; exact h hc

/-- the rule for a loop that may raise, with an invariant indexed by the elements done so far, newest first;
`l = d.reverse ++ a :: r` says where in the list the step stands -/
theorem Sat.foldlM_done {σ : Type} {f : σ → α → Except ε σ} (I : List α → σ → Prop) {l : List α} {s : σ}
    (h : I [] s) (step : ∀ d a r t, l = d.reverse ++ a :: r → I d t → Sat (f t a) (I (a :: d))) :
    Sat (l.foldlM f s) (I l.reverse) := by
  suffices ∀ (r d : List α) (t : σ), l = d.reverse ++ r → I d t → Sat (r.foldlM f t) (I (r.reverse ++ d)) by
    simpa using this l [] s rfl h
  intro r
  induction r with
  | nil => exact fun d t _ ht => Sat.pure ht
  | cons a r ih =>
    intro d t e ht
    rw [List.foldlM_cons, List.reverse_cons, List.append_assoc]
    exact (step d a r t e ht).bind fun t' ht' =>
      ih (a :: d) t' (by rw [e, List.reverse_cons, List.append_assoc]; rfl) ht'

theorem Sat.foldlM {σ : Type} {f : σ → α → Except ε σ} {l : List α} (J : σ → Prop)
    (step : ∀ s x, x ∈ l → J s → Sat (f s x) J) {s : σ} (h : J s) : Sat (l.foldlM f s) J :=
  Sat.foldlM_done (fun _ => J) h fun _ a _ t e => step t a (e ▸ List.mem_append_right _ List.mem_cons_self)

theorem Sat.foldlM_rel {σ : Type} {R : σ → σ → Prop} (refl : ∀ s, R s s)
    (trans : ∀ {a b c}, R a b → R b c → R a c) {f : σ → α → Except ε σ} {l : List α}
    (step : ∀ a ∈ l, ∀ s, Sat (f s a) (R s)) (s : σ) : Sat (l.foldlM f s) (R s) :=
  Sat.foldlM (R s) (fun t a ha ht t' e => trans ht (step a ha t t' e)) (refl s)

end ExceptLemmas

end Xdsl

namespace Xdsl.IR

theorem bind_eq_ok_iff {ε α β : Type} {x : Except ε α} {f : α → Except ε β} {b : β} :
    (x >>= f) = .ok b ↔ ∃ a, x = .ok a ∧ f a = .ok b := bind_eq_ok

theorem pure_eq_ok_iff {ε α : Type} {a b : α} : (pure a : Except ε α) = .ok b ↔ a = b := pure_eq_ok

end Xdsl.IR
