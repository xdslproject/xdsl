import XdslProofs.Lemmas.X86Frame
import XdslModel.X86Rules
/-!
The predicates in which `XdslProofs/C21Rules.lean` states its theorems (`OnlyReg`, `EntryOk`,
`Fact.Holds`, `EqUpTo`) and the lemmas behind them.  Everything the lowering rules emit before `ret` is
register code in the sense of `X86Frame` (`entryFrom_regCode`, `constCode_regCode`, `binCode_regCode`,
`lowerBody_sound`), so `RegCode.exec_eq` gives their frame claims.
-/
namespace Xdsl.X86.Lower
open Xdsl.X86

@[simp] theorem xexec_nil (σ : St) : xexec [] σ = σ := rfl
@[simp] theorem xexec_cons (i : XInstr) (l : List XInstr) (σ : St) :
    xexec (i :: l) σ = xexec l (xstep i σ) := rfl
@[simp] theorem xstep_base (i : Instr) (σ : St) : xstep (.base i) σ = step i σ := rfl

theorem xexec_lift (l : List Instr) (σ : St) : xexec (lift l) σ = exec l σ := by
  induction l generalizing σ with
  | nil => rfl
  | cons i l ih => simp [lift, exec] at ih ⊢; exact ih _

/-- frame: nothing but register `t` differs between `σ` and `σ'` -/
def OnlyReg (t : Nat) (σ σ' : St) : Prop := σ'.mem = σ.mem ∧ ∀ r, r ≠ t → σ'.reg r = σ.reg r

/-- a register class is as wide as the integer type it serves -/
theorem regSz_int_bits {w : Nat} {sz : Sz} (h : regSz (.int w) = some sz) : sz.bits = w := by
  simp only [regSz] at h
  by_cases e : w = 64
  · rw [if_pos e] at h; cases h; exact e.symm
  rw [if_neg e] at h
  by_cases e : w = 32
  · rw [if_pos e] at h; cases h; exact e.symm
  rw [if_neg e] at h
  by_cases e : w = 16
  · rw [if_pos e] at h; cases h; exact e.symm
  rw [if_neg e] at h
  by_cases e : w = 8
  · rw [if_pos e] at h; cases h; exact e.symm
  rw [if_neg e] at h
  cases h

theorem regSz_index : regSz .index = some .q := rfl
theorem regSz_ptr : regSz .ptr = some .q := rfl

/-- what register allocation owes the entry sequence `entryFrom i l`: a new register is not `rsp`,
not an argument register that is still to be read, and not reused by a later parameter -/
def EntryOk (i : Nat) : List (Sz × Nat) → Prop
  | [] => True
  | (_, t) :: r =>
    t ≠ RSP ∧ (∀ j, i < j → j < 6 → t ≠ argReg j) ∧ (∀ p ∈ r, p.2 ≠ t) ∧ EntryOk (i + 1) r

theorem argReg_lt (j : Nat) : argReg j < 16 := by
  unfold argReg; split <;> decide

/-- before register allocation the new registers are distinct SSA values (numbers ≥ 16): the
precondition holds -/
theorem entryOk_virtual (l : List (Sz × Nat)) : ∀ i, (∀ p ∈ l, 16 ≤ p.2) → (l.map (·.2)).Nodup → EntryOk i l := by
  induction l with
  | nil => intro _ _ _; trivial
  | cons hd r ih =>
    intro i hv hn
    obtain ⟨sz, t⟩ := hd
    simp only [List.map_cons, List.nodup_cons, List.mem_map, not_exists, not_and] at hn
    have ht : 16 ≤ t := hv (sz, t) (by simp)
    refine ⟨?_, ?_, ?_, ih (i + 1) (fun p hp => hv p (by simp [hp])) hn.2⟩
    · simp only [RSP]; omega
    · intro j _ _ e
      have := argReg_lt j
      omega
    · intro p hp e
      exact hn.1 p hp e

theorem argOf_setReg (σ : St) (t : Nat) (v : W) (i j : Nat) (hij : i < j) (hsp : t ≠ RSP)
    (harg : ∀ j, i < j → j < 6 → t ≠ argReg j) : argOf (setReg σ t v) j = argOf σ j := by
  unfold argOf
  split
  · next hj =>
    have := harg j hij hj
    simp [setReg_reg, Ne.symm this]
  · simp [setReg_reg, Ne.symm hsp]

theorem step_argInstr (i : Nat) (sz : Sz) (t : Nat) (σ : St) :
    step (argInstr i sz t) σ = setReg σ t (wr sz (σ.reg t) (argOf σ i)) := by
  unfold argInstr argOf
  split
  · rfl
  · simp only [step, addr, BitVec.ofInt_natCast]

theorem entryFrom_regCode (l : List (Sz × Nat)) : ∀ i, RegCode (fun r => ∃ p ∈ l, p.2 = r) (entryFrom i l) := by
  induction l with
  | nil => exact fun _ => .nil
  | cons hd r ih =>
    intro i
    obtain ⟨sz, t⟩ := hd
    refine .cons (d := t) ?_ ⟨_, List.mem_cons_self, rfl⟩
      ((ih (i + 1)).mono fun d ⟨p, hp, e⟩ => ⟨p, List.mem_cons_of_mem _ hp, e⟩)
    unfold argInstr; split <;> rfl

theorem entryFrom_sound (l : List (Sz × Nat)) : ∀ (i : Nat) (σ : St), EntryOk i l →
    ∀ (k : Nat) (p : Sz × Nat), l[k]? = some p →
      trunc p.1 ((exec (entryFrom i l) σ).reg p.2) = trunc p.1 (argOf σ (i + k)) := by
  induction l with
  | nil => intro i σ _ k p hk; cases hk
  | cons hd r ih =>
    intro i σ hok k p hk
    obtain ⟨sz, t⟩ := hd
    obtain ⟨hsp, harg, hfresh, hrest⟩ := hok
    have hstep := step_argInstr i sz t σ
    simp only [entryFrom, exec_cons]
    cases k with
    | zero =>
      simp only [List.getElem?_cons_zero, Option.some.injEq] at hk
      subst hk
      -- the rest of the sequence does not write `t` again
      rw [((entryFrom_regCode r (i + 1)).exec_eq _).2 t (fun ⟨p, hp, e⟩ => hfresh p hp e), hstep]
      simp [trunc_wr]
    | succ k =>
      simp only [List.getElem?_cons_succ] at hk
      rw [ih (i + 1) _ hrest k p hk, hstep, argOf_setReg σ t _ i (i + 1 + k) (by omega) hsp harg]
      congr 2; omega

theorem maddr_zero (σ : St) (b : Nat) : maddr σ b 0 = σ.reg b := by simp [maddr]

theorem trunc_mwr (sz : Sz) (old v : W) : trunc sz (mwr sz old v) = trunc sz v := by
  cases sz
  · rfl
  · exact trunc_splice .d old _
  · exact trunc_splice .w old _
  · exact trunc_splice .b old _

theorem mwr_self (sz : Sz) (old : W) : mwr sz old old = old := by
  cases sz
  · rfl
  all_goals exact BitVec.sub_add_cancel ..

/-- operand size of an instruction (`q` for those without) -/
def XInstr.size : XInstr → Sz
  | .base (.mov sz _ _) => sz
  | .base (.movi sz _ _) => sz
  | .base (.load sz _ _) => sz
  | .base (.alu _ sz _ _) => sz
  | .ldm sz _ _ _ => sz
  | .stm sz _ _ _ => sz
  | _ => .q

/-- the register an instruction writes at its operand size -/
def XInstr.dst : XInstr → Option Nat
  | .base (.mov _ d _) => some d
  | .base (.movi _ d _) => some d
  | .base (.load _ d _) => some d
  | .base (.alu _ _ d _) => some d
  | .ldm _ d _ _ => some d
  | _ => none

/-- a fact read off the defining operations is true of the machine state (constants at operand size
`sz`) -/
def Fact.Holds (sz : Sz) (σ : St) : Fact → Prop
  | .const r c => trunc sz (σ.reg r) = BitVec.ofInt sz.bits c
  | .movAdd m b c => σ.reg m = σ.reg b + BitVec.ofInt 64 c

/-- the two states agree on memory and on every register, except that register `d` is only compared
at operand size `sz` -/
def EqUpTo (sz : Sz) (d : Option Nat) (σ₁ σ₂ : St) : Prop :=
  σ₁.mem = σ₂.mem ∧ ∀ r, if some r = d then trunc sz (σ₁.reg r) = trunc sz (σ₂.reg r) else σ₁.reg r = σ₂.reg r

/-- equal states are in particular equal up to the destination's upper bits; stated in the shape of
the conclusion of `x86_canon_sound` -/
theorem EqUpTo.of_eq {sz : Sz} {d : Option Nat} {σ₁ σ₂ : St} (h : σ₁ = σ₂) :
    EqUpTo sz d σ₁ σ₂ ∧ (sz ≠ .d → σ₁ = σ₂) := by
  subst h
  exact ⟨⟨rfl, fun r => by split <;> rfl⟩, fun _ => rfl⟩

theorem constOf_mem {fs : List Fact} {r : Nat} {c : Int} (h : constOf fs r = some c) :
    Fact.const r c ∈ fs := by
  fun_induction constOf fs r <;> simp_all

theorem movAddOf_mem {fs : List Fact} {m b : Nat} {c : Int} (h : movAddOf fs m = some (b, c)) :
    Fact.movAdd m b c ∈ fs := by
  fun_induction movAddOf fs m <;> simp_all

theorem EqUpTo.drop_write (sz : Sz) (d : Nat) (v : W) (σ : St) (h : trunc sz v = trunc sz (σ.reg d)) :
    EqUpTo sz (some d) σ (setReg σ d (wr sz (σ.reg d) v)) ∧
      (sz ≠ .d → σ = setReg σ d (wr sz (σ.reg d) v)) := by
  refine ⟨⟨rfl, fun r => ?_⟩, fun hd => ?_⟩
  · rw [setReg_reg]
    split
    · next e => cases e; rw [if_pos rfl, trunc_wr, h]
    · next e => rw [if_neg (fun e' => e (congrArg some e'))]
  · rw [wr_congr sz _ h, wr_self sz hd, setReg_self]

theorem maddr_fold (σ : St) (m b : Nat) (c k : Int) (h : σ.reg m = σ.reg b + BitVec.ofInt 64 c) :
    maddr σ b (k + c) = maddr σ m k := by
  simp only [maddr, h, BitVec.ofInt_add]
  ac_rfl

theorem lookupCanon_mem {name : String} {tbl : List (String × (List Fact → XInstr → Option (List XInstr)))}
    {f : List Fact → XInstr → Option (List XInstr)} (h : lookupCanon name tbl = some f) : (name, f) ∈ tbl := by
  fun_induction lookupCanon name tbl <;> simp_all

theorem paramRegs_getElem? (base n i : Nat) (h : i < n) : (paramRegs base n)[i]? = some (base + i) := by
  simp [paramRegs, List.getElem?_map, List.getElem?_range h]

theorem mem_paramRegs {base n r : Nat} (h : r ∈ paramRegs base n) : base ≤ r ∧ r < base + n := by
  obtain ⟨i, hi, rfl⟩ := List.mem_map.mp h
  have := List.mem_range.mp hi
  omega

theorem paramRegs_nodup (base n : Nat) : (paramRegs base n).Nodup := by
  show (paramRegs base n).Pairwise (· ≠ ·)
  simp only [paramRegs, List.pairwise_map]
  exact List.pairwise_lt_range.imp (fun h => by omega)

/-- value of the register of an SSA value at the width of the function -/
def rd (sz : Sz) (σ : St) (r : Nat) : BitVec sz.bits := trunc sz (σ.reg r)

theorem constCode_regCode (sz : Sz) (t : Nat) (c : Int) : RegCode (· = t) (constCode sz t c) :=
  .cons rfl rfl .nil

theorem constCode_rd (sz : Sz) (t : Nat) (c : Int) (σ : St) :
    rd sz (exec (constCode sz t c) σ) t = BitVec.ofInt sz.bits c := by
  simp [rd, constCode, step, trunc_wr, trunc_ofInt]

theorem binCode_regCode (op : Alu) (sz : Sz) (t lhs rhs : Nat) : RegCode (· = t) (binCode op sz t lhs rhs) :=
  .cons rfl rfl (.cons rfl rfl .nil)

theorem binCode_rd (op : Alu) (sz : Sz) (t lhs rhs : Nat) (σ : St) (ht : lhs ≠ t) :
    rd sz (exec (binCode op sz t lhs rhs) σ) t = trunc sz (aluOp op (σ.reg rhs) (σ.reg lhs)) := by
  simp only [rd, binCode, exec_cons, exec_nil, step, setReg_reg, if_true, if_neg ht, trunc_wr]
  exact trunc_aluOp op sz _ _ _ (trunc_wr sz _ _)

/-- one operation of the body: its code `c` defines the new register `next`, the source continues
with the value found there, and the rest of the body does what it does after `c` -/
theorem lowerBody_step {sz : Sz} {next : Nat} {regs regs' : List Nat} {op : SOp} {r : List SOp}
    {c code1 : List Instr} {σ : St} (hlt : ∀ x ∈ regs, x < next) (hc : RegCode (· = next) c)
    (hev : evalOps (op :: r) (regs.map (rd sz σ))
      = evalOps r (regs.map (rd sz σ) ++ [rd sz (exec c σ) next]))
    (ih : (∀ x ∈ regs ++ [next], x < next + 1) →
      evalOps r ((regs ++ [next]).map (rd sz (exec c σ)))
        = some (regs'.map (rd sz (exec code1 (exec c σ)))) ∧ RegCode (next + 1 ≤ ·) code1) :
    evalOps (op :: r) (regs.map (rd sz σ)) = some (regs'.map (rd sz (exec (c ++ code1) σ))) ∧
      RegCode (next ≤ ·) (c ++ code1) := by
  obtain ⟨ie, ic⟩ := ih fun x hx => by
    rcases List.mem_append.mp hx with hx | hx
    · exact Nat.lt_succ_of_lt (hlt x hx)
    · rw [List.mem_singleton.mp hx]; exact Nat.lt_succ_self _
  have hregs : regs.map (rd sz (exec c σ)) = regs.map (rd sz σ) :=
    List.map_congr_left fun x hx => by rw [rd, rd, (hc.exec_eq σ).2 x (Nat.ne_of_lt (hlt x hx))]
  rw [exec_append]
  refine ⟨?_, (hc.mono fun d e => Nat.le_of_eq e.symm).append (ic.mono fun d => Nat.le_of_succ_le)⟩
  rw [hev, ← ie, List.map_append, hregs]; rfl

theorem lowerBody_sound (sz : Sz) (ops : List SOp) :
    ∀ (next : Nat) (regs : List Nat) (code : List Instr) (regs' : List Nat) (σ : St),
      lowerBody sz next regs ops = some (code, regs') → (∀ r ∈ regs, r < next) →
      evalOps ops (regs.map (rd sz σ)) = some (regs'.map (rd sz (exec code σ))) ∧
      RegCode (next ≤ ·) code := by
  intro next regs
  -- the four branches in which `lowerBody` answers `some`
  fun_induction lowerBody sz next regs ops <;> intro code regs' σ h hlt <;> cases h
  next => exact ⟨rfl, .nil⟩
  next next regs c r _ _ _ hrec ih => -- const
    exact lowerBody_step hlt (constCode_regCode sz next c) (by rw [constCode_rd]; rfl) (ih _ _ _ hrec)
  next next regs a b r ra rb hb ha _ _ hrec ih => -- add
    refine lowerBody_step hlt (binCode_regCode _ _ _ _ _) ?_ (ih _ _ _ hrec)
    rw [binCode_rd .add sz next ra rb σ (Nat.ne_of_lt (hlt ra (List.mem_of_getElem? ha)))]
    simp only [evalOps, List.getElem?_map, ha, hb, Option.map_some, aluOp, trunc_add, rd,
      BitVec.add_comm]
  next next regs a b r _ ra rb hb ha _ _ hrec ih => -- mul
    refine lowerBody_step hlt (binCode_regCode _ _ _ _ _) ?_ (ih _ _ _ hrec)
    rw [binCode_rd .imul sz next ra rb σ (Nat.ne_of_lt (hlt ra (List.mem_of_getElem? ha)))]
    simp only [evalOps, List.getElem?_map, ha, hb, Option.map_some, aluOp, trunc_mul, rd,
      BitVec.mul_comm]

end Xdsl.X86.Lower
