import XdslModel.ScopedDict
import XdslProofs.Lemmas.AL
/-!
# C12 — property theorems (scoped dictionary part)

"a scoped dictionary resolves every key to the value in the innermost scope that defines it,
consistently for all lookup forms" — for every chain of scopes, every key and every stored value,
including the falsy ones (`none` models Python's `None`, `some 0` models `0`).
-/
namespace Xdsl.ScopedDict

/-- `d[k]` returns the innermost binding, `KeyError` (`none`) iff no scope defines `k`. -/
theorem getitem_eq_lookup (c : Chain) (k : Nat) : getitem c k = lookup c k := by
  induction c with
  | nil => rfl
  | cons s ps ih =>
    simp only [getitem, lookup]
    cases h : AL.get s k <;> simp [ih]

/-- `k in d` iff some scope defines `k`. -/
theorem contains_eq_lookup (c : Chain) (k : Nat) : contains c k = (lookup c k).isSome := by
  induction c with
  | nil => rfl
  | cons s ps ih =>
    simp only [contains, lookup]
    cases h : AL.get s k <;> simp [ih]

/-- `d.get(k, default)` returns the innermost binding — whatever value it holds — and the
default only when no scope defines `k`. -/
theorem get_eq_lookup (c : Chain) (k : Nat) (d : Val) : get c k d = (lookup c k).getD d := by
  induction c with
  | nil => rfl
  | cons s ps ih =>
    simp only [get, lookup]
    cases h : AL.get s k <;> simp [ih]

/-- All three lookup forms agree (the property's "consistently for all lookup forms"). -/
theorem lookup_forms_consistent (c : Chain) (k : Nat) (d : Val) :
    get c k d = (getitem c k).getD d ∧ contains c k = (getitem c k).isSome := by
  rw [get_eq_lookup, getitem_eq_lookup, contains_eq_lookup]; exact ⟨rfl, rfl⟩

/-- Assignment binds in the innermost scope and leaves every other key's resolution unchanged. -/
theorem lookup_after_set (s : Scope) (ps : Chain) (k k' : Nat) (v : Val) :
    lookup (setitem (s :: ps) k v) k' = if k' = k then some v else lookup (s :: ps) k' := by
  simp only [setitem, lookup, AL.get_set]
  split <;> simp

/-- Entering a child scope changes nothing until the child binds.  (Leaving is dropping the head of
the list, and `setitem` writes the head only: the parent chain is untouched by the child.) -/
theorem lookup_enter (c : Chain) (k : Nat) : lookup ([] :: c) k = lookup c k := by
  simp [lookup]

/-- non-vacuity: a child binding `None` over a parent's `1` — the shadowing-with-falsy case. -/
example : get [[(7, none)], [(7, some 1)]] 7 (some 9) = none
    ∧ getitem [[(7, none)], [(7, some 1)]] 7 = some none
    ∧ contains [[(7, none)], [(7, some 1)]] 7 = true := by decide

/-- Several scopes alive at once (an outer scope may be written while inner ones exist): from
every object `i` of every forest, all lookup forms return the innermost binding of the chain as it
is at the time of the lookup — nothing but the current local scopes of `i` and its ancestors
enters the answer. -/
theorem forest_lookup_forms (f : Forest) (i k : Nat) (d : Val) :
    getitem (chainOf f f.length i) k = lookup (chainOf f f.length i) k
    ∧ contains (chainOf f f.length i) k = (lookup (chainOf f f.length i) k).isSome
    ∧ get (chainOf f f.length i) k d = (lookup (chainOf f f.length i) k).getD d :=
  ⟨getitem_eq_lookup _ _, contains_eq_lookup _ _, get_eq_lookup _ _ _⟩

/-- non-vacuity: grandchild 2 of root 0 sees the root's *current* binding after a rebind 1 → 2,
and an intermediate scope binding the key later shadows it. -/
example :
    getitem (chainOf [(none, [(0, some 1)]), (some 0, []), (some 1, [])] 3 2) 0 = some (some 1)
    ∧ getitem (chainOf [(none, [(0, some 2)]), (some 0, []), (some 1, [])] 3 2) 0 = some (some 2)
    ∧ getitem (chainOf [(none, [(0, some 2)]), (some 0, [(0, none)]), (some 1, [])] 3 2) 0 = some none := by
  decide

end Xdsl.ScopedDict
