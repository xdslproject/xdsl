import XdslProofs.Lemmas.DeclFormatSlots
/-!
C05, the state after parsing, dictionaries: the property and attribute dictionaries of the state `replayD fmt op {}` are the
operation's dictionaries up to entries equal to their declared default.
-/
namespace Xdsl.DeclFormat

abbrev DP := AL String Nat × AL String Nat

def dp (st : PState) : DP := (st.props, st.attrs)

def setDP (isProp : Bool) (p : DP) (name : String) (v : Nat) : DP :=
  if isProp then (AL.set p.1 name v, p.2) else (p.1, AL.set p.2 name v)

def foldSet (m : AL String Nat) (es : List (String × Nat)) : AL String Nat :=
  es.foldl (fun m p => AL.set m p.1 p.2) m

theorem dp_replayTy (op : OpInst) (r : TyRef) (st : PState) : dp (replayTy op r st) = dp st := by
  cases r <;> rfl

theorem dp_setF (fam : Fam) (st : PState) (i : Nat) (v : List Nat) : dp (setF fam st i v) = dp st := by
  cases fam <;> rfl

theorem dp_setDict (ip : Bool) (st : PState) (n : String) (v : Nat) :
    dp (setDict ip st n v) = setDP ip (dp st) n v := by
  cases ip <;> rfl

theorem dp_setEmptyS (d : SDir) (st : PState) : dp (setEmptyS st d) = dp st := by
  cases d with
  | operand i k => cases k <;> rfl
  | region i k => cases k <;> rfl
  | succ i k => cases k <;> rfl
  | _ => rfl

theorem get_foldSet (m : AL String Nat) (es : List (String × Nat)) (n : String) :
    AL.get (foldSet m es) n = AL.get m n ∨ ∃ v, (n, v) ∈ es ∧ AL.get (foldSet m es) n = some v := by
  by_cases h : ∃ p ∈ es, p.1 = n
  · obtain ⟨q, hq, rfl, e⟩ := AL.get_foldl_set_of_mem Prod.fst Prod.snd m h
    exact Or.inr ⟨q.2, hq, e⟩
  · exact Or.inl (AL.get_foldl_set_of_not_mem Prod.fst Prod.snd es m fun p hp e => h ⟨p, hp, e⟩)

theorem isSome_foldSet_hit {m : AL String Nat} {es : List (String × Nat)} {n : String} {v : Nat}
    (h : (n, v) ∈ es) : (AL.get (foldSet m es) n).isSome = true := by
  obtain ⟨q, _, _, e⟩ := AL.get_foldl_set_of_mem Prod.fst Prod.snd m ⟨_, h, rfl⟩
  exact Option.isSome_iff_exists.mpr ⟨_, e⟩

/-! ### writing entries the operation has

`WrP op p p'`: each dictionary of `p'` differs from that of `p` only in keys that now hold an entry of the
operation.  Every parsed directive is such a step when the operation's dictionaries have no duplicate keys and the
directive is sound (`soundDir`: a unit attribute variable is parsed only where the operation has the
attribute; no attribute is named like a property the attr-dict carries), and `set_empty` leaves the
dictionaries alone.
Along `WrP` nothing foreign comes in (`WrP.sound`) and nothing is lost (`WrP.has`). -/

def dsel (isProp : Bool) (p : DP) : AL String Nat := if isProp then p.1 else p.2

def HasP (isProp : Bool) (n : String) (p : DP) : Prop := (AL.get (dsel isProp p) n).isSome = true

def WrP (op : OpInst) (p p' : DP) : Prop :=
  ∀ b n, AL.get (dsel b p') n = AL.get (dsel b p) n ∨
    ∃ v, AL.get (dsel b p') n = some v ∧ dictGet b op n = some v

theorem WrP.refl {op : OpInst} {p : DP} : WrP op p p := fun _ _ => Or.inl rfl

theorem WrP.trans {op : OpInst} {p q r : DP} (h1 : WrP op p q) (h2 : WrP op q r) : WrP op p r := fun b n => by
  rcases h2 b n with h | h
  · rw [h]; exact h1 b n
  · exact Or.inr h

theorem WrP.has {op : OpInst} {p p' : DP} (h : WrP op p p') {b : Bool} {n : String} (hs : HasP b n p) :
    HasP b n p' := by
  unfold HasP at *
  rcases h b n with e | ⟨v, e, _⟩ <;> rw [e]
  · exact hs
  · rfl

theorem WrP.sound {op : OpInst} {p : DP} (h : WrP op ([], []) p) (b : Bool) (n : String) (v : Nat)
    (hv : AL.get (dsel b p) n = some v) : dictGet b op n = some v := by
  rcases h b n with e | ⟨w, e, hw⟩
  · rw [e] at hv; cases b <;> cases hv
  · rw [e] at hv; exact hv ▸ hw

theorem dsel_setDP (b ip : Bool) (p : DP) (name : String) (v : Nat) :
    dsel b (setDP ip p name v) = if b = ip then AL.set (dsel b p) name v else dsel b p := by
  cases b <;> cases ip <;> rfl

theorem dsel_dictState (b : Bool) (st : PState) (exp : List String) (es : List (String × Nat)) :
    dsel b (dp (dictState st exp es)) = foldSet (dsel b (dp st)) (es.filter fun q => exp.contains q.1 == b) := by
  cases b <;> simp [dictState, dsel, dp, foldSet]

theorem wrP_setDP (op : OpInst) (ip : Bool) (p : DP) (name : String) (v : Nat)
    (hv : dictGet ip op name = some v) : WrP op p (setDP ip p name v) := by
  intro b n
  rw [dsel_setDP]
  by_cases hb : b = ip
  · subst hb
    rw [if_pos rfl, AL.get_set]
    by_cases hn : n = name
    · subst hn; rw [if_pos rfl]; exact Or.inr ⟨v, rfl, hv⟩
    · rw [if_neg hn]; exact Or.inl rfl
  · rw [if_neg hb]; exact Or.inl rfl

def soundDir (op : OpInst) : SDir → Prop
  | .unitAttr name isProp u => dictGet isProp op name = some u
  | .attrDict _ _ exp => ∀ n, n ∈ exp → AL.get op.attrs n = none
  | _ => True

/-- an entry the attr-dict prints is an entry of the dictionary it is read back into -/
theorem dictGet_of_mem_dictEntries {D : Defs} {op : OpInst} {res exp : List String}
    (hnp : (op.props.map Prod.fst).Nodup) (hna : (op.attrs.map Prod.fst).Nodup)
    (hdisj : ∀ n, n ∈ exp → AL.get op.attrs n = none) {n : String} {v : Nat}
    (hm : (n, v) ∈ dictEntries D res exp op) : dictGet (exp.contains n) op n = some v := by
  unfold dictEntries at hm
  simp only [List.mem_filter, List.mem_append] at hm
  rcases hm.1 with ha | ⟨hp, he⟩
  · have hg := AL.get_of_mem_nodup hna ha
    cases hc : exp.contains n with
    | true => rw [hdisj n (by simpa using hc)] at hg; cases hg
    | false => exact hg
  · rw [show exp.contains n = true from he]
    exact AL.get_of_mem_nodup hnp hp

theorem wrP_replayS (D : Defs) (op : OpInst) (d : SDir) (st : PState)
    (hnp : (op.props.map Prod.fst).Nodup) (hna : (op.attrs.map Prod.fst).Nodup) (hd : soundDir op d) :
    WrP op (dp st) (dp (replayS D op d st)) := by
  cases d using SDir.segCases with
  | seg fam i k => rw [replayS_segD, dp_setF]; exact WrP.refl
  | attr n ip o dflt =>
    rw [replayS_attr]
    cases h : attrOut op n ip o dflt with
    | none => exact WrP.refl
    | some v => exact dp_setDict ip st n v ▸ wrP_setDP op ip _ n v (dictGet_of_attrOut h)
  | unitAttr n ip u => exact dp_setDict ip st n u ▸ wrP_setDP op ip _ n u hd
  | attrDict w res exp =>
    intro b n
    rw [show dsel b (dp (replayS D op (.attrDict w res exp) st)) = _ from dsel_dictState b st exp _]
    rcases get_foldSet (dsel b (dp st)) _ n with h | ⟨v, hm, h⟩
    · exact Or.inl h
    · rw [List.mem_filter, beq_iff_eq] at hm
      exact Or.inr ⟨v, h, hm.2 ▸ dictGet_of_mem_dictEntries hnp hna hd hm.1⟩
  | funcTy a b => exact (dp_replayTy op b _).trans (dp_replayTy op a st) ▸ WrP.refl
  | _ => exact WrP.refl

/-! ### completeness: the directive that covers a non-default entry of the operation writes it when it is parsed -/

def defaultOf (D : Defs) (isProp : Bool) (n : String) : Option Nat :=
  if isProp then AL.get D.propDefaults n else AL.get D.attrDefaults n

/-- directive `d` is responsible for entry `n` of the property (`isProp`) / attribute dictionary -/
def coversS (D : Defs) (isProp : Bool) (n : String) : SDir → Bool
  | .attr name ip _ dflt => name == n && ip == isProp && dflt == defaultOf D isProp n
  | .unitAttr name ip _ => name == n && ip == isProp
  | .attrDict _ res exp => !res.contains n && (exp.contains n == isProp)
  | _ => false

theorem hasP_setDP_hit (isProp : Bool) (p : DP) (n : String) (v : Nat) : HasP isProp n (setDP isProp p n v) := by
  unfold HasP
  rw [dsel_setDP, if_pos rfl, AL.get_set, if_pos rfl]
  rfl

theorem hasP_of_covers (D : Defs) (op : OpInst) (d : SDir) (isProp : Bool) (n : String) (v : Nat)
    (hc : coversS D isProp n d = true) (hg : dictGet isProp op n = some v)
    (hnd : defaultOf D isProp n ≠ some v) (st : PState) : HasP isProp n (dp (replayS D op d st)) := by
  cases d with
  | attr name ip optional dflt =>
    simp only [coversS, Bool.and_eq_true, beq_iff_eq] at hc
    obtain ⟨⟨rfl, rfl⟩, rfl⟩ := hc
    have : attrOut op name ip optional (defaultOf D ip name) = some v := by
      have : (defaultOf D ip name == some v) = false := by simpa using hnd
      rw [attrOut, hg, Option.bind_some, this, Bool.and_false, if_neg Bool.false_ne_true]
    rw [replayS_attr, this]
    exact dp_setDict ip st name v ▸ hasP_setDP_hit ip _ name v
  | unitAttr name ip u =>
    simp only [coversS, Bool.and_eq_true, beq_iff_eq] at hc
    obtain ⟨rfl, rfl⟩ := hc
    exact dp_setDict ip st name u ▸ hasP_setDP_hit ip _ name u
  | attrDict w res exp =>
    simp only [coversS, Bool.and_eq_true, Bool.not_eq_eq_eq_not, Bool.not_true] at hc
    obtain ⟨hres, hexp⟩ := hc
    have hexp' : exp.contains n = isProp := by simpa using hexp
    have hmem : (n, v) ∈ dictEntries D res exp op := by
      unfold dictEntries
      simp only [List.mem_filter, List.mem_append, Bool.and_eq_true, Bool.not_eq_eq_eq_not, Bool.not_true,
        hexp']
      subst hexp'
      refine ⟨?_, hres, by simpa [defaultOf] using hnd⟩
      cases hc : exp.contains n with
      | true => rw [hc] at hg; exact Or.inr ⟨AL.mem_of_get_some hg, rfl⟩
      | false => rw [hc] at hg; exact Or.inl (AL.mem_of_get_some hg)
    unfold HasP
    rw [show dsel isProp (dp (replayS D op (.attrDict w res exp) st)) = _ from dsel_dictState isProp st exp _]
    exact isSome_foldSet_hit (v := v) (List.mem_filter.mpr ⟨hmem, hexp⟩)
  | _ => simp [coversS] at hc

theorem not_covers_of_empty {D : Defs} {op : OpInst} {d : SDir} {isProp : Bool} {n : String} {v : Nat}
    (he : emptyS op d) (hig : okInGroup d = true) (hc : coversS D isProp n d = true)
    (hg : dictGet isProp op n = some v) (hnd : defaultOf D isProp n ≠ some v) : False := by
  cases d with
  | attr name ip optional dflt =>
    simp only [coversS, Bool.and_eq_true, beq_iff_eq] at hc
    obtain ⟨⟨rfl, rfl⟩, rfl⟩ := hc
    rcases he with he | ⟨_, he⟩
    · rw [he] at hg; cases hg
    · rw [hg] at he; exact hnd he.symm
  | unitAttr name ip u =>
    simp only [coversS, Bool.and_eq_true, beq_iff_eq] at hc
    obtain ⟨rfl, rfl⟩ := hc
    have he : dictGet ip op name = none := he
    rw [he] at hg; cases hg
  | attrDict w res exp => cases hig
  | _ => cases hc

theorem normGet_eq {defaults parsed orig : AL String Nat} {n : String}
    (hs : ∀ v, AL.get parsed n = some v → AL.get orig n = some v)
    (hc : ∀ v, AL.get orig n = some v → AL.get defaults n ≠ some v → (AL.get parsed n).isSome = true) :
    normGet defaults parsed n = normGet defaults orig n := by
  unfold normGet
  cases ho : AL.get orig n with
  | none =>
    cases hp : AL.get parsed n with
    | none => rfl
    | some w => have := hs w hp; rw [ho] at this; cases this
  | some v =>
    cases hp : AL.get parsed n with
    | none =>
      by_cases hd : AL.get defaults n = some v
      · simp [hd]
      · have := hc v ho hd; rw [hp] at this; cases this
    | some w =>
      have := hs w hp; rw [ho] at this; cases this
      rfl

end Xdsl.DeclFormat
