import XdslProofs.Lemmas.StructEq
/-!
# C03 — structural equivalence holds exactly for isomorphic IR

Model: `XdslModel/StructEq.lean` (`structEq` = the walk of
`Operation/Block/Region.is_structurally_equivalent` with its `context` dictionary followed by the
final one-to-one check, as repaired by the C03 `fix:` commits).  Vocabulary (`XdslProofs/Lemmas/StructEq.lean`):

* `Agree f a b` — under the map `f` of values and blocks every operation agrees on name, operands
  (`f`-images), result types, attributes, properties, successors and nested regions, every block on
  argument types, and definitions correspond position by position;
* `Iso a b` — some `f` that is the identity on everything not defined inside `a` ("values defined
  outside the compared trees must be identical") and one-to-one on everything `a` mentions makes
  the trees `Agree`;
* `WF a` — every value/block is defined at one place (true of every real object graph);
* `Scoped a` — region scoping as the walk needs it: when an operand or successor is looked up it
  is already in the context (defined in the same or an enclosing region *in any order* — graph
  regions, blocks in any layout order —, or in a region the walk has left) or it is not defined in
  the tree at all.  Not scoped = a value of a nested region used outside of it before the walk
  gets there (invalid IR under MLIR's scoping rules);
* `Sep a b` — what `a` takes from outside is not a definition of `b`.  Fails only when the two
  compared trees are parts of one program and one refers into the other; the repaired code checks
  it after the walk (`oneToOne`, lemma `oneToOne_iff_sep`), so no theorem needs it as hypothesis.
-/
namespace Xdsl.StructEq

/-- "The check is reflexive (including IR with graph regions or values used before their
definition)": for EVERY tree — no well-formedness, scoping or ordering hypothesis at all. -/
theorem structEq_refl (a : T) : structEq a a = true := by
  obtain ⟨c', e, hp⟩ := eqT_refl a
  simp [structEq, e, oneToOne_pid hp]

/-- The independent decision procedure (`iso` in the driver's answers; the harness's Python oracle
is compared with it) decides `Iso`: the only candidate correspondence is the positional one. -/
theorem isoDecide_iff {a b : T} (hwa : WF a) (hwb : WF b) : isoDecide a b = true ↔ Iso a b := by
  unfold isoDecide
  rw [Bool.and_eq_true, agreeB_iff, sep_iff]
  exact (iso_iff_agree hwa hwb).symm

/-- "… reported structurally equivalent exactly when a one-to-one correspondence … makes every
operation agree …", direction ⇐ (no isomorphic pair is rejected), for every region-scoped `a`:
graph regions, use-before-def, blocks in any order included. -/
theorem structEq_complete {a b : T} (hwa : WF a) (hsc : Scoped a) (h : Iso a b) :
    structEq a b = true :=
  (structEq_iff_agree hwa hsc).mpr (iso_imp_agree hwa h)

/-- Direction ⇒ (only isomorphic pairs are accepted: names, operand wiring, result types,
attributes, properties, successors, regions, block argument types all matter, and the
correspondence is one-to-one also on what the trees take from outside).  No separation hypothesis:
two parts of one program that refer into each other are covered. -/
theorem structEq_sound {a b : T} (hwa : WF a) (hwb : WF b) (hsc : Scoped a)
    (h : structEq a b = true) : Iso a b :=
  agree_imp_iso hwa hwb ((structEq_iff_agree hwa hsc).mp h)

/-- The property's "exactly when". -/
theorem structEq_iff_iso {a b : T} (hwa : WF a) (hwb : WF b) (hsc : Scoped a) :
    structEq a b = true ↔ Iso a b :=
  ⟨structEq_sound hwa hwb hsc, structEq_complete hwa hsc⟩

/-- The verdict spelled out on the positional correspondence: equivalent ⇔ all fields agree under
it and nothing `a` takes from outside is a definition of `b`. -/
theorem structEq_iff_agree_positional {a b : T} (hwa : WF a) (hsc : Scoped a) :
    structEq a b = true ↔ Agree (lookup (pairs a b)) a b ∧ Sep a b :=
  structEq_iff_agree hwa hsc

/-- The relation the check is meant to decide is symmetric … -/
theorem iso_symmetric {a b : T} (hwa : WF a) (hwb : WF b) : Iso a b ↔ Iso b a :=
  ⟨iso_symm hwa hwb, iso_symm hwb hwa⟩

/-- … and so is the check ("symmetric"), for every pair of region-scoped trees. -/
theorem structEq_symm {a b : T} (hwa : WF a) (hwb : WF b) (hsa : Scoped a) (hsb : Scoped b) :
    structEq a b = structEq b a := by
  have h : structEq a b = true ↔ structEq b a = true := by
    rw [structEq_iff_iso hwa hwb hsa, structEq_iff_iso hwb hwa hsb]
    exact iso_symmetric hwa hwb
  cases hx : structEq a b <;> cases hy : structEq b a <;> simp_all

/-- A clone (objects defined inside get fresh, pairwise distinct identities; references to
anything else are kept) is isomorphic to its source — for every tree. -/
theorem iso_clone (ρ : Nat → Nat) (a : T)
    (hinj : ∀ x ∈ defs a, ∀ y ∈ defs a, ρ x = ρ y → x = y)
    (hfresh : ∀ x ∈ defs a, ρ x ∉ vals a) : Iso a (cloneT ρ a) := by
  refine ⟨renId (defs a) ρ, agree_mapT _ a, fun u hu => renId_not_mem ρ hu,
    inj_of_split (fun x hx y hy e => ?_) (fun u hu => renId_not_mem ρ hu) fun x hx y hy _ e => ?_⟩
  · rw [renId_mem ρ hx, renId_mem ρ hy] at e
    exact hinj x hx y hy e
  · exact hfresh x hx (renId_mem ρ hx ▸ e ▸ hy)

/-- "… and holds between IR and its clone": for every region-scoped tree. -/
theorem structEq_clone (ρ : Nat → Nat) {a : T} (hwa : WF a) (hsc : Scoped a)
    (hinj : ∀ x ∈ defs a, ∀ y ∈ defs a, ρ x = ρ y → x = y)
    (hfresh : ∀ x ∈ defs a, ρ x ∉ vals a) : structEq a (cloneT ρ a) = true :=
  structEq_complete hwa hsc (iso_clone ρ a hinj hfresh)

/-- `%1 = "op"(%2)` — uses `%2` from outside -/
def cexA : T := .op ⟨0, [2], [(1, 0)], [], [], []⟩ .nil .nil
/-- `%2 = "op"(%2)` — uses its own result (graph region) -/
def cexB : T := .op ⟨0, [2], [(2, 0)], [], [], []⟩ .nil .nil

/-- The pair that the walk alone accepts in one order (every lookup succeeds: `%2` stands for
itself in `a` and is the image of `%1`) is rejected in both orders by the repaired check, in
accordance with `¬ Iso`: `%2` would have to be the image of `%1` (results) and of itself. -/
example : WF cexA ∧ WF cexB ∧ Scoped cexA ∧ Scoped cexB ∧ (eqT cexA cexB []).isSome = true
    ∧ structEq cexA cexB = false ∧ structEq cexB cexA = false ∧ isoDecide cexA cexB = false := by
  decide

/-- a module-like tree: a graph region whose first op uses the result of the second, a nested
region using an enclosing later value, two blocks with successors in both directions -/
def sample : T :=
  .op ⟨0, [], [], [], [], []⟩
    (.region
      (.block 100 [(1, 7)]
        (.op ⟨1, [3, 1, 50], [(2, 7)], [(0, 0)], [], []⟩
            (.region (.block 101 [] (.op ⟨2, [3, 2], [], [], [], [102]⟩ .nil .nil) .nil) .nil)
          (.op ⟨1, [2], [(3, 8)], [], [(1, 1)], [102]⟩ .nil .nil))
        (.block 102 [] (.op ⟨3, [3], [], [], [], [100]⟩ .nil .nil) .nil))
      .nil)
    .nil

/-- the hypotheses of the theorems are satisfiable together on IR with forward references, and the
clone is accepted; a clone with one result type changed is rejected. -/
example : WF sample ∧ Scoped sample ∧ structEq sample (cloneT (· + 1000) sample) = true := by decide

example : structEq (.op ⟨0, [], [(1, 32)], [], [], []⟩ .nil .nil)
    (.op ⟨0, [], [(2, 1)], [], [], []⟩ .nil .nil) = false := by decide

end Xdsl.StructEq
