import XdslProofs.Lemmas.DCEMiniRel
/-!
One operation of `Sem` (C13): the parts of an operation as functions of `MHdr`, what `proj` gives constructor by constructor,
`Quiet`, and `runOp_rel`, the arms of `runOp` walked once for any relation between states.  It stands apart from
`Lemmas/DCEMiniSim.lean` because its users (`DCEMiniCalm`, `SemEffects`) need the walk of `runOp`, not the simulation.
-/
namespace Xdsl.DCEM
open Xdsl.DCE Xdsl.MiniIR Xdsl.Sem

@[simp] theorem mkOp_name (m : MHdr) (rs : List Region) : (mkOp m rs).name = m.name := rfl
@[simp] theorem mkOp_results (m : MHdr) (rs : List Region) : (mkOp m rs).results = m.results := rfl
@[simp] theorem mkOp_operands (m : MHdr) (rs : List Region) : (mkOp m rs).operands = m.operands := rfl
@[simp] theorem mkOp_succs (m : MHdr) (rs : List Region) : (mkOp m rs).succs = m.succs := rfl
@[simp] theorem mkOp_regions (m : MHdr) (rs : List Region) : (mkOp m rs).regions = rs := rfl
/-- the parts of `runOp` that look at the operation but not at its regions, as functions of `MHdr` -/
def attrM (m : MHdr) (k : String) : Option Attr := (mkOp m []).attr? k
def stateM (st : St) (m : MHdr) (args : List Val) := stateOp st (mkOp m []) args
def pureM (m : MHdr) (args : List Val) := pureOp (mkOp m []) args
def affBoundsM (m : MHdr) (args : List Val) := affineForBounds (mkOp m []) args
@[simp] theorem mkOp_attr (m : MHdr) (rs : List Region) (k : String) : (mkOp m rs).attr? k = attrM m k := rfl
@[simp] theorem mkOp_stateOp (st : St) (m : MHdr) (rs : List Region) (args : List Val) :
    stateOp st (mkOp m rs) args = stateM st m args := rfl
@[simp] theorem mkOp_pureOp (m : MHdr) (rs : List Region) (args : List Val) :
    pureOp (mkOp m rs) args = pureM m args := rfl
@[simp] theorem mkOp_affineForBounds (m : MHdr) (rs : List Region) (args : List Val) :
    affineForBounds (mkOp m rs) args = affBoundsM m args := rfl

@[simp] theorem opsOf_nil : opsOf .nil = [] := rfl
@[simp] theorem opsOf_op (h : Hdr) (m : MHdr) (rs next : AT) :
    opsOf (.op h m rs next) = mkOp m (regionsOf rs) :: opsOf next := rfl
@[simp] theorem opsOf_block (i : Nat) (args : List (Nat × Ty)) (ops next : AT) :
    opsOf (.block i args ops next) = [] := rfl
@[simp] theorem opsOf_region (bs next : AT) : opsOf (.region bs next) = [] := rfl
@[simp] theorem blocksOf_nil : blocksOf .nil = [] := rfl
@[simp] theorem blocksOf_op (h : Hdr) (m : MHdr) (rs next : AT) : blocksOf (.op h m rs next) = [] := rfl
@[simp] theorem blocksOf_block (i : Nat) (args : List (Nat × Ty)) (ops next : AT) :
    blocksOf (.block i args ops next) = .mk i args (opsOf ops) :: blocksOf next := rfl
@[simp] theorem blocksOf_region (bs next : AT) : blocksOf (.region bs next) = [] := rfl
@[simp] theorem regionsOf_nil : regionsOf .nil = [] := rfl
@[simp] theorem regionsOf_op (h : Hdr) (m : MHdr) (rs next : AT) : regionsOf (.op h m rs next) = [] := rfl
@[simp] theorem regionsOf_block (i : Nat) (args : List (Nat × Ty)) (ops next : AT) :
    regionsOf (.block i args ops next) = [] := rfl
@[simp] theorem regionsOf_region (bs next : AT) :
    regionsOf (.region bs next) = .mk (blocksOf bs) :: regionsOf next := rfl
@[simp] theorem block_id_mk (i : Nat) (a : List (Nat × Ty)) (o : List Op) : (Block.mk i a o).id = i := rfl
@[simp] theorem region_blocks_mk (b : List Block) : (Region.mk b).blocks = b := rfl

theorem _root_.Xdsl.Sem.runOps_nil (n : Nat) (P : Prog) (st : St) : runOps (n + 1) P st [] = .err "block without terminator" :=
  runOps.eq_2 _ _ _ (Nat.succ_ne_zero n)

def Quiet (P : Prog) (D : Nat → Prop) (o : Op) : Prop :=
  ∀ n st st1 t, runOp n P st o = .ok (st1, t) → t = none ∧ Rel D st st1

/-- payload relation over a relation `R` between states (`QSt D` of `Lemmas/DCEMiniSim.lean` is `QR (Rel D)`) -/
def QR (R : St → St → Prop) {β : Type} (a b : St × β) : Prop := b.2 = a.2 ∧ R a.1 b.1

/-- payload relation of `runOp_rel`: `QOp` of `Lemmas/DCEMiniSim.lean` over `R`, and only the names in `termNames` end a block -/
def QOpR (R : St → St → Prop) (K : Nat → Prop) (name : String) (a b : St × Option Term) : Prop :=
  b.2 = a.2 ∧ R a.1 b.1 ∧ (∀ bb vs, a.2 = some (.br bb vs) → K bb) ∧ (termNames.contains name = false → a.2 = none)

section
variable {R : St → St → Prop} {P P' : Prog}

theorem bind_tail {names : List (Nat × Ty)}
    (hb : ∀ {s s' s1 : St} {vs : List Val}, R s s' → s.bind names vs = .ok s1 → ∃ s1', s'.bind names vs = .ok s1' ∧ R s1 s1')
    {s1 s1' : St} (hr : R s1 s1') (vs : List Val) (e : String) :
    RelRes (fun a b : St × Option Term => a.2 = none ∧ b.2 = none ∧ R a.1 b.1)
      (match s1.bind names vs with | .ok s2 => .ok (s2, none) | _ => .err e)
      (match s1'.bind names vs with | .ok s2 => .ok (s2, none) | _ => .err e) := by
  cases hbd : s1.bind names vs with
  | ok s2 =>
    obtain ⟨s2', hb', hr'⟩ := hb hr hbd
    rw [hb']
    exact .of_ok ⟨rfl, rfl, hr'⟩
  | ub w => trivial
  | fuel => trivial
  | err x => trivial

/-- `RelRes.elim` for a sub-run whose two sides are related by `QR R`: in the `ok` case the payloads are the same and the
states related.  The `subrun … using` abbreviation of `Lemmas/DCEMiniSim.lean` does the same as a sequence of tactics (an
abbreviation local to that file cannot be used here). -/
@[elab_as_elim] theorem RelRes.sub {β : Type} {motive : Res (St × β) → Res (St × β) → Prop} {X X' : Res (St × β)}
    (hq : RelRes (QR R) X X') (ok : ∀ s s' b, R s s' → motive (.ok (s, b)) (.ok (s', b)))
    (ub : ∀ w y, motive (.ub w) y) (fuel : ∀ y, motive .fuel y) (err : ∀ x y, motive (.err x) y) : motive X X' :=
  hq.elim (fun a b ⟨hb, hr⟩ => by cases b; cases hb; exact ok a.1 _ a.2 hr) ub fuel err

/-- **one operation, for any relation `R` between states**: if operands and successor arguments read the same,
binding the results respects `R`, the region-free state operation (`hso`) gives `R`-related states or fails
alike, and the runs of the callee / of the regions of a structured operation (`f p` in the first, `g p` in the second
run) from the two states are related, then so are the two runs of the operation, and only the names in `termNames` end a block.
One pass through the arms of `runOp`: the simulation uses it with `R = Rel D` (`op_step`), the one-sided
`calm_all` on the diagonal, `R s s' = (s' = s ∧ Rel D st s)` (`calm_op_step`), and so does `eff_all` of
`Lemmas/SemEffects.lean` with `R s s' = (s' = s ∧ st.eff <:+ s.eff)` (`eff_op_step`). -/
theorem runOp_rel {n M : Nat} {m : MHdr} {ι : Type} {l : List ι} {f g : ι → Region} {K : Nat → Prop} {st st' : St}
    (hr : R st st') (hg : st'.gets m.operands = st.gets m.operands)
    (hgs : ∀ s ∈ m.succs, st'.gets s.2 = st.gets s.2) (hk : ∀ s ∈ m.succs, K s.1)
    (hb : ∀ {s s' s1 : St} {vs : List Val}, R s s' → s.bind m.results vs = .ok s1 →
      ∃ s1', s'.bind m.results vs = .ok s1' ∧ R s1 s1')
    (hso : ∀ args, match stateM st m args with
      | some (.ok (s1, vs)) => ∃ s1', stateM st' m args = some (.ok (s1', vs)) ∧ R s1 s1'
      | some _ => True
      | none => stateM st' m args = none)
    (hcall : m.name = "func.call" → ∀ c args, RelRes (QR R) (callFunc n P st c args) (callFunc M P' st' c args))
    (hreg : structNames.contains m.name = true → ∀ p ∈ l, ∀ args, RelRes (QR R) (runRegion n P st (f p) args) (runRegion M P' st' (g p) args))
    (hfor : structNames.contains m.name = true → ∀ p ∈ l, ∀ w i ub step iters,
      RelRes (QR R) (runFor n P st (f p) w i ub step iters) (runFor M P' st' (g p) w i ub step iters))
    (hwhile : structNames.contains m.name = true → ∀ p ∈ l, ∀ q ∈ l, ∀ args,
      RelRes (QR R) (runWhile n P st (f p) (f q) args) (runWhile M P' st' (g p) (g q) args)) :
    RelRes (QOpR R K m.name) (runOp (n + 1) P st (mkOp m (l.map f))) (runOp (M + 1) P' st' (mkOp m (l.map g))) := by
  have ok0 : ∀ t : Term, (∀ bb vs, t = .br bb vs → K bb) → ∀ s ∈ termNames, m.name = s →
      RelRes (QOpR R K m.name) (.ok (st, some t)) (.ok (st', some t)) :=
    fun t ht s hs e => .of_ok ⟨rfl, hr, fun bb vs h => ht bb vs (by cases h; rfl),
      fun hn => by rw [e, List.contains_iff_mem.mpr hs] at hn; cases hn⟩
  have tail : ∀ {s1 s1' : St}, R s1 s1' → ∀ vs e, RelRes (QOpR R K m.name)
      (match s1.bind m.results vs with | .ok s2 => .ok (s2, none) | _ => .err e)
      (match s1'.bind m.results vs with | .ok s2 => .ok (s2, none) | _ => .err e) :=
    fun h vs e => (bind_tail hb h vs e).imp fun a b ⟨e1, e2, e3⟩ =>
      ⟨e2.trans e1.symm, e3, fun _ _ h => (by rw [e1] at h; cases h), fun _ => e1⟩
  -- arm by arm, in the order of `Sem.runOp`: a terminator ends in `ok0`; a sub-run (callee, regions) is taken apart by
  -- `RelRes.sub` and `tail` binds its results; the last arm is `stateOp` / `pureOp`
  rw [runOp, runOp]
  dsimp only [mkOp_name, mkOp_operands, mkOp_succs, mkOp_regions, mkOp_results, mkOp_attr, mkOp_affineForBounds]
  rw [hg]
  split
  · trivial
  · trivial
  · trivial
  rename_i args _
  split
  · exact ok0 _ (fun _ _ h => by cases h) "func.return" (by decide +kernel) ‹_›
  · exact ok0 _ (fun _ _ h => by cases h) "scf.yield" (by decide +kernel) ‹_›
  · exact ok0 _ (fun _ _ h => by cases h) "affine.yield" (by decide +kernel) ‹_›
  · split
    · split
      · exact ok0 _ (fun _ _ h => by cases h) "scf.condition" (by decide +kernel) ‹_›
      · trivial
    · trivial
  · split
    · rename_i b as hs
      have e := hgs (b, as) (by rw [hs]; simp)
      simp only at e
      rw [e]
      split
      · refine ok0 _ ?_ "cf.br" (by decide +kernel) ‹_›
        intro bb vs h; cases h; exact hk (b, as) (by rw [hs]; simp)
      · trivial
    · trivial
  · split
    · rename_i c b1 a1 b2 a2 hs _
      have e1 := hgs (b1, a1) (by rw [hs]; simp)
      have e2 := hgs (b2, a2) (by rw [hs]; simp)
      simp only at e1 e2
      split
      · rename_i cb _
        cases cb
        · simp only [Bool.false_eq_true, if_false, e2]
          split
          · refine ok0 _ ?_ "cf.cond_br" (by decide +kernel) ‹_›
            intro bb vs h; cases h; exact hk (b2, a2) (by rw [hs]; simp)
          · trivial
        · simp only [if_true, e1]
          split
          · refine ok0 _ ?_ "cf.cond_br" (by decide +kernel) ‹_›
            intro bb vs h; cases h; exact hk (b1, a1) (by rw [hs]; simp)
          · trivial
      · trivial
    · trivial
  · split
    · rename_i callee _
      exact (hcall ‹_› callee args).sub (fun _ _ _ hr1 => tail hr1 _ _) (fun _ _ => trivial) (fun _ => trivial) (fun _ _ => trivial)
    · trivial
  · rcases args with _ | ⟨c, _ | ⟨c2, args⟩⟩ <;> rcases l with _ | ⟨p, _ | ⟨q, _ | ⟨r, l⟩⟩⟩ <;>
      simp only [List.map] <;> try trivial
    split
    · rename_i cb _
      have hp := hreg (by rw [‹m.name = _›]; decide +kernel) p (by simp) []
      have hq := hreg (by rw [‹m.name = _›]; decide +kernel) q (by simp) []
      cases cb
      · simp only [Bool.false_eq_true, if_false]
        exact hq.sub (fun _ _ t hr1 => by cases t <;> first | exact tail hr1 _ _ | trivial)
          (fun _ _ => trivial) (fun _ => trivial) (fun _ _ => trivial)
      · simp only [if_true]
        exact hp.sub (fun _ _ t hr1 => by cases t <;> first | exact tail hr1 _ _ | trivial)
          (fun _ _ => trivial) (fun _ => trivial) (fun _ _ => trivial)
    · trivial
  · rcases args with _ | ⟨a1, _ | ⟨a2, _ | ⟨a3, iters⟩⟩⟩ <;> rcases l with _ | ⟨p, _ | ⟨q, l⟩⟩ <;>
      simp only [List.map] <;> try trivial
    split
    · split
      · trivial
      · rename_i w lo _ u _ sp _ _ _ _
        exact (hfor (by rw [‹m.name = _›]; decide +kernel) p (by simp) w lo u sp iters).sub
          (fun _ _ _ hr1 => tail hr1 _ _) (fun _ _ => trivial) (fun _ => trivial) (fun _ _ => trivial)
    · trivial
  · rcases l with _ | ⟨p, _ | ⟨q, _ | ⟨r, l⟩⟩⟩ <;> simp only [List.map] <;> try trivial
    exact (hwhile (by rw [‹m.name = _›]; decide +kernel) p (by simp) q (by simp) args).sub
      (fun _ _ _ hr1 => tail hr1 _ _) (fun _ _ => trivial) (fun _ => trivial) (fun _ _ => trivial)
  · rcases l with _ | ⟨p, _ | ⟨q, l⟩⟩ <;> simp only [List.map] <;> try trivial
    split
    · split
      · trivial
      · rename_i lo u sp inits _ _
        exact (hfor (by rw [‹m.name = _›]; decide +kernel) p (by simp) 64 lo u sp inits).sub
          (fun _ _ _ hr1 => tail hr1 _ _) (fun _ _ => trivial) (fun _ => trivial) (fun _ _ => trivial)
    all_goals trivial
  · have hso := hso args
    simp only [mkOp_stateOp, mkOp_pureOp]
    cases hs : stateM st m args with
    | none =>
      simp only [hs] at hso
      simp only [hso]
      split
      · exact tail hr _ _
      all_goals trivial
    | some r =>
      cases r with
      | ok p =>
        obtain ⟨s1, vs⟩ := p
        simp only [hs] at hso
        obtain ⟨s1', e, hr1⟩ := hso
        simp only [e]
        exact tail hr1 _ _
      | ub w => trivial
      | fuel => trivial
      | err x => trivial

end

end Xdsl.DCEM
