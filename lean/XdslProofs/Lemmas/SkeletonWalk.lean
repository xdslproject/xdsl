import XdslModel.Skeleton
import XdslProofs.Lemmas.AL
/-!
The scoping discipline `walk` of `XdslModel/Skeleton.lean` against the parser's symbol tables:

* what a successful single step consists of (`w*_some`); for the list walkers and `walk` itself
  the later arguments go by the functions' own induction principles (`fun_induction`), in which
  every branch where a step fails contradicts the hypothesis that the run succeeded;
* the symbol tables of the parser (`res`, keyed by names) simulate `walk` (keyed by identities) when
  no two live identities share a name.  `walk` looks at the naming only in these checks, so there are
  two namings: the one `walk` checks (into any type) and the one the text is printed with, which has
  to tell apart whatever the checked one does (`Refines`, `walk_sim`);
* `walk` returns its input renamed by the injective record it keeps (`walk_step`).
-/
namespace Xdsl.Skeleton

section inversion
variable {N : Type} [DecidableEq N] {nv nb : Nat → N} {gs gs' : GS}

/-- the two guards in front of every single step: the name is free among the live identities, and
an identity that is in no table has not been met before -/
theorem guards_some {α β : Type} {live known : Bool} {o : Option β} {x : Option α} {y : α}
    (h : (if !live then none else if !known && o.isSome then none else x) = some y) :
    live = true ∧ (known = false → o = none) ∧ x = some y := by
  cases live <;> cases known <;> cases o <;> simp_all

theorem wUse_some {v p : Nat} {ty : Opq} (h : wUse nv gs v ty = some (gs', p)) :
    liveOK nv gs.v v = true ∧ (gs.v.known v = false → AL.get gs.log v = none) ∧
    ∃ t, gs.v.use v ty = some (t, p, ty) ∧
      gs' = { gs with v := t, log := if gs.v.known v then gs.log else (v, p) :: gs.log } := by
  obtain ⟨hl, hk, h⟩ := guards_some h
  refine ⟨hl, hk, ?_⟩
  cases hu : gs.v.use v ty with
  | none => rw [hu] at h; cases h
  | some r =>
    obtain ⟨t, q, ty'⟩ := r
    rw [hu] at h
    simp only [Option.ite_none_right_eq_some, Option.some.injEq, Prod.mk.injEq] at h
    obtain ⟨rfl, rfl, rfl⟩ := h
    exact ⟨t, rfl, rfl⟩

theorem wDef_some {v p : Nat} {ty : Opq} (h : wDef nv gs v ty = some (gs', p)) :
    liveOK nv gs.v v = true ∧ (gs.v.known v = false → AL.get gs.log v = none) ∧
    ∃ t, gs.v.define v ty = some (t, p) ∧
      gs' = { gs with v := t, log := if gs.v.known v then gs.log else (v, p) :: gs.log } := by
  obtain ⟨hl, hk, h⟩ := guards_some h
  refine ⟨hl, hk, ?_⟩
  cases hu : gs.v.define v ty with
  | none => rw [hu] at h; cases h
  | some r => rw [hu] at h; cases h; exact ⟨_, rfl, rfl⟩

theorem wRef_some {b p : Nat} (h : wRef nb gs b = some (gs', p)) :
    bliveOK nb gs.b b = true ∧ (gs.b.known b = false → AL.get gs.blog b = none) ∧
    p = (gs.b.ref b).2 ∧
    gs' = { gs with b := (gs.b.ref b).1,
                    blog := if gs.b.known b then gs.blog else (b, p) :: gs.blog } := by
  obtain ⟨hl, hk, h⟩ := guards_some h
  cases h
  exact ⟨hl, hk, rfl, rfl⟩

theorem wBDef_some {b p : Nat} (h : wBDef nb gs b = some (gs', p)) :
    bliveOK nb gs.b b = true ∧ (gs.b.known b = false → AL.get gs.blog b = none) ∧
    ∃ t, gs.b.define b = some (t, p) ∧
      gs' = { gs with b := t, blog := if gs.b.known b then gs.blog else (b, p) :: gs.blog } := by
  obtain ⟨hl, hk, h⟩ := guards_some h
  refine ⟨hl, hk, ?_⟩
  cases hu : gs.b.define b with
  | none => rw [hu] at h; cases h
  | some r => rw [hu] at h; cases h; exact ⟨_, rfl, rfl⟩

/-- the label step of `walk` at a block whose label is omitted (`omitted`) or printed (the `labPart`
of `walk`, to which it unfolds) -/
def wLabel (nb : Nat → N) (gs : GS) (b : Nat) (omitted : Bool) : Option (GS × Nat) :=
  if omitted then
    (if (AL.get gs.blog b).isSome then none
     else some ({ gs with b := { gs.b with next := gs.b.next + 1 },
                          blog := (b, gs.b.next) :: gs.blog }, gs.b.next))
  else wBDef nb gs b

theorem wLabel_omitted {b id : Nat} (h : wLabel nb gs b true = some (gs', id)) :
    AL.get gs.blog b = none ∧
    gs' = { gs with b := { gs.b with next := gs.b.next + 1 }, blog := (b, gs.b.next) :: gs.blog } ∧
    id = gs.b.next := by
  simp only [wLabel, if_true] at h
  split at h
  · cases h
  · rename_i hb
    cases h
    exact ⟨by simpa using hb, rfl, rfl⟩

end inversion

/-- a table keyed by identities, re-keyed by the names -/
def pk {β : Type} (nv : Nat → Str) (l : AL Nat β) : AL Str β := l.map fun e => (nv e.1, e.2)

def projV (nv : Nat → Str) (t : VT Nat) : VT Str :=
  { scope := pk nv t.scope, pend := pk nv t.pend, next := t.next }

def projB (nb : Nat → Str) (t : BT Nat) : BT Str :=
  { bdef := pk nb t.bdef, bpend := pk nb t.bpend, next := t.next }

def proj (nv nb : Nat → Str) (gs : GS) : PS := { v := projV nv gs.v, b := projB nb gs.b }

section sim
variable {nv nb : Nat → Str}

/-- `liveOK` / `bliveOK` for one table, as a proposition -/
def Alone {β : Type} (nv : Nat → Str) (l : AL Nat β) (v : Nat) : Prop :=
  ∀ e ∈ l, e.1 = v ∨ nv e.1 ≠ nv v

theorem get_pk {β : Type} {l : AL Nat β} {v : Nat} (h : Alone nv l v) :
    AL.get (pk nv l) (nv v) = AL.get l v := by
  induction l with
  | nil => rfl
  | cons e l ih =>
    obtain ⟨a, b⟩ := e
    have ih' := ih fun e he => h e (List.mem_cons_of_mem _ he)
    simp only [pk, List.map_cons, AL.get_cons] at ih' ⊢
    by_cases hav : a = v
    · simp [hav]
    · have : nv a ≠ nv v := (h (a, b) List.mem_cons_self).resolve_left hav
      simp only [hav, this, if_false]
      exact ih'

theorem del_pk {β : Type} {l : AL Nat β} {v : Nat} (h : Alone nv l v) :
    AL.del (pk nv l) (nv v) = pk nv (AL.del l v) := by
  induction l with
  | nil => rfl
  | cons e l ih =>
    obtain ⟨a, b⟩ := e
    have ih' := ih fun e he => h e (List.mem_cons_of_mem _ he)
    simp only [pk, List.map_cons, AL.del] at ih' ⊢
    by_cases hav : a = v
    · simp [hav, ih']
    · have : nv a ≠ nv v := (h (a, b) List.mem_cons_self).resolve_left hav
      simp [hav, this, ih']

theorem pk_nil {β : Type} (nv : Nat → Str) : pk nv ([] : AL Nat β) = [] := rfl

theorem pk_isEmpty {β : Type} (nv : Nat → Str) (l : AL Nat β) : (pk nv l).isEmpty = l.isEmpty := by
  cases l <;> rfl

theorem liveOK_alone {t : VT Nat} {v : Nat} (h : liveOK nv t v = true) :
    Alone nv t.scope v ∧ Alone nv t.pend v := by
  simp only [liveOK, List.all_eq_true, List.mem_append, Bool.or_eq_true, decide_eq_true_eq] at h
  exact ⟨fun e he => h e (Or.inl he), fun e he => h e (Or.inr he)⟩

theorem bliveOK_alone {t : BT Nat} {b : Nat} (h : bliveOK nb t b = true) :
    Alone nb t.bdef b ∧ Alone nb t.bpend b := by
  simp only [bliveOK, List.all_eq_true, List.mem_append, Bool.or_eq_true, decide_eq_true_eq] at h
  exact ⟨fun e he => h e (Or.inl he), fun e he => h e (Or.inr he)⟩

theorem use_proj {t : VT Nat} {v : Nat} (ty : Opq) (h : liveOK nv t v = true) :
    (projV nv t).use (nv v) ty = (t.use v ty).map fun r => (projV nv r.1, r.2) := by
  obtain ⟨hs, hp⟩ := liveOK_alone h
  simp only [VT.use, projV, get_pk hs, get_pk hp]
  cases h1 : AL.get t.pend v with
  | some p => rfl
  | none =>
    cases h2 : AL.get t.scope v with
    | none => rfl
    | some p => simp only []; split <;> rfl

theorem define_proj {t : VT Nat} {v : Nat} (ty : Opq) (h : liveOK nv t v = true) :
    (projV nv t).define (nv v) ty = (t.define v ty).map fun r => (projV nv r.1, r.2) := by
  obtain ⟨hs, hp⟩ := liveOK_alone h
  simp only [VT.define, projV, get_pk hs, get_pk hp, del_pk hp]
  cases h2 : AL.get t.scope v with
  | some p => rfl
  | none =>
    cases h1 : AL.get t.pend v with
    | none => rfl
    | some p => simp only []; split <;> rfl

theorem ref_proj {t : BT Nat} {b : Nat} (h : bliveOK nb t b = true) :
    (projB nb t).ref (nb b) = (projB nb (t.ref b).1, (t.ref b).2) := by
  obtain ⟨hs, hp⟩ := bliveOK_alone h
  simp only [BT.ref, projB, get_pk hs, get_pk hp]
  cases h1 : AL.get t.bdef b with
  | some p => rfl
  | none =>
    cases h2 : AL.get t.bpend b with
    | none => rfl
    | some p => rfl

theorem bdefine_proj {t : BT Nat} {b : Nat} (h : bliveOK nb t b = true) :
    (projB nb t).define (nb b) = (t.define b).map fun r => (projB nb r.1, r.2) := by
  obtain ⟨hs, hp⟩ := bliveOK_alone h
  simp only [BT.define, projB, get_pk hs, get_pk hp, del_pk hp]
  cases h1 : AL.get t.bdef b with
  | some p => rfl
  | none =>
    cases h2 : AL.get t.bpend b with
    | none => rfl
    | some p => rfl

/-- `nv` tells apart whatever `nv₀` tells apart -/
def Refines {N : Type} (nv₀ : Nat → N) (nv : Nat → Str) : Prop := ∀ x y, nv x = nv y → nv₀ x = nv₀ y

theorem Refines.refl (nv : Nat → Str) : Refines nv nv := fun _ _ h => h

theorem Refines.of_injective {nv : Nat → Str} (h : Function.Injective nv) :
    Refines (fun x : Nat => x) nv := fun _ _ e => h e

variable {N : Type} [DecidableEq N] {nv₀ nb₀ : Nat → N} {gs gs' : GS}

theorem liveOK_refines (hv : Refines nv₀ nv) {t : VT Nat} {v : Nat} (h : liveOK nv₀ t v = true) :
    liveOK nv t v = true := by
  simp only [liveOK, List.all_eq_true, Bool.or_eq_true, decide_eq_true_eq] at h ⊢
  exact fun e he => (h e he).imp id fun hne heq => hne (hv _ _ heq)

theorem bliveOK_refines (hb : Refines nb₀ nb) {t : BT Nat} {b : Nat} (h : bliveOK nb₀ t b = true) :
    bliveOK nb t b = true := by
  simp only [bliveOK, List.all_eq_true, Bool.or_eq_true, decide_eq_true_eq] at h ⊢
  exact fun e he => (h e he).imp id fun hne heq => hne (hb _ _ heq)

section
variable (hv : Refines nv₀ nv)
include hv

theorem wUse_sim {v p : Nat} {ty : Opq} (h : wUse nv₀ gs v ty = some (gs', p)) :
    (projV nv gs.v).use (nv v) ty = some (projV nv gs'.v, p, ty) ∧ gs'.b = gs.b := by
  obtain ⟨hl, -, t, hu, rfl⟩ := wUse_some h
  exact ⟨by rw [use_proj ty (liveOK_refines hv hl), hu]; rfl, rfl⟩

theorem wDef_sim {v p : Nat} {ty : Opq} (h : wDef nv₀ gs v ty = some (gs', p)) :
    (projV nv gs.v).define (nv v) ty = some (projV nv gs'.v, p) ∧ gs'.b = gs.b := by
  obtain ⟨hl, -, t, hu, rfl⟩ := wDef_some h
  exact ⟨by rw [define_proj ty (liveOK_refines hv hl), hu]; rfl, rfl⟩

theorem wUseAll_sim (vs : List Nat) (tys : List Opq) (gs gs' : GS) (ps : List Nat)
    (h : wUseAll nv₀ gs vs tys = some (gs', ps)) :
    useAll (projV nv gs.v) (vs.map nv) tys = some (projV nv gs'.v, ps, tys) ∧ gs'.b = gs.b := by
  fun_induction wUseAll nv₀ gs vs tys generalizing gs' ps
  all_goals cases h
  · rename_i h1 _ _ h2 ih
    obtain ⟨e1, b1⟩ := wUse_sim hv h1
    obtain ⟨e2, b2⟩ := ih _ _ h2
    exact ⟨by simp only [List.map_cons, useAll, e1, e2], b2.trans b1⟩
  · exact ⟨rfl, rfl⟩

theorem wDefAll_sim (vs : List Nat) (tys : List Opq) (gs gs' : GS) (ps : List Nat)
    (h : wDefAll nv₀ gs vs tys = some (gs', ps)) :
    defineAll (projV nv gs.v) (vs.map nv) tys = some (projV nv gs'.v, ps) ∧ gs'.b = gs.b := by
  fun_induction wDefAll nv₀ gs vs tys generalizing gs' ps
  all_goals cases h
  · rename_i h1 _ _ h2 ih
    obtain ⟨e1, b1⟩ := wDef_sim hv h1
    obtain ⟨e2, b2⟩ := ih _ _ h2
    exact ⟨by simp only [List.map_cons, defineAll, e1, e2], b2.trans b1⟩
  · exact ⟨rfl, rfl⟩

theorem wDefArgs_sim (args : List (Nat × Opq)) (gs gs' : GS) (ps : List (Nat × Opq))
    (h : wDefArgs nv₀ gs args = some (gs', ps)) :
    defineArgs (projV nv gs.v) (mapArgs nv args) = some (projV nv gs'.v, ps) ∧ gs'.b = gs.b := by
  fun_induction wDefArgs nv₀ gs args generalizing gs' ps
  all_goals cases h
  · exact ⟨rfl, rfl⟩
  · rename_i h1 _ _ h2 ih
    obtain ⟨e1, b1⟩ := wDef_sim hv h1
    obtain ⟨e2, b2⟩ := ih _ _ h2
    simp only [mapArgs] at e2
    exact ⟨by simp only [mapArgs, List.map_cons, defineArgs, e1, e2], b2.trans b1⟩

end

section
variable (hb : Refines nb₀ nb)
include hb

theorem wRef_sim {b p : Nat} (h : wRef nb₀ gs b = some (gs', p)) :
    (projB nb gs.b).ref (nb b) = (projB nb gs'.b, p) ∧ gs'.v = gs.v := by
  obtain ⟨hl, -, rfl, rfl⟩ := wRef_some h
  exact ⟨ref_proj (bliveOK_refines hb hl), rfl⟩

theorem wBDef_sim {b p : Nat} (h : wBDef nb₀ gs b = some (gs', p)) :
    (projB nb gs.b).define (nb b) = some (projB nb gs'.b, p) ∧ gs'.v = gs.v := by
  obtain ⟨hl, -, t, hu, rfl⟩ := wBDef_some h
  exact ⟨by rw [bdefine_proj (bliveOK_refines hb hl), hu]; rfl, rfl⟩

theorem wRefAll_sim (bs : List Nat) (gs gs' : GS) (ps : List Nat)
    (h : wRefAll nb₀ gs bs = some (gs', ps)) :
    refAll (projB nb gs.b) (bs.map nb) = (projB nb gs'.b, ps) ∧ gs'.v = gs.v := by
  fun_induction wRefAll nb₀ gs bs generalizing gs' ps
  all_goals cases h
  · exact ⟨rfl, rfl⟩
  · rename_i h1 _ _ h2 ih
    obtain ⟨e1, b1⟩ := wRef_sim hb h1
    obtain ⟨e2, b2⟩ := ih _ _ h2
    exact ⟨by simp only [List.map_cons, refAll, e1, e2], b2.trans b1⟩

end

theorem bind_of_defineAll {K : Type} [DecidableEq K] (t : VT K) (names : List K) (tys : List Opq)
    (r : VT K × List Nat) (h : defineAll t names tys = some r) :
    bindResults t names tys = some r := by
  cases names with
  | nil =>
    cases tys with
    | nil => simpa [bindResults, defineAll, freshVals] using h
    | cons => simp [defineAll] at h
  | cons a l => simpa [bindResults] using h

theorem walk_sim (hv : Refines nv₀ nv) (hb : Refines nb₀ nb) (t : IR) (e : Bool) (gs gs' : GS)
    (t' : IR) (h : walk nv₀ nb₀ e gs t = some (gs', t')) :
    res (proj nv nb gs) (nameT nv nb e t) = some (proj nv nb gs', t') := by
  unfold proj
  fun_induction walk nv₀ nb₀ e gs t generalizing gs' t'
  -- `h` is contradictory in the branches in which a step fails; left: nil, operation, region, block
  all_goals cases h
  · rfl
  · rename_i h0 _ _ h1 _ _ h2 _ _ h3 _ _ h4 ihr ihn
    obtain ⟨e0, v0⟩ := wRefAll_sim hb _ _ _ _ h0
    obtain ⟨e2, b2⟩ := wUseAll_sim hv _ _ _ _ _ h2
    obtain ⟨e3, b3⟩ := wDefAll_sim hv _ _ _ _ _ h3
    have s1 := ihr _ _ h1
    have s4 := ihn _ _ h4
    rw [v0] at s1
    rw [b3, b2] at s4
    simp only [nameT, res, Hdr.map, e0, s1, e2, bind_of_defineAll _ _ _ _ e3, s4]
  · rename_i h1 he _ _ h2 ihb ihn
    have s1 := ihb _ _ h1
    have s2 := ihn _ _ h2
    simp only [projV, projB, pk_nil] at s1 s2
    simp only [nameT, res, projV, projB, s1, pk_isEmpty, he, if_true, s2]
  · rename_i e gs b args ops nx _ g0 id h0 _ _ h1 _ _ h2 _ _ h3 iho ihn
    obtain ⟨e1, b1⟩ := wDefArgs_sim hv _ _ _ _ h1
    have s2 := iho _ _ h2
    have s3 := ihn _ _ h3
    rw [b1] at s2
    replace h0 : wLabel nb₀ gs b (e && !entryLabelled b args ops nx) = some (g0, id) := h0
    cases hc : (e && !entryLabelled b args ops nx) with
    | true =>
      rw [hc] at h0
      obtain ⟨-, rfl, rfl⟩ := wLabel_omitted h0
      simp only [projB] at s2 s3
      simp only [nameT, hc, if_true, res, projB, e1, s2, s3]
    | false =>
      rw [hc] at h0
      obtain ⟨e0, v0⟩ := wBDef_sim hb (show wBDef nb₀ gs b = some (g0, id) from h0)
      rw [v0] at e1
      simp only [nameT, hc, Bool.false_eq_true, if_false, res, e0, e1, s2, s3]
end sim

section iso
variable {N : Type} [DecidableEq N]

/-- every entry of a table is recorded (`π`: the identity an entry stands for) -/
def Sub {β : Type} (π : β → Nat) (tbl : AL Nat β) (log : AL Nat Nat) : Prop :=
  ∀ k e, AL.get tbl k = some e → AL.get log k = some (π e)

def Ext (log log' : AL Nat Nat) : Prop := ∀ x p, AL.get log x = some p → AL.get log' x = some p

theorem Sub.nil {β : Type} (π : β → Nat) (log : AL Nat Nat) : Sub π [] log := fun _ _ h => by
  cases h

theorem Sub.cons {β : Type} {π : β → Nat} {tbl : AL Nat β} {log : AL Nat Nat} (h : Sub π tbl log)
    {k : Nat} {e : β} (hk : AL.get log k = some (π e)) : Sub π ((k, e) :: tbl) log := by
  intro w e' hw
  simp only [AL.get_cons] at hw
  split at hw
  · rename_i hkw; subst hkw; cases hw; exact hk
  · exact h w e' hw

theorem Sub.del {β : Type} {π : β → Nat} {tbl : AL Nat β} {log : AL Nat Nat} (h : Sub π tbl log)
    (k : Nat) : Sub π (AL.del tbl k) log := by
  intro w e hw
  simp only [AL.get_del] at hw
  split at hw
  · cases hw
  · exact h w e hw

theorem Sub.mono {β : Type} {π : β → Nat} {tbl : AL Nat β} {log log' : AL Nat Nat}
    (h : Sub π tbl log) (hx : Ext log log') : Sub π tbl log' :=
  fun k e hk => hx k _ (h k e hk)

/-- recorded targets are below the counter and distinct -/
structure LogOK (log : AL Nat Nat) (n : Nat) : Prop where
  lt : ∀ x p, AL.get log x = some p → p < n
  inj : ∀ x y p, AL.get log x = some p → AL.get log y = some p → x = y

theorem LogOK.nil (n : Nat) : LogOK [] n := ⟨fun _ _ h => (nomatch h), fun _ _ _ h => (nomatch h)⟩

theorem LogOK.fresh {log : AL Nat Nat} {n v : Nat} (h : LogOK log n) (hlog : AL.get log v = none) :
    LogOK ((v, n) :: log) (n + 1) ∧ Ext log ((v, n) :: log) := by
  refine ⟨⟨?_, ?_⟩, ?_⟩
  · intro x q hx
    simp only [AL.get_cons] at hx
    split at hx
    · cases hx; exact Nat.lt_succ_self _
    · exact Nat.lt_succ_of_lt (h.lt x q hx)
  · intro x y q hx hy
    simp only [AL.get_cons] at hx hy
    split at hx <;> split at hy
    · rename_i a b; exact a.symm.trans b
    · cases hx; exact absurd (h.lt y _ hy) (Nat.lt_irrefl _)
    · cases hy; exact absurd (h.lt x _ hx) (Nat.lt_irrefl _)
    · exact h.inj x y q hx hy
  · intro x q hx
    have : ¬ v = x := by intro e; subst e; rw [hlog] at hx; cases hx
    simp only [AL.get_cons, this, if_false]; exact hx

theorem tot_of_get (m : AL Nat Nat) (n x p : Nat) (h : AL.get m x = some p) : tot m n x = p := by
  simp [tot, h]

theorem LogOK.tot_injective {m : AL Nat Nat} {n : Nat} (h : LogOK m n) :
    Function.Injective (tot m n) := by
  intro x y hxy
  unfold tot at hxy
  cases hx : AL.get m x with
  | some p =>
    cases hy : AL.get m y with
    | some q =>
      simp only [hx, hy] at hxy
      subst hxy
      exact h.inj x y p hx hy
    | none =>
      simp only [hx, hy] at hxy
      have := h.lt x p hx
      omega
  | none =>
    cases hy : AL.get m y with
    | some q =>
      simp only [hx, hy] at hxy
      have := h.lt y q hy
      omega
    | none =>
      simp only [hx, hy] at hxy
      omega

/-- every table entry is recorded; the records are injective below the counters -/
structure WalkInv (gs : GS) : Prop where
  scope : Sub Prod.fst gs.v.scope gs.log
  pend : Sub Prod.fst gs.v.pend gs.log
  bdef : Sub id gs.b.bdef gs.blog
  bpend : Sub id gs.b.bpend gs.blog
  vlog : LogOK gs.log gs.v.next
  blog : LogOK gs.blog gs.b.next

theorem inv_init : WalkInv {} :=
  ⟨Sub.nil _ _, Sub.nil _ _, Sub.nil _ _, Sub.nil _ _, LogOK.nil _, LogOK.nil _⟩

theorem WalkInv.vmap_injective {gs : GS} (h : WalkInv gs) : Function.Injective gs.vmap := h.vlog.tot_injective

theorem WalkInv.bmap_injective {gs : GS} (h : WalkInv gs) : Function.Injective gs.bmap := h.blog.tot_injective

/-- the records only grow -/
structure Frame (gs gs' : GS) : Prop where
  log : Ext gs.log gs'.log
  blog : Ext gs.blog gs'.blog

theorem Frame.refl (gs : GS) : Frame gs gs := ⟨fun _ _ h => h, fun _ _ h => h⟩

theorem Frame.trans {a b c : GS} (h1 : Frame a b) (h2 : Frame b c) : Frame a c :=
  ⟨fun x p h => h2.log x p (h1.log x p h), fun x p h => h2.blog x p (h1.blog x p h)⟩

theorem Frame.vmap {gs g : GS} (h : Frame gs g) {x p : Nat} (hx : AL.get gs.log x = some p) :
    g.vmap x = p := tot_of_get _ _ _ _ (h.log x p hx)

theorem Frame.bmap {gs g : GS} (h : Frame gs g) {x p : Nat} (hx : AL.get gs.blog x = some p) :
    g.bmap x = p := tot_of_get _ _ _ _ (h.blog x p hx)

/-- A successful step from `gs` to `gs'` whose output is `out g` for every later state `g`: the
invariant is kept and the records grow.  (The output is the input renamed by the FINAL record,
hence the quantification over later states.) -/
structure Run (gs gs' : GS) (out : GS → Prop) : Prop where
  inv : WalkInv gs'
  frame : Frame gs gs'
  out : ∀ g, Frame gs' g → out g

theorem Run.id {gs : GS} {out : GS → Prop} (hi : WalkInv gs) (h : ∀ g, out g) : Run gs gs out :=
  ⟨hi, Frame.refl _, fun g _ => h g⟩

theorem Run.seq {a b c : GS} {P Q : GS → Prop} (h1 : Run a b P) (h2 : Run b c Q) :
    Run a c fun g => P g ∧ Q g :=
  ⟨h2.inv, h1.frame.trans h2.frame, fun g hg => ⟨h1.out g (h2.frame.trans hg), h2.out g hg⟩⟩

theorem Run.imp {a b : GS} {P Q : GS → Prop} (h : Run a b P) (hpq : ∀ g, P g → Q g) : Run a b Q :=
  ⟨h.inv, h.frame, fun g hg => hpq g (h.out g hg)⟩

/-- of the start state only the records matter: a run from changed tables (the region case of `walk`) is a
run from the state before the change -/
theorem Run.of_records {a' b : GS} {P : GS → Prop} (h : Run a' b P) (a : GS) (hl : a.log = a'.log)
    (hbl : a.blog = a'.blog) : Run a b P :=
  ⟨h.inv, ⟨hl ▸ h.frame.log, hbl ▸ h.frame.blog⟩, h.out⟩

variable {nv nb : Nat → N} {gs gs' : GS}

theorem known_false {t : VT Nat} {v : Nat} (h : t.known v = false) :
    AL.get t.pend v = none ∧ AL.get t.scope v = none := by
  simp only [VT.known, Bool.or_eq_false_iff, Option.isSome_eq_false_iff, Option.isNone_iff_eq_none] at h
  exact h

theorem bknown_false {t : BT Nat} {b : Nat} (h : t.known b = false) :
    AL.get t.bdef b = none ∧ AL.get t.bpend b = none := by
  simp only [BT.known, Bool.or_eq_false_iff, Option.isSome_eq_false_iff, Option.isNone_iff_eq_none] at h
  exact h

theorem wUse_step {v p : Nat} {ty : Opq} (hi : WalkInv gs) (h : wUse nv gs v ty = some (gs', p)) :
    Run gs gs' fun g => g.vmap v = p := by
  obtain ⟨-, hlog, t, hu, rfl⟩ := wUse_some h
  cases hk : gs.v.known v with
  | true =>
    -- a known value: the tables stay, its entry is recorded
    simp only [if_true]
    unfold VT.use at hu
    cases hp : AL.get gs.v.pend v with
    | some e =>
      simp only [hp] at hu; cases hu
      exact ⟨hi, Frame.refl _, fun g hg => hg.vmap (hi.pend v _ hp)⟩
    | none =>
      cases hs : AL.get gs.v.scope v with
      | some e =>
        simp only [hp, hs] at hu
        split at hu
        · cases hu; exact ⟨hi, Frame.refl _, fun g hg => hg.vmap (hi.scope v _ hs)⟩
        · cases hu
      | none => simp [VT.known, hp, hs] at hk
  | false =>
    -- a new value: a pending entry and a record entry with the counter
    obtain ⟨hp, hs⟩ := known_false hk
    simp only [VT.use, hp, hs] at hu
    cases hu
    obtain ⟨ok, ext⟩ := hi.vlog.fresh (hlog hk)
    simp only [Bool.false_eq_true, if_false]
    exact ⟨⟨hi.scope.mono ext, (hi.pend.mono ext).cons (by simp), hi.bdef, hi.bpend, ok, hi.blog⟩,
      ⟨ext, fun _ _ h => h⟩, fun g hg => hg.vmap (by simp)⟩

theorem wDef_step {v p : Nat} {ty : Opq} (hi : WalkInv gs) (h : wDef nv gs v ty = some (gs', p)) :
    Run gs gs' fun g => g.vmap v = p := by
  obtain ⟨-, hlog, t, hu, rfl⟩ := wDef_some h
  cases hk : gs.v.known v with
  | true =>
    -- a pending value gets its definition: the entry moves, the record stays
    simp only [if_true]
    unfold VT.define at hu
    cases hs : AL.get gs.v.scope v with
    | some e => simp [hs] at hu
    | none =>
      cases hp : AL.get gs.v.pend v with
      | none => simp [VT.known, hp, hs] at hk
      | some e =>
        simp only [hs, hp] at hu
        split at hu
        · cases hu
          exact ⟨⟨hi.scope.cons (hi.pend v e hp), hi.pend.del v, hi.bdef, hi.bpend, hi.vlog, hi.blog⟩,
            ⟨fun _ _ h => h, fun _ _ h => h⟩, fun g hg => hg.vmap (hi.pend v e hp)⟩
        · cases hu
  | false =>
    obtain ⟨hp, hs⟩ := known_false hk
    simp only [VT.define, hp, hs] at hu
    cases hu
    obtain ⟨ok, ext⟩ := hi.vlog.fresh (hlog hk)
    simp only [Bool.false_eq_true, if_false]
    exact ⟨⟨(hi.scope.mono ext).cons (by simp), hi.pend.mono ext, hi.bdef, hi.bpend, ok, hi.blog⟩,
      ⟨ext, fun _ _ h => h⟩, fun g hg => hg.vmap (by simp)⟩

theorem wRef_step {b p : Nat} (hi : WalkInv gs) (h : wRef nb gs b = some (gs', p)) :
    Run gs gs' fun g => g.bmap b = p := by
  obtain ⟨-, hlog, rfl, rfl⟩ := wRef_some h
  cases hk : gs.b.known b with
  | true =>
    simp only [if_true]
    unfold BT.ref
    cases hd : AL.get gs.b.bdef b with
    | some q => exact ⟨hi, Frame.refl _, fun g hg => hg.bmap (hi.bdef b _ hd)⟩
    | none =>
      cases hp : AL.get gs.b.bpend b with
      | some q => exact ⟨hi, Frame.refl _, fun g hg => hg.bmap (hi.bpend b _ hp)⟩
      | none => simp [BT.known, hd, hp] at hk
  | false =>
    obtain ⟨hd, hp⟩ := bknown_false hk
    obtain ⟨ok, ext⟩ := hi.blog.fresh (hlog hk)
    simp only [BT.ref, hd, hp, Bool.false_eq_true, if_false]
    exact ⟨⟨hi.scope, hi.pend, hi.bdef.mono ext, (hi.bpend.mono ext).cons (by simp), hi.vlog, ok⟩,
      ⟨fun _ _ h => h, ext⟩, fun g hg => hg.bmap (by simp)⟩

theorem wBDef_step {b p : Nat} (hi : WalkInv gs) (h : wBDef nb gs b = some (gs', p)) :
    Run gs gs' fun g => g.bmap b = p := by
  obtain ⟨-, hlog, t, hu, rfl⟩ := wBDef_some h
  cases hk : gs.b.known b with
  | true =>
    simp only [if_true]
    unfold BT.define at hu
    cases hd : AL.get gs.b.bdef b with
    | some e => simp [hd] at hu
    | none =>
      cases hp : AL.get gs.b.bpend b with
      | none => simp [BT.known, hp, hd] at hk
      | some e =>
        simp only [hd, hp] at hu
        cases hu
        exact ⟨⟨hi.scope, hi.pend, hi.bdef.cons (hi.bpend b p hp), hi.bpend.del b, hi.vlog, hi.blog⟩,
          ⟨fun _ _ h => h, fun _ _ h => h⟩, fun g hg => hg.bmap (hi.bpend b p hp)⟩
  | false =>
    obtain ⟨hd, hp⟩ := bknown_false hk
    simp only [BT.define, hd, hp] at hu
    cases hu
    obtain ⟨ok, ext⟩ := hi.blog.fresh (hlog hk)
    simp only [Bool.false_eq_true, if_false]
    exact ⟨⟨hi.scope, hi.pend, (hi.bdef.mono ext).cons (by simp), hi.bpend.mono ext, hi.vlog, ok⟩,
      ⟨fun _ _ h => h, ext⟩, fun g hg => hg.bmap (by simp)⟩

theorem wLabel_step {b id : Nat} {omitted : Bool} (hi : WalkInv gs)
    (h : wLabel nb gs b omitted = some (gs', id)) : Run gs gs' fun g => g.bmap b = id := by
  cases omitted with
  | false => exact wBDef_step hi h
  | true =>
    obtain ⟨hbl, rfl, rfl⟩ := wLabel_omitted h
    obtain ⟨ok, ext⟩ := hi.blog.fresh hbl
    exact ⟨⟨hi.scope, hi.pend, hi.bdef.mono ext, hi.bpend.mono ext, hi.vlog, ok⟩,
      ⟨fun _ _ h => h, ext⟩, fun g hg => hg.bmap (by simp)⟩

theorem wUseAll_step (vs : List Nat) (tys : List Opq) (gs gs' : GS) (ps : List Nat)
    (hi : WalkInv gs) (h : wUseAll nv gs vs tys = some (gs', ps)) :
    Run gs gs' fun g => ps = vs.map g.vmap := by
  fun_induction wUseAll nv gs vs tys generalizing gs' ps
  all_goals cases h
  · rename_i h1 _ _ h2 ih
    have s1 := wUse_step hi h1
    exact (s1.seq (ih _ _ s1.inv h2)).imp fun g ⟨e1, e2⟩ => by rw [List.map_cons, e1, e2]
  · exact .id hi fun _ => rfl

theorem wDefAll_step (vs : List Nat) (tys : List Opq) (gs gs' : GS) (ps : List Nat)
    (hi : WalkInv gs) (h : wDefAll nv gs vs tys = some (gs', ps)) :
    Run gs gs' fun g => ps = vs.map g.vmap := by
  fun_induction wDefAll nv gs vs tys generalizing gs' ps
  all_goals cases h
  · rename_i h1 _ _ h2 ih
    have s1 := wDef_step hi h1
    exact (s1.seq (ih _ _ s1.inv h2)).imp fun g ⟨e1, e2⟩ => by rw [List.map_cons, e1, e2]
  · exact .id hi fun _ => rfl

theorem wDefArgs_step (args : List (Nat × Opq)) (gs gs' : GS) (ps : List (Nat × Opq))
    (hi : WalkInv gs) (h : wDefArgs nv gs args = some (gs', ps)) :
    Run gs gs' fun g => ps = mapArgs g.vmap args := by
  fun_induction wDefArgs nv gs args generalizing gs' ps
  all_goals cases h
  · exact .id hi fun _ => rfl
  · rename_i h1 _ _ h2 ih
    have s1 := wDef_step hi h1
    exact (s1.seq (ih _ _ s1.inv h2)).imp fun g ⟨e1, e2⟩ => by
      rw [mapArgs, List.map_cons, e1, e2]; rfl

theorem wRefAll_step (bs : List Nat) (gs gs' : GS) (ps : List Nat)
    (hi : WalkInv gs) (h : wRefAll nb gs bs = some (gs', ps)) :
    Run gs gs' fun g => ps = bs.map g.bmap := by
  fun_induction wRefAll nb gs bs generalizing gs' ps
  all_goals cases h
  · exact .id hi fun _ => rfl
  · rename_i h1 _ _ h2 ih
    have s1 := wRef_step hi h1
    exact (s1.seq (ih _ _ s1.inv h2)).imp fun g ⟨e1, e2⟩ => by rw [List.map_cons, e1, e2]

theorem walk_step (nv nb : Nat → N) (t : IR) (e : Bool) (gs gs' : GS) (t' : IR) (hi : WalkInv gs)
    (h : walk nv nb e gs t = some (gs', t')) : Run gs gs' fun g => t' = mapT g.vmap g.bmap t := by
  fun_induction walk nv nb e gs t generalizing gs' t'
  all_goals cases h
  · exact .id hi fun _ => rfl
  · rename_i h0 _ _ h1 _ _ h2 _ _ h3 _ _ h4 ihr ihn
    have s0 := wRefAll_step _ _ _ _ hi h0
    have s1 := ihr _ _ s0.inv h1
    have s2 := wUseAll_step _ _ _ _ _ s1.inv h2
    have s3 := wDefAll_step _ _ _ _ _ s2.inv h3
    have s4 := ihn _ _ s3.inv h4
    exact ((((s0.seq s1).seq s2).seq s3).seq s4).imp fun g ⟨⟨⟨⟨e0, e1⟩, e2⟩, e3⟩, e4⟩ => by
      simp only [mapT, Hdr.map, ← e0, ← e1, ← e2, ← e3, ← e4]
  · rename_i gs bs nx g1 _ h1 _ _ _ h2 ihb ihn
    -- inside the region: fresh block tables; after it: the outer tables under the grown records
    have s1 := ihb _ _ ⟨hi.scope, hi.pend, Sub.nil _ _, Sub.nil _ _, hi.vlog, hi.blog⟩ h1
    have s2 := ihn _ _ ⟨hi.scope.mono s1.frame.log, s1.inv.pend, hi.bdef.mono s1.frame.blog,
      hi.bpend.mono s1.frame.blog, s1.inv.vlog, s1.inv.blog⟩ h2
    exact ((s1.of_records gs rfl rfl).seq (s2.of_records g1 rfl rfl)).imp fun g ⟨e1, e2⟩ => by
      simp only [mapT, ← e1, ← e2]
  · rename_i e gs b args ops nx _ g0 id h0 _ _ h1 _ _ h2 _ _ h3 iho ihn
    have s0 := wLabel_step (omitted := e && !entryLabelled b args ops nx) hi h0
    have s1 := wDefArgs_step _ _ _ _ s0.inv h1
    have s2 := iho _ _ s1.inv h2
    have s3 := ihn _ _ s2.inv h3
    exact (((s0.seq s1).seq s2).seq s3).imp fun g ⟨⟨⟨e0, e1⟩, e2⟩, e3⟩ => by
      simp only [mapT, e0, ← e1, ← e2, ← e3]

end iso

end Xdsl.Skeleton
