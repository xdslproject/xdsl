import XdslModel.ParallelMov
import XdslProofs.Lemmas.AL
/-!
The register machine of C20 (`rd`/`wr` with the hard-wired `zero`, `exec` over `++`) and the soundness of its symbolic
execution: a symbolic state gives each register the set of initial registers whose xor it holds (`den`), `Agree σ ρ₀ ρ`
says that `σ` read in the initial file `ρ₀` is the file `ρ`; every instruction keeps it (`agree_step`), so
`symExec is` describes `exec is` (`agree_symExec`).
-/
namespace Xdsl.ParallelMov

variable {n : Nat}

theorem rd_zero (ρ : RegFile n) : rd ρ Reg.zero = 0 := by simp [rd]

theorem rd_of_ne {ρ : RegFile n} {r : Reg} (h : r ≠ Reg.zero) : rd ρ r = ρ r := by simp [rd, h]

theorem rd_wr (ρ : RegFile n) (d r : Reg) (v : BitVec n) :
    rd (wr ρ d v) r = if r = d ∧ d ≠ Reg.zero then v else rd ρ r := by
  unfold rd wr
  by_cases hz : r = Reg.zero
  · subst hz
    by_cases hd : Reg.zero = d
    · subst hd; simp
    · simp [hd]
  · simp only [hz, if_false]

theorem rd_wr_same {ρ : RegFile n} {d : Reg} (v : BitVec n) (h : d ≠ Reg.zero) :
    rd (wr ρ d v) d = v := by simp [rd_wr, h]

theorem rd_wr_ne {ρ : RegFile n} {d r : Reg} (v : BitVec n) (h : r ≠ d) :
    rd (wr ρ d v) r = rd ρ r := by simp [rd_wr, h]

theorem rd_wr_zero (ρ : RegFile n) (r : Reg) (v : BitVec n) :
    rd (wr ρ Reg.zero v) r = rd ρ r := by simp [rd_wr]

theorem exec_nil (ρ : RegFile n) : exec [] ρ = ρ := rfl

theorem exec_cons (i : Instr) (is : List Instr) (ρ : RegFile n) :
    exec (i :: is) ρ = exec is (step ρ i) := rfl

theorem exec_append (a b : List Instr) (ρ : RegFile n) : exec (a ++ b) ρ = exec b (exec a ρ) := by
  simp [exec, List.foldl_append]

theorem exec_snoc (a : List Instr) (i : Instr) (ρ : RegFile n) :
    exec (a ++ [i]) ρ = step (exec a ρ) i := by
  simp [exec]

theorem xor_cancel (x y : BitVec n) : x ^^^ y ^^^ y = x := by
  rw [BitVec.xor_assoc, BitVec.xor_self, BitVec.xor_zero]

theorem rd_swap {a b : Reg} (hab : a ≠ b) (ha : a ≠ Reg.zero) (hb : b ≠ Reg.zero) (ρ : RegFile n)
    (r : Reg) :
    rd (exec [.xor a a b, .xor b a b, .xor a a b] ρ) r
      = if r = a then rd ρ b else if r = b then rd ρ a else rd ρ r := by
  have hba : b ≠ a := fun e => hab e.symm
  simp only [exec, List.foldl_cons, List.foldl_nil, step]
  by_cases hra : r = a
  · subst hra
    simp only [rd_wr, hab, hba, ha, hb, ne_eq, not_false_eq_true, and_self, and_true, if_true,
      if_false]
    rw [xor_cancel, BitVec.xor_comm (rd ρ r) (rd ρ b), xor_cancel]
  · by_cases hrb : r = b
    · subst hrb
      simp only [rd_wr, hab, hba, ha, hb, ne_eq, not_false_eq_true, and_self, and_true, if_true,
        if_false]
      rw [xor_cancel]
    · simp only [rd_wr, hra, hrb, false_and, if_false]

/-- xor of the initial contents of the registers of `l` -/
def den (ρ : RegFile n) (l : Sym) : BitVec n := l.foldr (fun r acc => rd ρ r ^^^ acc) 0

@[simp] theorem den_nil (ρ : RegFile n) : den ρ [] = 0 := rfl

@[simp] theorem den_cons (ρ : RegFile n) (r : Reg) (l : Sym) : den ρ (r :: l) = rd ρ r ^^^ den ρ l := rfl

theorem den_erase (ρ : RegFile n) (r : Reg) (l : Sym) (h : r ∈ l) :
    den ρ l = rd ρ r ^^^ den ρ (l.erase r) := by
  induction l with
  | nil => simp at h
  | cons a t ih =>
    by_cases e : a = r
    · subst e; simp
    · have ht : r ∈ t := by
        rcases List.mem_cons.mp h with h | h
        · exact absurd h.symm e
        · exact h
      have : (a :: t).erase r = a :: t.erase r := by
        simp [e]
      rw [this, den_cons, den_cons, ih ht]
      rw [← BitVec.xor_assoc, ← BitVec.xor_assoc, BitVec.xor_comm (rd ρ a)]

theorem den_toggle (ρ : RegFile n) (r : Reg) (l : Sym) :
    den ρ (toggle r l) = rd ρ r ^^^ den ρ l := by
  unfold toggle
  split
  · rename_i h
    rw [den_erase ρ r l h, ← BitVec.xor_assoc, BitVec.xor_self, BitVec.zero_xor]
  · rfl

theorem den_xorSym (ρ : RegFile n) (a b : Sym) : den ρ (xorSym a b) = den ρ a ^^^ den ρ b := by
  induction a with
  | nil => simp [xorSym]
  | cons x t ih =>
    have : xorSym (x :: t) b = toggle x (xorSym t b) := rfl
    rw [this, den_toggle, ih, den_cons, BitVec.xor_assoc]

theorem symRd_wr (σ : SymSt) (d r : Reg) (v : Sym) :
    (σ.wr d v).rd r = if r = d ∧ d ≠ Reg.zero then v else σ.rd r := by
  unfold SymSt.wr SymSt.rd
  by_cases hd : d = Reg.zero
  · subst hd; simp
  · simp only [hd, if_false]
    by_cases hz : r = Reg.zero
    · subst hz
      have : ¬ Reg.zero = d := fun e => hd e.symm
      simp [this]
    · simp only [hz, if_false, AL.get_set]
      by_cases e : r = d
      · simp [e, hd]
      · simp [e]

theorem symRd_of_get_none {σ : SymSt} {r : Reg} (h : AL.get σ r = none) :
    σ.rd r = if r = Reg.zero then [] else [r] := by
  simp [SymSt.rd, h]

/-- The concrete state `ρ` is what the symbolic state `σ` says about the initial state `ρ₀`. -/
def Agree (σ : SymSt) (ρ₀ ρ : RegFile n) : Prop := ∀ r, rd ρ r = den ρ₀ (σ.rd r)

theorem agree_init (ρ : RegFile n) : Agree ([] : SymSt) ρ ρ := by
  intro r
  unfold SymSt.rd
  by_cases h : r = Reg.zero
  · subst h; simp [rd_zero]
  · simp [h]

theorem agree_wr {σ : SymSt} {ρ₀ ρ : RegFile n} (h : Agree σ ρ₀ ρ) (d : Reg) (s : Sym)
    (v : BitVec n) (hv : v = den ρ₀ s) : Agree (σ.wr d s) ρ₀ (wr ρ d v) := by
  intro r
  rw [rd_wr, symRd_wr]
  split
  · exact hv
  · exact h r

theorem agree_step {σ : SymSt} {ρ₀ ρ : RegFile n} (h : Agree σ ρ₀ ρ) (i : Instr) :
    Agree (symStep σ i) ρ₀ (step ρ i) := by
  cases i with
  | mv d s => exact agree_wr h d _ _ (h s)
  | fmv w d s => exact agree_wr h d _ _ (h s)
  | xor d a b =>
    refine agree_wr h d _ _ ?_
    rw [den_xorSym, h a, h b]

theorem agree_foldl (is : List Instr) {σ : SymSt} {ρ₀ ρ : RegFile n} (h : Agree σ ρ₀ ρ) :
    Agree (is.foldl symStep σ) ρ₀ (is.foldl step ρ) := by
  induction is generalizing σ ρ with
  | nil => exact h
  | cons i t ih => exact ih (agree_step h i)

theorem agree_symExec (is : List Instr) (ρ : RegFile n) : Agree (symExec is) ρ (exec is ρ) :=
  agree_foldl is (agree_init ρ)

end Xdsl.ParallelMov
