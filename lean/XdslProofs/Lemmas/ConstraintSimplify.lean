import XdslProofs.Lemmas.ConstraintVerify
/-!
`relax_constraint`, `|`, `AnyOf.get` (C09): the constraint they return can stand for the union of
their arguments (`Joins`) — same meaning under every assignment, and whatever the constructors enforce
of the arguments holds of the result.  At the end, the two parameter lists on which
`ParamAttrConstraint.get` collapses.
-/
namespace Xdsl.Constraint

theorem subsetA_iff (a b : List Attr) : subsetA a b = true ↔ ∀ x ∈ a, x ∈ b := by
  simp [subsetA, List.all_eq_true, memA_iff]

theorem isAny_iff (c : C) : isAny c = true ↔ c = .any := by cases c <;> simp [isAny]

section
variable (U : Univ) (σ : Asg)

theorem satAny_append (a : Attr) (cs ds : List C) :
    satAny U σ (cs ++ ds) a ↔ satAny U σ cs a ∨ satAny U σ ds a := by
  induction cs with
  | nil => simp only [List.nil_append, satAny, false_or]
  | cons c cs ih => simp only [List.cons_append, satAny, ih, or_assoc]

/-- Constraints that are `==` in Python describe the same set, and lists of them do so position by
position.  By induction along the computation of `ceq`/`ceqL`: one case per arm, in the order of the
definitions; in the last arm of each the result is `false`. -/
theorem ceq_sat_both :
    (∀ x y, ceq x y = true → ∀ a, sat U σ x a ↔ sat U σ y a) ∧
    ∀ cs ds, ceqL cs ds = true →
      (∀ a, (satAny U σ cs a ↔ satAny U σ ds a) ∧ (satAll U σ cs a ↔ satAll U σ ds a)) ∧
      ∀ as, satZip U σ cs as ↔ satZip U σ ds as := by
  apply ceq.mutual_induct
  case case1 => exact fun _ _ => Iff.rfl
  case case2 => intro b b' h a; rw [(Attr.beq_iff b b').1 h]
  case case3 =>
    intro vs ws h a
    obtain ⟨h1, h2⟩ := Bool.and_eq_true_iff.1 h
    exact ⟨(subsetA_iff vs ws).1 h1 a, (subsetA_iff ws vs).1 h2 a⟩
  case case4 => intro d e h a; rw [of_decide_eq_true h]
  case case5 => exact fun cs ds ih h a => ((ih h).1 a).1
  case case6 => exact fun cs ds ih h a => ((ih h).1 a).2
  case case7 =>
    intro d ps e qs ih h a
    obtain ⟨h1, h2⟩ := Bool.and_eq_true_iff.1 h
    cases eq_of_beq h1
    cases a with
    | param ca as => simp only [sat_param, (ih h2).2 as]
    | _ => exact ⟨fun x => x.2.elim, fun x => x.2.elim⟩
  case case8 =>
    intro n c m c' ih h a
    obtain ⟨h1, h2⟩ := Bool.and_eq_true_iff.1 h
    cases eq_of_beq h1
    simp only [sat_var, ih h2 a]
  case case9 => exact fun n c m c' ih h a => ih (Bool.and_eq_true_iff.1 h).2 a
  case case10 => exact fun n c m c' ih h a => ih (Bool.and_eq_true_iff.1 h).2 a
  case case11 =>
    intro k c l c' ih h a
    obtain ⟨h1, h2⟩ := Bool.and_eq_true_iff.1 h
    cases eq_of_beq h1
    cases a with
    | arr ca es => simp only [sat_arrayOf, ih h2]
    | _ => exact ⟨fun x => x.2.elim, fun x => x.2.elim⟩
  case case12 =>
    intro x y _ _ _ _ _ _ _ _ _ _ _ h
    simp only [ceq, *] at h
    cases h
  case case13 => exact fun _ => ⟨fun _ => ⟨Iff.rfl, Iff.rfl⟩, fun _ => Iff.rfl⟩
  case case14 =>
    intro c cs d ds ihc ih h
    obtain ⟨h1, h2⟩ := Bool.and_eq_true_iff.1 h
    refine ⟨fun a => ?_, fun as => ?_⟩
    · simp only [satAny, satAll, ihc h1 a, ((ih h2).1 a).1, ((ih h2).1 a).2, and_self]
    · cases as with
      | nil => exact Iff.rfl
      | cons a as => simp only [satZip, ihc h1 a, (ih h2).2 as]
  case case15 =>
    intro cs ds _ _ h
    simp only [ceqL, *] at h
    cases h

theorem ceq_sat (x y : C) (h : ceq x y = true) (a : Attr) : sat U σ x a ↔ sat U σ y a :=
  (ceq_sat_both U σ).1 x y h a

theorem setGet_sat (vs : List Attr) (a : Attr) : sat U σ (setGet vs) a ↔ a ∈ vs := by
  rw [← mem_dedupA a vs]
  unfold setGet
  split
  · rename_i v hv; rw [hv]; exact List.mem_singleton.symm
  · rfl

theorem satAny_setNth (a : Attr) (v c : C) (done : List C) (k : Nat) (x : C) (h : done[k]? = some x)
    (hv : sat U σ v a ↔ sat U σ x a ∨ sat U σ c a) :
    satAny U σ (setNth done k v) a ↔ satAny U σ done a ∨ sat U σ c a := by
  fun_induction setNth done k v with
  | case1 => cases h
  | case2 => cases h; simp only [satAny, hv, or_right_comm]
  | case3 d done k v ih => simp only [satAny, ih h hv, or_assoc]

end

theorem mem_setNth {v x : C} {done : List C} {k : Nat} (h : x ∈ setNth done k v) : x = v ∨ x ∈ done := by
  fun_induction setNth done k v with
  | case1 => cases h
  | case2 => exact (List.mem_cons.1 h).imp_right (List.mem_cons_of_mem _)
  | case3 c cs k v ih =>
    rcases List.mem_cons.1 h with e | h
    · exact .inr (e ▸ List.mem_cons_self ..)
    · exact (ih h).imp_right (List.mem_cons_of_mem _)

/-- a property of constraints that is determined node by node (instances: `WF U`,
`WellDeclared decl`, `Good U`); only for the nodes the merge functions build or take apart (an `AnyAttr`
or `BaseAttr` they return is always one of their arguments) -/
structure Compositional (U : Univ) (Q : C → Prop) : Prop where
  eq : ∀ a, Q (.eq a)
  set : ∀ vs, Q (.set vs)
  param : ∀ d ps, Q (.param d ps) ↔ ∀ p ∈ ps, Q p
  anyOf_intro : ∀ cs, checkAnyOf U cs = true → (∀ c ∈ cs, Q c) → Q (.anyOf cs)
  anyOf_elim : ∀ cs, Q (.anyOf cs) → ∀ c ∈ cs, Q c

theorem WF_compositional (U : Univ) : Compositional U (WF U) where
  eq _ := trivial
  set _ := trivial
  param _ ps := WFL_iff U ps
  anyOf_intro cs h1 h2 := ⟨h1, (WFL_iff U cs).2 h2⟩
  anyOf_elim cs h := (WFL_iff U cs).1 h.2

theorem WD_compositional (U : Univ) (decl : Nat → C) : Compositional U (WellDeclared decl) where
  eq _ := trivial
  set _ := trivial
  param _ ps := WDL_iff decl ps
  anyOf_intro cs _ h2 := (WDL_iff decl cs).2 h2
  anyOf_elim cs h := (WDL_iff decl cs).1 h

/-- `r` can stand for the union of `cs`: under every assignment it describes exactly what some
member of `cs` describes, and it has every node-by-node property that all members have. -/
structure Joins (U : Univ) (cs : List C) (r : C) : Prop where
  sat_iff : ∀ σ a, sat U σ r a ↔ satAny U σ cs a
  keeps : ∀ Q, Compositional U Q → (∀ c ∈ cs, Q c) → Q r

/-- the same for the parameter lists of `ParamAttrConstraint.relax_constraint`: `rs` describes the
parameter tuples that `xs` or `ys` describe; once a differing position has been merged (`seen`) the
remaining positions are `==`, so that the two describe the same tuples. -/
structure JoinsZip (U : Univ) (xs ys : List C) (seen : Bool) (rs : List C) : Prop where
  sat_iff : ∀ σ as, (satZip U σ rs as ↔ satZip U σ xs as ∨ satZip U σ ys as) ∧
    (seen = true → (satZip U σ xs as ↔ satZip U σ ys as))
  keeps : ∀ Q, Compositional U Q → (∀ x ∈ xs, Q x) → (∀ y ∈ ys, Q y) → ∀ r ∈ rs, Q r

section
variable {U : Univ} {x y r : C}

theorem Joins.pair (hs : ∀ σ a, sat U σ r a ↔ sat U σ x a ∨ sat U σ y a)
    (hq : ∀ Q, Compositional U Q → Q x → Q y → Q r) : Joins U [x, y] r :=
  ⟨fun σ a => by rw [hs]; simp only [satAny, or_false],
   fun Q hQ h => hq Q hQ (h x (List.mem_cons_self ..)) (h y (List.mem_cons_of_mem _ (List.mem_cons_self ..)))⟩

theorem Joins.sat₂ (h : Joins U [x, y] r) (σ : Asg) (a : Attr) :
    sat U σ r a ↔ sat U σ x a ∨ sat U σ y a := by
  rw [h.sat_iff]; simp only [satAny, or_false]

theorem Joins.keeps₂ (h : Joins U [x, y] r) {Q : C → Prop} (hQ : Compositional U Q) (qx : Q x) (qy : Q y) :
    Q r :=
  h.keeps Q hQ fun c hc => by
    simp only [List.mem_cons, List.not_mem_nil, or_false] at hc
    rcases hc with e | e <;> subst e <;> assumption

theorem Joins.of_mem {cs : List C} (hr : r ∈ cs) (hs : ∀ σ a, ∀ c ∈ cs, sat U σ c a → sat U σ r a) :
    Joins U cs r :=
  ⟨fun σ a => ⟨fun h => (satAny_iff U σ a cs).2 ⟨r, hr, h⟩,
      fun h => let ⟨c, hc, h⟩ := (satAny_iff U σ a cs).1 h; hs σ a c hc h⟩,
   fun _ _ hq => hq r hr⟩

theorem Joins.swap (h : Joins U [y, x] r) : Joins U [x, y] r :=
  .pair (fun σ a => (h.sat₂ σ a).trans or_comm) fun _ hQ qx qy => h.keeps₂ hQ qy qx

theorem Joins.left (hs : ∀ σ a, sat U σ y a → sat U σ x a) : Joins U [x, y] x :=
  .pair (fun σ a => ⟨.inl, fun h => h.elim id (hs σ a)⟩) fun _ _ qx _ => qx

theorem Joins.right (hs : ∀ σ a, sat U σ x a → sat U σ y a) : Joins U [x, y] y :=
  (Joins.left hs).swap

theorem Joins.setGet (vs : List Attr) (h : ∀ σ a, a ∈ vs ↔ sat U σ x a ∨ sat U σ y a) :
    Joins U [x, y] (setGet vs) :=
  .pair (fun σ a => (setGet_sat U σ vs a).trans (h σ a)) fun _ hQ _ _ => by
    unfold Constraint.setGet; split
    · exact hQ.eq _
    · exact hQ.set _

theorem Joins.anyOf {cs : List C} (h : checkAnyOf U cs = true) : Joins U cs (.anyOf cs) :=
  ⟨fun _ _ => Iff.rfl, fun _ hQ => hQ.anyOf_intro cs h⟩

theorem JoinsZip.nil {seen : Bool} : JoinsZip U [] [] seen [] :=
  ⟨fun _ _ => ⟨or_self_iff.symm, fun _ => Iff.rfl⟩, fun _ _ _ _ _ hr => absurd hr List.not_mem_nil⟩

theorem JoinsZip.same {xs ys rs : List C} {seen : Bool} (hc : ceq x y = true) (h : JoinsZip U xs ys seen rs) :
    JoinsZip U (x :: xs) (y :: ys) seen (x :: rs) := by
  refine ⟨fun σ as => ?_, fun Q hQ qx qy => ?_⟩
  · cases as with
    | nil => exact ⟨or_self_iff.symm, fun _ => Iff.rfl⟩
    | cons a as =>
      simp only [satZip, ← ceq_sat U σ x y hc a, (h.sat_iff σ as).1, and_or_left, true_and]
      exact fun hs => and_congr_right fun _ => (h.sat_iff σ as).2 hs
  · rw [List.forall_mem_cons] at qx qy ⊢
    exact ⟨qx.1, h.keeps Q hQ qx.2 qy.2⟩

/-- the one position that is really merged: behind it `xs` and `ys` describe the same tuples, so the
union of the two products is the product with the union in this position -/
theorem JoinsZip.or {xs ys rs : List C} {xy : C} (hxy : Joins U [x, y] xy) (h : JoinsZip U xs ys true rs) :
    JoinsZip U (x :: xs) (y :: ys) false (xy :: rs) := by
  refine ⟨fun σ as => ⟨?_, nofun⟩, fun Q hQ qx qy => ?_⟩
  · cases as with
    | nil => exact or_self_iff.symm
    | cons a as =>
      simp only [satZip]
      rw [hxy.sat₂, (h.sat_iff σ as).1, ← (h.sat_iff σ as).2 rfl, or_self, or_and_right]
  · rw [List.forall_mem_cons] at qx qy ⊢
    exact ⟨hxy.keeps₂ hQ qx.1 qy.1, h.keeps Q hQ qx.2 qy.2⟩

theorem Joins.param {d : Nat} {ps qs ps' : List C} (h : JoinsZip U ps qs false ps') :
    Joins U [.param d ps, .param d qs] (.param d ps') :=
  .pair
    (fun σ a => by
      cases a with
      | param ca as => simp only [sat_param, (h.sat_iff σ as).1, and_or_left]
      | _ => exact ⟨fun x => x.2.elim, fun x => x.elim (·.2.elim) (·.2.elim)⟩)
    fun Q hQ qx qy => (hQ.param d ps').2 (h.keeps Q hQ ((hQ.param d ps).1 qx) ((hQ.param d qs).1 qy))

theorem Joins.flatten {done cs rest : List C} (h : Joins U (done ++ (cs ++ rest)) r) :
    Joins U (done ++ .anyOf cs :: rest) r := by
  refine ⟨fun σ a => ?_, fun Q hQ hq => h.keeps Q hQ fun c hc => ?_⟩
  · rw [h.sat_iff]; simp only [satAny_append, satAny, sat_anyOf]
  · rcases List.mem_append.1 hc with hc | hc
    · exact hq c (List.mem_append_left _ hc)
    · rcases List.mem_append.1 hc with hc | hc
      · exact hQ.anyOf_elim cs (hq _ (List.mem_append_right _ (List.mem_cons_self ..))) c hc
      · exact hq c (List.mem_append_right _ (List.mem_cons_of_mem _ hc))

theorem Joins.replace {done rest : List C} {k : Nat} {c v : C} (hx : done[k]? = some x)
    (hv : Joins U [x, c] v) (h : Joins U (setNth done k v ++ rest) r) : Joins U (done ++ c :: rest) r := by
  refine ⟨fun σ a => ?_, fun Q hQ hq => h.keeps Q hQ fun c' hc' => ?_⟩
  · rw [h.sat_iff, satAny_append, satAny_setNth U σ a v c done k x hx (hv.sat₂ σ a), satAny_append, satAny, or_assoc]
  · rcases List.mem_append.1 hc' with hc' | hc'
    · rcases mem_setNth hc' with e | hc'
      · exact e ▸ hv.keeps₂ hQ (hq x (List.mem_append_left _ (List.mem_of_getElem? hx)))
          (hq c (List.mem_append_right _ (List.mem_cons_self ..)))
      · exact hq c' (List.mem_append_left _ hc')
    · exact hq c' (List.mem_append_right _ (List.mem_cons_of_mem _ hc'))

end

/-- what the five mutually recursive functions promise at fuel `f` -/
structure MergeOK (U : Univ) (f : Nat) : Prop where
  relax : ∀ x y r, relax U f x y = .ok (some r) → Joins U [x, y] r
  relaxParams : ∀ xs ys seen rs, relaxParams U f xs ys seen = .ok (some rs) → JoinsZip U xs ys seen rs
  orC : ∀ x y r, orC U f x y = .ok r → Joins U [x, y] r
  tryMerge : ∀ done c k v, tryMerge U f done c = .ok (some (k, v)) → ∃ x, done[k]? = some x ∧ Joins U [x, c] v
  getLoop : ∀ done todo r, getLoop U f done todo = .ok r → Joins U (done ++ todo) r

/-- In each function the case analysis follows the `match` of the definition, so that the arm of the
remaining constructors is one case. -/
theorem mergeOK (U : Univ) (f : Nat) : MergeOK U f := by
  induction f with
  | zero => exact ⟨nofun, nofun, nofun, nofun, nofun⟩
  | succ f ih =>
    refine ⟨fun x y r h => ?relax, fun xs ys seen rs h => ?relaxParams, fun x y r h => ?orC,
      fun done c k v h => ?tryMerge, fun done todo r h => ?getLoop⟩
    case relax =>
      unfold relax at h
      split at h
      · -- `EqAttrConstraint`: with another value constraint, the set of both
        split at h <;> cases h
        · exact .setGet _ fun _ _ => List.mem_cons
        · exact .setGet _ fun _ _ => List.mem_cons.trans (or_congr_right List.mem_singleton)
      · -- `AttrSetConstraint`: likewise
        split at h <;> cases h
        · exact .setGet _ fun _ _ => List.mem_append
        · exact .setGet _ fun _ _ => List.mem_append.trans (or_congr_right List.mem_singleton)
      · -- `BaseAttr`: the same class, or the other side decides
        split at h
        · split at h
          · rename_i hde; cases h; cases of_decide_eq_true hde
            exact .left fun _ _ h => h
          · cases h
        · exact (ih.relax _ _ _ h).swap
      · -- `ParamAttrConstraint`: absorbed by its `BaseAttr`, or merged parameter by parameter
        split at h
        · split at h
          · rename_i hde; cases h; cases of_decide_eq_true hde
            exact .right fun _ _ h => h.1
          · cases h
        · split at h
          · rename_i hde
            split at h
            · rename_i hp; cases h; cases of_decide_eq_true hde
              exact .param (ih.relaxParams _ _ _ _ hp)
            · cases h
            · cases h
          · cases h
        · cases h
      · -- any other constraint only merges with one that is `==`
        split at h
        · rename_i hc; cases h
          exact .left fun σ a => (ceq_sat U σ x y hc a).2
        · cases h
    case relaxParams =>
      cases xs with
      | nil => cases ys with | nil => cases h; exact .nil | cons _ _ => cases h
      | cons x xs =>
        cases ys with
        | nil => cases h
        | cons y ys =>
          unfold relaxParams at h
          split at h
          · -- `x == y`: kept
            rename_i hc
            split at h
            · rename_i hp; cases h; exact .same hc (ih.relaxParams _ _ _ _ hp)
            · cases h
            · cases h
          · split at h
            · cases h
            · -- the first difference: `x | y`
              rename_i hseen
              cases Bool.eq_false_iff.2 hseen
              split at h
              · rename_i ho
                split at h
                · rename_i hp; cases h; exact .or (ih.orC _ _ _ ho) (ih.relaxParams _ _ _ _ hp)
                · cases h
                · cases h
              · cases h
    case orC =>
      unfold orC at h
      split at h
      · rename_i hc; cases h
        rcases Bool.or_eq_true_iff.1 hc with hc | hc
        · cases (isAny_iff y).1 hc; exact .right fun _ _ _ => trivial
        · exact .right fun σ a => (ceq_sat U σ x y hc a).1
      · exact ih.getLoop [] [x, y] r h
    case tryMerge =>
      cases done with
      | nil => cases h
      | cons c2 rest =>
        unfold tryMerge at h
        split at h
        · rename_i hr; cases h; exact ⟨c2, rfl, ih.relax _ _ _ hr⟩
        · split at h
          · rename_i ht; cases h; exact ih.tryMerge rest c _ v ht
          · cases h
          · cases h
        · cases h
    case getLoop =>
      cases todo with
      | nil =>
        -- `finishGet`: the one alternative left, or the `AnyOf` of them if it constructs
        unfold getLoop finishGet at h
        rw [List.append_nil]
        split at h
        · cases h; exact .of_mem (List.mem_cons_self ..) fun _ _ c hc hs => List.mem_singleton.1 hc ▸ hs
        · split at h
          · rename_i hck; cases h; exact .anyOf hck
          · cases h
      | cons c rest =>
        unfold getLoop at h
        split at h
        · cases h
          exact .of_mem (List.mem_append_right _ (List.mem_cons_self ..)) fun _ _ _ _ _ => trivial
        · exact (ih.getLoop _ _ _ h).flatten
        · split at h
          · rename_i ht
            obtain ⟨x, hx, hv⟩ := ih.tryMerge _ _ _ _ ht
            exact .replace hx hv (ih.getLoop _ _ _ h)
          · exact List.append_cons done c rest ▸ ih.getLoop _ _ _ h
          · cases h

theorem anyOfGet_joins {U : Univ} {cs : List C} {r : C} (h : anyOfGet U cs = .ok r) : Joins U cs r :=
  (mergeOK U defaultFuel).getLoop [] cs r h

theorem satZip_allEq (U : Univ) (σ : Asg) (cs : List C) (as : List Attr)
    (h : cs.all (fun c => (isEq c).isSome) = true) : satZip U σ cs as ↔ as = cs.filterMap isEq := by
  induction cs generalizing as with
  | nil => cases as with | nil => exact ⟨fun _ => rfl, fun _ => trivial⟩ | cons _ _ => exact ⟨nofun, nofun⟩
  | cons c cs ih =>
    rw [List.all_cons, Bool.and_eq_true] at h
    cases c with
    | eq b =>
      cases as with
      | nil => exact ⟨nofun, nofun⟩
      | cons a as => simp only [satZip, sat_eq, List.filterMap_cons, isEq, List.cons.injEq, ih as h.2]
    | _ => cases h.1

theorem satZip_allAny (U : Univ) (σ : Asg) (cs : List C) (as : List Attr) (h : cs.all isAny = true) :
    satZip U σ cs as ↔ as.length = cs.length := by
  induction cs generalizing as with
  | nil => cases as with | nil => exact ⟨fun _ => rfl, fun _ => trivial⟩ | cons _ _ => exact ⟨nofun, nofun⟩
  | cons c cs ih =>
    rw [List.all_cons, Bool.and_eq_true, isAny_iff] at h
    cases h.1
    cases as with
    | nil => exact ⟨nofun, nofun⟩
    | cons a as =>
      simp only [satZip, sat_any, true_and, ih as h.2, List.length_cons, Nat.add_right_cancel_iff]

end Xdsl.Constraint
