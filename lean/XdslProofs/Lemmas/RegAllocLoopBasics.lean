import XdslModel.RegAllocLoop
import XdslProofs.Lemmas.AL
import XdslProofs.Lemmas.RegAllocInv
/-!
C19 (loops): the allocator for blocks with loops (`XdslModel/RegAllocLoop.lean`)
as a composition of five primitives — `popR`, `pushR`, `setReg`, `reserveR`, `unreserveR`.  A relation
between allocator states that each primitive establishes (`StackRel`) holds across `allocate_value`,
`allocate_values_same_reg`, `free_value`, one operation and, with the two reservation calls, a whole
block (`StackRel.allocT`).  First instance: the assignment only grows (`LExt`).
-/
namespace Xdsl.RegAllocLoop
open Xdsl.RegMachine Xdsl.RegAlloc

theorem foldL_cons {α β : Type} (f : β → α → Except LErr β) (s : β) (a : α) (as : List α) :
    foldL f s (a :: as) = match f s a with | .error e => .error e | .ok s' => foldL f s' as := rfl

theorem foldL_eq_foldlM {α β : Type} (f : β → α → Except LErr β) : ∀ (l : List α) (s : β), foldL f s l = l.foldlM f s
  | [], _ => rfl
  | a :: l, s => by
    rw [foldL_cons, List.foldlM_cons]
    cases f s a with
    | error e => rfl
    | ok t => exact foldL_eq_foldlM f l t

theorem allocOpR_ok {x : Ctx} {s s' : LSt} {o : Op} (h : allocOpR x s o = .ok s') :
    ∃ s1 s2, foldL (fun s p => sameRegN x s [p.1, p.2]) s o.ios = .ok s1
      ∧ foldL (allocValueR x) s1 o.outs = .ok s2
      ∧ foldL (allocValueR x) (o.outs.reverse.foldl (freeValueR x.c) s2) o.ins = .ok s' := by
  unfold allocOpR at h
  split at h
  · exact absurd h (by simp)
  rename_i s1 hs1
  split at h
  · exact absurd h (by simp)
  rename_i s2 hs2
  exact ⟨s1, s2, hs1, hs2, h⟩

theorem allocT_op_ok {x : Ctx} {s s' : LSt} {o : Op} {next : LT} (h : allocT x s (.op o next) = .ok s') :
    ∃ s1, allocT x s next = .ok s1 ∧ allocOpR x s1 o = .ok s' := by
  simp only [allocT] at h
  split at h
  · exact absurd h (by simp)
  · rename_i s1 hs1; exact ⟨s1, hs1, h⟩

/-- the pieces of `ForRofOperation.allocate_registers`, named: the rest of the block, the live-ins, the
loop-carried groups, induction variable and bounds (`s4`: the state in which `reserve_registers` is
entered), the body between reservation and un-reservation, `free_value(iv)` and `lb` -/
theorem allocT_loop_ok {x : Ctx} {h : Loop} {body next : LT} {s s' : LSt}
    (hrun : allocT x s (.loop h body next) = .ok s') :
    ∃ s1 s2 s3 s4 s5 s6 : LSt,
      allocT x s next = .ok s1
      ∧ foldL (allocValueR x) s1 (liveIns h body) = .ok s2
      ∧ foldL (sameRegN x) s2 h.groups = .ok s3
      ∧ foldL (allocValueR x) s3 (optL h.iv ++ optL h.ub ++ optL h.step ++ optL h.rep) = .ok s4
      ∧ allocT x ((regsOf s4 h.inits).foldl reserveR s4) body = .ok s5
      ∧ foldL unreserveR s5 (regsOf s4 h.inits) = .ok s6
      ∧ foldL (allocValueR x) ((optL h.iv).foldl (freeValueR x.c) s6) (optL h.lb) = .ok s' := by
  simp only [allocT] at hrun
  split at hrun
  · exact absurd hrun (by simp)
  rename_i s1 hs1
  split at hrun
  · exact absurd hrun (by simp)
  rename_i s2 hs2
  split at hrun
  · exact absurd hrun (by simp)
  rename_i s3 hs3
  split at hrun
  · exact absurd hrun (by simp)
  rename_i s4 hs4
  split at hrun
  · exact absurd hrun (by simp)
  rename_i s5 hs5
  split at hrun
  · exact absurd hrun (by simp)
  rename_i s6 hs6
  exact ⟨s1, s2, s3, s4, s5, s6, hs1, hs2, hs3, hs4, hs5, hs6, hrun⟩

/-- `Sat.foldlM_done` for `List.foldl`: an invariant indexed by the elements done so far, newest first -/
theorem foldl_inv_done {α β : Type} {f : β → α → β} (I : List α → β → Prop) :
    ∀ (as done : List α) (s : β), I done s → (∀ a ∈ as, ∀ d t, I d t → I (a :: d) (f t a)) →
      I (as.reverse ++ done) (as.foldl f s) := by
  intro as
  induction as with
  | nil => intro done s h0 _; exact h0
  | cons a as ih =>
    intro done s h0 hstep
    rw [List.reverse_cons, List.append_assoc]
    exact ih (a :: done) (f s a) (hstep a (List.mem_cons_self ..) done s h0)
      fun b hb => hstep b (List.mem_cons_of_mem _ hb)

theorem pop_asg {c : Cfg} {s : St} {r : Reg} {s' : St} (h : pop c s = .ok (r, s')) : s'.asg = s.asg :=
  (pop_cases h).1

theorem popR_ok {c : Cfg} {s s' : LSt} {r : Reg} (h : popR c s = .ok (r, s')) :
    pop c s.st = .ok (r, s'.st) ∧ s'.reserved = s.reserved ∧ s.isReserved r = false
    ∧ s'.log = (.pop, .reg r) :: s.log := by
  unfold popR at h
  split at h
  · exact absurd h (by simp)
  · rename_i r0 st' hp
    split at h
    · exact absurd h (by simp)
    · rename_i hres
      simp only [Except.ok.injEq, Prod.mk.injEq] at h
      obtain ⟨h1, h2⟩ := h
      subst h1; subst h2
      exact ⟨hp, rfl, by simpa using hres, rfl⟩

theorem setReg_get (s : LSt) (v w : ValId) (r : Reg) :
    AL.get (setReg s v r).st.asg w = if w = v then some r else AL.get s.st.asg w := AL.get_set ..

theorem pushR_asg (c : Cfg) (s : LSt) (r : Reg) : (pushR c s r).st.asg = s.st.asg := by
  unfold pushR
  split
  · rfl
  · show (push c s.st r).asg = s.st.asg
    unfold push; split <;> rfl

theorem freeValueR_asg (c : Cfg) (s : LSt) (v : ValId) : (freeValueR c s v).st.asg = s.st.asg := by
  unfold freeValueR
  split
  · exact pushR_asg ..
  · rfl

theorem unreserveR_ok {s s' : LSt} {r : Reg} (h : unreserveR s r = .ok s') :
    s'.st = s.st ∧ s'.log = (.unreserve r, .unit) :: s.log
      ∧ ∃ n, AL.get s.reserved r = some n
        ∧ s'.reserved = if n - 1 = 0 then AL.del s.reserved r else AL.set s.reserved r (n - 1) := by
  unfold unreserveR at h
  split at h
  · exact absurd h (by simp)
  · rename_i n hn
    simp only [Except.ok.injEq] at h; subst h
    exact ⟨rfl, rfl, n, hn, rfl⟩

theorem unreserveR_asg {s s' : LSt} {r : Reg} (h : unreserveR s r = .ok s') : s'.st.asg = s.st.asg := by
  rw [(unreserveR_ok h).1]

theorem reserveFold_st : ∀ (rs : List Reg) (s : LSt), (rs.foldl reserveR s).st = s.st := by
  intro rs
  induction rs with
  | nil => intro s; rfl
  | cons a rs ih => intro s; simp only [List.foldl_cons]; rw [ih]; rfl

theorem unreserveFold_st (rs : List Reg) (s s' : LSt) (h : foldL unreserveR s rs = .ok s') : s'.st = s.st :=
  Sat.foldlM_rel (R := fun a b : LSt => b.st = a.st) (fun _ => rfl) (fun {_ _ _} h1 h2 => h2.trans h1)
    (fun _ _ _ _ h => (unreserveR_ok h).1) s s' (foldL_eq_foldlM .. ▸ h)

theorem allocValueR_cases {x : Ctx} {s s' : LSt} {v : ValId} (h : allocValueR x s v = .ok s') :
    ((AL.get s.st.asg v).isSome = true ∧ s' = s)
    ∨ (AL.get s.st.asg v = none ∧
        ((x.c.z = true ∧ isZeroNow x.zi s.st.asg (x.zi.mvs.length + 1) v = true ∧ s' = setReg s v 0)
         ∨ ∃ r s1, popR x.c s = .ok (r, s1) ∧ s' = setReg s1 v r)) := by
  unfold allocValueR at h
  split at h
  · rename_i hs
    simp only [Except.ok.injEq] at h
    exact Or.inl ⟨hs, h.symm⟩
  · rename_i hs
    refine Or.inr ⟨Option.not_isSome_iff_eq_none.1 hs, ?_⟩
    split at h
    · rename_i hz
      simp only [Except.ok.injEq] at h
      simp only [Bool.and_eq_true] at hz
      exact Or.inl ⟨hz.1, hz.2, h.symm⟩
    · split at h
      · exact absurd h (by simp)
      · rename_i r s1 hp
        simp only [Except.ok.injEq] at h
        exact Or.inr ⟨r, s1, hp, h.symm⟩

theorem mem_dedup {l : List Nat} {a : Nat} : a ∈ dedup l ↔ a ∈ l := by
  induction l with
  | nil => simp [dedup]
  | cons b r ih =>
    simp only [dedup]
    split
    · rename_i hc
      simp only [List.contains_eq_mem, decide_eq_true_eq] at hc
      rw [ih, List.mem_cons]
      constructor
      · exact Or.inr
      · rintro (rfl | h)
        · exact ih.1 hc
        · exact h
    · rw [List.mem_cons, List.mem_cons, ih]

theorem foldl_setReg_all (r : Reg) : ∀ (vals : List ValId) (s : LSt),
    vals.foldl (fun t v => setReg t v r) s
    = vals.foldl (fun t v => if (AL.get t.st.asg v).isSome then setReg t v r else setReg t v r) s := by
  intro vals s; simp

theorem setReg_setReg_ext {s : LSt} {v : ValId} {r : Reg} (w : ValId) (x : Reg)
    (hw : AL.get s.st.asg w = some x) (hne : w ≠ v) : AL.get (setReg s v r).st.asg w = some x := by
  rw [setReg_get, if_neg hne, hw]

theorem foldl_setReg_get (r : Reg) : ∀ (vals : List ValId) (s : LSt) (w : ValId),
    AL.get (vals.foldl (fun t v => setReg t v r) s).st.asg w
    = if w ∈ vals then some r else AL.get s.st.asg w := by
  intro vals
  induction vals with
  | nil => intro s w; simp
  | cons v vals ih =>
    intro s w
    simp only [List.foldl_cons, ih, List.mem_cons, setReg_get]
    by_cases h1 : w ∈ vals
    · simp [h1]
    · by_cases h2 : w = v <;> simp [h1, h2]

theorem foldl_setRegIf_get (r : Reg) : ∀ (vals : List ValId) (s : LSt) (w : ValId),
    AL.get (vals.foldl (fun t v => if (AL.get t.st.asg v).isSome then t else setReg t v r) s).st.asg w
    = match AL.get s.st.asg w with
      | some x => some x
      | none => if w ∈ vals then some r else none := by
  intro vals
  induction vals with
  | nil => intro s w; cases hg : AL.get s.st.asg w <;> simp [hg]
  | cons v vals ih =>
    intro s w
    simp only [List.foldl_cons]
    split
    · rename_i hs
      rw [ih]
      cases hg : AL.get s.st.asg w with
      | some x => rfl
      | none =>
        have : w ≠ v := fun e => by rw [e] at hg; rw [hg] at hs; simp at hs
        simp [this]
    · rename_i hs
      rw [ih, setReg_get]
      by_cases hwv : w = v
      · subst hwv; simp [Option.not_isSome_iff_eq_none.1 hs]
      · simp [hwv]

/-- the fields that `setReg` does not touch -/
structure SameStack (s s' : LSt) : Prop where
  avail : s'.st.avail = s.st.avail
  allocatable : s'.st.allocatable = s.st.allocatable
  nextInf : s'.st.nextInf = s.st.nextInf
  reserved : s'.reserved = s.reserved
  log : s'.log = s.log

/-- the same state up to the representation of the assignment (`AL.set` moves a key to the front) -/
structure Same (s s' : LSt) : Prop extends SameStack s s' where
  asg : ∀ v, AL.get s'.st.asg v = AL.get s.st.asg v

theorem SameStack.set {s t : LSt} (h : SameStack s t) (v : ValId) (r : Reg) : SameStack s (setReg t v r) :=
  ⟨h.avail, h.allocatable, h.nextInf, h.reserved, h.log⟩

theorem foldl_setReg_fields (r : Reg) : ∀ (vals : List ValId) (s : LSt),
    SameStack s (vals.foldl (fun t v => setReg t v r) s) :=
  fun _ s => foldl_inv (SameStack s) (fun v _ _ h => h.set v r) s ⟨rfl, rfl, rfl, rfl, rfl⟩

theorem foldl_setRegIf_fields (r : Reg) : ∀ (vals : List ValId) (s : LSt),
    SameStack s (vals.foldl (fun t v => if (AL.get t.st.asg v).isSome then t else setReg t v r) s) :=
  fun _ s => foldl_inv (SameStack s) (fun v _ _ h => by split; exact h; exact h.set v r) s
    ⟨rfl, rfl, rfl, rfl, rfl⟩

theorem sameRegN_cases {x : Ctx} {s s' : LSt} {vals : List ValId} (h : sameRegN x s vals = .ok s') :
    (vals = [] ∧ s' = s)
    ∨ (vals ≠ [] ∧ (∀ v ∈ vals, AL.get s.st.asg v = none) ∧
        ∃ r s1, popR x.c s = .ok (r, s1) ∧ s' = vals.foldl (fun t v => setReg t v r) s1)
    ∨ (∃ r, (∃ v ∈ vals, AL.get s.st.asg v = some r) ∧ (∀ v ∈ vals, ∀ r', AL.get s.st.asg v = some r' → r' = r)
        ∧ s' = vals.foldl (fun t v => if (AL.get t.st.asg v).isSome then t else setReg t v r) s) := by
  have hmem : ∀ r, r ∈ dedup (vals.filterMap (AL.get s.st.asg)) ↔ ∃ v ∈ vals, AL.get s.st.asg v = some r :=
    fun r => mem_dedup.trans List.mem_filterMap
  unfold sameRegN at h
  split at h
  · rename_i hd
    rw [hd] at hmem
    have hnone : ∀ v ∈ vals, AL.get s.st.asg v = none := by
      intro v hv
      cases hg : AL.get s.st.asg v with
      | none => rfl
      | some r => exact absurd ((hmem r).2 ⟨v, hv, hg⟩) (by simp)
    split at h
    · rename_i hv
      simp only [Except.ok.injEq] at h
      exact Or.inl ⟨hv, h.symm⟩
    · rename_i hv
      split at h
      · exact absurd h (by simp)
      · rename_i r s1 hp
        simp only [Except.ok.injEq] at h
        exact Or.inr (Or.inl ⟨hv, hnone, r, s1, hp, h.symm⟩)
  · rename_i r hd
    rw [hd] at hmem
    simp only [Except.ok.injEq] at h
    exact Or.inr (Or.inr ⟨r, (hmem r).1 (by simp), fun v hv r' hg => by simpa using (hmem r').2 ⟨v, hv, hg⟩,
      h.symm⟩)
  · exact absurd h (by simp)

/-- A reflexive, transitive relation between allocator states that `RegisterStack.pop`, `push` and
giving a register to a value establish; `set` is asked only where the value has no register yet or
has this very register (a group may name a value twice). -/
structure StackRel (c : Cfg) (R : LSt → LSt → Prop) : Prop where
  refl : ∀ s, R s s
  trans : ∀ a b d, R a b → R b d → R a d
  pop : ∀ s r s', popR c s = .ok (r, s') → R s s'
  push : ∀ s r, R s (pushR c s r)
  set : ∀ s v r, (∀ r', AL.get s.st.asg v = some r' → r' = r) → R s (setReg s v r)

namespace StackRel
variable {x : Ctx} {R : LSt → LSt → Prop} (hR : StackRel x.c R)
include hR

theorem foldL {α : Type} {f : LSt → α → Except LErr LSt}
    (hstep : ∀ s a s', f s a = .ok s' → R s s') {as : List α} {s s' : LSt}
    (h : foldL f s as = .ok s') : R s s' :=
  Sat.foldlM_rel hR.refl (hR.trans _ _ _) (fun a _ s => hstep s a) s s' (foldL_eq_foldlM .. ▸ h)

theorem allocValueR {s s' : LSt} {v : ValId} (h : allocValueR x s v = .ok s') : R s s' := by
  rcases allocValueR_cases h with ⟨_, rfl⟩ | ⟨hn, ⟨_, _, rfl⟩ | ⟨r, s1, hp, rfl⟩⟩
  · exact hR.refl _
  · exact hR.set _ _ _ (fun r' h' => by rw [hn] at h'; cases h')
  · refine hR.trans _ _ _ (hR.pop _ _ _ hp) (hR.set _ _ _ fun r' h' => ?_)
    rw [pop_asg (popR_ok hp).1, hn] at h'; cases h'

theorem setNew (r : Reg) (vals : List ValId) (s : LSt) :
    R s (vals.foldl (fun t v => if (AL.get t.st.asg v).isSome then t else setReg t v r) s) := by
  refine foldl_rel hR.refl (hR.trans _ _ _) (fun v _ t => ?_) s
  split
  · exact hR.refl _
  · rename_i hs
    exact hR.set _ _ _ (fun r' h' => by rw [Option.not_isSome_iff_eq_none.1 hs] at h'; cases h')

theorem sameRegN {s s' : LSt} {vals : List ValId} (h : sameRegN x s vals = .ok s') : R s s' := by
  rcases sameRegN_cases h with ⟨_, rfl⟩ | ⟨_, hnone, r, s1, hp, rfl⟩ | ⟨r, _, _, rfl⟩
  · exact hR.refl _
  · refine hR.trans _ _ _ (hR.pop _ _ _ hp) ?_
    -- every member has no register or, named a second time, has `r`
    have key : ∀ (vs : List ValId) (t : LSt), (∀ v ∈ vs, ∀ r', AL.get t.st.asg v = some r' → r' = r) →
        R t (vs.foldl (fun t v => setReg t v r) t) := by
      intro vs
      induction vs with
      | nil => intro t _; exact hR.refl _
      | cons v vs ih =>
        intro t ht
        refine hR.trans _ _ _ (hR.set t v r (ht v List.mem_cons_self)) (ih _ fun w hw r' h' => ?_)
        rw [setReg_get] at h'
        split at h'
        · exact (Option.some.inj h').symm
        · exact ht w (List.mem_cons_of_mem _ hw) r' h'
    refine key vals s1 fun v hv r' h' => ?_
    rw [pop_asg (popR_ok hp).1, hnone v hv] at h'; cases h'
  · exact hR.setNew r vals s

theorem freeFold (vs : List ValId) (s : LSt) : R s (vs.foldl (freeValueR x.c) s) :=
  foldl_rel hR.refl (hR.trans _ _ _)
    (fun v _ s => by unfold freeValueR; split; exact hR.push _ _; exact hR.refl _) s

theorem allocOpR {s s' : LSt} {o : Op} (h : allocOpR x s o = .ok s') : R s s' := by
  obtain ⟨s1, s2, h1, h2, h3⟩ := allocOpR_ok h
  exact hR.trans _ _ _ (hR.foldL (fun _ _ _ => hR.sameRegN) h1)
    (hR.trans _ _ _ (hR.foldL (fun _ _ _ => hR.allocValueR) h2)
      (hR.trans _ _ _ (hR.freeFold ..) (hR.foldL (fun _ _ _ => hR.allocValueR) h3)))

/-- a block without loops makes no reservation call -/
theorem allocT_ofOps : ∀ (os : List Op) {s s' : LSt}, allocT x s (LT.ofOps os) = .ok s' → R s s' := by
  intro os
  induction os with
  | nil => intro s s' h; simp only [LT.ofOps, allocT, Except.ok.injEq] at h; subst h; exact hR.refl _
  | cons o os ih =>
    intro s s' h
    obtain ⟨s1, h1, h2⟩ := allocT_op_ok h
    exact hR.trans _ _ _ (ih h1) (hR.allocOpR h2)

theorem allocT (hres : ∀ s r, R s (reserveR s r)) (hunres : ∀ s r s', unreserveR s r = .ok s' → R s s') :
    ∀ (t : LT) {s s' : LSt}, allocT x s t = .ok s' → R s s' := by
  intro t
  induction t with
  | nil => intro s s' h; simp only [RegAllocLoop.allocT, Except.ok.injEq] at h; subst h; exact hR.refl _
  | op o next ih =>
    intro s s' h
    obtain ⟨s1, h1, h2⟩ := allocT_op_ok h
    exact hR.trans _ _ _ (ih h1) (hR.allocOpR h2)
  | loop hd body next ihb ihn =>
    intro s s' h
    obtain ⟨s1, s2, s3, s4, s5, s6, h1, h2, h3, h4, h5, h6, h7⟩ := allocT_loop_ok h
    exact hR.trans _ _ _ (ihn h1)
      (hR.trans _ _ _ (hR.foldL (fun _ _ _ => hR.allocValueR) h2)
      (hR.trans _ _ _ (hR.foldL (fun _ _ _ => hR.sameRegN) h3)
      (hR.trans _ _ _ (hR.foldL (fun _ _ _ => hR.allocValueR) h4)
      (hR.trans _ _ _ (foldl_rel hR.refl (hR.trans _ _ _) (fun r _ s => hres s r) _)
      (hR.trans _ _ _ (ihb h5)
      (hR.trans _ _ _ (hR.foldL hunres h6)
      (hR.trans _ _ _ (hR.freeFold ..) (hR.foldL (fun _ _ _ => hR.allocValueR) h7))))))))

end StackRel

/-- `Extends` of `Lemmas/RegAllocInv.lean` on the inner states, by `rfl`: `Extends.isSome`, `Extends.allocOf`
and `af_of_ext` take an `LExt` as it stands -/
def LExt (s s' : LSt) : Prop := ∀ v r, AL.get s.st.asg v = some r → AL.get s'.st.asg v = some r

theorem LExt.refl (s : LSt) : LExt s s := fun _ _ h => h

theorem LExt.trans {a b c : LSt} (h1 : LExt a b) (h2 : LExt b c) : LExt a c :=
  fun v r h => h2 v r (h1 v r h)

theorem LExt.allocOf {s s' : LSt} (h : LExt s s') {w : ValId} (hw : (AL.get s.st.asg w).isSome = true) :
    allocOf s'.st.asg w = allocOf s.st.asg w :=
  Extends.allocOf h hw

theorem lext_of_asg {s s' : LSt} (h : s'.st.asg = s.st.asg) : LExt s s' :=
  fun w r hw => by rw [h]; exact hw

theorem lext_rel (c : Cfg) : StackRel c LExt where
  refl := LExt.refl
  trans _ _ _ := LExt.trans
  pop _ _ _ h := lext_of_asg (pop_asg (popR_ok h).1)
  push _ _ := lext_of_asg (pushR_asg ..)
  set s v r hv w x hw := by
    rw [setReg_get]
    split
    · rename_i e; rw [← hv x (e ▸ hw)]
    · exact hw

theorem allocValueR_ext {x : Ctx} {s s' : LSt} {v : ValId} (h : allocValueR x s v = .ok s') : LExt s s' :=
  (lext_rel x.c).allocValueR h

theorem sameRegN_ext {x : Ctx} {s s' : LSt} {vals : List ValId} (h : sameRegN x s vals = .ok s') :
    LExt s s' := (lext_rel x.c).sameRegN h

theorem allocOpR_ext {x : Ctx} {s s' : LSt} {o : Op} (h : allocOpR x s o = .ok s') : LExt s s' :=
  (lext_rel x.c).allocOpR h

/-- **The assignment only grows**: whatever `allocate_block` does to a block (with loops, at any
nesting depth), a value that has a register keeps it. -/
theorem allocT_ext (x : Ctx) : ∀ (t : LT) (s s' : LSt), allocT x s t = .ok s' → LExt s s' :=
  fun t _ _ h => (lext_rel x.c).allocT (fun _ _ => lext_of_asg rfl)
    (fun _ _ _ h => lext_of_asg (unreserveR_asg h)) t h

theorem foldL_allocValueR_assigned (x : Ctx) (vs : List ValId) (s s' : LSt)
    (h : foldL (allocValueR x) s vs = .ok s') : ∀ v ∈ vs, (AL.get s'.st.asg v).isSome = true := by
  have := Sat.foldlM_done (fun d t => ∀ v ∈ d, (AL.get t.st.asg v).isSome = true) (fun _ hv => by cases hv)
    (fun d a _ t _ ht t' hr v hv => by
      rcases List.mem_cons.1 hv with rfl | hv
      · rcases allocValueR_cases hr with ⟨hs, rfl⟩ | ⟨_, ⟨_, _, rfl⟩ | ⟨r, s2, _, rfl⟩⟩
        · exact hs
        · simp [setReg_get]
        · simp [setReg_get]
      · exact Extends.isSome (allocValueR_ext hr) (ht v hv)) s' (foldL_eq_foldlM .. ▸ h)
  exact fun v hv => this v (List.mem_reverse.2 hv)

end Xdsl.RegAllocLoop
