import XdslProofs.Lemmas.BV
import Mathlib.Data.Int.Bitwise
/-!
Bridge lemmas: the Python-integer primitives emitted by the translator vs. core notions, and the two
normalisation functions of `xdsl/utils/comparisons.py` (as translated) vs. `BitVec`.  What
`Lemmas/RiscvPyInt.lean` proves is restated here under the names the C14/C15 proofs use.
-/
namespace Xdsl.Py

theorem floordiv_eq_ediv (x m : Int) (hm : 0 ≤ m) : Py.floordiv x m = x / m :=
  Int.fdiv_eq_ediv_of_nonneg x hm

end Xdsl.Py

namespace Xdsl.Generated.Comparisons
open Xdsl

theorem pow_half (w : Nat) (hw : 0 < w) : (2 : Int) ^ w = 2 * ((2 : Int) ^ w / 2) := by
  obtain ⟨n, rfl⟩ : ∃ n, w = n + 1 := ⟨w - 1, by omega⟩
  rw [Int.pow_succ]; omega

theorem to_unsigned_eq (x : Int) (w : Nat) :
    to_unsigned x (w : Int) = ((BitVec.ofInt w x).toNat : Int) :=
  RvK.to_unsigned_eq x w

theorem to_signed_eq (x : Int) (w : Nat) :
    to_signed x (w : Int) = (BitVec.ofInt w x).toInt :=
  RvK.to_signed_eq x w

end Xdsl.Generated.Comparisons
