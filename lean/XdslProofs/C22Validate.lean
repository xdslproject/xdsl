import XdslProofs.Lemmas.RiscVSym
import XdslProofs.Lemmas.RiscVRun
/-!
# C22 — a proved translation validator for lowered straight-line functions

Property clause: *"A func/arith/scf program lowered to RISC-V … computes, when the emitted instructions
are executed with RISC-V semantics, the same results as the source for every input, and restores
callee-saved registers and the stack pointer"*.

`validate src body` (`XdslModel/RiscVValidate.lean`, compiled into the driver) is run by the check on
the instruction list the real pipeline emits for every generated loop-free, call-free function.
`validate_sound` is the ∀-inputs half for every such output: acceptance implies that from *every*
entry state with a word-aligned `sp` the code runs to its end without a trap, `a0…` hold the source
results whenever the source semantics defines them, and `ra`, `sp`, `s0`–`s11` hold their entry values.
The ∀-programs half is enumeration (translation validation).

**Restrictions** (hence `…_partial` on the statement about the property): one function, no loops
(`scf.for` programs stay on the stage-wise execution path of the check), no calls, `i32` values
(`i1` only as a returned `cmpi` result, compared as the full register image 0/1), at most 8 arguments
and results, products of polynomials below the size guard of `pmul?`; memory only as `sp`-relative
spill slots.  The validator is incomplete by design: it knows the ring identities modulo 2^32 and
the bitwise/division identities listed in `simpNode`, nothing else.
-/
namespace Xdsl.RiscV.TV

theorem retPairs_pick (base : Nat → W) (S : Sym) (ts : List T) (rets : List Nat) (j : Nat)
    (ps : List (T × T)) (vs : List W) (h1 : retPairs S ts rets j = some ps)
    (h2 : pick (ts.map (den base)) rets = some vs) :
    vs.length = rets.length ∧
    ∀ i (hi : i < vs.length), ∃ t, (S.reg (A0 + (j + i)), t) ∈ ps ∧ vs[i] = den base t := by
  fun_induction retPairs S ts rets j generalizing ps vs with
  | case1 => cases h1; cases h2; exact ⟨rfl, fun i hi => nomatch hi⟩
  | case2 v r j t rest hr ht ih =>
    cases h1
    simp only [pick, List.getElem?_map, ht, Option.map] at h2
    split at h2
    · next x xs hx hp =>
      cases h2; cases hx
      obtain ⟨hl, hi⟩ := ih rest xs hr hp
      refine ⟨by simp [hl], fun i hi' => ?_⟩
      cases i with
      | zero => exact ⟨t, List.mem_cons_self, rfl⟩
      | succ i' =>
        obtain ⟨t', hm, hv⟩ := hi i' (by simpa using hi')
        exact ⟨t', by rw [show j + (i' + 1) = j + 1 + i' by omega]; exact List.mem_cons_of_mem _ hm,
          by simpa using hv⟩
    · cases h2
  | case3 => cases h1

theorem preserved_range : ∀ r ∈ preserved, 0 < r ∧ r < 32 := by decide

theorem args_map (σ0 : St) (n : Nat) :
    (List.range n).map (fun i => σ0.get (A0 + i)) = (argTerms n).map (den (baseOf σ0)) := by
  simp [argTerms, List.map_map, Function.comp_def, den, baseOf]

/-- **computes the same results as the source for every input and restores callee-saved registers
and the stack pointer** — for every function body the validator accepts: from *every* machine state
`σ0` at function entry (word-aligned `sp`) the body runs to its end (no trap); `ra`, `sp` and
`s0`–`s11` have their entry values; and whenever MLIR defines the results `vs` of the source function
on the arguments found in `a0 …` at entry, register `a_j` holds `vs[j]`. -/
theorem validate_sound (s : Src) (body : List Instr) (h : validate s body = true) (σ0 : St)
    (hal : aligned (σ0.get SP) = true) :
    ∃ σ', exec body σ0 = some σ' ∧
      (∀ r ∈ preserved, σ'.get r = σ0.get r) ∧
      ∀ vs, evalSrc s (fun i => σ0.get (A0 + i)) = some vs →
        ∀ j (hj : j < vs.length), σ'.get (A0 + j) = vs[j] := by
  unfold validate at h
  simp only [Bool.and_eq_true, decide_eq_true_eq] at h
  obtain ⟨⟨⟨_, hrl⟩, _⟩, h⟩ := h
  split at h
  · next S ts hS hts =>
    split at h
    · next ps hps =>
      obtain ⟨σ', he, I⟩ := symExec_sound body (Inv_init σ0) hal hS
      have hcp := checkPairs_sound (baseOf σ0) _ [] (Sat.nil _) h
      refine ⟨σ', he, ?_, ?_⟩
      · intro r hr
        obtain ⟨h0, h32⟩ := preserved_range r hr
        have := hcp (S.reg r, T.var r) (List.mem_append_right _ (List.mem_map.mpr ⟨r, hr, rfl⟩))
        rw [I.reg r h0 h32, this]; rfl
      · intro vs hev j hj
        unfold evalSrc at hev
        split at hev
        · next vals hvals =>
          rw [args_map] at hvals
          have hv := srcTerms_sound (baseOf σ0) s.ops _ ts vals hts hvals
          subst hv
          obtain ⟨hl, hi⟩ := retPairs_pick (baseOf σ0) S ts s.rets 0 ps vs hps hev
          obtain ⟨t, hm, hvj⟩ := hi j hj
          have := hcp _ (List.mem_append_left _ hm)
          simp only [Nat.zero_add] at this
          have h8 : j < 8 := by omega
          have hlo : 0 < A0 + j := by show 0 < (10 : Nat) + j; omega
          have hhi : A0 + j < 32 := by show (10 : Nat) + j < 32; omega
          rw [I.reg (A0 + j) hlo hhi, this, hvj]
        · cases hev
    · cases h
  · cases h

theorem isStraight_eq (i : Instr) : isStraight i = i.straight := by cases i <;> rfl

theorem validate_straight (s : Src) (body : List Instr) (h : validate s body = true) :
    ∀ i ∈ body, i.straight = true ∧ i.encodable = true := by
  unfold validate at h
  simp only [Bool.and_eq_true, List.all_eq_true] at h
  intro i hi
  have := h.1.2 i hi
  rw [isStraight_eq] at this
  exact this

/-- **the property sentence for one compiled loop-free function, on the program-counter machine**
(partial: see the restrictions in the header — straight-line `i32` functions only; the ∀-programs
quantifier is discharged per emitted function by running `validate`).  The emitted function
`body; ret`, called with the halt address in `ra` and a word-aligned `sp`, halts; at that point
`a_j` holds the `j`-th source result for every input on which the source is defined, and `sp`,
`ra`, `s0`–`s11` are restored. -/
theorem backend_correct_straightline_partial (s : Src) (body : List Instr)
    (h : validate s body = true) (σ0 : St) (hal : aligned (σ0.get SP) = true)
    (hra : σ0.get RA = BitVec.ofNat 32 HALT) (fuel : Nat) :
    ∃ σ' n, run (body ++ [Instr.ret]).toArray (fuel + 1 + body.length) 0 0 σ0 = Outcome.halted σ' n ∧
      (∀ r ∈ preserved, σ'.get r = σ0.get r) ∧
      ∀ vs, evalSrc s (fun i => σ0.get (A0 + i)) = some vs →
        ∀ j (hj : j < vs.length), σ'.get (A0 + j) = vs[j] := by
  obtain ⟨σ', he, hp, hv⟩ := validate_sound s body h σ0 hal
  have hra' : σ'.get RA = BitVec.ofNat 32 HALT := by
    rw [← hra]; exact hp 1 (by decide)
  obtain ⟨n, hn⟩ := run_function body σ0 σ' (validate_straight s body h) he hra' fuel
  exact ⟨σ', n, hn, hp, hv⟩

/-! ### non-vacuity: what the pipeline emits is accepted, a wrong lowering is refused -/

/-- `f(a0, a1) = (a0 + a0) * 3 - (a1 & a1)` -/
def exSrc : Src :=
  { nargs := 2, ops := [.bin .addi 0 0, .const 3, .bin .muli 2 3, .bin .andi 1 1, .bin .subi 4 5], rets := [6] }

/-- shape of the pipeline output after canonicalization (`x + x → 2 * x`, `x & x → x`) with a spilled `s1` -/
def exBody : List Instr :=
  [.i .addi 2 2 (-4), .sw 9 2 0, .li 9 2, .r .mul 10 10 9, .li 5 3, .r .mul 10 10 5, .r .sub 10 10 11,
   .lw 9 2 0, .i .addi 2 2 4]

example : validate exSrc exBody = true := by decide +kernel

/-- `arith.cmpi sle` -/
def exCmp : Src := { nargs := 2, ops := [.cmpi 3 0 1], rets := [2] }

/-- the fixed table: `slt t, a1, a0; xori a0, t, 1` -/
example : validate exCmp [.r .slt 5 11 10, .i .xori 10 5 1] = true := by decide +kernel

/-- the table of the pinned tree lowered `sle` as `sge` -/
def exCmpOld : List Instr := [.r .slt 5 10 11, .i .xori 10 5 1]

example : validate exCmp exCmpOld = false := by decide +kernel

/-- the validator is right to refuse it: with `a0 = 1`, `a1 = 2` the code returns 0, the source 1 -/
theorem cmpi_sle_old_counterexample :
    ∃ σ0 σ' v, exec exCmpOld σ0 = some σ' ∧
      evalSrc exCmp (fun i => σ0.get (A0 + i)) = some [v] ∧ σ'.get A0 ≠ v := by
  refine ⟨(st1.set 10 1#32).set 11 2#32, _, 1#32, rfl, by decide, by decide⟩

/-- a body that forgets to restore a callee-saved register is refused -/
example : validate { nargs := 1, ops := [], rets := [0] } [.li 9 7] = false := by decide +kernel

end Xdsl.RiscV.TV
