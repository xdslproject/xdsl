import XdslProofs.Lemmas.IRUses
/-!
# C01 — the subtree walk of `drop_all_references`

`IRStore.subtreeOf s root` is the fuel-bounded depth-first walk that `dropTree` folds over.  Under the
store invariant, and when `root` is detached, the walk

* never meets an object twice (an object has one parent, the root has none, so every object the
  walk reaches hangs below the root — cycles elsewhere in the store are out of reach),
* therefore has enough fuel (pigeonhole over the id tables), and
* returns a list that contains the root, is closed under children, and in which every object other
  than the root has its parent in the list.

No acyclicity assumption on the store is needed.
-/
namespace Xdsl.IR
open Xdsl Xdsl.DLL IRStore

theorem mem_children_iff {s : IRStore} {a : Abs} (ha : InvA s a) (c y : Ref) :
    c ∈ s.children y ↔ s.parentRef c = some y := by
  cases y with
  | op o =>
    cases c with
    | region r =>
      simp only [IRStore.children, IRStore.parentRef, List.mem_map, Ref.region.injEq, exists_eq_right,
        Option.map_eq_some_iff, Ref.op.injEq]
      exact (ha.regions! o).2 r
    | op _ => simp [IRStore.children, IRStore.parentRef]
    | block _ => simp [IRStore.children, IRStore.parentRef]
  | block b =>
    cases c with
    | op o =>
      simp only [IRStore.children, IRStore.parentRef, List.mem_map, Ref.op.injEq, exists_eq_right,
        Option.map_eq_some_iff, Ref.block.injEq]
      unfold IRStore.opsOf IRStore.opParent
      rw [ha.opL.toList_eq]; exact ha.opL.mem_iff_parent b o
    | block _ => simp [IRStore.children, IRStore.parentRef]
    | region _ => simp [IRStore.children, IRStore.parentRef]
  | region r =>
    cases c with
    | block b =>
      simp only [IRStore.children, IRStore.parentRef, List.mem_map, Ref.block.injEq, exists_eq_right,
        Option.map_eq_some_iff, Ref.region.injEq]
      unfold IRStore.blocksOf IRStore.blockParent
      rw [ha.blockL.toList_eq]; exact ha.blockL.mem_iff_parent r b
    | op _ => simp [IRStore.children, IRStore.parentRef]
    | region _ => simp [IRStore.children, IRStore.parentRef]

theorem children_nodup {s : IRStore} {a : Abs} (ha : InvA s a) (y : Ref) : (s.children y).Nodup := by
  cases y with
  | op o =>
    exact List.Nodup.map (fun _ _ h => by cases h; rfl) (ha.regions! o).1
  | block b =>
    exact List.Nodup.map (fun _ _ h => by cases h; rfl) (ha.opL.nodup_toList b)
  | region r =>
    exact List.Nodup.map (fun _ _ h => by cases h; rfl) (ha.blockL.nodup_toList r)

/-- the loop invariant of `IRStore.subtree` (`acc`: visited, `todo`: stack) -/
structure Walk (s : IRStore) (root : Ref) (todo acc : List Ref) : Prop where
  nodup : (acc ++ todo).Nodup
  up : ∀ y ∈ acc ++ todo, y = root ∨ ∃ p ∈ acc, s.parentRef y = some p
  down : ∀ y ∈ acc, ∀ c, s.parentRef c = some y → c ∈ acc ++ todo
  root : root ∈ acc ++ todo
  reg : ∀ y ∈ acc ++ todo, Reg s y

theorem Walk.init {s : IRStore} {root : Ref} (hreg : Reg s root) : Walk s root [root] [] where
  nodup := by simp
  up := by simp
  down := by simp
  root := by simp
  reg := by simpa using hreg

/-- visiting `x`: the lists before and after hold the same objects plus the children of `x` -/
theorem perm_visit {α : Type} (x : α) (acc ch todo : List α) :
    (x :: acc ++ (ch ++ todo)).Perm (ch ++ (acc ++ x :: todo)) :=
  ((List.perm_middle.append_left ch).trans
    (List.perm_middle.trans ((List.perm_append_comm_assoc ..).cons x))).symm

theorem Walk.step {s : IRStore} {a : Abs} (ha : InvA s a) {root : Ref} (hroot : s.parentRef root = none)
    {x : Ref} {todo acc : List Ref} (w : Walk s root (x :: todo) acc) :
    Walk s root (s.children x ++ todo) (x :: acc) := by
  have hx : x ∉ acc := fun hm => (List.nodup_append.mp w.nodup).2.2 x hm x List.mem_cons_self rfl
  -- a child of `x` has not been met: what has been met is the root or hangs below a visited object
  have fresh : ∀ c ∈ s.children x, c ∉ acc ++ x :: todo := by
    intro c hc hm
    have hp := (mem_children_iff ha c x).mp hc
    rcases w.up c hm with e | ⟨p, hp', e⟩
    · subst e; rw [hroot] at hp; cases hp
    · rw [hp] at e; cases e; exact hx hp'
  have P := perm_visit x acc (s.children x) todo
  have split : ∀ y, y ∈ x :: acc ++ (s.children x ++ todo) → y ∈ s.children x ∨ y ∈ acc ++ x :: todo :=
    fun y hy => List.mem_append.mp (P.mem_iff.mp hy)
  refine ⟨P.nodup_iff.mpr (List.nodup_append.mpr ⟨children_nodup ha x, w.nodup, fun c hc y hy e =>
      fresh c hc (e ▸ hy)⟩), fun y hy => ?_, fun y hy c hc => P.mem_iff.mpr ?_,
    P.mem_iff.mpr (List.mem_append_right _ w.root), fun y hy => ?_⟩
  · rcases split y hy with h | h
    · exact Or.inr ⟨x, List.mem_cons_self, (mem_children_iff ha y x).mp h⟩
    · exact (w.up y h).imp_right fun ⟨p, hp, e⟩ => ⟨p, List.mem_cons_of_mem _ hp, e⟩
  · rcases List.mem_cons.mp hy with rfl | hy
    · exact List.mem_append_left _ ((mem_children_iff ha c y).mpr hc)
    · exact List.mem_append_right _ (w.down y hy c hc)
  · rcases split y hy with h | h
    · exact reg_of_parent ha ((mem_children_iff ha y x).mp h)
    · exact w.reg y h

theorem subtree_walk {s : IRStore} {a : Abs} (ha : InvA s a) {root : Ref} (hroot : s.parentRef root = none) :
    ∀ (fuel : Nat) (todo acc : List Ref), Walk s root todo acc → s.size ≤ fuel + acc.length →
      Walk s root [] (s.subtree fuel todo acc) := by
  intro fuel
  induction fuel with
  | zero =>
    intro todo acc w hf
    exfalso
    have h1 := length_lt_size (List.nodup_append.mp w.nodup).1 (fun y hy => w.reg y (List.mem_append_left _ hy))
    omega
  | succ k ih =>
    intro todo acc w hf
    cases todo with
    | nil => simpa [IRStore.subtree] using w
    | cons x r =>
      simp only [IRStore.subtree]
      apply ih _ _ (w.step ha hroot)
      simp only [List.length_cons]; omega

/-- what `dropTree` folds over -/
structure Subtree (s : IRStore) (root : Ref) (T : List Ref) : Prop where
  nodup : T.Nodup
  root : root ∈ T
  reg : ∀ y ∈ T, Reg s y
  closed : ∀ c p, s.parentRef c = some p → (c ∈ T ↔ p ∈ T)

theorem subtreeOf_spec {s : IRStore} {a : Abs} (ha : InvA s a) {root : Ref}
    (hroot : s.parentRef root = none) (hreg : Reg s root) : Subtree s root (s.subtreeOf root) := by
  have w := subtree_walk ha hroot (3 * s.size) [root] [] (Walk.init hreg) (by simp; omega)
  unfold IRStore.subtreeOf
  generalize s.subtree (3 * s.size) [root] [] = T at w
  refine ⟨by simpa using w.nodup, by simpa using w.root, fun y hy => w.reg y (by simpa using hy), ?_⟩
  intro c p hp
  constructor
  · intro hc
    rcases w.up c (by simpa using hc) with e | ⟨p', hp', e⟩
    · subst e; rw [hroot] at hp; cases hp
    · rw [hp] at e; cases e; exact hp'
  · intro hpT
    simpa using w.down p hpT c hp

end Xdsl.IR
