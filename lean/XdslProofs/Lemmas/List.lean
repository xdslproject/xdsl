/-!
Facts about lists that several groups of proofs use: three rules for `foldl` (a reflexive and transitive relation every
step respects; an invariant of every step; what one step establishes and the others keep), and that a function whose
images of a list are pairwise distinct is injective on the list; that `f` takes each member of `l` to the member of `l'`
at the same place exactly when `l.map f = l'` (`forall_zip_iff_map`); the pigeonhole for a sequence of members of a
list (`exists_lt_eq_of_length_lt`: what bounds the fuel of a walk along parent pointers); what `set` does to a list
read with `getD` (how the models index parent pointers, bit vectors of marks and tables of sets); a greedy scan over a
run of the class followed by text that stops it (`takeWhile_run`, `dropWhile_run`: what every lexer lemma about a
printed word or number uses).  No Mathlib.
-/
namespace Xdsl

theorem foldl_rel {α σ : Type} {R : σ → σ → Prop} (refl : ∀ s, R s s) (trans : ∀ {a b c}, R a b → R b c → R a c)
    {f : σ → α → σ} {l : List α} (h : ∀ a ∈ l, ∀ s, R s (f s a)) (s : σ) : R s (l.foldl f s) := by
  induction l generalizing s with
  | nil => exact refl s
  | cons a l ih =>
    exact trans (h a (List.mem_cons_self ..) s) (ih (fun b hb => h b (List.mem_cons_of_mem _ hb)) _)

theorem foldl_inv {α σ : Type} (Q : σ → Prop) {f : σ → α → σ} {l : List α}
    (h : ∀ a ∈ l, ∀ s, Q s → Q (f s a)) (s : σ) : Q s → Q (l.foldl f s) :=
  foldl_rel (R := fun s s' => Q s → Q s') (fun _ h => h) (fun h1 h2 h => h2 (h1 h)) h s

theorem foldl_hit {α σ : Type} {P : σ → Prop} {f : σ → α → σ} {l : List α}
    (keep : ∀ b ∈ l, ∀ s, P s → P (f s b)) {a : α} (ha : a ∈ l) (hit : ∀ s, P (f s a)) (s : σ) :
    P (l.foldl f s) := by
  induction l generalizing s with
  | nil => cases ha
  | cons b l ih =>
    have keep' : ∀ c ∈ l, ∀ s, P s → P (f s c) := fun c hc => keep c (List.mem_cons_of_mem _ hc)
    rcases List.mem_cons.mp ha with rfl | ha'
    · exact foldl_inv P keep' _ (hit s)
    · exact ih keep' ha' _

theorem inj_of_nodup_map {α β : Type} (f : α → β) : ∀ (l : List α), (l.map f).Nodup →
    ∀ x ∈ l, ∀ y ∈ l, f x = f y → x = y := by
  intro l
  induction l with
  | nil => intro _ x hx; cases hx
  | cons a l ih =>
    intro hnd x hx y hy hxy
    simp only [List.map_cons, List.nodup_cons, List.mem_map, not_exists, not_and] at hnd
    rcases List.mem_cons.mp hx with hxa | hx' <;> rcases List.mem_cons.mp hy with hya | hy'
    · rw [hxa, hya]
    · exact absurd (by rw [← hxa, hxy]) (hnd.1 y hy')
    · exact absurd (by rw [← hya, hxy]) (hnd.1 x hx')
    · exact ih hnd.2 x hx' y hy' hxy

theorem forall_zip_iff_map {α β : Type} {f : α → β} {l : List α} {l' : List β} (h : l.length = l'.length) :
    (∀ p ∈ l.zip l', f p.1 = p.2) ↔ l.map f = l' := by
  induction l generalizing l' with
  | nil => cases l' <;> simp_all
  | cons x l ih =>
    cases l' with
    | nil => simp at h
    | cons y l' => simp [← ih (Nat.succ.inj h)]

theorem exists_lt_eq_of_length_lt {α : Type} {U : List α} {n : Nat} (f : Nat → α)
    (hU : ∀ i, i < n → f i ∈ U) (hn : U.length < n) : ∃ i j, i < j ∧ j < n ∧ f i = f j :=
  Classical.byContradiction fun hc => by
    have hnd : ((List.range n).map f).Nodup :=
      List.pairwise_map.2 (List.pairwise_lt_range.imp_of_mem fun _ hj hlt e =>
        hc ⟨_, _, hlt, List.mem_range.1 hj, e⟩)
    have := hnd.length_le_of_subset (l₂ := U) fun o ho => by
      obtain ⟨i, hi, rfl⟩ := List.mem_map.mp ho
      exact hU i (List.mem_range.mp hi)
    rw [List.length_map, List.length_range] at this
    exact Nat.not_le_of_lt hn this

theorem getD_set {α : Type} (l : List α) (c i : Nat) (v d : α) :
    (l.set c v).getD i d = if i = c ∧ c < l.length then v else l.getD i d := by
  rw [List.getD_eq_getElem?_getD, List.getD_eq_getElem?_getD, List.getElem?_set]
  by_cases hic : c = i
  · subst hic
    by_cases hl : c < l.length <;> simp [hl]
  · simp [hic, Ne.symm hic]

theorem getD_set_of_lt {α : Type} {l : List α} {c : Nat} (hc : c < l.length) (i : Nat) (v d : α) :
    (l.set c v).getD i d = if i = c then v else l.getD i d := by
  simp only [getD_set, hc, and_true]

theorem getElem?_eq_some_getD {α : Type} {l : List α} {k : Nat} (h : k < l.length) (d : α) :
    l[k]? = some (l.getD k d) := by
  rw [List.getElem?_eq_getElem h, List.getElem_eq_getD d]

theorem eq_nil_or_singleton {α : Type} : ∀ {l : List α}, l.length ≤ 1 → l = [] ∨ ∃ a, l = [a]
  | [], _ => Or.inl rfl
  | [a], _ => Or.inr ⟨a, rfl⟩
  | _ :: _ :: _, h => absurd h (by simp)

theorem takeWhile_run {α : Type} {p : α → Bool} {a rest : List α} (ha : ∀ x ∈ a, p x = true)
    (hr : ∀ x ∈ rest.head?, p x = false) : (a ++ rest).takeWhile p = a := by
  rw [List.takeWhile_append_of_pos ha]
  cases rest with
  | nil => simp
  | cons c r => simp [hr c rfl]

theorem dropWhile_run {α : Type} {p : α → Bool} {a rest : List α} (ha : ∀ x ∈ a, p x = true)
    (hr : ∀ x ∈ rest.head?, p x = false) : (a ++ rest).dropWhile p = rest := by
  rw [List.dropWhile_append_of_pos ha]
  cases rest with
  | nil => rfl
  | cons c r => simp [hr c rfl]

end Xdsl
