import XdslModel.OpDef
import Mathlib.Tactic.Linarith
import Mathlib.Tactic.Ring
/-!
Segment sizes for C10: the specification vocabulary, what the two size verifiers accept, and what the
generated constructor produces.

Without the attribute-sized option every segmentation that matters gives all variable segments one
common size `k`; such a size list is `mkSizes k defs`, and the lemmas about the same-size verifier,
the default and same-size accessors and uniqueness are all stated for it.
-/
namespace Xdsl.OpDef

/-- a segment of kind `d` may have `s` elements -/
def kindOk : Seg → Nat → Prop
  | .single, s => s = 1
  | .optional, s => s ≤ 1
  | .variadic, _ => True

/-- one non-negative size per declared segment, each matching its kind -/
def KindsOk : List Seg → List Nat → Prop
  | [], [] => True
  | d :: ds, s :: ss => kindOk d s ∧ KindsOk ds ss
  | _, _ => False

/-- every variable (optional or variadic) segment has size `k` -/
def AllVar (k : Nat) : List Seg → List Nat → Prop
  | d :: ds, s :: ss => (d.isVariadic = true → s = k) ∧ AllVar k ds ss
  | _, _ => True

def mkSizes (k : Nat) (defs : List Seg) : List Nat :=
  defs.map fun d => if d.isVariadic then k else 1

def prefixSum (sizes : List Nat) (i : Nat) : Nat := (sizes.take i).sum

/-- the `i`-th piece of `xs` when it is cut according to `sizes` -/
def segAt {α : Type} (sizes : List Nat) (xs : List α) (i : Nat) : List α :=
  (xs.drop (prefixSum sizes i)).take (sizes.getD i 0)

theorem numVariadic_cons (d : Seg) (ds : List Seg) :
    numVariadic (d :: ds) = numVariadic ds + (if d.isVariadic then 1 else 0) := by
  simp [numVariadic, List.countP_cons]

theorem numVariadic_le (defs : List Seg) : numVariadic defs ≤ defs.length :=
  List.countP_le_length

theorem KindsOk.length_eq {defs : List Seg} {sizes : List Nat} (h : KindsOk defs sizes) :
    sizes.length = defs.length := by
  fun_induction KindsOk defs sizes with
  | case1 => rfl
  | case2 d ds s ss ih => simp [ih h.2]
  | case3 => exact h.elim

theorem KindsOk.getD : ∀ {defs : List Seg} {sizes : List Nat}, KindsOk defs sizes →
    ∀ (i : Nat) (hi : i < defs.length), kindOk defs[i] (sizes.getD i 0)
  | _ :: _, [], h, _, _ => h.elim
  | _ :: _, _ :: _, h, 0, _ => h.1
  | _ :: _, _ :: _, h, i + 1, hi => h.2.getD i (Nat.lt_of_succ_lt_succ hi)

theorem entryOk_iff (d : Seg) (l : Int) :
    entryOk d l = true ↔ ∃ s : Nat, l = (s : Int) ∧ kindOk d s := by
  have h : entryOk d l = true ↔ 0 ≤ l ∧ kindOk d l.toNat := by
    cases d <;> simp [entryOk, Seg.isOptional, Seg.isVariadic, kindOk] <;> omega
  rw [h]
  exact ⟨fun ⟨h0, hk⟩ => ⟨l.toNat, (Int.toNat_of_nonneg h0).symm, hk⟩,
    fun ⟨s, e, hk⟩ => e ▸ ⟨Int.natCast_nonneg s, hk⟩⟩

theorem sum_map_ofNat (l : List Nat) : (l.map Int.ofNat).sum = ((l.sum : Nat) : Int) := by
  induction l with
  | nil => rfl
  | cons a r ih => simp [List.sum_cons, ih]

theorem entriesOk_iff : ∀ (defs : List Seg) (vals : List Int),
    (vals.length = defs.length ∧ entriesOk defs vals = true) ↔
      ∃ sizes, KindsOk defs sizes ∧ vals = sizes.map Int.ofNat
  | [], [] => ⟨fun _ => ⟨[], trivial, rfl⟩, fun _ => ⟨rfl, rfl⟩⟩
  | _ :: _, [] => by
    constructor
    · intro h; simp at h
    · rintro ⟨_ | _, hk, e⟩
      · exact hk.elim
      · cases e
  | [], _ :: _ => by
    constructor
    · intro h; simp at h
    · rintro ⟨_ | _, hk, e⟩
      · cases e
      · exact hk.elim
  | d :: ds, l :: ls => by
    simp only [entriesOk, Bool.and_eq_true, List.length_cons, Nat.add_right_cancel_iff]
    constructor
    · rintro ⟨hl, he, hr⟩
      obtain ⟨s, rfl, hs⟩ := (entryOk_iff d l).1 he
      obtain ⟨ss, hk, rfl⟩ := (entriesOk_iff ds ls).1 ⟨hl, hr⟩
      exact ⟨s :: ss, ⟨hs, hk⟩, rfl⟩
    · rintro ⟨_ | ⟨s, ss⟩, hk, e⟩
      · exact hk.elim
      · cases e
        obtain ⟨hl, hr⟩ := (entriesOk_iff ds (ss.map Int.ofNat)).2 ⟨ss, hk.2, rfl⟩
        exact ⟨hl, (entryOk_iff d _).2 ⟨s, rfl, hk.1⟩, hr⟩

theorem verifyAttrSize_iff (defs : List Seg) (n : Nat) (attr : SizeAttr) :
    verifyAttrSize defs n attr = true ↔
      ∃ sizes, KindsOk defs sizes ∧ sizes.sum = n ∧ attr = .dense true (sizes.map Int.ofNat) := by
  constructor
  · intro h
    match attr, h with
    | .dense true vals, h =>
      simp only [verifyAttrSize, Bool.and_eq_true, beq_iff_eq] at h
      obtain ⟨sizes, hk, rfl⟩ := (entriesOk_iff defs vals).1 h.1
      exact ⟨sizes, hk, by simpa [sum_map_ofNat] using h.2, rfl⟩
  · rintro ⟨sizes, hk, rfl, rfl⟩
    have := (entriesOk_iff defs _).2 ⟨sizes, hk, rfl⟩
    simpa [verifyAttrSize, sum_map_ofNat] using this

@[simp] theorem mkSizes_nil (k : Nat) : mkSizes k [] = [] := rfl

@[simp] theorem mkSizes_cons (k : Nat) (d : Seg) (ds : List Seg) :
    mkSizes k (d :: ds) = (if d.isVariadic then k else 1) :: mkSizes k ds := rfl

@[simp] theorem length_mkSizes (k : Nat) (defs : List Seg) : (mkSizes k defs).length = defs.length :=
  List.length_map _

theorem take_mkSizes (k : Nat) (defs : List Seg) (i : Nat) :
    (mkSizes k defs).take i = mkSizes k (defs.take i) :=
  (List.map_take ..).symm

theorem getD_mkSizes (k : Nat) (defs : List Seg) (i : Nat) (hi : i < defs.length) :
    (mkSizes k defs).getD i 0 = if defs[i].isVariadic then k else 1 := by
  simp [mkSizes, List.getD, hi]

/-- each variable segment contributes `k` where a single one contributes `1` -/
theorem sum_mkSizes (k : Nat) (defs : List Seg) :
    (mkSizes k defs).sum + numVariadic defs = defs.length + numVariadic defs * k := by
  induction defs with
  | nil => simp [numVariadic]
  | cons d ds ih =>
    rw [mkSizes_cons, List.sum_cons, numVariadic_cons, List.length_cons]
    split
    · rw [Nat.add_mul]; omega
    · rw [Nat.add_zero]; omega

/-- the same in `ℤ`, where the accessors compute: `n - nd = nv * (k - 1)` -/
theorem sum_mkSizes_cast (k : Nat) (defs : List Seg) :
    (((mkSizes k defs).sum : Nat) : Int) = defs.length + numVariadic defs * ((k : Int) - 1) := by
  have := sum_mkSizes k defs
  rw [Int.mul_sub, Int.mul_one]
  omega

theorem kindsOk_mkSizes_iff (k : Nat) (defs : List Seg) :
    KindsOk defs (mkSizes k defs) ↔ (defs.any Seg.isOptional = true → k ≤ 1) := by
  induction defs with
  | nil => simp [KindsOk]
  | cons d ds ih =>
    rw [mkSizes_cons, KindsOk, ih, List.any_cons]
    cases d
    · exact ⟨fun h => h.2, fun h => ⟨rfl, h⟩⟩
    · exact ⟨fun h _ => h.1, fun h => ⟨h rfl, fun _ => h rfl⟩⟩
    · exact ⟨fun h => h.2, fun h => ⟨trivial, h⟩⟩

theorem numVariadic_pos_of_any_optional (defs : List Seg) (ho : defs.any Seg.isOptional = true) :
    0 < numVariadic defs := by
  obtain ⟨d, hm, hd⟩ := List.any_eq_true.1 ho
  exact List.countP_pos_iff.2 ⟨d, hm, by cases d <;> first | rfl | cases hd⟩

theorem allVar_mkSizes (k : Nat) (defs : List Seg) : AllVar k defs (mkSizes k defs) := by
  induction defs with
  | nil => trivial
  | cons d ds ih => exact ⟨fun h => by simp [h], ih⟩

theorem eq_mkSizes {defs : List Seg} {sizes : List Nat} {k : Nat} (hk : KindsOk defs sizes)
    (ha : AllVar k defs sizes) : sizes = mkSizes k defs := by
  fun_induction KindsOk defs sizes with
  | case1 => rfl
  | case3 => exact hk.elim
  | case2 d ds s ss ih =>
    rw [mkSizes_cons, ih hk.2 ha.2]
    congr 1
    cases d
    · simpa [kindOk, Seg.isVariadic] using hk.1
    · simpa [Seg.isVariadic] using ha.1
    · simpa [Seg.isVariadic] using ha.1

theorem allVar_of_zero (k : Nat) {defs : List Seg} {sizes : List Nat} (h0 : numVariadic defs = 0) :
    AllVar k defs sizes := by
  fun_induction AllVar k defs sizes with
  | case2 => trivial
  | case1 d ds s ss ih =>
    rw [numVariadic_cons] at h0
    refine ⟨fun h => ?_, ih (by omega)⟩
    rw [if_pos h] at h0
    omega

/-- with at most one variable segment every kind-correct size list is "same-size" -/
theorem allVar_of_le_one {defs : List Seg} {sizes : List Nat} (hn : numVariadic defs ≤ 1)
    (hk : KindsOk defs sizes) : ∃ k, AllVar k defs sizes := by
  fun_induction KindsOk defs sizes with
  | case1 => exact ⟨0, trivial⟩
  | case3 => exact hk.elim
  | case2 d ds s ss ih =>
    rw [numVariadic_cons] at hn
    by_cases hd : d.isVariadic = true
    · rw [if_pos hd] at hn
      exact ⟨s, fun _ => rfl, allVar_of_zero s (by omega)⟩
    · obtain ⟨k, hk'⟩ := ih (by omega) hk.2
      exact ⟨k, fun h => absurd h hd, hk'⟩

/-- a same-size segmentation is determined by the length of the list it cuts: the common size is
determined when there is a variable segment and irrelevant when there is none -/
theorem mkSizes_eq_of_sum_eq (defs : List Seg) (k₁ k₂ : Nat)
    (h : (mkSizes k₁ defs).sum = (mkSizes k₂ defs).sum) : mkSizes k₁ defs = mkSizes k₂ defs := by
  have h₁ := sum_mkSizes k₁ defs
  have h₂ := sum_mkSizes k₂ defs
  by_cases hv : numVariadic defs = 0
  · apply List.map_congr_left
    intro d hd
    rw [if_neg (List.countP_eq_zero.1 hv d hd), if_neg (List.countP_eq_zero.1 hv d hd)]
  · rw [Nat.eq_of_mul_eq_mul_left (Nat.pos_of_ne_zero hv) (by omega : numVariadic defs * k₁ = _ * k₂)]

/-- arithmetic core of `verify_variadic_same_size`'s last branch: `ns` single definitions, `nv`
variable ones, `n` values -/
theorem same_size_arith (ns nv n : Nat) :
    (ns ≤ n ∧ ((n : Int) - ((ns + nv : Nat) : Int)) % (nv : Int) = 0) ↔ ∃ k : Nat, ns + nv * k = n := by
  constructor
  · rintro ⟨hle, hmod⟩
    -- `n - ns` is a natural number with the same residue, hence a multiple of `nv`
    have hm : (((n - ns : Nat) : Int)) % (nv : Int) = 0 := by
      rw [← hmod, ← Int.sub_emod_right ((n - ns : Nat) : Int) nv]; congr 1; omega
    obtain ⟨k, hk⟩ := Nat.dvd_iff_mod_eq_zero.2 (by exact_mod_cast hm : (n - ns) % nv = 0)
    exact ⟨k, by omega⟩
  · rintro ⟨k, rfl⟩
    refine ⟨by omega, ?_⟩
    have : ((ns + nv * k : Nat) : Int) - ((ns + nv : Nat) : Int) = (nv : Int) * ((k : Int) - 1) := by
      rw [Int.mul_sub, Int.mul_one]; push_cast; omega
    rw [this]
    exact Int.mul_emod_right _ _

theorem verifySameSize_iff (defs : List Seg) (n : Nat) :
    verifySameSize defs n = true ↔
      ∃ k, KindsOk defs (mkSizes k defs) ∧ (mkSizes k defs).sum = n := by
  have hopt := numVariadic_pos_of_any_optional defs
  -- `ns` definitions are single: a same-size list with common size `k` has `ns + nv * k` elements
  obtain ⟨ns, hns⟩ : ∃ ns, defs.length = ns + numVariadic defs :=
    ⟨_, (Nat.sub_add_cancel (numVariadic_le defs)).symm⟩
  have hsum : ∀ k, (mkSizes k defs).sum = ns + numVariadic defs * k := fun k => by
    have := sum_mkSizes k defs; omega
  simp only [verifySameSize, kindsOk_mkSizes_iff, hsum, hns, Nat.add_sub_cancel]
  split
  · rename_i hv
    simp only [hv, Nat.zero_mul, Nat.add_zero, beq_iff_eq]
    exact ⟨fun h => ⟨0, fun ho => absurd (hopt ho) (by omega), h.symm⟩, fun ⟨_, _, h⟩ => h.symm⟩
  · split
    · rename_i ho
      simp only [Bool.or_eq_true, beq_iff_eq]
      constructor
      · rintro (h | h)
        · exact ⟨1, fun _ => Nat.le_refl 1, by omega⟩
        · exact ⟨0, fun _ => Nat.zero_le 1, by omega⟩
      · rintro ⟨k, hk, h⟩
        rcases Nat.le_one_iff_eq_zero_or_eq_one.1 (hk ho) with rfl | rfl
        · right; omega
        · left; omega
    · rename_i ho
      simp only [Bool.and_eq_true, decide_eq_true_eq, beq_iff_eq, same_size_arith]
      exact ⟨fun ⟨k, h⟩ => ⟨k, fun h' => absurd h' ho, h⟩, fun ⟨k, _, h⟩ => ⟨k, h⟩⟩

/-- the values an argument of the generated constructor stands for -/
def BArg.toList {α : Type} : BArg α → List α
  | .none => []
  | .one x => [x]
  | .seq xs => xs

theorem buildArg_spec {α : Type} (norm : Bool) (d : Seg) (a : BArg α) (s : List α)
    (h : buildArg norm d a = some s) : s = a.toList ∧ kindOk d s.length := by
  cases a with
  | none =>
    cases d <;> cases norm <;> simp [buildArg, Seg.isVariadic, Seg.isOptional] at h <;>
      subst h <;> simp [BArg.toList, kindOk]
  | one x =>
    cases h
    cases d <;> simp [BArg.toList, kindOk]
  | seq xs =>
    cases d <;> simp [buildArg, Seg.isVariadic, Seg.isOptional] at h
    · exact ⟨h.2.symm, h.2 ▸ h.1⟩
    · exact ⟨h.2.symm, h.2 ▸ h.1⟩
    · exact ⟨h.symm, trivial⟩

theorem buildSegs_spec {α : Type} (norm : Bool) (defs : List Seg) (args : List (BArg α))
    (segs : List (List α)) (h : buildSegs norm defs args = some segs) :
    segs = args.map BArg.toList ∧ KindsOk defs (segs.map List.length) := by
  fun_induction buildSegs norm defs args generalizing segs with
  | case1 => cases h; exact ⟨rfl, trivial⟩
  | case2 d ds a as s r hr hs ih =>
    cases h
    obtain ⟨e1, k1⟩ := buildArg_spec norm d a s hs
    obtain ⟨e2, k2⟩ := ih r hr
    exact ⟨by rw [e1, e2]; rfl, k1, k2⟩
  | case3 => cases h
  | case4 => cases h

theorem allVar_of_variadicSizes (k : Nat) (defs : List Seg) (sizes : List Nat)
    (h : ∀ s ∈ variadicSizes defs sizes, s = k) : AllVar k defs sizes := by
  fun_induction AllVar k defs sizes with
  | case2 => trivial
  | case1 d ds s ss ih =>
    by_cases hd : d.isVariadic = true
    · simp only [variadicSizes, hd, if_true, List.mem_cons] at h
      exact ⟨fun _ => h s (Or.inl rfl), ih fun t ht => h t (Or.inr ht)⟩
    · simp only [variadicSizes, hd] at h
      exact ⟨fun hh => absurd hh hd, ih (by simpa using h)⟩

theorem build_eq_some {α : Type} {norm : Bool} {defs : List Seg} {opt : Opt} {args : List (BArg α)}
    {xs : List α} {attr : SizeAttr} (h : build norm defs opt args = some (xs, attr)) :
    ∃ segs, buildSegs norm defs args = some segs ∧ xs = segs.flatten ∧
      attr = (if opt = .attrSized then .dense true ((segs.map List.length).map Int.ofNat) else .missing) ∧
      (opt = .sameSize → ∃ k, ∀ s ∈ variadicSizes defs (segs.map List.length), s = k) := by
  unfold build at h
  split at h
  · cases h
  · rename_i segs hb
    refine ⟨segs, hb, ?_⟩
    cases opt <;> simp only at h
    · cases h; exact ⟨rfl, rfl, fun h => nomatch h⟩
    · split at h
      · rename_i hall
        cases h
        exact ⟨rfl, rfl, fun _ => ⟨_, fun s hs => by simpa using List.all_eq_true.1 hall s hs⟩⟩
      · cases h
    · cases h; exact ⟨rfl, rfl, fun h => nomatch h⟩

end Xdsl.OpDef
