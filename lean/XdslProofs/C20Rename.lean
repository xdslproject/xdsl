import XdslProofs.Lemmas.ParallelMovRename
/-!
# C20 — the lowering depends on the registers only through their identity

"For every parallel move between allocated registers (… over integer and floating-point
registers …)": the quantifier ranges over *which* registers are moved, not only over the shape of the
move graph.  `pmov_correct` (C20Algo) already holds for every register; the theorems here say how
the model gets there: the algorithm compares registers for identity `(register file, index)` and
singles out exactly one of them, `zero = (int, 0)`.  Moving a parallel move to other registers —
other indices, finite or "infinite", in particular to index 0 of the *float* file (`ft0`), whose
index coincides with that of `zero` — renames the emitted sequence and changes nothing else.  The
harness ties this to the real pass by running the enumerated graphs in further placements
(`naming_variants` in harness/props/c20.py: every float graph in all of them, the mixed and integer
graphs in a selection); a register test in the pass that looks at a projection of the register (index
without register file, spelling, …) breaks the correspondence there.
-/
namespace Xdsl.ParallelMov

/-- **C20, placement invariance.**  For every renaming `ρ` of the registers that is injective,
keeps register file and allocation status, and maps exactly `zero` to `zero`: lowering the renamed
parallel move yields the renamed result — the same instructions on the renamed registers, the same
result wiring, the same failure. -/
theorem pmov_placement_invariant (ρ : Reg → Reg) (h : Renaming ρ) (moves : List Move) (free : List Reg) :
    lower (moves.map (Move.map ρ)) (free.map ρ) = emap (Out.map ρ) (lower moves free) :=
  lower_map h moves free

def swapReg (a b : Reg) (r : Reg) : Reg := if r = a then b else if r = b then a else r

/-- Exchanging two registers of one register file, both allocated (or both not) and neither of
them `zero`, is a placement in the sense of `Renaming`. -/
theorem swapReg_renaming (a b : Reg) (hk : a.kind = b.kind) (hal : a.allocated = b.allocated)
    (ha : a ≠ Reg.zero) (hb : b ≠ Reg.zero) : Renaming (swapReg a b) where
  inj := by intro x y; unfold swapReg; grind
  zero := by intro r; unfold swapReg; grind
  kind := by intro r; unfold swapReg; grind
  alloc := by intro r; unfold swapReg; grind

/-- **`ft0` is an ordinary register.**  The float register of index 0 shares its index with `zero`
but not its register file; exchanging it with any other float register `f<k>` only renames the
lowering.  (A test `dst.index == 0` instead of `dst == zero` in the pass violates exactly this.) -/
theorem pmov_float_index0_ordinary (k : Nat) (moves : List Move) (free : List Reg) :
    let ρ := swapReg ⟨.flt, some 0⟩ ⟨.flt, some k⟩
    lower (moves.map (Move.map ρ)) (free.map ρ) = emap (Out.map ρ) (lower moves free) :=
  lower_map (swapReg_renaming ⟨.flt, some 0⟩ ⟨.flt, some k⟩ rfl rfl (by simp [Reg.zero]) (by simp [Reg.zero])) moves free

private def errOf' (r : Except Err Out) : Option Err := match r with | .error e => some e | .ok _ => none

private def x (k : Nat) : Reg := ⟨.int, some k⟩
private def f (k : Nat) : Reg := ⟨.flt, some k⟩

/-- non-vacuity: the chain `ft1 → ft0 → ft2` next to `a0 → a1` is lowered leaf first (`ft0` is read
before it is written) and the sequence is accepted by the proved validator -/
example : (lower [⟨f 1, f 0, 64⟩, ⟨f 0, f 2, 64⟩, ⟨x 10, x 11, 32⟩] []).toOption.map (·.ops)
      = some [.fmv 64 (f 2) (f 0), .fmv 64 (f 0) (f 1), .mv (x 11) (x 10)]
    ∧ checkSeq [⟨f 1, f 0, 64⟩, ⟨f 0, f 2, 64⟩, ⟨x 10, x 11, 32⟩] []
        [.fmv 64 (f 2) (f 0), .fmv 64 (f 0) (f 1), .mv (x 11) (x 10)] = true := by decide

/-- … whereas emitting the move into `ft0` first (what a pass does that takes index 0 for `zero`)
is rejected by the validator: `ft2` would receive the new content of `ft0` -/
example : checkSeq [⟨f 1, f 0, 64⟩, ⟨f 0, f 2, 64⟩] []
    [.fmv 64 (f 0) (f 1), .fmv 64 (f 2) (f 0)] = false := by decide

/-- a float cycle through `ft0` is a cycle (reported without a free register, rotated through one) -/
example : errOf' (lower [⟨f 1, f 0, 32⟩, ⟨f 0, f 1, 32⟩] []) = some .floatCycle
    ∧ (lower [⟨f 1, f 0, 32⟩, ⟨f 0, f 1, 32⟩] [f 5]).toOption.map (·.ops)
      = some [.fmv 32 (f 5) (f 1), .fmv 32 (f 1) (f 0), .fmv 32 (f 0) (f 5)] := by decide

/-- the integer register of index 0 *is* `zero` (however it is spelled, `zero` or `x0`): the "cycle"
`a0 → x0, x0 → a0` is no cycle, `a0` receives 0 -/
example : (lower [⟨x 10, x 0, 32⟩, ⟨x 0, x 10, 32⟩] []).toOption.map (·.ops)
    = some [.mv (x 0) (x 10), .mv (x 10) (x 0)] := by decide

/-- the placement hypothesis "only `zero` is mapped to `zero`" cannot be dropped: renaming `a0` to
`zero` turns the swap `a0 ↔ a1` (three xors) into two plain moves -/
theorem pmov_placement_zero_counterexample :
    (lower [⟨x 10, x 11, 32⟩, ⟨x 11, x 10, 32⟩] []).toOption.map (·.ops.length) = some 3
    ∧ (lower [⟨x 0, x 11, 32⟩, ⟨x 11, x 0, 32⟩] []).toOption.map (·.ops.length) = some 2 := by decide

end Xdsl.ParallelMov
