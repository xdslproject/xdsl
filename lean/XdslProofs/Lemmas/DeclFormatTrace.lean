import XdslProofs.Lemmas.DeclFormatGroup
/-!
C05, the state after parsing as a fold.  On the text printed from `op` the parser treats every simple
directive of the format exactly once: it parses it (`replayS`) or, when it sits in the branch of an optional
group that was not printed, empties it (`set_empty`).  `trace op fmt` lists these actions in order and
`replayD` is the fold of `step` over it (`replayD_eq`), so a statement about the final state is a statement
about a flat list of actions: a reflexive and transitive relation that every action respects (`Wr`, `WrP`: only
values of the operation are written) holds between the first state and the last (`foldl_rel`), and what one action
establishes and the others keep holds at the end (`foldl_hit`).  `skip_ok` and `act_ok` say what the
conditions on format and instance give for a single action.
-/
namespace Xdsl.DeclFormat

inductive Act
  | run (d : SDir)
  | skip (d : SDir)

def step (D : Defs) (op : OpInst) (st : PState) : Act → PState
  | .run d => replayS D op d st
  | .skip d => setEmptyS st d

/-- the first element of a group that is not taken is parsed all the same (and reports absence) -/
def traceDir (op : OpInst) : Dir → List Act
  | .s d => [.run d]
  | .group a f r e =>
    if presentS op a = true then (f :: r).map .run ++ e.map .skip
    else .run f :: (r.map .skip ++ e.map .run)

def trace (op : OpInst) (fmt : List Dir) : List Act := fmt.flatMap (traceDir op)

theorem replaySeq_eq (D : Defs) (op : OpInst) (ds : List SDir) (st : PState) :
    replaySeq D op ds st = (ds.map Act.run).foldl (step D op) st := by
  induction ds generalizing st with
  | nil => rfl
  | cons d ds ih => exact ih _

theorem setEmptySeq_eq (D : Defs) (op : OpInst) (ds : List SDir) (st : PState) :
    setEmptySeq st ds = (ds.map Act.skip).foldl (step D op) st := by
  induction ds generalizing st with
  | nil => rfl
  | cons d ds ih => exact ih _

theorem replayDir_eq (D : Defs) (op : OpInst) (x : Dir) (st : PState) :
    replayDir D op x st = (traceDir op x).foldl (step D op) st := by
  cases x with
  | s d => rfl
  | group a f r e =>
    show (if presentS op a = true then _ else _) = List.foldl _ _ (if presentS op a = true then _ else _)
    split
    · rw [List.foldl_append, ← replaySeq_eq, ← setEmptySeq_eq]
    · rw [List.foldl_cons, List.foldl_append, ← setEmptySeq_eq, ← replaySeq_eq]; rfl

theorem replayD_eq (D : Defs) (op : OpInst) (fmt : List Dir) (st : PState) :
    replayD D op fmt st = (trace op fmt).foldl (step D op) st := by
  induction fmt generalizing st with
  | nil => rfl
  | cons x xs ih =>
    rw [trace, List.flatMap_cons, List.foldl_append, ← replayDir_eq]
    exact ih _

theorem mem_trace_cons {op : OpInst} {x : Dir} {xs : List Dir} {a : Act} :
    a ∈ trace op (x :: xs) ↔ a ∈ traceDir op x ∨ a ∈ trace op xs := by
  rw [trace, List.flatMap_cons, List.mem_append]; rfl

theorem not_skip_s {op : OpInst} {d' d : SDir} : Act.skip d ∉ traceDir op (.s d') := by
  intro h
  cases List.mem_singleton.mp h

theorem mem_map_run {d : SDir} {l : List SDir} : Act.run d ∈ l.map Act.run ↔ d ∈ l :=
  ⟨fun h => by obtain ⟨x, hx, e⟩ := List.mem_map.mp h; cases e; exact hx, fun h => List.mem_map.mpr ⟨d, h, rfl⟩⟩

theorem mem_map_skip {d : SDir} {l : List SDir} : Act.skip d ∈ l.map Act.skip ↔ d ∈ l :=
  ⟨fun h => by obtain ⟨x, hx, e⟩ := List.mem_map.mp h; cases e; exact hx, fun h => List.mem_map.mpr ⟨d, h, rfl⟩⟩

theorem run_not_mem_skip {d : SDir} {l : List SDir} : Act.run d ∉ l.map Act.skip := fun h => by
  obtain ⟨x, _, e⟩ := List.mem_map.mp h; cases e

theorem skip_not_mem_run {d : SDir} {l : List SDir} : Act.skip d ∉ l.map Act.run := fun h => by
  obtain ⟨x, _, e⟩ := List.mem_map.mp h; cases e

theorem skip_mem_traceDir {op : OpInst} {a f : SDir} {r e : List SDir} {d : SDir} :
    Act.skip d ∈ traceDir op (.group a f r e) ↔ if presentS op a = true then d ∈ e else d ∈ r := by
  show Act.skip d ∈ (if presentS op a = true then _ else _) ↔ _
  split
  · simp only [List.mem_append, skip_not_mem_run, mem_map_skip, false_or]
  · simp only [List.mem_cons, List.mem_append, skip_not_mem_run, mem_map_skip, reduceCtorEq, false_or, or_false]

theorem run_mem_traceDir {op : OpInst} {a f : SDir} {r e : List SDir} {d : SDir} :
    Act.run d ∈ traceDir op (.group a f r e) ↔ if presentS op a = true then d ∈ f :: r else d = f ∨ d ∈ e := by
  show Act.run d ∈ (if presentS op a = true then _ else _) ↔ _
  split
  · simp only [List.mem_append, run_not_mem_skip, mem_map_run, or_false]
  · simp only [List.mem_cons, List.mem_append, run_not_mem_skip, mem_map_run, Act.run.injEq, false_or]

theorem mem_trace_iff {op : OpInst} {fmt : List Dir} {d : SDir} :
    Act.run d ∈ trace op fmt ∨ Act.skip d ∈ trace op fmt ↔ d ∈ allS fmt := by
  induction fmt with
  | nil => simp only [trace, List.flatMap_nil, allS, List.not_mem_nil, or_self]
  | cons x xs ih =>
    rw [mem_trace_cons, mem_trace_cons, or_or_or_comm, ih]
    cases x with
    | s d' =>
      simp only [allS, List.mem_cons, traceDir, Act.run.injEq, reduceCtorEq, List.not_mem_nil, or_false, or_self]
    | group a f r e =>
      rw [run_mem_traceDir, skip_mem_traceDir]
      simp only [allS, List.mem_append, List.mem_cons]
      split
      · rfl
      · exact or_congr_left or_right_comm

/-- an emptied directive sits in the branch the printer left out: its construct is empty (`GroupCons`), and it
is no aggregate.  Only `fragD` is assumed, not `wfD`: `decl_slots_agree` is stated without `wfD`. -/
theorem skip_ok {D : Defs} {op : OpInst} {fmt : List Dir} (hfrag : fragD fmt = true) (hv : ValidD D op fmt)
    {d : SDir} (h : Act.skip d ∈ trace op fmt) : emptyS op d ∧ inFragment d = true := by
  induction fmt with
  | nil => cases h
  | cons x xs ih =>
    rcases mem_trace_cons.mp h with h | h
    · cases x with
      | s d' => exact absurd h not_skip_s
      | group a f r e =>
        simp only [fragD, Bool.and_eq_true] at hfrag
        have hc : GroupCons op a f r e := hv.2.2.1
        rw [skip_mem_traceDir] at h
        unfold GroupCons at hc
        split at h
        · rw [if_pos ‹_›] at hc; exact ⟨hc.1 d h, List.all_eq_true.mp hfrag.1.2 _ h⟩
        · rw [if_neg ‹_›] at hc; exact ⟨hc d (List.mem_cons_of_mem _ h), List.all_eq_true.mp hfrag.1.1.2 _ h⟩
    · exact ih (fragD_tail hfrag) (validD_tail hv) h

/-- an emptied directive is one `set_empty` can undo; a parsed unit attribute variable is one the operation has -/
def ActOK (op : OpInst) : Act → Prop
  | .skip d => okInGroup d = true
  | .run d => unitSet op d

/-- a unit attribute variable is parsed only in a taken group -/
theorem act_ok {D : Defs} {op : OpInst} {fmt : List Dir} {K : List Cls} (hwf : wfD fmt K = true)
    (hv : ValidD D op fmt) {a : Act} (h : a ∈ trace op fmt) : ActOK op a := by
  induction fmt with
  | nil => cases h
  | cons x xs ih =>
    rcases mem_trace_cons.mp h with h | h
    · cases x with
      | s d' =>
        obtain rfl : a = .run d' := List.mem_singleton.mp h
        simp only [wfD, Bool.and_eq_true] at hwf
        cases d' <;> first | trivial | cases hwf.1.1
      | group a' f r e =>
        obtain ⟨hfirst, _, hing, hinge, hnu, _⟩ := wfD_group hwf
        have hc : GroupCons op a' f r e := hv.2.2.1
        unfold GroupCons at hc
        cases a with
        | skip d =>
          rw [skip_mem_traceDir] at h
          split at h
          · exact List.all_eq_true.mp hinge _ h
          · exact List.all_eq_true.mp hing _ (List.mem_cons_of_mem _ h)
        | run d =>
          rw [run_mem_traceDir] at h
          split at h
          · rw [if_pos ‹_›] at hc; exact hc.2 d h
          · cases d with
            | unitAttr n p u =>
              rcases h with rfl | h
              · cases hfirst
              · exact absurd h (hnu n p u)
            | _ => trivial
    · exact ih (wfD_tail hwf) (validD_tail hv) h

end Xdsl.DeclFormat
