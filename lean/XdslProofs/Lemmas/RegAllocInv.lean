import XdslProofs.Lemmas.RegAllocBasics
import XdslProofs.Lemmas.Except
/-!
C19: the invariant of the backward block-naive allocator (`Inv`; `stack_inv` in `XdslProofs.C19` is the
part of it that speaks of the register stack) and its preservation by the calls one operation makes:
`allocate_value`, `free_value` / `RegisterStack.push`, `allocate_values_same_reg`.

Every such call is a combination of three things — a register is popped (`Inv.pop`), a value without
register receives one (`Inv.assign`), a value with a register becomes live (`Inv.live`).  The
feasibility witness `a0` is needed in two places: a live value never sits in the register of a
pre-assigned value that is not live yet (`Inv.no_clash`), and an in/out operand that has its register
before its result is not live behind the operation (`inv_assign_tied_live`).

The walk itself is followed with `At` (last section): `Inv` + every seen value is live or gone; the phases
of the walk are rules about `At` (`At.alloc`, `At.free`, `At.pair`), adapted to each other by `At.conseq`.
-/
namespace Xdsl.RegAlloc
open Xdsl.RegMachine

/-- facts about the configuration that never change during allocation -/
structure Static (c : Cfg) (pre : AL ValId Reg) (A0 : List Reg) (U : List ValId) : Prop where
  zeroNotAlloc : c.z = true → 0 ∉ A0
  allocLt : ∀ r : Nat, r ∈ A0 → r < c.infBase
  basePos : c.z = true → 0 < c.infBase
  preLt : ∀ (v : ValId) (r : Nat), AL.get pre v = some r → r < c.infBase
  /-- registers of pre-assigned values that occur in the function are excluded from the pool -/
  usedOut : ∀ v ∈ U, ∀ r, AL.get pre v = some r → r ∉ A0

/-- the pool of `allocate_func`: real registers without `zero`, of which those are kept (`keep`) that
no pre-assigned value of the function (`U`) sits in -/
theorem Static.of_pool {c : Cfg} {pre : AL ValId Reg} {pool : List Reg} {U : List ValId} {keep : Reg → Bool}
    (hpool : ∀ r : Nat, r ∈ pool → r < c.infBase ∧ (c.z = true → r ≠ 0))
    (hpreLt : ∀ (v : ValId) (r : Nat), AL.get pre v = some r → r < c.infBase)
    (hbase : c.z = true → 0 < c.infBase)
    (hkeep : ∀ r, keep r = true → r ∉ U.filterMap (AL.get pre)) : Static c pre (pool.filter keep) U where
  zeroNotAlloc := fun hz hm => (hpool 0 (List.mem_filter.1 hm).1).2 hz rfl
  allocLt := fun r hr => (hpool r (List.mem_filter.1 hr).1).1
  basePos := hbase
  preLt := hpreLt
  usedOut := fun v hv r hr hm => hkeep r (List.mem_filter.1 hm).2 (List.mem_filterMap.2 ⟨v, hv, hr⟩)

/-- The allocator invariant at a point of the backward walk.  `V`: values seen so far (they all
have a register), `L`: values live at this point, `Tie a`: the in/out ties seen so far hold in `a`
(a register that is neither from the pool nor new is forced by pre-assignment + ties). -/
structure Inv (c : Cfg) (pre : AL ValId Reg) (A0 : List Reg) (Zc : List ValId)
    (Tie : (ValId → Reg) → Prop) (s : St) (V L : List ValId) : Prop where
  ext : ∀ v r, AL.get pre v = some r → AL.get s.asg v = some r
  allocd : ∀ v ∈ V, (AL.get s.asg v).isSome = true
  only : ∀ v, (AL.get s.asg v).isSome = true → (AL.get pre v).isSome = true ∨ v ∈ V
  liveSub : ∀ v ∈ L, v ∈ V
  pw : PW c.z (allocOf s.asg) L
  /-- available ∩ live-assigned = ∅ -/
  notAvail : ∀ v ∈ L, allocOf s.asg v ∉ s.avail
  nodup : s.avail.Nodup
  /-- only pool registers and already created infinite registers are on the stack -/
  availOk : ∀ r : Nat, r ∈ s.avail → r ∈ A0 ∨ (c.infBase ≤ r ∧ r < c.infBase + s.nextInf)
  tbl : s.allocatable = A0
  infFresh : ∀ (v : ValId) (r : Nat), AL.get s.asg v = some r → c.infBase ≤ r → r < c.infBase + s.nextInf
  /-- where the register of a value that was not pre-assigned comes from -/
  origin : ∀ (v : ValId) (r : Nat), AL.get s.asg v = some r → AL.get pre v = none →
    r ∈ A0 ∨ c.infBase ≤ r ∨ (c.z = true ∧ r = 0 ∧ v ∈ Zc)
    ∨ (∀ a : ValId → Reg, (∀ v r, AL.get pre v = some r → a v = r) → Tie a → a v = r)

theorem allocOf_of_get {asg : AL ValId Reg} {v : ValId} {r : Reg} (h : AL.get asg v = some r) :
    allocOf asg v = r := by simp [allocOf, h]

theorem get_of_isSome {asg : AL ValId Reg} {v : ValId} (h : (AL.get asg v).isSome = true) :
    AL.get asg v = some (allocOf asg v) := by
  cases hg : AL.get asg v with
  | none => rw [hg] at h; simp at h
  | some r => simp [allocOf, hg]

theorem allocOf_set_ne {asg : AL ValId Reg} {v w : ValId} {r : Reg} (h : w ≠ v) :
    allocOf (AL.set asg v r) w = allocOf asg w := by
  simp [allocOf, AL.get_set, h]

theorem allocOf_set_eq {asg : AL ValId Reg} {v : ValId} {r : Reg} :
    allocOf (AL.set asg v r) v = r := by
  simp [allocOf, AL.get_set]

theorem foldE_cons {α β : Type} (f : β → α → Except Err β) (s : β) (a : α) (as : List α) :
    foldE f s (a :: as) = match f s a with | .error e => .error e | .ok s' => foldE f s' as := rfl

theorem foldE_eq_foldlM {α β : Type} (f : β → α → Except Err β) : ∀ (l : List α) (s : β), foldE f s l = l.foldlM f s
  | [], _ => rfl
  | a :: l, s => by
    rw [foldE_cons, List.foldlM_cons]
    cases f s a with
    | error e => rfl
    | ok t => exact foldE_eq_foldlM f l t

theorem foldE_singleton {α β : Type} {f : β → α → Except Err β} {s s' : β} {a : α}
    (h : foldE f s [a] = .ok s') : f s a = .ok s' := by
  simpa only [foldE_eq_foldlM, List.foldlM_cons, List.foldlM_nil, bind_pure] using h

theorem foldE_append {α β : Type} (f : β → α → Except Err β) (xs ys : List α) (s s' : β) :
    foldE f s (xs ++ ys) = .ok s' ↔ ∃ s1, foldE f s xs = .ok s1 ∧ foldE f s1 ys = .ok s' := by
  simp only [foldE_eq_foldlM, List.foldlM_append, bind_eq_ok]

def Extends (s s' : St) : Prop := ∀ w r, AL.get s.asg w = some r → AL.get s'.asg w = some r

theorem Extends.refl (s : St) : Extends s s := fun _ _ h => h

theorem Extends.trans {s1 s2 s3 : St} (h12 : Extends s1 s2) (h23 : Extends s2 s3) : Extends s1 s3 :=
  fun w r h => h23 w r (h12 w r h)

theorem Extends.allocOf {s s' : St} (h : Extends s s') {w : ValId}
    (hw : (AL.get s.asg w).isSome = true) : allocOf s'.asg w = allocOf s.asg w :=
  allocOf_of_get (h w _ (get_of_isSome hw))

theorem Extends.isSome {s s' : St} (h : Extends s s') {w : ValId}
    (hw : (AL.get s.asg w).isSome = true) : (AL.get s'.asg w).isSome = true := by
  rw [h w _ (get_of_isSome hw)]; rfl

theorem Extends.set {s s' : St} {v : ValId} {r : Nat} (hv : AL.get s.asg v = none)
    (hasg : s'.asg = AL.set s.asg v r) : Extends s s' := fun w x hw => by
  have hwv : w ≠ v := fun e => by rw [e, hv] at hw; cases hw
  rw [hasg, AL.get_set, if_neg hwv]; exact hw

theorem af_of_ext {af : ValId → Reg} {s s' : St} (he : Extends s s')
    (hf : ∀ v r, AL.get s'.asg v = some r → af v = r) : ∀ v r, AL.get s.asg v = some r → af v = r :=
  fun v r h => hf v r (he v r h)

theorem af_allocOf {af : ValId → Reg} {s : St} (hf : ∀ v r, AL.get s.asg v = some r → af v = r)
    {v : ValId} (hv : (AL.get s.asg v).isSome = true) : af v = allocOf s.asg v := by
  rw [hf v _ (get_of_isSome hv)]

theorem pop_cases {c : Cfg} {s s' : St} {r : Nat} (h : pop c s = .ok (r, s')) :
    s'.asg = s.asg ∧ s'.allocatable = s.allocatable ∧
    ((s.avail = r :: s'.avail ∧ s'.nextInf = s.nextInf)
     ∨ (s.avail = [] ∧ s'.avail = [] ∧ r = c.infBase + s.nextInf ∧ s'.nextInf = s.nextInf + 1)) := by
  unfold pop at h
  split at h
  · rename_i r0 rest hav
    cases h
    exact ⟨rfl, rfl, Or.inl ⟨hav, rfl⟩⟩
  · rename_i hav
    split at h
    · cases h
      exact ⟨rfl, rfl, Or.inr ⟨hav, hav, rfl, rfl⟩⟩
    · cases h

section Steps
variable {c : Cfg} {pre : AL ValId Reg} {A0 : List Reg} {Zc U : List ValId}
  {Tie : (ValId → Reg) → Prop} {a0 : ValId → Reg}

theorem Inv.assigned {s : St} {V L : List ValId} (h : Inv c pre A0 Zc Tie s V L) {v : ValId}
    (hv : v ∈ L) : (AL.get s.asg v).isSome = true :=
  h.allocd v (h.liveSub v hv)

theorem Inv.mono {s : St} {V V2 L L2 : List ValId} (h : Inv c pre A0 Zc Tie s V L)
    (hV : ∀ v, v ∈ V ↔ v ∈ V2) (hL : ∀ v ∈ L2, v ∈ L) : Inv c pre A0 Zc Tie s V2 L2 where
  ext := h.ext
  allocd := fun v hv => h.allocd v ((hV v).2 hv)
  only := fun v hv => (h.only v hv).imp id (hV v).1
  liveSub := fun v hv => (hV v).1 (h.liveSub v (hL v hv))
  pw := fun v hv w hw => h.pw v (hL v hv) w (hL w hw)
  notAvail := fun v hv => h.notAvail v (hL v hv)
  nodup := h.nodup
  availOk := h.availOk
  tbl := h.tbl
  infFresh := h.infFresh
  origin := h.origin

/-- the invariant looks at the assignment only through `AL.get` -/
theorem Inv.congr {s s2 : St} {V L : List ValId} (h : Inv c pre A0 Zc Tie s V L)
    (hasg : ∀ v, AL.get s2.asg v = AL.get s.asg v) (hav : s2.avail = s.avail)
    (htbl : s2.allocatable = s.allocatable) (hni : s2.nextInf = s.nextInf) :
    Inv c pre A0 Zc Tie s2 V L := by
  have hal : ∀ v, allocOf s2.asg v = allocOf s.asg v := fun v => by simp [allocOf, hasg v]
  exact {
    ext := fun v r hv => by rw [hasg]; exact h.ext v r hv
    allocd := fun v hv => by rw [hasg]; exact h.allocd v hv
    only := fun v hv => h.only v (by rw [← hasg]; exact hv)
    liveSub := h.liveSub
    pw := fun v hv w hw hne heq => by
      rw [hal v, hal w] at heq; rw [hal v]; exact h.pw v hv w hw hne heq
    notAvail := fun v hv => by rw [hal v, hav]; exact h.notAvail v hv
    nodup := hav ▸ h.nodup
    availOk := fun r hr => by rw [hni]; exact h.availOk r (hav ▸ hr)
    tbl := htbl.trans h.tbl
    infFresh := fun v r hv hge => by rw [hni]; exact h.infFresh v r (by rw [← hasg]; exact hv) hge
    origin := fun v r hv hp => h.origin v r (by rw [← hasg]; exact hv) hp }

theorem Inv.addV {s : St} {V L : List ValId} {i : ValId}
    (h : Inv c pre A0 Zc Tie s V L) (hi : (AL.get s.asg i).isSome = true) :
    Inv c pre A0 Zc Tie s (i :: V) L :=
  { h with
    allocd := fun v hv => (List.mem_cons.1 hv).elim (· ▸ hi) (h.allocd v)
    only := fun v hv => (h.only v hv).imp id (List.mem_cons_of_mem _)
    liveSub := fun v hv => List.mem_cons_of_mem _ (h.liveSub v hv) }

theorem Inv.live {s : St} {V M : List ValId} {v : ValId}
    (h : Inv c pre A0 Zc Tie s V M) (hv : v ∈ V) (hav : allocOf s.asg v ∉ s.avail)
    (hclash : ∀ w ∈ M, w ≠ v → allocOf s.asg w = allocOf s.asg v → (c.z = true ∧ allocOf s.asg v = 0)) :
    Inv c pre A0 Zc Tie s V (v :: M) :=
  { h with
    liveSub := fun w hw => (List.mem_cons.1 hw).elim (· ▸ hv) (h.liveSub w)
    pw := pw_cons h.pw hclash
    notAvail := fun w hw => (List.mem_cons.1 hw).elim (· ▸ hav) (h.notAvail w) }

/-- a value without a register receives `r` (it is not live yet): `r` is a pool register, an infinite
register created by now, `zero` for a constant 0, or forced by pre-assignment and ties -/
theorem Inv.assign {s : St} {V M : List ValId} {v : ValId} {r : Nat}
    (h : Inv c pre A0 Zc Tie s V M) (hv : AL.get s.asg v = none)
    (hinf : c.infBase ≤ r → r < c.infBase + s.nextInf)
    (horigin : r ∈ A0 ∨ c.infBase ≤ r ∨ (c.z = true ∧ r = 0 ∧ v ∈ Zc)
      ∨ (∀ a : ValId → Reg, (∀ v r, AL.get pre v = some r → a v = r) → Tie a → a v = r)) :
    Inv c pre A0 Zc Tie { s with asg := AL.set s.asg v r } (v :: V) M := by
  have hvV : v ∉ V := fun hm => by simpa [hv] using h.allocd v hm
  have hpre : AL.get pre v = none := by
    cases hp : AL.get pre v with
    | none => rfl
    | some rp => simpa [hv] using h.ext v rp hp
  have hsame : ∀ w ∈ M, allocOf (AL.set s.asg v r) w = allocOf s.asg w :=
    fun w hw => allocOf_set_ne fun e => hvV (e ▸ h.liveSub w hw)
  exact {
    ext := fun w rw hw => by
      have hwv : w ≠ v := fun e => by rw [e, hpre] at hw; cases hw
      simp only [AL.get_set, if_neg hwv]; exact h.ext w rw hw
    allocd := fun w hw => by
      simp only [AL.get_set]
      split
      · rfl
      · rename_i hwv; exact h.allocd w ((List.mem_cons.1 hw).resolve_left hwv)
    only := fun w hw => by
      by_cases hwv : w = v
      · exact Or.inr (hwv ▸ List.mem_cons_self ..)
      · simp only [AL.get_set, if_neg hwv] at hw
        exact (h.only w hw).imp id (List.mem_cons_of_mem _)
    liveSub := fun w hw => List.mem_cons_of_mem _ (h.liveSub w hw)
    pw := fun x hx y hy => by simp only [hsame x hx, hsame y hy]; exact h.pw x hx y hy
    notAvail := fun x hx => by simp only [hsame x hx]; exact h.notAvail x hx
    nodup := h.nodup
    availOk := h.availOk
    tbl := h.tbl
    infFresh := fun w rw hw hge => by
      simp only [AL.get_set] at hw
      split at hw
      · cases hw; exact hinf hge
      · exact h.infFresh w rw hw hge
    origin := fun w rw hw hp => by
      simp only [AL.get_set] at hw
      split at hw
      · rename_i hwv; cases hw; subst hwv; exact horigin
      · exact h.origin w rw hw hp }

theorem Inv.shrink {s s' : St} {V M : List ValId} (h : Inv c pre A0 Zc Tie s V M)
    (hasg : s'.asg = s.asg) (htbl : s'.allocatable = s.allocatable)
    (hav : s'.avail.Sublist s.avail) (hni : s.nextInf ≤ s'.nextInf) : Inv c pre A0 Zc Tie s' V M where
  ext := hasg ▸ h.ext
  allocd := hasg ▸ h.allocd
  only := hasg ▸ h.only
  liveSub := h.liveSub
  pw := hasg ▸ h.pw
  notAvail := fun v hv hm => h.notAvail v hv (hasg ▸ hav.subset hm)
  nodup := h.nodup.sublist hav
  availOk := fun r hr => (h.availOk r (hav.subset hr)).imp id fun ⟨h1, h2⟩ => ⟨h1, by omega⟩
  tbl := htbl.trans h.tbl
  infFresh := fun v r hv hge => by have := h.infFresh v r (hasg ▸ hv) hge; omega
  origin := hasg ▸ h.origin

theorem Inv.pop {s s' : St} {V M : List ValId} {r : Nat}
    (hst : Static c pre A0 U) (h : Inv c pre A0 Zc Tie s V M) (hp : pop c s = .ok (r, s')) :
    Inv c pre A0 Zc Tie s' V M ∧ s'.asg = s.asg ∧ r ∉ s'.avail ∧ (∀ w ∈ M, allocOf s.asg w ≠ r)
    ∧ (r ∈ A0 ∨ c.infBase ≤ r) ∧ (c.infBase ≤ r → r < c.infBase + s'.nextInf) := by
  obtain ⟨hasg, htbl, ⟨hav, hni⟩ | ⟨hav, hav', hr, hni⟩⟩ := pop_cases hp
  · -- the top of the stack
    have hnd := h.nodup
    rw [hav] at hnd
    have hrmem : r ∈ s.avail := hav ▸ List.mem_cons_self ..
    refine ⟨h.shrink hasg htbl (hav ▸ List.sublist_cons_self ..) (by omega), hasg,
      (List.nodup_cons.1 hnd).1, fun w hw e => h.notAvail w hw (e ▸ hrmem), ?_, fun hge => ?_⟩
    · exact (h.availOk r hrmem).imp id And.left
    · rcases h.availOk r hrmem with h1 | h1
      · have := hst.allocLt r h1; omega
      · omega
  · -- a new infinite register: larger than every register in use
    refine ⟨h.shrink hasg htbl (by rw [hav, hav']; exact .slnil) (by omega), hasg,
      by simp [hav'], fun w hw e => ?_, Or.inr (by omega), fun _ => by omega⟩
    have := h.infFresh w r (e ▸ get_of_isSome (h.assigned hw)) (by omega)
    omega

/-- The witness at work: a live value sits in a real register `r` outside the pool only if the
witness `a0` puts it there too (its register is pre-assigned or forced) or it is a constant in `zero`;
so if `a0` keeps `r` for a value `x` that is not live yet, only the zero-register case remains. -/
theorem Inv.no_clash {s : St} {V M T : List ValId} {x : ValId} {r : Nat}
    (h : Inv c pre A0 Zc Tie s V M)
    (hext0 : ∀ v r, AL.get pre v = some r → a0 v = r) (hTie0 : Tie a0)
    (ha0 : PW c.z a0 T) (hMT : ∀ w ∈ M, w ∈ T) (hxT : x ∈ T) (hxM : x ∉ M) (hx : a0 x = r)
    (hrA0 : r ∉ A0) (hrLt : r < c.infBase) :
    ∀ w ∈ M, allocOf s.asg w = r → (c.z = true ∧ r = 0) := by
  intro w hw heq
  have hg := get_of_isSome (h.assigned hw)
  rw [heq] at hg
  have hforced : a0 w = r ∨ (c.z = true ∧ r = 0) := by
    cases hpw : AL.get pre w with
    | some rw =>
      have := h.ext w rw hpw
      rw [hg] at this
      cases this
      exact Or.inl (hext0 w r hpw)
    | none =>
      rcases h.origin w r hg hpw with h1 | h1 | h1 | h1
      · exact absurd h1 hrA0
      · omega
      · exact Or.inr ⟨h1.1, h1.2.1⟩
      · exact Or.inl (h1 a0 hext0 hTie0)
  rcases hforced with h0 | h0
  · have := ha0 w (hMT w hw) x hxT (fun e => hxM (e ▸ hw)) (h0.trans hx.symm)
    exact ⟨this.1, h0 ▸ this.2⟩
  · exact h0

theorem allocValue_of_isSome {s : St} {v : ValId}
    (h : (AL.get s.asg v).isSome = true) : allocValue c Zc s v = .ok s := by
  unfold allocValue; simp [h]

theorem allocValue_cases {s s' : St} {v : ValId}
    (h : allocValue c Zc s v = .ok s') :
    ((AL.get s.asg v).isSome = true ∧ s' = s)
    ∨ (AL.get s.asg v = none ∧ c.z = true ∧ v ∈ Zc ∧ s' = { s with asg := AL.set s.asg v 0 })
    ∨ (AL.get s.asg v = none ∧
        ∃ r s1, pop c s = .ok (r, s1) ∧ s' = { s1 with asg := AL.set s1.asg v r }) := by
  unfold allocValue at h
  split at h
  · rename_i hs; cases h; exact Or.inl ⟨hs, rfl⟩
  · rename_i hs
    have hnone : AL.get s.asg v = none := by simpa using hs
    split at h
    · rename_i hz
      cases h
      simp only [Bool.and_eq_true, List.contains_eq_mem, decide_eq_true_eq] at hz
      exact Or.inr (Or.inl ⟨hnone, hz.1, hz.2, rfl⟩)
    · split at h
      · cases h
      · rename_i r s1 hp; cases h; exact Or.inr (Or.inr ⟨hnone, r, s1, hp, rfl⟩)

theorem allocValue_extends {s s' : St} {v : ValId}
    (h : allocValue c Zc s v = .ok s') : Extends s s' := by
  rcases allocValue_cases h with ⟨_, hs⟩ | ⟨hnone, _, _, rfl⟩ | ⟨hnone, r, s1, hp, rfl⟩
  · exact hs ▸ Extends.refl s
  · exact Extends.set hnone rfl
  · exact Extends.set hnone (by rw [(pop_cases hp).1])

/-- a value without a register receives one from the stack (or a new infinite one) and is live from
here on; no feasibility witness is needed -/
theorem inv_pop_live {s s1 : St} {V M : List ValId} {v : ValId} {r : Nat}
    (hst : Static c pre A0 U) (hinv : Inv c pre A0 Zc Tie s V M)
    (hnone : AL.get s.asg v = none) (hp : pop c s = .ok (r, s1)) :
    Inv c pre A0 Zc Tie { s1 with asg := AL.set s1.asg v r } (v :: V) (v :: M) := by
  obtain ⟨hinv1, hasg1, hrav, hfresh, horg, hinf⟩ := hinv.pop hst hp
  rw [← hasg1] at hnone
  refine (hinv1.assign hnone hinf (horg.imp_right Or.inl)).live
    (List.mem_cons_self ..) (by simpa only [allocOf_set_eq] using hrav) (fun w hw hwv heq => ?_)
  simp only [allocOf_set_eq, allocOf_set_ne hwv, hasg1] at heq
  exact absurd heq (hfresh w hw)

/-- `allocate_value` of a value that is live from here on (an operand, a returned value) -/
theorem inv_allocValue_live {s s' : St} {V M T : List ValId} {v : ValId}
    (hst : Static c pre A0 U) (hinv : Inv c pre A0 Zc Tie s V M) (hvU : v ∈ U)
    (h : allocValue c Zc s v = .ok s')
    (hVM : v ∈ V → v ∈ M)
    (hext0 : ∀ v r, AL.get pre v = some r → a0 v = r) (hTie0 : Tie a0)
    (ha0 : PW c.z a0 T) (hMT : ∀ w ∈ M, w ∈ T) (hvT : v ∈ T) :
    Inv c pre A0 Zc Tie s' (v :: V) (v :: M) := by
  rcases allocValue_cases h with ⟨hsome, hs⟩ | ⟨hnone, hz, hvZ, rfl⟩ | ⟨hnone, r, s1, hp, rfl⟩
  · rw [hs]
    by_cases hvM : v ∈ M
    · exact hinv.mono
        (fun w => ⟨List.mem_cons_of_mem _, fun hw => (List.mem_cons.1 hw).elim (· ▸ hinv.liveSub v hvM) id⟩)
        (fun w hw => (List.mem_cons.1 hw).elim (· ▸ hvM) id)
    · -- a pre-assigned value seen for the first time: its register is not in the pool
      have hpre := (hinv.only v hsome).resolve_right fun hv => hvM (hVM hv)
      obtain ⟨rv, hrv⟩ := Option.isSome_iff_exists.1 hpre
      have halloc : allocOf s.asg v = rv := allocOf_of_get (hinv.ext v rv hrv)
      have hrvA0 := hst.usedOut v hvU rv hrv
      have hrvLt := hst.preLt v rv hrv
      refine (hinv.addV hsome).live (List.mem_cons_self ..) (fun hmem => ?_) (fun w hw _ heq => ?_)
      · rw [halloc] at hmem
        rcases hinv.availOk rv hmem with h1 | h1
        · exact hrvA0 h1
        · omega
      · rw [halloc] at heq ⊢
        exact hinv.no_clash hext0 hTie0 ha0 hMT hvT hvM (hext0 v rv hrv) hrvA0 hrvLt w hw heq
  · -- a constant zero goes to `zero`, which is never on the stack
    have hbase := hst.basePos hz
    refine (hinv.assign hnone (fun hge => by omega) (Or.inr (Or.inr (Or.inl ⟨hz, rfl, hvZ⟩)))).live
      (List.mem_cons_self ..) (fun hmem => ?_) (fun w _ _ _ => ⟨hz, allocOf_set_eq⟩)
    simp only [allocOf_set_eq] at hmem
    rcases hinv.availOk 0 hmem with h1 | h1
    · exact hst.zeroNotAlloc hz h1
    · omega
  · exact inv_pop_live hst hinv hnone hp

theorem freeValue_asg (c : Cfg) (s : St) (d : ValId) : (freeValue c s d).asg = s.asg := by
  unfold freeValue
  split
  · unfold push; split <;> rfl
  · rfl

theorem foldl_freeValue_asg (c : Cfg) (ds : List ValId) (s : St) :
    (ds.foldl (freeValue c) s).asg = s.asg :=
  foldl_inv (fun t => t.asg = s.asg) (fun d _ t e => (freeValue_asg c t d).trans e) s rfl

theorem inv_free {V L : List ValId} {s : St} {d : ValId}
    (hst : Static c pre A0 U) (hinv : Inv c pre A0 Zc Tie s V L)
    (hd : (AL.get s.asg d).isSome = true)
    (hclash : ∀ w ∈ L, allocOf s.asg w = allocOf s.asg d → (c.z = true ∧ allocOf s.asg d = 0)) :
    Inv c pre A0 Zc Tie (freeValue c s d) V L := by
  have hg := get_of_isSome hd
  unfold freeValue
  rw [hg]
  simp only
  unfold push
  split
  · exact hinv
  · rename_i hcond
    -- the register goes back on the stack: it is an infinite one or allocatable, hence not `zero`
    have hpushed : c.infBase ≤ allocOf s.asg d ∨ allocOf s.asg d ∈ A0 := by
      rw [← hinv.tbl]
      simp only [isInf, Bool.and_eq_true, Bool.not_eq_true', decide_eq_false_iff_not, not_and,
        List.contains_eq_mem] at hcond
      by_cases h1 : c.infBase ≤ allocOf s.asg d
      · exact Or.inl h1
      · exact Or.inr (by simpa using hcond h1)
    exact { hinv with
      notAvail := fun w hw => by
        simp only [List.mem_cons, List.mem_filter, bne_iff_ne, ne_eq, not_or, not_and, Decidable.not_not]
        refine ⟨fun heq => ?_, fun hm => absurd hm (hinv.notAvail w hw)⟩
        obtain ⟨hz, h0⟩ := hclash w hw heq
        rcases hpushed with h1 | h1
        · have := hst.basePos hz; rw [h0] at h1; omega
        · rw [h0] at h1; exact hst.zeroNotAlloc hz h1
      nodup := List.nodup_cons.2 ⟨by simp [List.mem_filter], hinv.nodup.filter _⟩
      availOk := fun r hr => by
        simp only [List.mem_cons, List.mem_filter] at hr
        rcases hr with rfl | ⟨hr, _⟩
        · exact hpushed.symm.imp id fun h1 => ⟨h1, hinv.infFresh d _ hg h1⟩
        · exact hinv.availOk r hr }

/-- a value `i` that is not live receives the register `r` of a value `d` tied to it; with a zero
register, `r` is not `zero` (a constant-zero `d` would not make `i` one) -/
theorem inv_assign_tied {s : St} {V M : List ValId} {i d : ValId} {r : Nat}
    (hinv : Inv c pre A0 Zc Tie s V M) (hnz : c.z = true → r ≠ 0)
    (hi : AL.get s.asg i = none) (hd : AL.get s.asg d = some r)
    (hforce : ∀ a, Tie a → a i = a d) :
    Inv c pre A0 Zc Tie { s with asg := AL.set s.asg i r } (i :: V) M := by
  refine hinv.assign hi (hinv.infFresh d r hd) ?_
  -- where `r` comes from for `d` is where it comes from for `i`
  cases hpd : AL.get pre d with
  | some rd =>
    have := hinv.ext d rd hpd
    rw [hd] at this
    cases this
    exact Or.inr (Or.inr (Or.inr fun a ha hT => (hforce a hT).trans (ha d r hpd)))
  | none =>
    rcases hinv.origin d r hd hpd with h1 | h1 | h1 | h1
    · exact Or.inl h1
    · exact Or.inr (Or.inl h1)
    · exact absurd h1.2.1 (hnz h1.1)
    · exact Or.inr (Or.inr (Or.inr fun a ha hT => (hforce a hT).trans (h1 a ha hT)))

/-- the in/out result `d` receives the register of its (pre-assigned) operand `i` and holds it -/
theorem inv_assign_tied_live {s : St} {V M T : List ValId} {i d : ValId} {r : Nat}
    (hst : Static c pre A0 U) (hinv : Inv c pre A0 Zc Tie s V M) (hz : c.z = false)
    (hd : AL.get s.asg d = none) (hi : AL.get s.asg i = some r) (hiU : i ∈ U)
    (hiVM : i ∈ V → i ∈ M) (hforce : ∀ a, Tie a → a i = a d)
    (hext0 : ∀ v r, AL.get pre v = some r → a0 v = r) (hTie0 : Tie a0)
    (ha0 : PW c.z a0 T) (hMT : ∀ w ∈ M, w ∈ T) (hdT : d ∈ T) :
    Inv c pre A0 Zc Tie { s with asg := AL.set s.asg d r } (d :: V) (d :: M) := by
  have hid : i ≠ d := fun e => by rw [e, hd] at hi; cases hi
  have ha0id : a0 i = a0 d := hforce a0 hTie0
  -- the witness gives `i` and `d` one register, so `i` is not live after the operation, hence new
  -- here, hence pre-assigned
  have hiM : i ∉ M := fun hm => by
    have := ha0 i (hMT i hm) d hdT hid ha0id
    rw [hz] at this; exact absurd this.1 Bool.false_ne_true
  have hprei := (hinv.only i (by rw [hi]; rfl)).resolve_right fun hv => hiM (hiVM hv)
  obtain ⟨ri, hri⟩ := Option.isSome_iff_exists.1 hprei
  have hrr : ri = r := by have := hinv.ext i ri hri; rw [hi] at this; cases this; rfl
  subst hrr
  have hrA0 := hst.usedOut i hiU ri hri
  have hrLt := hst.preLt i ri hri
  have hdM : d ∉ M := fun hm => by simpa [hd] using hinv.assigned hm
  refine (hinv.assign hd (fun hge => by omega)
      (Or.inr (Or.inr (Or.inr fun a ha hT => (hforce a hT).symm.trans (ha i ri hri))))).live
    (List.mem_cons_self ..) (fun hmem => ?_) (fun w hw hwd heq => ?_)
  · simp only [allocOf_set_eq] at hmem
    rcases hinv.availOk ri hmem with h1 | h1
    · exact hrA0 h1
    · omega
  · simp only [allocOf_set_eq, allocOf_set_ne hwd] at heq ⊢
    exact hinv.no_clash hext0 hTie0 ha0 hMT hdT hdM (ha0id.symm.trans (hext0 i ri hri)) hrA0 hrLt
      w hw heq

/-- An operation that the witness `a0` passes also passes under every assignment `af` that agrees
with a state in which its results and the values live after it were live together (`M`); the in/out
pairs are the caller's. -/
theorem Inv.opOk {af : ValId → Reg} {s : St} {V M Z Z' L : List ValId} {o : Op}
    (hinv : Inv c pre A0 Zc Tie s V M) (hst : Static c pre A0 U)
    (hext0 : ∀ v r, AL.get pre v = some r → a0 v = r) (hTie0 : Tie a0)
    (hgood : opOk c.z a0 Z Z' o L = true) (hZc : ∀ d ∈ o.defs, d ∈ Zc → d ∈ Z')
    (hM : ∀ w ∈ o.defs ++ L, w ∈ M) (haf : ∀ w ∈ o.defs ++ L, af w = allocOf s.asg w)
    (hios : ∀ p ∈ o.ios, af p.1 = af p.2) : opOk c.z af Z Z' o L = true := by
  obtain ⟨hnd, hdZ, _, hzero0, _⟩ := opOk_iff.1 hgood
  rw [opOk_iff]
  refine ⟨hnd, hdZ, fun d hd w hw hne heq => ?_, fun hz d hd h0 => ?_, hios⟩
  · have hd' := List.mem_append_left L hd
    rw [haf d hd', haf w hw] at heq
    rw [haf d hd']
    have := hinv.pw w (hM w hw) d (hM d hd') hne heq
    exact ⟨this.1, heq ▸ this.2⟩
  · -- a result in `zero`: pre-assigned or forced there as in the witness, or a constant 0
    have hd' := List.mem_append_left L hd
    rw [haf d hd'] at h0
    have hg := get_of_isSome (hinv.assigned (hM d hd'))
    rw [h0] at hg
    cases hp : AL.get pre d with
    | some r =>
      have := hinv.ext d r hp
      rw [hg] at this
      cases this
      exact hzero0 hz d hd (hext0 d 0 hp)
    | none =>
      rcases hinv.origin d 0 hg hp with h1 | h1 | h1 | h1
      · exact absurd h1 (hst.zeroNotAlloc hz)
      · have := hst.basePos hz; omega
      · exact hZc d hd h1.2.2
      · exact hzero0 hz d hd (h1 a0 hext0 hTie0)

end Steps

theorem Inv.transfer {c : Cfg} {pre : AL ValId Reg} {A0 : List Reg} {Zc : List ValId}
    {Tie : (ValId → Reg) → Prop} {s : St} {V M : List ValId} {i d : ValId}
    (h : Inv c pre A0 Zc Tie s V (d :: M)) (hdM : d ∉ M) (hiV : i ∈ V)
    (heq : allocOf s.asg i = allocOf s.asg d) : Inv c pre A0 Zc Tie s V (i :: M) :=
  (h.mono (fun _ => Iff.rfl) fun _ hw => List.mem_cons_of_mem _ hw).live hiV
    (heq ▸ h.notAvail d (List.mem_cons_self ..))
    fun w hw _ e => by
      rw [heq] at e ⊢
      exact h.pw d (List.mem_cons_self ..) w (List.mem_cons_of_mem _ hw) (fun e' => hdM (e' ▸ hw)) e.symm

/-! ### the allocator at a point of its backward walk

`At G s V M X` = the invariant of the state `s` + the coverage of the seen values: every value seen so
far is live (`M`) or gone (`X`: its defining operation comes later in the block, so the backward walk has passed it;
or it is an in/out operand that waits for the register of its result).  Each phase of the allocator (a call of `allocate_value`, `free_value`,
`allocate_values_same_reg`) is a rule `At … → run → At …`; between phases the live set and the gone set are
adapted by the rule of consequence `At.conseq`.  The rule of a phase never asks its
caller what has been seen: it asks that the values it touches are not gone (`At.seen` then makes a seen one
live).  (`XdslProofs.Lemmas.RegAllocLoopInv` has the same record with the reservations of loops added.) -/

/-- what one run of the allocator is about: the configuration `c`, the pre-assignment `pre`, the pool `A0` the stack
starts with, the values `Zc` that are constant zero (they may take the `zero` register), the values `U` that occur in
the function (what `Static.usedOut` ranges over), the in/out ties `Tie`, and the feasibility witness `a0`, an
assignment that extends `pre` and satisfies the ties -/
structure Given where
  c : Cfg
  pre : AL ValId Reg
  A0 : List Reg
  Zc : List ValId
  U : List ValId
  Tie : (ValId → Reg) → Prop
  a0 : ValId → Reg

structure Given.Ok (G : Given) : Prop where
  st : Static G.c G.pre G.A0 G.U
  ext0 : ∀ v r, AL.get G.pre v = some r → G.a0 v = r
  tie0 : G.Tie G.a0

structure At (G : Given) (s : St) (V M X : List ValId) : Prop where
  inv : Inv G.c G.pre G.A0 G.Zc G.Tie s V M
  cov : ∀ v ∈ V, v ∈ M ∨ v ∈ X

section Rules
variable {G : Given} {s s' : St} {V V' M M' X X' T : List ValId}

/-- rule of consequence: values die (leave `M` for `X'`), the gone set grows -/
theorem At.conseq (h : At G s V M X) (hV : ∀ v, v ∈ V ↔ v ∈ V') (hM : ∀ v ∈ M', v ∈ M)
    (hdie : ∀ v ∈ M, v ∈ M' ∨ v ∈ X') (hX : ∀ v ∈ X, v ∈ X') : At G s V' M' X' where
  inv := h.inv.mono hV hM
  cov := fun v hv => (h.cov v ((hV v).2 hv)).elim (hdie v) fun h1 => Or.inr (hX v h1)

theorem At.seen (h : At G s V M X) {v : ValId} (hX : v ∉ X) (hv : v ∈ V) : v ∈ M :=
  (h.cov v hv).resolve_right hX

theorem At.assigned (h : At G s V M X) {v : ValId} (hv : v ∈ M) : (AL.get s.asg v).isSome = true :=
  h.inv.assigned hv

/-- `allocate_value` of a value that is live from here on; `T`: values that the witness keeps apart,
among them `v` and all that is live -/
theorem At.alloc1 (hG : G.Ok) {v : ValId} (h : At G s V M X)
    (hrun : allocValue G.c G.Zc s v = .ok s') (hT : PW G.c.z G.a0 T)
    (hv : v ∈ G.U ∧ v ∈ T ∧ v ∉ X) (hMT : ∀ w ∈ M, w ∈ T) : At G s' (v :: V) (v :: M) X :=
  ⟨inv_allocValue_live hG.st h.inv hv.1 hrun (h.seen hv.2.2) hG.ext0 hG.tie0 hT hMT hv.2.1,
    fun w hw => (List.mem_cons.1 hw).elim (fun e => Or.inl (e ▸ List.mem_cons_self ..))
      fun hw => (h.cov w hw).imp_left (List.mem_cons_of_mem _)⟩

theorem At.alloc (hG : G.Ok) {vs : List ValId} (h : At G s V M X)
    (hrun : foldE (allocValue G.c G.Zc) s vs = .ok s') (hT : PW G.c.z G.a0 T)
    (hvs : ∀ v ∈ vs, v ∈ G.U ∧ v ∈ T ∧ v ∉ X) (hMT : ∀ w ∈ M, w ∈ T) :
    At G s' (vs.reverse ++ V) (vs.reverse ++ M) X ∧ Extends s s' := by
  have := Sat.foldlM_done (fun d t => At G t (d ++ V) (d ++ M) X ∧ (∀ w ∈ d ++ M, w ∈ T) ∧ Extends s t)
    ⟨h, hMT, Extends.refl s⟩ (fun d a r t e ⟨ht, htT, he⟩ t' hr => by
      have ha : a ∈ vs := e ▸ List.mem_append_right _ List.mem_cons_self
      exact ⟨ht.alloc1 hG hr hT (hvs a ha) htT,
        fun w hw => (List.mem_cons.1 hw).elim (fun e => e ▸ (hvs a ha).2.1) (htT w),
        he.trans (allocValue_extends hr)⟩) s' (foldE_eq_foldlM .. ▸ hrun)
  exact ⟨this.1, this.2.2⟩

/-- `free_value` of a value that is not live: its register goes back on the stack -/
theorem At.free1 (hG : G.Ok) {d : ValId} (h : At G s V M X) (hd : (AL.get s.asg d).isSome = true)
    (hclash : ∀ w ∈ M, allocOf s.asg w = allocOf s.asg d → (G.c.z = true ∧ allocOf s.asg d = 0)) :
    At G (freeValue G.c s d) V M X :=
  ⟨inv_free hG.st h.inv hd hclash, h.cov⟩

theorem At.free (hG : G.Ok) (ds : List ValId) (h : At G s V M X)
    (hd : ∀ d ∈ ds, (AL.get s.asg d).isSome = true)
    (hclash : ∀ d ∈ ds, ∀ w ∈ M, allocOf s.asg w = allocOf s.asg d →
      (G.c.z = true ∧ allocOf s.asg d = 0)) :
    At G (ds.foldl (freeValue G.c) s) V M X :=
  (foldl_inv (fun t => At G t V M X ∧ t.asg = s.asg)
    (fun a ha t ⟨ht, e⟩ => ⟨ht.free1 hG (by rw [e]; exact hd a ha) (by rw [e]; exact hclash a ha),
      (freeValue_asg ..).trans e⟩) s ⟨h, rfl⟩).1

/-- `allocate_values_same_reg` for an in/out pair: both members get one register; the result `d` is
live, the operand `i` waits for the register to be handed on (`At.transfers`) -/
theorem At.pair (hG : G.Ok) (hz : G.c.z = false) {i d : ValId} (h : At G s V M X)
    (hrun : sameReg G.c s i d = .ok s') (hT : PW G.c.z G.a0 T)
    (hi : i ∈ G.U ∧ i ∉ X) (hd : d ∈ G.U ∧ d ∈ T ∧ d ∉ X) (hid : i ≠ d)
    (hforce : ∀ a, G.Tie a → a i = a d) (hMT : ∀ w ∈ M, w ∈ T) :
    At G s' (i :: d :: V) (d :: M) (i :: X) ∧ Extends s s' ∧ allocOf s'.asg i = allocOf s'.asg d := by
  have hinv := h.inv
  have hcov : ∀ v ∈ i :: d :: V, v ∈ d :: M ∨ v ∈ i :: X := fun v hv => by
    simp only [List.mem_cons] at hv ⊢
    rcases hv with e | e | hv
    · exact Or.inr (Or.inl e)
    · exact Or.inl (Or.inl e)
    · exact (h.cov v hv).imp Or.inr Or.inr
  suffices key : Inv G.c G.pre G.A0 G.Zc G.Tie s' (i :: d :: V) (d :: M) ∧ Extends s s'
      ∧ allocOf s'.asg i = allocOf s'.asg d from ⟨⟨key.1, hcov⟩, key.2⟩
  unfold sameReg at hrun
  -- `d` already has a register: it becomes live as in `allocate_value`
  have hdlive : ∀ {r}, AL.get s.asg d = some r → Inv G.c G.pre G.A0 G.Zc G.Tie s (d :: V) (d :: M) :=
    fun hgd => inv_allocValue_live hG.st hinv hd.1 (allocValue_of_isSome (by rw [hgd]; rfl)) (h.seen hd.2.2) hG.ext0
      hG.tie0 hT hMT hd.2.1
  cases hgi : AL.get s.asg i with
  | none =>
    cases hgd : AL.get s.asg d with
    | none =>
      -- both new: one register is popped for the two
      rw [hgi, hgd] at hrun
      simp only at hrun
      split at hrun
      · cases hrun
      · rename_i r s' hp
        cases hrun
        obtain ⟨hinv1, hasg1, hrav, hfresh, horg, hinf⟩ := hinv.pop hG.st hp
        have hgi' : AL.get s'.asg i = none := hasg1 ▸ hgi
        have hgd' : AL.get (AL.set s'.asg i r) d = none := by
          rw [AL.get_set, if_neg (Ne.symm hid), hasg1, hgd]
        have hinv2 := ((hinv1.assign hgi' hinf (horg.imp_right Or.inl)).assign hgd' hinf
            (horg.imp_right Or.inl)).live
          (List.mem_cons_self ..) (by simpa only [allocOf_set_eq] using hrav) (fun w hw hwd heq => by
            have hwi : w ≠ i := fun e => by
              simpa [e, hgi] using hinv.assigned (v := i) (e ▸ hw)
            simp only [allocOf_set_eq, allocOf_set_ne hwd, allocOf_set_ne hwi, hasg1] at heq
            exact absurd heq (hfresh w hw))
        have hext : Extends s' { s' with asg := AL.set (AL.set s'.asg i r) d r } :=
          (Extends.set (s' := { s' with asg := AL.set s'.asg i r }) hgi' rfl).trans
            (Extends.set hgd' rfl)
        refine ⟨hinv2.mono (fun w => by simp only [List.mem_cons]; exact or_left_comm) fun _ hrun => hrun,
          fun w x hw => hext w x (hasg1 ▸ hw), ?_⟩
        rw [allocOf_set_eq, allocOf_set_ne hid, allocOf_set_eq]
    | some r =>
      rw [hgi, hgd] at hrun
      cases hrun
      refine ⟨inv_assign_tied (hdlive hgd) (fun hz' => absurd (hz ▸ hz') Bool.false_ne_true) hgi hgd hforce, Extends.set hgi rfl, ?_⟩
      rw [allocOf_set_eq, allocOf_set_ne (Ne.symm hid), allocOf_of_get hgd]
  | some r =>
    have hiS : (AL.get s.asg i).isSome = true := by rw [hgi]; rfl
    cases hgd : AL.get s.asg d with
    | none =>
      rw [hgi, hgd] at hrun
      cases hrun
      have hiS' : (AL.get (AL.set s.asg d r) i).isSome = true := by rw [AL.get_set, if_neg hid]; exact hiS
      refine ⟨(inv_assign_tied_live hG.st hinv hz hgd hgi hi.1 (h.seen hi.2) hforce hG.ext0 hG.tie0 hT hMT hd.2.1).addV hiS',
        Extends.set hgd rfl, ?_⟩
      rw [allocOf_set_eq, allocOf_set_ne hid, allocOf_of_get hgi]
    | some r2 =>
      rw [hgi, hgd] at hrun
      simp only at hrun
      split at hrun
      · rename_i heq
        cases hrun
        exact ⟨(hdlive hgd).addV hiS, Extends.refl _,
          by rw [allocOf_of_get hgi, allocOf_of_get hgd, heq]⟩
      · cases hrun

end Rules

end Xdsl.RegAlloc
