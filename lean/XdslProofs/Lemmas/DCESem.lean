import XdslProofs.Lemmas.DCEDel
/-!
Evaluation semantics for straight-line operation lists of `XdslModel/DCE.lean` and the simulation
lemma used by `XdslProofs/C13Sem.lean` (see there for the meaning of `Interp`, `run`).
-/
namespace Xdsl.DCE
open Xdsl.Graph

abbrev Val := Nat
abbrev Env := Nat → Val
abbrev Log := List (Nat × List Val)
/-- what operation `i` computes from its operand values and the effects so far -/
abbrev Interp := Nat → List Val → Log → Val

def upd (ρ : Env) (i : Nat) (v : Val) : Env := fun j => if j = i then v else ρ j

/-- evaluate an operation list top to bottom -/
def run (I : Interp) : T → Env → Log → Env × Log
  | .op h rs next, ρ, log =>
    let args := h.operands.map ρ
    run I next (upd ρ h.id (I h.id args log)) (if wbd h rs then log else log ++ [(h.id, args)])
  | _, ρ, log => (ρ, log)

/-- region-free operations only -/
def flat : T → Bool
  | .nil => true
  | .op _ rs next => rs == .nil && flat next
  | _ => false

/-- the operation cells of an operation list -/
def ocells : T → List (Hdr × T)
  | .op h rs next => (h, rs) :: ocells next
  | _ => []

theorem wbd_succs (h : Hdr) (rs : T) (s : List Nat) : wbd { h with succs := s } rs = wbd h rs := by
  simp [wbd, resultOnlyEffects, opEff]

theorem run_op (I : Interp) (h : Hdr) (rs next : T) (ρ : Env) (log : Log) :
    run I (.op h rs next) ρ log
      = run I next (upd ρ h.id (I h.id (h.operands.map ρ) log))
          (if wbd h rs then log else log ++ [(h.id, h.operands.map ρ)]) := rfl

/-- The core simulation.  `Dead` marks the ids of the erased operations: every operation that is not
live is `Dead`; a live operation is not `Dead`, its operands are not `Dead`; an operation that is
not would-be-trivially-dead is live.  Then the run of the kept operations and the run of all
operations, started in environments that agree outside `Dead` and with the same log, end with the
same log in environments that agree outside `Dead`. -/
theorem run_del (I : Interp) (live : List Nat) (Dead : Nat → Prop) (mask : List Bool) (t : T) :
    flat t = true →
    (∀ c ∈ ocells t, c.1.id ∉ live → Dead c.1.id) →
    (∀ c ∈ ocells t, c.1.id ∈ live → ¬ Dead c.1.id ∧ ∀ o ∈ c.1.operands, ¬ Dead o) →
    (∀ c ∈ ocells t, wbd c.1 c.2 = false → c.1.id ∈ live) →
    ∀ (ρ1 ρ2 : Env) (log : Log), (∀ i, ¬ Dead i → ρ1 i = ρ2 i) →
      (run I (del live t false mask) ρ1 log).2 = (run I t ρ2 log).2
        ∧ ∀ i, ¬ Dead i → (run I (del live t false mask) ρ1 log).1 i = (run I t ρ2 log).1 i := by
  induction t with
  | nil => intro _ _ _ _ ρ1 ρ2 log hag; exact ⟨rfl, hag⟩
  | op h rs next _ ihn =>
    intro hf hdead hlive hw ρ1 ρ2 log hag
    rw [flat, Bool.and_eq_true, beq_iff_eq] at hf
    obtain ⟨rfl, hfn⟩ := hf
    have here : (h, T.nil) ∈ ocells (.op h .nil next) := List.mem_cons_self
    have ih := ihn hfn (fun c hc => hdead c (List.mem_cons_of_mem _ hc))
      (fun c hc => hlive c (List.mem_cons_of_mem _ hc)) (fun c hc => hw c (List.mem_cons_of_mem _ hc))
    by_cases hm : h.id ∈ live
    · -- kept: both runs execute it, on equal arguments
      obtain ⟨_, hops⟩ := hlive _ here hm
      have hargs : h.operands.map ρ1 = h.operands.map ρ2 :=
        List.map_congr_left fun o ho => hag o (hops o ho)
      rw [del_op_live hm, run_op, run_op]
      simp only [del, wbd_succs, hargs]
      refine ih _ _ _ fun i hi => ?_
      unfold upd
      split
      · rfl
      · exact hag i hi
    · -- erased: it is would-be-trivially-dead, so the full run logs nothing and only writes a `Dead` id
      have hwb : wbd h .nil = true := by
        cases hwb : wbd h .nil
        · exact absurd (hw _ here hwb) hm
        · rfl
      rw [del_op_dead hm, run_op]
      simp only [hwb, if_true]
      refine ih _ _ _ fun i hi => ?_
      unfold upd
      split
      · rename_i heq
        exact absurd (heq ▸ hdead _ here hm) hi
      · exact hag i hi
  | block ops next _ _ => intro hf; cases hf
  | region bs next _ _ => intro hf; cases hf

theorem vcells_flat (t : T) : flat t = true → vcells t none = ocells t := by
  intro hf
  fun_induction flat t with
  | case1 => rfl
  | case2 h rs next ih =>
    rw [Bool.and_eq_true] at hf
    exact congrArg ((h, rs) :: ·) (ih hf.2)
  | case3 t _ _ => cases hf

theorem mem_vcells_of_ocells {t : T} (hf : flat t = true) {c : Hdr × T} (hc : c ∈ ocells t) :
    c ∈ vcells t none :=
  vcells_flat t hf ▸ hc

theorem ocells_ids (t : T) : flat t = true → ∀ i ∈ allIds t, ∃ c ∈ ocells t, c.1.id = i := by
  intro hf i hi
  fun_induction flat t with
  | case1 => cases hi
  | case2 h rs next ih =>
    rw [Bool.and_eq_true, beq_iff_eq] at hf
    obtain ⟨rfl, hfn⟩ := hf
    rcases List.mem_cons.mp (allIds_op h .nil next ▸ hi) with rfl | hi
    · exact ⟨(h, .nil), List.mem_cons_self, rfl⟩
    · obtain ⟨c, hc, hid⟩ := ih hfn hi
      exact ⟨c, List.mem_cons_of_mem _ hc, hid⟩
  | case3 t _ _ => cases hf

end Xdsl.DCE
