import XdslProofs.Lemmas.ConstraintDispatch
/-!
`verify` against the declarative meaning `sat` (C09), in both directions.  `verify U c a`, and the
list forms `verifyAll U cs a`, `verifyZip U ps as` and the `foldl` of `ArrayOfConstraint`, are partial
context transformers `Ctx → Option Ctx`; `Complete` and `Sound` say what such a transformer does, and
both are closed under `some`, `Option.bind` and a guard, which is all the list forms are made of.
-/
namespace Xdsl.Constraint

/-- the context agrees with the assignment on everything it binds -/
def Sub (ctx : Ctx) (σ : Asg) : Prop := ∀ n v, AL.get ctx n = some v → σ n = some v

section
variable (U : Univ)

theorem verifyAll_cons (c : C) (cs : List C) (a : Attr) (ctx : Ctx) :
    verifyAll U (c :: cs) a ctx = (verify U c a ctx).bind (verifyAll U cs a) := by
  simp only [verifyAll]; cases verify U c a ctx <;> rfl

theorem verifyZip_cons (c : C) (cs : List C) (a : Attr) (as : List Attr) (ctx : Ctx) :
    verifyZip U (c :: cs) (a :: as) ctx = (verify U c a ctx).bind (verifyZip U cs as) := by
  simp only [verifyZip]; cases verify U c a ctx <;> rfl

/-- the `foldl` of `ArrayOfConstraint`: one `verify` per element, threading the context -/
def verifyEach (c : C) (es : List Attr) (ctx : Ctx) : Option Ctx :=
  es.foldl (fun r e => match r with | some x => verify U c e x | none => none) (some ctx)

theorem verifyEach_cons (c : C) (e : Attr) (es : List Attr) (ctx : Ctx) :
    verifyEach U c (e :: es) ctx = (verify U c e ctx).bind (verifyEach U c es) := by
  simp only [verifyEach, List.foldl_cons]
  cases verify U c e ctx with
  | some _ => rfl
  | none => induction es <;> simp_all [List.foldl_cons]

theorem verify_var_bound {n : Nat} (c : C) (a : Attr) {v : Attr} {ctx : Ctx} (h : AL.get ctx n = some v) :
    verify U (.var n c) a ctx = if a = v then some ctx else none := by
  unfold verify; simp only [h, Attr.beq_iff]

theorem verify_var_unbound {n : Nat} (c : C) (a : Attr) {ctx : Ctx} (h : AL.get ctx n = none) :
    verify U (.var n c) a ctx = (verify U c a ctx).map (fun ctx' => AL.set ctx' n a) := by
  simp only [verify, h]
  cases verify U c a ctx <;> rfl

end

/-! ### completeness: `verify` succeeds whenever the declarative meaning holds -/

section
variable (U : Univ) (σ : Asg)

def Complete (v : Ctx → Option Ctx) : Prop := ∀ ctx, Sub ctx σ → ∃ ctx', v ctx = some ctx' ∧ Sub ctx' σ

variable {σ}

theorem Complete.pure : Complete σ some := fun ctx hs => ⟨ctx, rfl, hs⟩

theorem Complete.bind {v v1 v2 : Ctx → Option Ctx} (hv : ∀ ctx, v ctx = (v1 ctx).bind v2)
    (h1 : Complete σ v1) (h2 : Complete σ v2) : Complete σ v := fun ctx hs =>
  let ⟨ctx1, e1, hs1⟩ := h1 ctx hs
  let ⟨ctx2, e2, hs2⟩ := h2 ctx1 hs1
  ⟨ctx2, by rw [hv, e1]; exact e2, hs2⟩

theorem Complete.guard {v : Ctx → Option Ctx} {b : Bool} (hb : b = true) (h : Complete σ v) :
    Complete σ fun ctx => if b then v ctx else none := by
  subst hb; exact h

variable (σ)

def CompleteAt (c : C) : Prop := ∀ a, WF U c → sat U σ c a → Complete σ (verify U c a)

variable {U σ}

theorem verifyAll_complete (a : Attr) (cs : List C) (ih : ∀ c ∈ cs, CompleteAt U σ c) (hw : WFL U cs)
    (h : satAll U σ cs a) : Complete σ (verifyAll U cs a) := by
  induction cs with
  | nil => exact .pure
  | cons c cs rec =>
    exact .bind (verifyAll_cons U c cs a) (ih c (List.mem_cons_self ..) a hw.1 h.1)
      (rec (fun c' hc' => ih c' (List.mem_cons_of_mem _ hc')) hw.2 h.2)

theorem verifyZip_complete (cs : List C) (as : List Attr) (ih : ∀ c ∈ cs, CompleteAt U σ c) (hw : WFL U cs)
    (h : satZip U σ cs as) : Complete σ (verifyZip U cs as) := by
  induction cs generalizing as with
  | nil => cases as with | nil => exact .pure | cons _ _ => exact h.elim
  | cons c cs rec =>
    cases as with
    | nil => exact h.elim
    | cons a as =>
      exact .bind (verifyZip_cons U c cs a as) (ih c (List.mem_cons_self ..) a hw.1 h.1)
        (rec as (fun c' hc' => ih c' (List.mem_cons_of_mem _ hc')) hw.2 h.2)

theorem verifyEach_complete {c : C} (ih : CompleteAt U σ c) (hw : WF U c) (es : List Attr)
    (h : ∀ e ∈ es, sat U σ c e) : Complete σ (verifyEach U c es) := by
  induction es with
  | nil => exact .pure
  | cons e es rec =>
    exact .bind (verifyEach_cons U c e es) (ih e hw (h e (List.mem_cons_self ..)))
      (rec fun e' he' => h e' (List.mem_cons_of_mem _ he'))

theorem verify_complete (hU : UnivOK U) : ∀ c, CompleteAt U σ c := by
  intro c
  induction c using C.ind with
  | any => exact fun _ _ _ => .pure
  | eq b => exact fun a _ h => .guard ((Attr.beq_iff a b).2 h) .pure
  | set vs => exact fun a _ h => .guard ((memA_iff a vs).2 h) .pure
  | base d => exact fun a _ h => .guard h .pure
  | anyOf cs ih =>
    -- the alternative that holds is the one the class table selects
    intro a hw h ctx hs
    obtain ⟨c, hc, hsat⟩ := (satAny_iff U σ a cs).1 h
    have hwc := (WFL_iff U cs).1 hw.2 c hc
    obtain ⟨k, hk1, hk2⟩ := select_complete U cs hw.1 c hc a.cls
      (fun b hb => bases_sat U σ a hU c b hwc hsat hb) (fun d hd => by subst hd; exact hsat)
    rw [verify_anyOf, hk1, Option.bind_some, hk2]
    exact ih c hc a hwc hsat ctx hs
  | allOf cs ih => exact fun a hw h => verifyAll_complete a cs ih hw h
  | param d ps ih =>
    intro a hw h
    cases a with
    | param ca as => exact .guard h.1 (verifyZip_complete ps as ih hw h.2)
    | _ => exact h.2.elim
  | var n c ih =>
    intro a hw h ctx hs
    cases hg : AL.get ctx n with
    | some v =>
      cases (hs n v hg).symm.trans h.1
      exact ⟨ctx, (verify_var_bound U c a hg).trans (if_pos rfl), hs⟩
    | none =>
      obtain ⟨ctx1, h1, hs1⟩ := ih a hw h.2 ctx hs
      refine ⟨AL.set ctx1 n a, by rw [verify_var_unbound U c a hg, h1]; rfl, fun m v hm => ?_⟩
      rcases AL.get_set_eq_some.1 hm with ⟨e, e'⟩ | ⟨_, hm⟩
      · subst e e'; exact h.1
      · exact hs1 m v hm
  | msg n c ih => exact ih
  | tvar n c ih => exact ih
  | arrayOf k c ih =>
    intro a hw h
    cases a with
    | arr ca es => exact .guard h.1 (verifyEach_complete ih hw.2 es h.2)
    | _ => exact h.2.elim

end

/-! ### soundness: a successful `verify` establishes the declarative meaning -/

mutual
/-- names of the `VarConstraint` nodes of a constraint -/
def vars : C → List Nat
  | .var n c => n :: vars c
  | .anyOf cs => varsL cs
  | .allOf cs => varsL cs
  | .param _ ps => varsL ps
  | .msg _ c => vars c
  | .tvar _ c => vars c
  | .arrayOf _ c => vars c
  | .any | .eq _ | .set _ | .base _ => []
def varsL : List C → List Nat
  | [] => []
  | c :: cs => vars c ++ varsL cs
end

theorem mem_varsL {n : Nat} {cs : List C} {c : C} (hc : c ∈ cs) (hn : n ∈ vars c) : n ∈ varsL cs := by
  induction cs with
  | nil => cases hc
  | cons _ _ ih =>
    rcases List.mem_cons.1 hc with e | hc
    · exact List.mem_append_left _ (e ▸ hn)
    · exact List.mem_append_right _ (ih hc)

mutual
/-- the intended use of constraint variables: a name always carries the same constraint
(`decl n`), and that constraint does not mention the name itself -/
def WellDeclared (decl : Nat → C) : C → Prop
  | .var n c => c = decl n ∧ n ∉ vars c ∧ WellDeclared decl c
  | .anyOf cs => WDL decl cs
  | .allOf cs => WDL decl cs
  | .param _ ps => WDL decl ps
  | .msg _ c => WellDeclared decl c
  | .tvar _ c => WellDeclared decl c
  | .arrayOf _ c => WellDeclared decl c
  | .any | .eq _ | .set _ | .base _ => True
def WDL (decl : Nat → C) : List C → Prop
  | [] => True
  | c :: cs => WellDeclared decl c ∧ WDL decl cs
end

theorem WDL_iff (decl : Nat → C) : ∀ cs, WDL decl cs ↔ ∀ c ∈ cs, WellDeclared decl c
  | [] => ⟨fun _ => nofun, fun _ => trivial⟩
  | _ :: cs => (and_congr_right' (WDL_iff decl cs)).trans List.forall_mem_cons.symm

/-- unfolds to `Sub ctx (AL.get ctx')` and to the hypothesis of `sat_mono` between `AL.get ctx` and
`AL.get ctx'`; the proofs hand an `Ext` over where either is expected -/
def Ext (ctx ctx' : Ctx) : Prop := ∀ n v, AL.get ctx n = some v → AL.get ctx' n = some v
def Frame (ctx ctx' : Ctx) (vs : List Nat) : Prop := ∀ n, AL.get ctx n = none → n ∉ vs → AL.get ctx' n = none
/-- every binding of the context satisfies the declared constraint of its name -/
def CtxInv (U : Univ) (decl : Nat → C) (ctx : Ctx) : Prop :=
  ∀ n v, AL.get ctx n = some v → sat U (AL.get ctx) (decl n) v

theorem CtxInv.nil (U : Univ) (decl : Nat → C) : CtxInv U decl [] := nofun

theorem Ext.refl (ctx : Ctx) : Ext ctx ctx := fun _ _ h => h
theorem Ext.trans {a b c : Ctx} (h1 : Ext a b) (h2 : Ext b c) : Ext a c := fun n v h => h2 n v (h1 n v h)
theorem Frame.refl (ctx : Ctx) (vs : List Nat) : Frame ctx ctx vs := fun _ h _ => h

theorem Ext.set {ctx : Ctx} {n : Nat} (h : AL.get ctx n = none) (a : Attr) : Ext ctx (AL.set ctx n a) :=
  fun m v hm => by
    rw [AL.get_set]; split
    · rename_i e; rw [e, h] at hm; cases hm
    · exact hm

section
variable (U : Univ) (decl : Nat → C)

/-- a success extends the context, binds nothing outside `vs`, makes `P` true of the new context and
keeps the declarations satisfied -/
def Sound (v : Ctx → Option Ctx) (vs : List Nat) (P : Asg → Prop) : Prop :=
  ∀ ctx ctx', v ctx = some ctx' → CtxInv U decl ctx →
    Ext ctx ctx' ∧ Frame ctx ctx' vs ∧ P (AL.get ctx') ∧ CtxInv U decl ctx'

variable {U decl}

theorem Sound.pure {vs : List Nat} {P : Asg → Prop} (hP : ∀ σ, P σ) : Sound U decl some vs P :=
  fun ctx _ h hi => by cases h; exact ⟨Ext.refl _, Frame.refl _ _, hP _, hi⟩

theorem Sound.fail {vs : List Nat} {P : Asg → Prop} : Sound U decl (fun _ => none) vs P := nofun

/-- the first step's conclusion must survive the second step's new bindings -/
theorem Sound.bind {v v1 v2 : Ctx → Option Ctx} {vs1 vs2 : List Nat} {P1 P2 : Asg → Prop}
    (hv : ∀ ctx, v ctx = (v1 ctx).bind v2) (h1 : Sound U decl v1 vs1 P1) (h2 : Sound U decl v2 vs2 P2)
    (mono : ∀ ctx ctx', Ext ctx ctx' → P1 (AL.get ctx) → P1 (AL.get ctx')) :
    Sound U decl v (vs1 ++ vs2) fun σ => P1 σ ∧ P2 σ := by
  intro ctx ctx' h hi
  rw [hv] at h
  cases e : v1 ctx with
  | none => rw [e] at h; cases h
  | some ctx1 =>
    rw [e] at h
    obtain ⟨e1, f1, p1, i1⟩ := h1 ctx ctx1 e hi
    obtain ⟨e2, f2, p2, i2⟩ := h2 ctx1 ctx' h i1
    refine ⟨e1.trans e2, fun n hn hv => ?_, ⟨mono _ _ e2 p1, p2⟩, i2⟩
    rw [List.mem_append, not_or] at hv
    exact f2 n (f1 n hn hv.1) hv.2

theorem Sound.guard {v : Ctx → Option Ctx} {vs : List Nat} {P : Asg → Prop} (b : Bool)
    (h : b = true → Sound U decl v vs P) : Sound U decl (fun ctx => if b then v ctx else none) vs P := by
  cases b with
  | true => exact h rfl
  | false => exact .fail

theorem Sound.imp {v : Ctx → Option Ctx} {vs vs' : List Nat} {P P' : Asg → Prop} (h : Sound U decl v vs P)
    (hvs : ∀ n ∈ vs, n ∈ vs') (hP : ∀ σ, P σ → P' σ) : Sound U decl v vs' P' := fun ctx ctx' e hi =>
  let ⟨e1, f1, p1, i1⟩ := h ctx ctx' e hi
  ⟨e1, fun n hn hv => f1 n hn fun hm => hv (hvs n hm), hP _ p1, i1⟩

variable (U decl)

def SoundAt (c : C) : Prop := ∀ a, WellDeclared decl c → Sound U decl (verify U c a) (vars c) fun σ => sat U σ c a

variable {U decl}

theorem verifyAll_sound (a : Attr) (cs : List C) (ih : ∀ c ∈ cs, SoundAt U decl c) (hw : WDL decl cs) :
    Sound U decl (verifyAll U cs a) (varsL cs) fun σ => satAll U σ cs a := by
  induction cs with
  | nil => exact .pure fun _ => trivial
  | cons c cs rec =>
    exact .bind (verifyAll_cons U c cs a) (ih c (List.mem_cons_self ..) a hw.1)
      (rec (fun c' hc' => ih c' (List.mem_cons_of_mem _ hc')) hw.2) fun _ _ e => sat_mono U e c a

theorem verifyZip_sound (cs : List C) (as : List Attr) (ih : ∀ c ∈ cs, SoundAt U decl c) (hw : WDL decl cs) :
    Sound U decl (verifyZip U cs as) (varsL cs) fun σ => satZip U σ cs as := by
  induction cs generalizing as with
  | nil => cases as with | nil => exact .pure fun _ => trivial | cons _ _ => exact .fail
  | cons c cs rec =>
    cases as with
    | nil => exact .fail
    | cons a as =>
      exact .bind (verifyZip_cons U c cs a as) (ih c (List.mem_cons_self ..) a hw.1)
        (rec as (fun c' hc' => ih c' (List.mem_cons_of_mem _ hc')) hw.2) fun _ _ e => sat_mono U e c a

theorem verifyEach_sound {c : C} (ih : SoundAt U decl c) (hw : WellDeclared decl c) (es : List Attr) :
    Sound U decl (verifyEach U c es) (vars c) fun σ => ∀ e ∈ es, sat U σ c e := by
  induction es with
  | nil => exact .pure fun _ _ h => absurd h List.not_mem_nil
  | cons e es rec =>
    exact (Sound.bind (verifyEach_cons U c e es) (ih e hw) rec fun _ _ x => sat_mono U x c e).imp
      (fun _ h => (List.mem_append.1 h).elim id id)
      fun _ h e' he' => (List.mem_cons.1 he').elim (· ▸ h.1) (h.2 e')

theorem verify_sound : ∀ c, SoundAt U decl c := by
  intro c
  induction c using C.ind with
  | any => exact fun _ _ => .pure fun _ => trivial
  | eq b => exact fun a _ => .guard (a.beq b) fun h => .pure fun _ => (Attr.beq_iff a b).1 h
  | set vs => exact fun a _ => .guard (memA a vs) fun h => .pure fun _ => (memA_iff a vs).1 h
  | base d => exact fun a _ => .guard (isSub U a.cls d) fun h => .pure fun _ => h
  | anyOf cs ih =>
    intro a hw ctx ctx' h hi
    obtain ⟨c, hc, hv⟩ := verify_anyOf_some U h
    exact (ih c hc a ((WDL_iff decl cs).1 hw c hc)).imp (fun _ => mem_varsL hc)
      (fun σ s => (satAny_iff U σ a cs).2 ⟨c, hc, s⟩) ctx ctx' hv hi
  | allOf cs ih => exact fun a hw => verifyAll_sound a cs ih hw
  | param d ps ih =>
    intro a hw
    cases a with
    | param ca as =>
      exact .guard (isSub U ca d) fun hs => (verifyZip_sound ps as ih hw).imp (fun _ h => h) fun _ hz => ⟨hs, hz⟩
    | _ => exact .guard _ fun _ => .fail
  | var n c ih =>
    intro a ⟨hdecl, hnot, hwc⟩ ctx ctx' h hi
    cases hg : AL.get ctx n with
    | some v =>
      -- bound: only compares; the binding satisfies `decl n` by the invariant
      rw [verify_var_bound U c a hg] at h
      split at h
      · rename_i e; cases h; subst e
        exact ⟨Ext.refl _, Frame.refl _ _, ⟨hg, hdecl ▸ hi n a hg⟩, hi⟩
      · cases h
    | none =>
      -- unbound: `n` is still unbound after checking `c` (frame), so binding it extends the context
      rw [verify_var_unbound U c a hg] at h
      obtain ⟨ctx1, h1, e⟩ := Option.map_eq_some_iff.1 h
      subst e
      obtain ⟨e1, f1, s1, i1⟩ := ih a hwc ctx ctx1 h1 hi
      have e2 := Ext.set (f1 n hg hnot) a
      refine ⟨e1.trans e2, fun m hm hv => ?_, ⟨?_, sat_mono U e2 c a s1⟩, fun m v hm => ?_⟩
      · have hv := not_or.1 (mt List.mem_cons.2 hv)
        rw [AL.get_set, if_neg hv.1]; exact f1 m hm hv.2
      · rw [AL.get_set, if_pos rfl]
      · rcases AL.get_set_eq_some.1 hm with ⟨e, e'⟩ | ⟨_, hm⟩
        · subst e e'; exact hdecl ▸ sat_mono U e2 c _ s1
        · exact sat_mono U e2 _ v (i1 m v hm)
  | msg n c ih => exact ih
  | tvar n c ih => exact ih
  | arrayOf k c ih =>
    intro a hw
    cases a with
    | arr ca es =>
      exact .guard (isSub U ca k) fun hs => (verifyEach_sound ih hw es).imp (fun _ h => h) fun _ hz => ⟨hs, hz⟩
    | _ => exact .guard _ fun _ => .fail

end

end Xdsl.Constraint
