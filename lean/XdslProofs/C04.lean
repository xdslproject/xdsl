import XdslModel.Names
import XdslProofs.Lemmas.Names
/-!
C04 — property theorems on the name layer of the generic textual form
(`XdslModel/Names.lean` = `extract_valid_name`, `Printer.print_ssa_value`,
`Printer._populate_block_name/print_region/enter_scope/exit_scope`, hint storing of the parser —
all with the C04 repair).  The token skeleton of the generic operation form is `C04Skeleton.lean`,
text that passes through verbatim and names written bare or quoted are `C04Verbatim.lean`.  Not
covered by a theorem: the attribute/type printers (checked by the round-trip oracle only).
-/
namespace Xdsl.Names

/-- every hint of the list is one the IR API can have stored ("any value and block name hints the
IR API accepts"): no hint, or the result of `extract_valid_name` on some string -/
def AllAccepted (hs : List (Option Str)) : Prop :=
  ∀ s, some s ∈ hs → ∃ raw, accepted raw = some s

theorem stored_of_allAccepted {hs : List (Option Str)} (h : AllAccepted hs) :
    ∀ x ∈ hs, Stored x := by
  intro x hx
  cases x with
  | none => trivial
  | some s => obtain ⟨raw, hr⟩ := h s hx; exact accepted_stored hr

/-- "hints the IR API accepts": a stored hint is empty (treated as no hint) or a valid name that
is a fixed point of the suffix stripping — it never ends in `_<digits>`. -/
theorem accepted_clean {raw h : Str} (ha : accepted raw = some h) :
    h = [] ∨ (validName h = true ∧ strip h = h ∧ ∀ ds, ds ≠ [] → ds.all isDigit = true →
      ∀ p, h ≠ p ++ '_' :: ds) := by
  rcases accepted_stored ha with he | hc
  · left; exact he
  · right
    refine ⟨hc.2.1, hc.2.2, ?_⟩
    intro ds hne hd p e
    -- `h = p ++ "_" ++ ds` would be stripped further
    have hs := hc.2.2
    have hrev : stripRev h.reverse = h.reverse := stripRev_of_strip_eq hs
    have : h.reverse = ds.reverse ++ '_' :: p.reverse := by rw [e]; simp
    rw [this, stripRev_group (by simpa using hne) (by simpa using hd)] at hrev
    obtain ⟨q, hq⟩ := stripRev_suffix p.reverse
    have hl := congrArg List.length hrev
    have hl2 := congrArg List.length hq
    simp at hl hl2
    omega

/-- a name that is new and then covered, in front of names that are new after it -/
theorem covers_nodup_cons {C C' : Str → Prop} {a : Str} {l : List Str}
    (h : ¬ C a ∧ C' a ∧ ∀ n, C n → C' n) (hl : (∀ n ∈ l, ¬ C' n) ∧ l.Nodup) :
    (∀ n ∈ a :: l, ¬ C n) ∧ (a :: l).Nodup :=
  ⟨fun n hn => (List.mem_cons.mp hn).elim (fun e => e ▸ h.1) fun hin hc => hl.1 n hin (h.2.2 n hc),
    List.nodup_cons.mpr ⟨fun hin => hl.1 a hin h.2.1, hl.2⟩⟩

theorem allocFrom_new_nodup (hs : List (Option Str)) : ∀ sc : Scope, (∀ x ∈ hs, Stored x) →
    (∀ n ∈ allocFrom sc hs, ¬ Covered sc n) ∧ (allocFrom sc hs).Nodup := by
  induction hs with
  | nil => intro sc _; simp [allocFrom]
  | cons h t ih =>
    intro sc hst
    exact covers_nodup_cons (allocVal_covers sc (hst h (by simp)))
      (ih _ fun x hx => hst x (by simp [hx]))

/-- **allocate_injective** — "holds for any value name hints the IR API accepts": the values of
one printer scope, whatever accepted hints they carry (equal hints, hints that look like generated
names, empty hints, none), are printed under pairwise distinct names. -/
theorem allocate_injective (hs : List (Option Str)) (hacc : AllAccepted hs) :
    (allocate hs).Nodup :=
  (allocFrom_new_nodup hs {} (stored_of_allAccepted hacc)).2

/-- non-vacuity + the witness of the repaired defect: raw hints `a, a, a_1_2` -/
example : allocate [accepted "a".toList, accepted "a".toList, accepted "a_1_2".toList]
    = ["a".toList, "a_1".toList, "a_2".toList] := by decide +kernel

/-- scope stack with, per scope, the names visible in it (ghost component) -/
abbrev GState := List (Scope × List Str)

def gstep (g : GState) : Ev → GState
  | .val h =>
    (match g with
     | (sc, iss) :: rest => ((allocVal sc h).1, (allocVal sc h).2 :: iss) :: rest
     | [] => [])
  | .enter => (match g with | top :: rest => top :: top :: rest | [] => [])
  | .exit => (match g with | _ :: top :: rest => top :: rest | _ => g)

def grun (g : GState) : List Ev → GState
  | [] => g
  | e :: es => grun (gstep g e) es

/-- the ghost semantics is the model's semantics plus bookkeeping -/
theorem gstep_erase (g : GState) (e : Ev) :
    (gstep g e).map Prod.fst = (stepEv (g.map Prod.fst) e).1 := by
  cases e with
  | val h => cases g with
    | nil => rfl
    | cons top rest => obtain ⟨sc, iss⟩ := top; rfl
  | enter => cases g with
    | nil => rfl
    | cons top rest => rfl
  | exit => cases g with
    | nil => rfl
    | cons top rest => cases rest with
      | nil => rfl
      | cons t2 r2 => rfl

def EvStored : Ev → Prop
  | .val h => Stored h
  | _ => True

/-- in every scope of the ghost stack the visible names are covered by its counters and distinct -/
private def GInv (g : GState) : Prop := ∀ p ∈ g, (∀ n ∈ p.2, Covered p.1 n) ∧ p.2.Nodup

private theorem gstep_inv {g : GState} (hg : GInv g) {e : Ev} (he : EvStored e) : GInv (gstep g e) := by
  cases e with
  | val h =>
    cases g with
    | nil => intro p hp; cases hp
    | cons top rest =>
      obtain ⟨sc, iss⟩ := top
      intro p hp
      simp only [gstep] at hp
      rcases List.mem_cons.mp hp with e | hp
      · obtain ⟨hi, hn⟩ := hg (sc, iss) (by simp)
        obtain ⟨hnew, hc, hm⟩ := allocVal_covers sc he
        subst e
        exact ⟨fun n hin => (List.mem_cons.mp hin).elim (fun e => e ▸ hc) fun hin => hm n (hi n hin),
          List.nodup_cons.mpr ⟨fun hin => hnew (hi _ hin), hn⟩⟩
      · exact hg p (List.mem_cons_of_mem _ hp)
  | enter =>
    cases g with
    | nil => intro p hp; cases hp
    | cons top rest =>
      intro p hp
      simp only [gstep] at hp
      rcases List.mem_cons.mp hp with e | hp
      · subst e; exact hg _ (by simp)
      · exact hg p hp
  | exit =>
    cases g with
    | nil => intro p hp; cases hp
    | cons top rest =>
      cases rest with
      | nil => exact hg
      | cons t2 r2 =>
        intro p hp
        simp only [gstep] at hp
        exact hg p (List.mem_cons_of_mem _ hp)

private theorem grun_inv (evs : List Ev) (hacc : ∀ e ∈ evs, EvStored e) :
    ∀ {g : GState}, GInv g → GInv (grun g evs) := by
  induction evs with
  | nil => exact fun hg => hg
  | cons e es ih =>
    exact fun hg => ih (fun e' h' => hacc e' (by simp [h'])) (gstep_inv hg (hacc e (by simp)))

/-- **scoped_injective** — for every sequence of first-printings, scope entries and scope exits
with accepted hints: in every live scope, the names visible there (inherited from the enclosing
scopes when it was entered + issued inside it) are pairwise distinct. -/
theorem scoped_injective (evs : List Ev) (hacc : ∀ e ∈ evs, EvStored e) :
    ∀ p ∈ grun [({}, [])] evs, p.2.Nodup := by
  refine fun p hp => (grun_inv evs hacc ?_ p hp).2
  intro p hp
  rcases List.mem_cons.mp hp with e | hp
  · subst e; exact ⟨(by intro n hn; cases hn), List.nodup_nil⟩
  · cases hp

/-- non-vacuity: outer `a`, inner scope `a`, `%0`; after the exit the outer scope continues with
`a_1` and `%0` again (the inner names are gone), visible names stay distinct -/
example : (grun [({}, [])] [.val (some "a".toList), .enter, .val (some "a".toList), .val none,
      .exit, .val (some "a".toList), .val none]).map Prod.snd
    = [["0".toList, "a_1".toList, "a".toList]] := by decide +kernel

/-- the hints of the first-printings of an event sequence -/
def evHints : List Ev → List (Option Str)
  | [] => []
  | .val h :: es => h :: evHints es
  | _ :: es => evHints es

/-- the event sequence of the re-parsed IR: same structure, hints as the parser stored them -/
def normEv : Ev → Ev
  | .val h => .val (normHint h)
  | e => e

private theorem stepEv_ne_nil {st : State} (hne : st ≠ []) (e : Ev) : (stepEv st e).1 ≠ [] := by
  cases st with
  | nil => exact absurd rfl hne
  | cons sc rest =>
    cases e with
    | val h => simp [stepEv]
    | enter => simp [stepEv]
    | exit => cases rest <;> simp [stepEv]

/-- **scoped_reparse / scoped_idempotent** — through nested scopes: every printed value name reads
back as the (normalised) hint of its value, and the event sequence of the re-parsed IR prints
exactly the same names. -/
theorem scoped_reparse (evs : List Ev) (hacc : ∀ e ∈ evs, EvStored e) :
    ∀ st : State, st ≠ [] → (runEvs st evs).map reparseVal = (evHints evs).map normHint := by
  induction evs with
  | nil => intro st _; rfl
  | cons e es ih =>
    intro st hne
    have ih' := ih (fun e' h' => hacc e' (by simp [h'])) (stepEv st e).1 (stepEv_ne_nil hne e)
    cases st with
    | nil => exact absurd rfl hne
    | cons sc rest =>
      cases e with
      | val h =>
        have hh : Stored h := hacc (.val h) (by simp)
        simp only [runEvs, stepEv, evHints, List.map_cons] at ih' ⊢
        rw [ih', reparseVal_allocVal sc hh]
      | enter => exact ih'
      | exit => cases rest <;> exact ih'

theorem scoped_idempotent (evs : List Ev) : ∀ st : State, runEvs st (evs.map normEv) = runEvs st evs := by
  induction evs with
  | nil => intro st; rfl
  | cons e es ih =>
    intro st
    have e1 : stepEv st (normEv e) = stepEv st e := by
      cases e with
      | val h =>
        cases st with
        | nil => rfl
        | cons sc rest => simp only [normEv, stepEv, allocVal_normHint]
      | enter => rfl
      | exit => rfl
    simp only [List.map_cons, runEvs, e1, ih]

/-- one printer scope is a run of first-printings -/
private theorem runEvs_vals (hs : List (Option Str)) :
    ∀ (sc : Scope) (rest : State), runEvs (sc :: rest) (hs.map .val) = allocFrom sc hs := by
  induction hs with
  | nil => intro sc rest; rfl
  | cons h t ih => intro sc rest; simp only [List.map_cons, runEvs, stepEv, allocFrom, ih]

private theorem evHints_vals (hs : List (Option Str)) : evHints (hs.map .val) = hs := by
  induction hs with
  | nil => rfl
  | cons h t ih => simp only [List.map_cons, evHints, ih]

/-- **reparse_allocate** — the hint the parser stores for a printed value name is the hint the
value had (an empty hint reads back as no hint; numbered values read back without hint). -/
theorem reparse_allocate (hs : List (Option Str)) (hacc : AllAccepted hs) :
    (allocate hs).map reparseVal = hs.map normHint := by
  have hst : ∀ e ∈ hs.map Ev.val, EvStored e := fun e he => by
    obtain ⟨h, hh, rfl⟩ := List.mem_map.mp he
    exact stored_of_allAccepted hacc h hh
  have := scoped_reparse (hs.map .val) hst [{}] (by simp)
  rwa [runEvs_vals, evHints_vals] at this

/-- **print_idempotent** — "printing the parsed IR reproduces the same text", name layer:
allocating names for the hints the parser stored back gives exactly the same names. -/
theorem print_idempotent (hs : List (Option Str)) (hacc : AllAccepted hs) :
    allocate ((allocate hs).map reparseVal) = allocate hs := by
  have := scoped_idempotent (hs.map .val) [{}]
  rw [List.map_map, show normEv ∘ Ev.val = Ev.val ∘ normHint from rfl, ← List.map_map,
    runEvs_vals, runEvs_vals] at this
  rw [reparse_allocate hs hacc]
  exact this

example : allocate ((allocate [accepted "a_1_2".toList, none, accepted "_1".toList,
      accepted "a".toList]).map reparseVal)
    = ["a".toList, "0".toList, "1".toList, "a_1".toList] := by decide +kernel

/-- the hint a block effectively contributes at position `idx` -/
def effHints (idx : Nat) (lab : Bool) : List (Option Str) → List (Option Str)
  | [] => []
  | h :: t => (if (idx != 0 || lab) then usableBlockHint h else none) :: effHints (idx + 1) lab t

theorem allocBlocks_new_nodup (lab : Bool) (hs : List (Option Str)) :
    ∀ (sc : Scope) (idx : Nat), (∀ x ∈ hs, Stored x) →
      (∀ n ∈ (allocBlocksFrom sc idx lab hs).2, ¬ BCovered sc idx n) ∧
        (allocBlocksFrom sc idx lab hs).2.Nodup := by
  induction hs with
  | nil => intro sc idx _; simp [allocBlocksFrom]
  | cons h t ih =>
    intro sc idx hst
    exact covers_nodup_cons (allocBlock_covers sc idx (idx != 0 || lab) (hst h (by simp)))
      (ih _ (idx + 1) fun x hx => hst x (by simp [hx]))

/-- **region_injective** — "any … block name hints the IR API accepts": the blocks of one region
get pairwise distinct labels, from every printer state (whatever was printed before in the scope),
for hints equal to each other, of the default form `bb<n>`, empty or absent, and whether or not the
entry block's label is printed. -/
theorem region_injective (sc : Scope) (entryLabelled : Bool) (hs : List (Option Str))
    (hacc : AllAccepted hs) : (allocRegion sc entryLabelled hs).2.Nodup :=
  (allocBlocks_new_nodup entryLabelled hs sc 0 (stored_of_allAccepted hacc)).2

/-- the witness of the repaired defect: unnamed first block, second block hinted `bb0`; and two
blocks hinted alike after an unlabelled hinted entry block -/
example : (allocRegion {} true [none, accepted "bb0".toList]).2 = ["bb0".toList, "bb1".toList] := by
  decide +kernel
example : (allocRegion {} false [accepted "a".toList, accepted "a".toList, accepted "a_1".toList]).2
    = ["bb0".toList, "a".toList, "a_1".toList] := by decide +kernel

/-- what the parser stores back for the printed labels (a label that is not printed reads back as
no hint) is the effective hint list -/
theorem reparse_region (sc : Scope) (lab : Bool) (hs : List (Option Str)) (hacc : AllAccepted hs) :
    (allocRegion sc lab hs).2.map reparseBlock = effHints 0 lab hs := by
  have key : ∀ (hs : List (Option Str)) (sc : Scope) (idx : Nat), (∀ x ∈ hs, Stored x) →
      (allocBlocksFrom sc idx lab hs).2.map reparseBlock = effHints idx lab hs := by
    intro hs
    induction hs with
    | nil => intro sc idx _; rfl
    | cons h t ih =>
      intro sc idx hst
      simp only [allocBlocksFrom, effHints, List.map_cons]
      rw [ih _ _ (fun x hx => hst x (by simp [hx])),
        reparseBlock_allocBlock sc idx _ (hst h (by simp))]
  exact key hs sc 0 (stored_of_allAccepted hacc)

private theorem usable_idem (h : Option Str) : usableBlockHint (usableBlockHint h) = usableBlockHint h := by
  match h with
  | none => rfl
  | some [] => rfl
  | some (c :: r) =>
    cases hd : isDefaultBlockName (c :: r) with
    | true => simp [usableBlockHint, hd]
    | false => simp [usableBlockHint, hd]

private theorem allocBlocks_eff (lab : Bool) (hs : List (Option Str)) :
    ∀ sc idx, allocBlocksFrom sc idx lab (effHints idx lab hs) = allocBlocksFrom sc idx lab hs := by
  induction hs with
  | nil => intro sc idx; rfl
  | cons h t ih =>
    intro sc idx
    have e : allocBlock sc idx (idx != 0 || lab) (if (idx != 0 || lab) then usableBlockHint h else none)
        = allocBlock sc idx (idx != 0 || lab) h := by
      unfold allocBlock
      cases (idx != 0 || lab) with
      | true => simp [usable_idem]
      | false => simp
    simp only [effHints, allocBlocksFrom, e, ih]

/-- **region_idempotent** — "printing the parsed IR reproduces the same text", block labels:
allocating labels for the hints the parser stored back, from the same printer state, gives the
same labels (and the same printer state afterwards). -/
theorem region_idempotent (sc : Scope) (lab : Bool) (hs : List (Option Str)) (hacc : AllAccepted hs) :
    allocRegion sc lab ((allocRegion sc lab hs).2.map reparseBlock) = allocRegion sc lab hs := by
  rw [reparse_region sc lab hs hacc]
  exact allocBlocks_eff lab hs sc 0

/-! #### the unrepaired code violates the property (kept as documentation of the defect) -/

/-- `extract_valid_name` before the repair removed ONE suffix only -/
def stripOnceRev : Str → Str
  | [] => []
  | c :: r => if isDigit c then (match dropDigits r with | '_' :: rest => rest | _ => c :: r) else c :: r

def acceptedOld (s : Str) : Option Str :=
  if validName s then some (stripOnceRev s.reverse).reverse else none

/-- with one-suffix stripping the raw hints `a, a, a_1_2` give `%a, %a_1, %a_1` -/
theorem unrepaired_allocate_counterexample :
    allocate [acceptedOld "a".toList, acceptedOld "a".toList, acceptedOld "a_1_2".toList]
      = ["a".toList, "a_1".toList, "a_1".toList] := by decide +kernel

/-- and a single hint `a_1_2` prints `%a_1`, which reads back as `a` and re-prints `%a` -/
theorem unrepaired_idempotent_counterexample :
    allocate ((allocate [acceptedOld "a_1_2".toList]).map reparseVal)
      ≠ allocate [acceptedOld "a_1_2".toList] := by decide +kernel

end Xdsl.Names
