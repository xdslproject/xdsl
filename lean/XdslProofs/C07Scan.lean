import XdslModel.RawScan
/-!
# C07 — parsing terminates promptly and fails only with diagnostics (raw scan of dialect symbol bodies)

"For any input text, the parser finishes in time roughly proportional to the input size and either
returns IR or reports a parse or verification diagnostic; it never hangs …"

The body of an unregistered dialect attribute or type is not lexed: `AttrParser._raw_scan_balanced`
walks over the raw characters to the matching `>`.  `XdslModel/RawScan.lean` is the model of that
loop (bracket stack + string skipping, one tick per loop iteration).  For every input — every list
of code points, every start position, every bracket stack, both loop modes —:

* `scan_steps_le` — "time roughly proportional to the input size / never hangs": the number of loop
  iterations is at most the number of code points after the start position, plus one;
* `scan_ok_steps` — a successful scan stops at the `>` it returns: it never reads past it, so the
  scans of all bodies of one text together read every character at most once;
* `scan_cases` — "either returns … or reports a parse diagnostic": the outcome is the position of a
  `>` inside the text at or after the start, or one of the three `ParseError`s, whose position (where
  it has one) is inside the text and points at the offending closer / at the opening quote.

Tied to `/repo` by differential scanning (`harness/props/c07.py`, stream `rawscan`): result, error
kind and position of the real `_raw_scan_balanced` against `scan`, plus a CPU guard on the real call.
Not proved: wall-clock time of the Python loop (measured), and that the real function *is* this loop
(correspondence only).
-/
namespace Xdsl.RawScan

/-- the text whose rest `cs` begins at absolute position `pos` has `x` at position `p` -/
def At (pos : Nat) (cs : List Nat) (p x : Nat) : Prop := pos ≤ p ∧ cs[p - pos]? = some x

theorem At.head (pos x : Nat) (r : List Nat) : At pos (x :: r) pos x := ⟨Nat.le_refl _, by simp⟩

theorem At.cons {pos p x : Nat} {r : List Nat} (c : Nat) (h : At (pos + 1) r p x) : At pos (c :: r) p x := by
  obtain ⟨h1, h2⟩ := h
  refine ⟨by omega, ?_⟩
  rwa [show p - pos = p - (pos + 1) + 1 by omega, List.getElem?_cons_succ]

theorem At.of_drop {content : List Nat} {pos p x : Nat} (h : At pos (content.drop pos) p x) :
    pos ≤ p ∧ p < content.length ∧ content[p]? = some x := by
  have := h.2
  rw [List.getElem?_drop, Nat.add_sub_cancel' h.1] at this
  exact ⟨h.1, (List.getElem?_eq_some_iff.mp this).1, this⟩

/-- What a run of `go` in mode `m` from position `pos` over the rest `cs` may return: at most one tick
per code point and one more; a `>` of `cs`, with no tick spent beyond it; a closing bracket of `cs`;
the opening quote of the string the run started in or of one that begins in `cs`. -/
def Spec (m : Mode) (pos : Nat) (cs : List Nat) (q : Res × Nat) : Prop :=
  q.2 ≤ cs.length + 1 ∧
  match q.1 with
  | .ok p => At pos cs p 62 ∧ q.2 ≤ p - pos + 1
  | .unbalanced c p => At pos cs p c ∧ isClose c = true
  | .unterminated s => m = .str s ∨ At pos cs s 34
  | .eof => True

/-- one more code point in front without a tick: `->` and `\x` are two code points passed in
one iteration -/
theorem Spec.shift {m : Mode} {pos : Nat} {r : List Nat} {q : Res × Nat} (c : Nat)
    (h : Spec m (pos + 1) r q) : Spec m pos (c :: r) q := by
  obtain ⟨res, t⟩ := q
  obtain ⟨h1, h2⟩ := h
  refine ⟨Nat.le_succ_of_le h1, ?_⟩
  cases res with
  | ok p => exact ⟨h2.1.cons c, by have := h2.1.1; have : t ≤ _ := h2.2; show t ≤ _; omega⟩
  | unbalanced d p => exact ⟨h2.1.cons c, h2.2⟩
  | unterminated s => exact h2.imp_right (.cons c)
  | eof => trivial

/-- one loop iteration in front.  The iteration may change the mode; a string the rest of the run
started in (`m' = str s`) is the one this run started in, or begins here. -/
theorem Spec.tick {m m' : Mode} {pos c : Nat} {r : List Nat} {q : Res × Nat}
    (h : Spec m' (pos + 1) r q) (hm : ∀ s, m' = .str s → m = .str s ∨ (s = pos ∧ c = 34)) :
    Spec m pos (c :: r) (tick q) := by
  obtain ⟨res, t⟩ := q
  obtain ⟨h1, h2⟩ := h
  refine ⟨Nat.succ_le_succ h1, ?_⟩
  cases res with
  | ok p => exact ⟨h2.1.cons c, by have := h2.1.1; have : t ≤ _ := h2.2; show t + 1 ≤ _; omega⟩
  | unbalanced d p => exact ⟨h2.1.cons c, h2.2⟩
  | unterminated s =>
    rcases h2 with e | e
    · rcases hm s e with e | ⟨rfl, rfl⟩
      · exact .inl e
      · exact .inr (.head ..)
    · exact .inr (e.cons c)
  | eof => trivial

theorem go_spec (m : Mode) (st : List Nat) (pos : Nat) (cs : List Nat) :
    Spec m pos cs (go m st pos cs) := by
  fun_induction go m st pos cs
  -- end of text in `norm`; `str s`: end of text; `\` last; `\x`; closing quote; any other character
  · exact ⟨Nat.le_refl _, trivial⟩
  · exact ⟨Nat.le_refl _, .inl rfl⟩
  · exact ⟨Nat.le_refl _, .inl rfl⟩
  · next ih => exact (ih.tick fun _ => .inl).shift _
  · next ih => exact ih.tick nofun
  · next ih => exact ih.tick fun _ => .inl
  -- `norm`: opener; `-` last; `->`; `-`
  · next ih => exact ih.tick nofun
  · exact ⟨Nat.le_refl _, trivial⟩
  · next ih => exact (ih.tick nofun).shift _
  · next ih => exact ih.tick nofun
  -- closer: the `>` looked for; unbalanced (twice); matching the innermost opener
  · next h => exact ⟨by simp, beq_iff_eq.mp h ▸ .head .., by omega⟩
  · next h _ => exact ⟨by simp, .head .., h⟩
  · next h _ _ _ => exact ⟨by simp, .head .., h⟩
  · next ih => exact ih.tick nofun
  -- opening quote at `pos`; any other character
  · next h ih => exact ih.tick fun s e => .inr ⟨(Mode.str.inj e).symm, beq_iff_eq.mp h⟩
  · next ih => exact ih.tick nofun

theorem scan_spec (content : List Nat) (pos : Nat) :
    Spec .norm pos (content.drop pos) (scan content pos) :=
  go_spec ..

/-- **scan_steps_le** — "finishes in time roughly proportional to the input size … never hangs": the
two loops of `_raw_scan_balanced` together iterate at most once per code point after the start
position (plus the final test), whatever the text: unterminated strings, unbalanced or unclosed
brackets, backslashes at the end included. -/
theorem scan_steps_le (content : List Nat) (pos : Nat) :
    (scan content pos).2 ≤ (content.length - pos) + 1 :=
  List.length_drop ▸ (scan_spec content pos).1

/-- **scan_ok_steps** — a successful scan does not read past the `>` it returns (the lexer resumes
right after it, so over a whole text the scans of all bodies read each character at most once). -/
theorem scan_ok_steps (content : List Nat) (pos p : Nat) (h : (scan content pos).1 = .ok p) :
    (scan content pos).2 ≤ p - pos + 1 := by
  have := (scan_spec content pos).2
  rw [h] at this
  exact this.2

/-- **scan_cases** — "either returns … or reports a parse diagnostic": the outcome is the position
of a `>` of the text at or after the start position, or one of the three `ParseError`s of the
function; a reported position lies inside the text and points at the closing bracket named in the
message, resp. at the opening quote of the unterminated string. -/
theorem scan_cases (content : List Nat) (pos : Nat) :
    (∃ p, (scan content pos).1 = .ok p ∧ pos ≤ p ∧ p < content.length ∧ content[p]? = some 62) ∨
    (∃ c p, (scan content pos).1 = .unbalanced c p ∧ pos ≤ p ∧ p < content.length ∧
      content[p]? = some c ∧ isClose c = true) ∨
    (∃ s, (scan content pos).1 = .unterminated s ∧ pos ≤ s ∧ s < content.length ∧
      content[s]? = some 34) ∨
    (scan content pos).1 = .eof := by
  have := (scan_spec content pos).2
  cases hr : (scan content pos).1 <;> rw [hr] at this
  case ok p => exact .inl ⟨p, rfl, this.1.of_drop⟩
  case unbalanced c p =>
    obtain ⟨h1, h2, h3⟩ := this.1.of_drop
    exact .inr (.inl ⟨c, p, rfl, h1, h2, h3, this.2⟩)
  case unterminated s => exact .inr (.inr (.inl ⟨s, rfl, (this.resolve_left nofun).of_drop⟩))
  case eof => exact .inr (.inr (.inr rfl))

/-! ## Non-vacuity (texts as code-point lists; the literal is quoted in the comment) -/

/-- `#d.n<a<b>, "x>\"" -> (c)>rest` from position 5: brackets inside strings and `->` do not count;
the outer `>` is found -/
example : (scan [35, 100, 46, 110, 60, 97, 60, 98, 62, 44, 32, 34, 120, 62, 92, 34, 34, 32, 45, 62, 32, 40, 99, 41, 62, 114, 101, 115, 116] 5).1 = .ok 24 := by decide +kernel

/-- the shape of the seeded change C07-C,
`#mydialect.layout<"row_major, tile = [4, 4]>} : () -> () loc(unknown)` from position 18: the closing
quote of the last string of the text is missing; the scan ends with the diagnostic at the opening
quote after one pass over the 51 code points from there to the end of the text -/
example : scan [35, 109, 121, 100, 105, 97, 108, 101, 99, 116, 46, 108, 97, 121, 111, 117, 116, 60, 34, 114, 111, 119, 95, 109, 97, 106, 111, 114, 44, 32, 116, 105, 108, 101, 32, 61, 32, 91, 52, 44, 32, 52, 93, 62, 125, 32, 58, 32, 40, 41, 32, 45, 62, 32, 40, 41, 32, 108, 111, 99, 40, 117, 110, 107, 110, 111, 119, 110, 41] 18 = (.unterminated 18, 52) := by decide +kernel

/-- `<(]>`: a closer that does not match the innermost opener; `<)`: a closer other than `>` at depth
0; `<(a`: end of text inside brackets; `<"a\`: a backslash as the last character of a string -/
example : (scan [60, 40, 93, 62] 1).1 = .unbalanced 93 2 ∧ (scan [60, 41] 1).1 = .unbalanced 41 1 ∧
    (scan [60, 40, 97] 1).1 = .eof ∧ (scan [60, 34, 97, 92] 1).1 = .unterminated 1 := by decide +kernel

end Xdsl.RawScan
