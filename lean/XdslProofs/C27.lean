import XdslProofs.Lemmas.PDLMatch
import XdslProofs.Lemmas.PDLApply
/-!
# C27 — PDL patterns act the same interpreted or compiled to pdl_interp  (PARTIAL claim)

Property: "Applying a PDL rewrite pattern directly and applying the matcher and rewriter that the
PDL-to-pdl_interp conversion produces for the same pattern to the same payload IR yields equivalent IR."

What is proved here is about the SPECIFICATION both xDSL paths are tested against (`XdslModel/PDL.lean`):
the denotation `matchRoot : Pattern → IR → OpId → Option Binding` of a single-root PDL pattern and the rewrite
`applyRw`.  Neither `interpreters/pdl.py`, nor the predicate-tree compiler `convert_pdl_to_pdl_interp`, nor the
`pdl_interp` interpreter is modelled; their agreement with this specification (and hence with each other) is
established per run by the harness on generated and corpus (pattern, payload) pairs — that half of the property
is tested, not proved.

`Holds p ir b` (Lemmas/PDLMatch.lean) is the declarative reading of a pattern: every bound `pdl.type`,
`pdl.attribute`, `pdl.operand` and `pdl.operation` node satisfies all of its constraints under `b`
(name, attribute presence/value/type, operand count and identity, defining operation and result index of
`pdl.result` operands, result count and types, constant types, and one entity per node).
-/
namespace Xdsl.PDL
open Xdsl

/-- "The compiled matcher accepts exactly the operations the pattern describes", ⊆ half on the
specification: a binding returned for a candidate root instantiates every constraint of the pattern DAG, with
the root bound to the candidate. -/
theorem match_sound {p : Pattern} {ir : IR} {o : OpId} {b : Binding} (h : matchRoot p ir o = some b) :
    Holds p ir b ∧ AL.get b.ops p.root = some o :=
  matchRoot_spec h

/-- ⊇ half, for every DAG-shaped pattern — shared operands, types, attributes and operations
included — whose `pdl.result` operands refer to earlier operations, as SSA form guarantees: if any binding
instantiates the pattern with the root at `o`, the matcher succeeds and returns a sub-binding of it. -/
theorem match_complete {p : Pattern} {ir : IR} {B : Binding} {o : OpId} (hwf : WFPat p) (hne : p.ops ≠ [])
    (hB : Holds p ir B) (ho : AL.get B.ops p.root = some o) :
    ∃ b, matchRoot p ir o = some b ∧ Le b B :=
  matchRoot_complete hwf hB ho

/-- The matcher decides instantiability of the pattern at an operation. -/
theorem match_iff {p : Pattern} {ir : IR} {o : OpId} (hwf : WFPat p) (hne : p.ops ≠ []) :
    (matchRoot p ir o).isSome = true ↔ ∃ B, Holds p ir B ∧ AL.get B.ops p.root = some o := by
  constructor
  · intro h
    cases hm : matchRoot p ir o with
    | none => rw [hm] at h; cases h
    | some b => exact ⟨b, match_sound hm⟩
  · rintro ⟨B, hB, ho⟩
    obtain ⟨b, hb, _⟩ := match_complete hwf hne hB ho
    rw [hb]; rfl

/-- The instantiation is unique where the matcher binds: any two instantiating bindings with the same root agree
with the matcher's binding (so "which entities the rewrite sees" does not depend on the matching strategy — the
reason an interpreter and a predicate tree may legitimately explore the pattern in different orders). -/
theorem instantiation_unique {p : Pattern} {ir : IR} {B B' : Binding} {o : OpId} (hwf : WFPat p) (hne : p.ops ≠ [])
    (hB : Holds p ir B) (ho : AL.get B.ops p.root = some o)
    (hB' : Holds p ir B') (ho' : AL.get B'.ops p.root = some o) :
    ∃ b, matchRoot p ir o = some b ∧ Le b B ∧ Le b B' := by
  obtain ⟨b, hb, hle⟩ := match_complete hwf hne hB ho
  obtain ⟨b', hb', hle'⟩ := match_complete hwf hne hB' ho'
  rw [hb] at hb'
  cases hb'
  exact ⟨b, hb, hle, hle'⟩

/-- Executing a rewrite section (create / replace with values / replace with operation / erase,
in any number and order, on root and non-root operations) keeps the payload free of dangling uses; the block
arguments are untouched.  Holds for every binding, because the model checks availability locally where a value
is used and refuses to erase an operation that still has uses (as `PatternRewriter.erase` does). -/
theorem apply_wf {rw : List Action} {ir ir' : IR} {b : Binding} {root : OpId}
    (hc : ir.closed = true) (h : applyRw rw ir b root = some ir') : ir'.closed = true := by
  unfold applyRw at h
  cases hs : steps root b { ir := ir, created := [] } rw with
  | none => rw [hs] at h; cases h
  | some st =>
    rw [hs] at h
    cases h
    exact (closed_iff _).2 (closed_steps hs ((closed_iff ir).1 hc))

/-- one application of a pattern at an operation either leaves the payload alone (no match / refused rewrite) or
produces a payload without dangling uses -/
theorem rewriteAt_wf {p : Pattern} {rw : List Action} {ir ir' : IR} {o : OpId}
    (hc : ir.closed = true) (h : rewriteAt p rw ir o = .done ir') : ir'.closed = true := by
  unfold rewriteAt at h
  split at h
  · cases h
  · split at h
    · cases h
    · rename_i b _ ir'' happ
      cases h
      exact apply_wf hc happ

/-- a pattern whose root does not match rewrites nothing -/
theorem rewriteAt_nomatch {p : Pattern} {rw : List Action} {ir : IR} {o : OpId} :
    rewriteAt p rw ir o = .nomatch ↔ matchRoot p ir o = none := by
  unfold rewriteAt
  constructor
  · intro h
    split at h
    · assumption
    · split at h <;> cases h
  · intro h
    simp [h]

/-! ## non-vacuity: the corpus pattern `x + 0 → x` (tests/filecheck/transforms/apply-pdl/apply_pdl_add_zero.mlir)

names: 0 = arith.constant, 1 = arith.addi, 2 = func.return; attribute name 0 = "value"; type 0 = i32;
attribute values 0 = `0 : i32`, 1 = `4 : i32`. -/

def exPattern : Pattern :=
  { types := [none],
    attrs := [{ val := some { val := 0, ty := some 0 }, ty := none }],
    vals := [none],
    ops := [{ name := some 0, attrs := [(0, 0)], operands := [], results := [0] },
            { name := some 1, attrs := [], operands := [.val 0, .res 0 0], results := [0] }] }

def exRewrite : List Action := [.replaceVals (.m 1) [.cap 0]]

def exIR : IR :=
  { argTys := [],
    ops := [{ id := 10, name := 0, operands := [], attrs := [(0, { val := 1, ty := some 0 })], resTys := [0] },
            { id := 11, name := 0, operands := [], attrs := [(0, { val := 0, ty := some 0 })], resTys := [0] },
            { id := 12, name := 1, operands := [.res 10 0, .res 11 0], attrs := [], resTys := [0] },
            { id := 13, name := 2, operands := [.res 12 0], attrs := [], resTys := [] }] }

example : WFPat exPattern := by
  intro i pat h j idx hm
  match i, h with
  | 0, h => simp [exPattern] at h; subst h; simp at hm
  | 1, h => simp [exPattern] at h; subst h; simp at hm; omega
  | n + 2, h => simp [exPattern] at h

example : exIR.closed = true := by decide

/-- the addition matches with `x ↦ %0`, the constant-zero operand's defining op bound, the type bound to i32 -/
example : matchRoot exPattern exIR 12 =
    some { ops := [(1, 12), (0, 11)], vals := [(0, .res 10 0)], attrs := [(0, { val := 0, ty := some 0 })], tys := [(0, 0)] } := by
  decide

/-- the constants and the return do not match -/
example : matchRoot exPattern exIR 10 = none ∧ matchRoot exPattern exIR 11 = none ∧ matchRoot exPattern exIR 13 = none := by
  decide

/-- the rewrite replaces the use of the sum by `%0` and erases the addition -/
example : rewriteAt exPattern exRewrite exIR 12 = .done
    { argTys := [],
      ops := [{ id := 10, name := 0, operands := [], attrs := [(0, { val := 1, ty := some 0 })], resTys := [0] },
              { id := 11, name := 0, operands := [], attrs := [(0, { val := 0, ty := some 0 })], resTys := [0] },
              { id := 13, name := 2, operands := [.res 10 0], attrs := [], resTys := [] }] } := by
  decide

/-- erasing the root while it is still used is refused (as `PatternRewriter.erase` raises) -/
example : rewriteAt exPattern [.erase (.m 1)] exIR 12 = .error := by decide

/-- near miss: the second operand is `4 : i32`, not zero -/
example : matchRoot exPattern
    { exIR with ops := exIR.ops.map fun x => if x.id = 12 then { x with operands := [.res 11 0, .res 10 0] } else x } 12 = none := by
  decide

/-! ## the header of `pdl.pattern` and attribute/property shadowing

"…for the same pattern…": a single pattern is applied; its `benefit` (priority among SEVERAL patterns; 0 = lowest, not
"never applies") and its symbol name (a label, after which the conversion names the rewriter function) are not part
of what the pattern denotes.  In the specification this holds by construction — `PatternOp.matchRoot/rewriteAt/driveW`
have no access to the header — and both real paths are run under generated headers (benefit 0, 16-bit boundary values,
names `@matcher`, `@rewriters`, `@pdl_generated_rewriter`, …) against this header-blind denotation. -/

/-- Match decision and binding, the single rewrite, and greedy application under any walk order
of a `pdl.pattern` op are the same for every benefit and every symbol name. -/
theorem header_irrelevant (h h' : Header) (p : Pattern) (rw : List Action) (ir : IR) :
    (∀ o, (PatternOp.mk h p rw).matchRoot ir o = (PatternOp.mk h' p rw).matchRoot ir o) ∧
    (∀ o, (PatternOp.mk h p rw).rewriteAt ir o = (PatternOp.mk h' p rw).rewriteAt ir o) ∧
    (∀ rev fuel, (PatternOp.mk h p rw).driveW rev fuel ir = (PatternOp.mk h' p rw).driveW rev fuel ir) :=
  ⟨fun _ => rfl, fun _ => rfl, fun _ _ => rfl⟩

/-- non-vacuity: `x + 0 → x` declared with `benefit(0)` and named `@matcher` rewrites the addition like the corpus
pattern (`benefit(2)`, no symbol name) does -/
example : (PatternOp.mk { benefit := 0, sym := some 7 } exPattern exRewrite).rewriteAt exIR 12 =
    rewriteAt exPattern exRewrite exIR 12 ∧ rewriteAt exPattern exRewrite exIR 12 ≠ .nomatch :=
  ⟨rfl, by decide⟩

/-- The named attribute of an operation is its PROPERTY when it has a property and an
attribute of the same name (`Operation.get_attr_or_prop`, MLIR's `Operation::getAttr`; the payload encoding lists the
properties before the attributes): the shadowed attribute's value plays no part. -/
theorem property_shadows_attribute (x : Op) (n : Nat) (pv : Attr) (rest : List (Nat × Attr)) (h : x.attrs = (n, pv) :: rest) :
    x.attr n = some pv := by
  simp [Op.attr, h]

/-- the constant whose PROPERTY `value` is `0 : i32` matches although an attribute `value = 4 : i32` is present too;
the one whose property is `4 : i32` does not match although its attribute is `0 : i32` -/
example :
    (matchRoot exPattern
      { exIR with ops := exIR.ops.map fun x => if x.id = 11 then
          { x with attrs := [(0, { val := 0, ty := some 0 }), (0, { val := 1, ty := some 0 })] } else x } 12).isSome = true ∧
    matchRoot exPattern
      { exIR with ops := exIR.ops.map fun x => if x.id = 11 then
          { x with attrs := [(0, { val := 1, ty := some 0 }), (0, { val := 0, ty := some 0 })] } else x } 12 = none := by
  decide

/-! ## known finding (known_findings.json, call site ConvertPDLToPDLInterpPass):
`%t = pdl.type; %a = pdl.attribute : %t; pdl.operation "test.op" {"a" = %a}` on `"test.op"() {a = "s"}`.
The specification (and the interpreted path) reject — a string attribute has no type that could be bound to `%t` —
while the compiled matcher accepts, because `%t` carries no other constraint and no predicate inspects the null type. -/

def kfPattern : Pattern :=
  { types := [none], attrs := [{ val := none, ty := some 0 }], vals := [],
    ops := [{ name := some 0, attrs := [(0, 0)], operands := [], results := [] }] }

def kfIR : IR :=
  { argTys := [], ops := [{ id := 3, name := 0, operands := [], attrs := [(0, { val := 0, ty := none })], resTys := [] }] }

/-- the witness of the known finding: the specification does not match here (the compiled path does) -/
theorem known_untyped_attribute_counterexample : matchRoot kfPattern kfIR 3 = none := by decide

/-- … and no binding whatsoever instantiates the pattern at that operation -/
theorem known_untyped_attribute_no_instance : ¬ ∃ B, Holds kfPattern kfIR B ∧ AL.get B.ops kfPattern.root = some 3 := by
  intro h
  have hwf : WFPat kfPattern := by
    intro i pat h j idx hm
    match i, h with
    | 0, h => simp [kfPattern] at h; subst h; simp at hm
    | n + 1, h => simp [kfPattern] at h
  have := (match_iff (p := kfPattern) (ir := kfIR) (o := 3) hwf (by decide)).2 h
  rw [known_untyped_attribute_counterexample] at this
  cases this

end Xdsl.PDL
