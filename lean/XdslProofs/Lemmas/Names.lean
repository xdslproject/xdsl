import XdslModel.Names
import XdslProofs.Lemmas.AL
import XdslProofs.Lemmas.List
/-!
Lemmas for C04 (names): digits, suffix stripping, injectivity of `hintName`; the hints the IR API
can store (`Clean`, `Stored`); the names the counters of a scope cover (`Covered` / `BCovered`): the value
and block allocators issue a name not covered before and cover it; what the parser reads back for an
allocated name.
-/
namespace Xdsl.Names

theorem isDigit_not_start {c : Char} (h : isDigit c = true) : isStart c = false := by
  simp only [isDigit, Bool.and_eq_true, decide_eq_true_eq] at h
  -- the four punctuation characters lie outside `'0'..'9'`
  have hp : ∀ d : Char, d.toNat < 48 ∨ 57 < d.toNat → (c = d) = False := by
    intro d hd; simp only [eq_iff_iff, iff_false]; rintro rfl; omega
  simp only [isStart, isAlpha, isPunct, hp '_' (by decide), hp '$' (by decide),
    hp '.' (by decide), hp '-' (by decide)]
  simp
  omega

theorem underscore_not_digit : isDigit '_' = false := by decide
theorem underscore_cont : isCont '_' = true := by decide
theorem b_not_digit : isDigit 'b' = false := by decide

/- The decimal numeral is core's: `natDigits n = Nat.toDigits 10 n`, digit by digit (`digitChar_eq`), and `isDigit` is
`Char.isDigit`; non-emptiness, the digits and injectivity (read the numeral back) are then core's lemmas. -/
theorem digitChar_eq : ∀ n, n < 10 → digitChar n = n.digitChar := by decide

theorem natDigits_eq (n : Nat) : natDigits n = Nat.toDigits 10 n := by
  induction n using Nat.strongRecOn with
  | _ n ih =>
    rw [natDigits, Nat.toDigits_eq_if (by decide)]
    split
    · rw [digitChar_eq n ‹_›]
    · rw [ih (n / 10) (by omega), digitChar_eq _ (Nat.mod_lt n (by decide))]

theorem isDigit_eq (c : Char) : isDigit c = c.isDigit := by
  simp only [isDigit, Char.isDigit, ge_iff_le, UInt32.le_iff_toNat_le]; rfl

theorem natDigits_ne_nil (n : Nat) : natDigits n ≠ [] := natDigits_eq n ▸ Nat.toDigits_ne_nil

theorem natDigits_all_digit (n : Nat) : (natDigits n).all isDigit = true :=
  List.all_eq_true.2 fun _ hc =>
    (isDigit_eq _).trans (Nat.isDigit_of_mem_toDigits (by decide) (by decide) (natDigits_eq n ▸ hc))

theorem natDigits_inj {a b : Nat} (h : natDigits a = natDigits b) : a = b := by
  rw [natDigits_eq, natDigits_eq] at h
  rw [← Nat.ofDigitChars_ten_toDigits (n := a), h, Nat.ofDigitChars_ten_toDigits]

theorem dropDigits_eq (r : Str) : dropDigits r = r.dropWhile isDigit := by
  fun_induction dropDigits r <;> simp_all

theorem dropDigits_digits_append {ds : Str} (hd : ds.all isDigit = true) (c : Char) (r : Str)
    (hc : isDigit c = false) : dropDigits (ds ++ c :: r) = c :: r := by
  rw [dropDigits_eq]; exact dropWhile_run (List.all_eq_true.1 hd) (by rintro _ ⟨⟩; exact hc)

theorem dropDigits_suffix (r : Str) : ∃ p, r = p ++ dropDigits r :=
  ⟨r.takeWhile isDigit, by rw [dropDigits_eq, List.takeWhile_append_dropWhile]⟩

theorem stripRev_nil : stripRev [] = [] := by rw [stripRev]

theorem stripRev_cons_nondigit {c : Char} (r : Str) (hc : isDigit c = false) :
    stripRev (c :: r) = c :: r := by
  rw [stripRev]; simp [hc]

theorem stripRev_cons_group {c : Char} {r rest : Str} (hc : isDigit c = true)
    (h : dropDigits r = '_' :: rest) : stripRev (c :: r) = stripRev rest := by
  rw [stripRev]
  simp only [hc, if_true]
  split
  · rename_i rest' heq
    rw [h] at heq
    cases heq
    rfl
  · rename_i hne
    exact absurd h (hne _)

theorem stripRev_cons_stop {c : Char} {r : Str} (hc : isDigit c = true)
    (h : ∀ rest, dropDigits r ≠ '_' :: rest) : stripRev (c :: r) = c :: r := by
  rw [stripRev]
  -- the fall-through equation of the `match` has `h` as its side condition; `simp` takes it from
  -- the context
  simp only [hc, if_true]

theorem stripRev_idem (r : Str) : stripRev (stripRev r) = stripRev r := by
  fun_induction stripRev r with
  | case1 => exact stripRev_nil
  | case2 c r hc rest h ih => exact ih
  | case3 c r hc h => exact stripRev_cons_stop hc fun rest e => h rest e
  | case4 c r hc => exact stripRev_cons_nondigit r (by simpa using hc)

theorem stripRev_suffix (r : Str) : ∃ p, r = p ++ stripRev r := by
  fun_induction stripRev r with
  | case1 => exact ⟨[], rfl⟩
  | case2 c r hc rest h ih =>
    obtain ⟨p, hp⟩ := ih
    obtain ⟨q, hq⟩ := dropDigits_suffix r
    refine ⟨c :: q ++ '_' :: p, ?_⟩
    conv => lhs; rw [hq, h, hp]
    simp
  | case3 c r hc h => exact ⟨[], rfl⟩
  | case4 c r hc => exact ⟨[], rfl⟩

theorem stripRev_group {ds : Str} (hne : ds ≠ []) (hd : ds.all isDigit = true) (r : Str) :
    stripRev (ds ++ '_' :: r) = stripRev r := by
  cases ds with
  | nil => exact absurd rfl hne
  | cons d ds =>
    simp only [List.all_cons, Bool.and_eq_true] at hd
    exact stripRev_cons_group hd.1 (dropDigits_digits_append hd.2 '_' r underscore_not_digit)

theorem strip_idem (s : Str) : strip (strip s) = strip s := by
  simp [strip, stripRev_idem]

theorem strip_prefix (s : Str) : ∃ q, s = strip s ++ q := by
  obtain ⟨p, hp⟩ := stripRev_suffix s.reverse
  refine ⟨p.reverse, ?_⟩
  have := congrArg List.reverse hp
  simpa [strip] using this

theorem stripRev_of_strip_eq {h : Str} (hs : strip h = h) : stripRev h.reverse = h.reverse := by
  have := congrArg List.reverse hs
  simpa [strip] using this

theorem strip_append_suffix {h : Str} (hs : strip h = h) {ds : Str} (hne : ds ≠ [])
    (hd : ds.all isDigit = true) : strip (h ++ '_' :: ds) = h := by
  unfold strip
  have : (h ++ '_' :: ds).reverse = ds.reverse ++ '_' :: h.reverse := by simp
  rw [this, stripRev_group (by simpa using hne) (by simpa using hd), stripRev_of_strip_eq hs]
  simp

theorem validName_prefix {a b : Str} (hne : a ≠ []) (h : validName (a ++ b) = true) :
    validName a = true := by
  cases a with
  | nil => exact absurd rfl hne
  | cons c a =>
    simp only [List.cons_append, validName, List.all_append, Bool.and_eq_true] at h ⊢
    exact ⟨h.1, h.2.1⟩

theorem validName_append {a b : Str} (h : validName a = true) (hb : b.all isCont = true) :
    validName (a ++ b) = true := by
  cases a with
  | nil => simp [validName] at h
  | cons c a =>
    simp only [validName, Bool.and_eq_true, List.cons_append, List.all_append] at h ⊢
    exact ⟨h.1, h.2, hb⟩

theorem all_digit_all_cont {ds : Str} (h : ds.all isDigit = true) : ds.all isCont = true := by
  rw [List.all_eq_true] at h ⊢
  intro c hc
  simp [isCont, h c hc]

theorem validName_digit_head {c : Char} {r : Str} (hc : isDigit c = true) : validName (c :: r) = false := by
  simp [validName, isDigit_not_start hc]

/-- a non-empty hint as `extract_valid_name` returns it -/
def Clean (h : Str) : Prop := h ≠ [] ∧ validName h = true ∧ strip h = h

/-- what the IR API can store: no hint, the empty hint, or a clean one -/
def Stored : Option Str → Prop
  | none => True
  | some h => h = [] ∨ Clean h

theorem accepted_stored {raw h : Str} (ha : accepted raw = some h) : Stored (some h) := by
  unfold accepted at ha
  split at ha
  · rename_i hv
    cases ha
    by_cases hne : strip raw = []
    · left; exact hne
    · right
      obtain ⟨q, hq⟩ := strip_prefix raw
      refine ⟨hne, ?_, strip_idem raw⟩
      rw [hq] at hv
      exact validName_prefix hne hv
  · cases ha

theorem hintName_zero (h : Str) : hintName h 0 = h := by simp [hintName]

theorem hintName_succ (h : Str) {k : Nat} (hk : k ≠ 0) : hintName h k = h ++ '_' :: natDigits k := by
  simp [hintName, hk]

theorem strip_hintName {h : Str} (hc : Clean h) (k : Nat) : strip (hintName h k) = h := by
  by_cases hk : k = 0
  · subst hk; rw [hintName_zero]; exact hc.2.2
  · rw [hintName_succ h hk]
    exact strip_append_suffix hc.2.2 (natDigits_ne_nil k) (natDigits_all_digit k)

theorem validName_hintName {h : Str} (hc : Clean h) (k : Nat) : validName (hintName h k) = true := by
  by_cases hk : k = 0
  · subst hk; rw [hintName_zero]; exact hc.2.1
  · rw [hintName_succ h hk]
    apply validName_append hc.2.1
    simp only [List.all_cons, underscore_cont, Bool.true_and]
    exact all_digit_all_cont (natDigits_all_digit k)

theorem reparseVal_hintName {h : Str} (hc : Clean h) (k : Nat) : reparseVal (hintName h k) = some h := by
  simp [reparseVal, validName_hintName hc k, strip_hintName hc k]

theorem validName_natDigits (n : Nat) : validName (natDigits n) = false := by
  have hne := natDigits_ne_nil n
  have hd := natDigits_all_digit n
  cases hh : natDigits n with
  | nil => exact absurd hh hne
  | cons c r =>
    rw [hh] at hd
    simp only [List.all_cons, Bool.and_eq_true] at hd
    exact validName_digit_head hd.1

theorem reparseVal_natDigits (n : Nat) : reparseVal (natDigits n) = none := by
  simp [reparseVal, validName_natDigits]

theorem hintName_inj {h h' : Str} (hc : Clean h) (hc' : Clean h') {k k' : Nat}
    (e : hintName h k = hintName h' k') : h = h' ∧ k = k' := by
  have e1 : h = h' := by
    have := congrArg reparseVal e
    rw [reparseVal_hintName hc, reparseVal_hintName hc'] at this
    exact Option.some.inj this
  subst e1
  refine ⟨rfl, ?_⟩
  by_cases hk : k = 0 <;> by_cases hk' : k' = 0
  · omega
  · subst hk
    rw [hintName_zero, hintName_succ h hk'] at e
    have := congrArg List.length e
    simp at this
  · subst hk'
    rw [hintName_zero, hintName_succ h hk] at e
    have := congrArg List.length e
    simp at this
  · rw [hintName_succ h hk, hintName_succ h hk'] at e
    have := List.append_cancel_left e
    exact natDigits_inj (List.cons.inj this).2

theorem hintName_ne_natDigits {h : Str} (hc : Clean h) (k n : Nat) : hintName h k ≠ natDigits n := by
  intro e
  have := congrArg reparseVal e
  rw [reparseVal_hintName hc, reparseVal_natDigits] at this
  cases this

/-- `n` was issued from the counters `tbl`: it is `hintName h k` for a clean hint `h` with `P h`
and `k` below the counter of `h` (`P`: what the allocator demands of a hint it uses) -/
def Hinted (P : Str → Prop) (tbl : AL Str Nat) (n : Str) : Prop :=
  ∃ h k, Clean h ∧ P h ∧ k < (AL.get tbl h).getD 0 ∧ n = hintName h k

theorem Hinted.bump {P : Str → Prop} {tbl : AL Str Nat} {n : Str} (u : Str) (h : Hinted P tbl n) :
    Hinted P (AL.set tbl u ((AL.get tbl u).getD 0 + 1)) n := by
  obtain ⟨h', k, hc, hp, hk, e⟩ := h
  refine ⟨h', k, hc, hp, ?_, e⟩
  rw [AL.get_set]
  split
  · rename_i heq; subst heq; exact Nat.lt_succ_of_lt hk
  · exact hk

theorem Hinted.new {P : Str → Prop} {tbl : AL Str Nat} {u : Str} (hc : Clean u) (hp : P u) :
    Hinted P (AL.set tbl u ((AL.get tbl u).getD 0 + 1)) (hintName u ((AL.get tbl u).getD 0)) :=
  ⟨u, _, hc, hp, by simp [AL.get_set], rfl⟩

theorem Hinted.ne_new {P : Str → Prop} {tbl : AL Str Nat} {n u : Str} (hc : Clean u)
    (h : Hinted P tbl n) : n ≠ hintName u ((AL.get tbl u).getD 0) := by
  obtain ⟨h', k, hc', _, hk, rfl⟩ := h
  intro e
  obtain ⟨rfl, rfl⟩ := hintName_inj hc' hc e
  exact Nat.lt_irrefl _ hk

theorem Hinted.ne_natDigits {P : Str → Prop} {tbl : AL Str Nat} {n : Str} (h : Hinted P tbl n)
    (m : Nat) : n ≠ natDigits m := by
  obtain ⟨h', k, hc, _, _, rfl⟩ := h
  exact hintName_ne_natDigits hc k m

/-- the names the counters of the scope cover: the names issued in it so far -/
def Covered (sc : Scope) (n : Str) : Prop :=
  (∃ m, m < sc.nextId ∧ n = natDigits m) ∨ Hinted (fun _ => True) sc.ssaNames n

theorem allocVal_none (sc : Scope) :
    allocVal sc none = ({ sc with nextId := sc.nextId + 1 }, natDigits sc.nextId) := rfl

theorem allocVal_empty (sc : Scope) :
    allocVal sc (some []) = ({ sc with nextId := sc.nextId + 1 }, natDigits sc.nextId) := rfl

theorem allocVal_hint (sc : Scope) {h : Str} (hne : h ≠ []) :
    allocVal sc (some h) =
      ({ sc with ssaNames := AL.set sc.ssaNames h ((AL.get sc.ssaNames h).getD 0 + 1) },
        hintName h ((AL.get sc.ssaNames h).getD 0)) := by
  cases h with
  | nil => exact absurd rfl hne
  | cons c h => rfl

/-- the two things the allocator does with a stored hint: number the value, or count up a clean
hint -/
theorem allocVal_cases (sc : Scope) {h : Option Str} (hs : Stored h) :
    (normHint h = none ∧
      allocVal sc h = ({ sc with nextId := sc.nextId + 1 }, natDigits sc.nextId)) ∨
    ∃ u, Clean u ∧ normHint h = some u ∧
      allocVal sc h =
        ({ sc with ssaNames := AL.set sc.ssaNames u ((AL.get sc.ssaNames u).getD 0 + 1) },
          hintName u ((AL.get sc.ssaNames u).getD 0)) := by
  match h, hs with
  | none, _ => exact .inl ⟨rfl, rfl⟩
  | some [], _ => exact .inl ⟨rfl, rfl⟩
  | some (c :: r), .inr hc => exact .inr ⟨_, hc, rfl, rfl⟩

theorem allocVal_covers (sc : Scope) {h : Option Str} (hs : Stored h) :
    ¬ Covered sc (allocVal sc h).2 ∧ Covered (allocVal sc h).1 (allocVal sc h).2 ∧
      ∀ n, Covered sc n → Covered (allocVal sc h).1 n := by
  rcases allocVal_cases sc hs with ⟨-, e⟩ | ⟨u, hc, -, e⟩ <;> rw [e] <;> dsimp only
  · refine ⟨?_, .inl ⟨sc.nextId, Nat.lt_succ_self _, rfl⟩,
      fun n hn => hn.imp (fun ⟨m, hm, e⟩ => ⟨m, Nat.lt_succ_of_lt hm, e⟩) id⟩
    rintro (⟨m, hm, e⟩ | hh)
    · exact Nat.lt_irrefl _ (natDigits_inj e ▸ hm)
    · exact hh.ne_natDigits _ rfl
  · refine ⟨?_, .inr (Hinted.new hc trivial), fun n hn => hn.imp id (Hinted.bump u)⟩
    rintro (⟨m, _, e⟩ | hh)
    · exact hintName_ne_natDigits hc _ _ e
    · exact hh.ne_new hc rfl

theorem reparseVal_allocVal (sc : Scope) {h : Option Str} (hs : Stored h) :
    reparseVal (allocVal sc h).2 = normHint h := by
  rcases allocVal_cases sc hs with ⟨en, e⟩ | ⟨u, hc, en, e⟩ <;> rw [e, en]
  · exact reparseVal_natDigits _
  · exact reparseVal_hintName hc _

theorem allocVal_normHint (sc : Scope) (h : Option Str) :
    allocVal sc (normHint h) = allocVal sc h := by
  match h with
  | none => rfl
  | some [] => rfl
  | some (c :: r) => rfl

theorem allocFrom_length (hs : List (Option Str)) : ∀ sc : Scope, (allocFrom sc hs).length = hs.length := by
  induction hs with
  | nil => intro sc; rfl
  | cons h hs ih => intro sc; simp [allocFrom, ih]

theorem isDefault_chars {n : Str} (h : isDefaultBlockName n = true) :
    ∀ c ∈ n, c = 'b' ∨ isDigit c = true := by
  unfold isDefaultBlockName at h
  split at h
  · rename_i d ds
    simp only [Bool.and_eq_true, List.all_eq_true] at h
    intro c hc
    simp only [List.mem_cons] at hc
    rcases hc with e | e | e | e
    · left; exact e
    · left; exact e
    · right; rw [e]; exact h.1
    · right; exact h.2 c e
  · cases h

theorem isDefault_bb (i : Nat) : isDefaultBlockName ('b' :: 'b' :: natDigits i) = true := by
  have hne := natDigits_ne_nil i
  have hd := natDigits_all_digit i
  cases hh : natDigits i with
  | nil => exact absurd hh hne
  | cons d ds =>
    rw [hh] at hd
    simp only [List.all_cons, Bool.and_eq_true] at hd
    simp [isDefaultBlockName, hd.1, hd.2]

theorem hintName_not_default {h : Str} (hd : isDefaultBlockName h = false) (k : Nat) :
    isDefaultBlockName (hintName h k) = false := by
  by_cases hk : k = 0
  · subst hk; rw [hintName_zero]; exact hd
  · rw [hintName_succ h hk]
    cases hx : isDefaultBlockName (h ++ '_' :: natDigits k) with
    | false => rfl
    | true =>
      have := isDefault_chars hx '_' (by simp)
      rcases this with e | e
      · exact absurd e (by decide)
      · rw [underscore_not_digit] at e; cases e

theorem reparseBlock_hintName {h : Str} (hc : Clean h) (hd : isDefaultBlockName h = false) (k : Nat) :
    reparseBlock (hintName h k) = some h := by
  simp [reparseBlock, hintName_not_default hd k, validName_hintName hc k, strip_hintName hc k]

theorem reparseBlock_bb (i : Nat) : reparseBlock ('b' :: 'b' :: natDigits i) = none := by
  simp [reparseBlock, isDefault_bb]

theorem usable_some {h : Option Str} {u : Str} (hs : Stored h) (e : usableBlockHint h = some u) :
    h = some u ∧ Clean u ∧ isDefaultBlockName u = false := by
  match h, hs with
  | none, _ => cases e
  | some [], _ => cases e
  | some (c :: r), .inr hc =>
    simp only [usableBlockHint] at e
    split at e
    · cases e
    · rename_i hnd
      cases e
      exact ⟨rfl, hc, by simpa using hnd⟩

/-- the labels issued in the region so far: the default names of the positions below `idx`, and what the
block counters of the scope cover -/
def BCovered (sc : Scope) (idx : Nat) (n : Str) : Prop :=
  (∃ i, i < idx ∧ n = 'b' :: 'b' :: natDigits i) ∨
  Hinted (fun h => isDefaultBlockName h = false) sc.blockNames n

/-- the two things `_populate_block_name` does: the default name of the position, or count up a
usable hint (`if labelled then usableBlockHint h else none`: the hint as far as the printer looks
at it; `effHints` in `C04.lean` lists it for the blocks of a region) -/
theorem allocBlock_cases (sc : Scope) (idx : Nat) (labelled : Bool) {h : Option Str}
    (hs : Stored h) :
    ((if labelled then usableBlockHint h else none) = none ∧
      allocBlock sc idx labelled h = (sc, 'b' :: 'b' :: natDigits idx)) ∨
    ∃ u, Clean u ∧ isDefaultBlockName u = false ∧
      (if labelled then usableBlockHint h else none) = some u ∧
      allocBlock sc idx labelled h =
        ({ sc with blockNames := AL.set sc.blockNames u ((AL.get sc.blockNames u).getD 0 + 1) },
          hintName u ((AL.get sc.blockNames u).getD 0)) := by
  unfold allocBlock
  cases he : (if labelled then usableBlockHint h else none) with
  | none => exact .inl ⟨rfl, rfl⟩
  | some u =>
    have hu : usableBlockHint h = some u := by
      cases labelled
      · cases he
      · exact he
    obtain ⟨-, hc, hd⟩ := usable_some hs hu
    exact .inr ⟨u, hc, hd, rfl, rfl⟩

theorem allocBlock_covers (sc : Scope) (idx : Nat) (labelled : Bool) {h : Option Str} (hs : Stored h) :
    ¬ BCovered sc idx (allocBlock sc idx labelled h).2 ∧
      BCovered (allocBlock sc idx labelled h).1 (idx + 1) (allocBlock sc idx labelled h).2 ∧
      ∀ n, BCovered sc idx n → BCovered (allocBlock sc idx labelled h).1 (idx + 1) n := by
  have up : ∀ {n : Str}, (∃ i, i < idx ∧ n = 'b' :: 'b' :: natDigits i) →
      ∃ i, i < idx + 1 ∧ n = 'b' :: 'b' :: natDigits i := fun ⟨i, hi, e⟩ => ⟨i, Nat.lt_succ_of_lt hi, e⟩
  rcases allocBlock_cases sc idx labelled hs with ⟨-, e⟩ | ⟨u, hc, hd, -, e⟩ <;> rw [e] <;> dsimp only
  · refine ⟨?_, .inl ⟨idx, Nat.lt_succ_self _, rfl⟩, fun n hn => hn.imp up id⟩
    rintro (⟨i, hi, e⟩ | ⟨h', k, -, hd', -, e⟩)
    · exact Nat.lt_irrefl _ (natDigits_inj (List.cons.inj (List.cons.inj e).2).2 ▸ hi)
    · have h1 := hintName_not_default hd' k
      rw [← e, isDefault_bb] at h1
      cases h1
  · refine ⟨?_, .inr (Hinted.new hc hd), fun n hn => hn.imp up (Hinted.bump u)⟩
    rintro (⟨i, _, e⟩ | hh)
    · have h1 := hintName_not_default hd ((AL.get sc.blockNames u).getD 0)
      rw [e, isDefault_bb] at h1
      cases h1
    · exact hh.ne_new hc rfl

theorem reparseBlock_allocBlock (sc : Scope) (idx : Nat) (labelled : Bool) {h : Option Str}
    (hs : Stored h) :
    reparseBlock (allocBlock sc idx labelled h).2 = if labelled then usableBlockHint h else none := by
  rcases allocBlock_cases sc idx labelled hs with ⟨en, e⟩ | ⟨u, hc, hd, en, e⟩ <;> rw [e, en]
  · exact reparseBlock_bb idx
  · exact reparseBlock_hintName hc hd _

end Xdsl.Names
