import XdslProofs.C05
import XdslProofs.Lemmas.DeclGeneric
import XdslProofs.Lemmas.DeclGenericCodec
/-!
# C05 — the custom and the generic form of an operation agree

Property clause: *… and the custom and generic printings parse to equivalent IR.*

`Xdsl.DeclGeneric` (`XdslModel/DeclGeneric.lean`) puts the abstract instance of the declarative-format
model (`Xdsl.DeclFormat.OpInst`) into the generic form on the token skeleton of C04
(`Skeleton.pr` / `Skeleton.parseT`, tied to the real generic printer / parser by C04's correspondence
and `skeleton_syntax_roundtrip`) and reads it back through the accessors of the operation class
(`instOf`).  `decl_generic_agree` ties the two printer/parser pairs in one statement:
custom text → instance  ≡  generic text → instance, where `≡` is `Equiv` (a property / attribute equal
to its declared default ≡ absent).  The segment sizes, which the generic text carries as
`operandSegmentSizes` / `resultSegmentSizes` entries and the custom text does not mention, are
determined by the format: `decl_generic_agree_segments`.

PARTIAL with respect to the property's sentence in the same way as `decl_roundtrip` (declarative
formats only, `wfD`); in addition the `SameVariadic…Size` options and
`AttrSized{Region,Successor}Segments` are not modelled, and the symbol-table side of the generic
parser (C04 `skeleton_resolve`) is not re-used here: values and blocks are compared by their printed
names through the codec.
-/
namespace Xdsl.DeclGeneric
open Xdsl.DeclFormat

/-- **C05, custom vs generic.**  "the custom and generic printings parse to equivalent IR": for a
well-formed format and a valid instance that the generic form can carry, parsing the custom text
(`FormatProgram.parse`, followed by `rest`) and parsing the generic text (`_parse_generic_operation`
+ the accessors) both succeed and give equivalent instances: equal operand / operand-type /
result-type / region / successor segments, properties and attributes equal up to declared defaults. -/
theorem decl_generic_agree (C : Codec) (hc : CodecOK C) (D : Defs) (M : Modes) (defs : Nat → List Nat)
    (fmt : List Dir) (op : OpInst) (K : List Cls) (rest : List DeclFormat.Tok)
    (hwf : wfD fmt K = true) (ha : wfA D fmt = true) (hv : ValidD D op fmt)
    (hslots : CoversSlots D fmt op) (hdicts : CoversDicts D fmt op) (hK : clsHd rest ∈ K)
    (hg : GenericOK C D M defs op) :
    ∃ opC opG, roundtrip D fmt op rest = some (opC, rest) ∧
      parseGeneric C D M defs (printGeneric C M op) = some opG ∧ Equiv D opC opG := by
  obtain ⟨opC, h1, h2⟩ := decl_roundtrip D fmt op K rest hwf ha hv hslots hdicts hK
  exact ⟨opC, op, h1, parseGeneric_printGeneric C hc D M defs op hg, h2⟩

/-- the same with the format compiler's binding checks `accD` as hypothesis -/
theorem decl_generic_agree_acc (C : Codec) (hc : CodecOK C) (D : Defs) (M : Modes) (defs : Nat → List Nat)
    (fmt : List Dir) (op : OpInst) (K : List Cls) (rest : List DeclFormat.Tok)
    (hwf : wfD fmt K = true) (hacc : accD D fmt = true) (hv : ValidD D op fmt)
    (hinst : InstOK D op) (hdicts : CoversDicts D fmt op) (hK : clsHd rest ∈ K)
    (hg : GenericOK C D M defs op) :
    ∃ opC opG, roundtrip D fmt op rest = some (opC, rest) ∧
      parseGeneric C D M defs (printGeneric C M op) = some opG ∧ Equiv D opC opG :=
  decl_generic_agree C hc D M defs fmt op K rest hwf (wfA_of_accD D fmt hacc) hv
    (coversSlots_of_accD D fmt op hacc hinst) hdicts hK hg

/-- "segment sizes determined by the format": the operation built from the custom text carries the
segment-size entries of the generic text (`irdl_op_init` computes them from the segments the
format's directives filled), and the same flat operand / type / successor / region lists. -/
theorem decl_generic_agree_segments (C : Codec) (D : Defs) (M : Modes) (opC opG : OpInst)
    (h : Equiv D opC opG) :
    (∀ b, segEntries C M opC b = segEntries C M opG b) ∧
    (hdrOf C M opC).operands = (hdrOf C M opG).operands ∧
    (hdrOf C M opC).inTys = (hdrOf C M opG).inTys ∧
    (hdrOf C M opC).outTys = (hdrOf C M opG).outTys ∧
    (hdrOf C M opC).succs = (hdrOf C M opG).succs ∧
    regionChain C opC.regions.flatten = regionChain C opG.regions.flatten := by
  obtain ⟨h1, h2, h3, h4, h5, _, _⟩ := h
  refine ⟨fun b => ?_, ?_, ?_, ?_, ?_, ?_⟩ <;> simp [segEntries, hdrOf, h1, h2, h3, h4, h5]

/-! ## non-vacuity: the `operands … functional-type(operands, results)` example of `C05.lean` with
operand segment sizes stored as a property -/

def exModes : Modes := { operands := .sized true, results := .unique }

example : printGeneric (exCodec [9]) exModes aggOp =
    [.str 0, .lparen, .pct ['v', 'v'], .comma, .pct ['v', 'v', 'v'], .comma, .pct ['v', 'v', 'v', 'v'], .rparen,
     .lt, .lbrace, .bare (encL opSegName.toList), .eq, .opq ⟨3 * encL (unary [1, 2]) + 2, false⟩, .rbrace, .gt,
     .lbrace, .bare (encL "x".toList), .eq, .opq ⟨13, false⟩, .rbrace,
     .colon, .lparen, .opq ⟨21, false⟩, .comma, .opq ⟨24, false⟩, .comma, .opq ⟨24, false⟩, .rparen, .arrow,
     .lparen, .opq ⟨27, true⟩, .rparen] := by decide

/-- all hypotheses of `decl_generic_agree` are jointly satisfiable on the example -/
example (hv : ValidD aggDefs aggOp aggFmt) (hi : InstOK aggDefs aggOp) (hd : CoversDicts aggDefs aggFmt aggOp) :
    ∃ opC opG, roundtrip aggDefs aggFmt aggOp [.punct "}"] = some (opC, [.punct "}"]) ∧
      parseGeneric (exCodec [9]) aggDefs exModes (fun _ => []) (printGeneric (exCodec [9]) exModes aggOp) = some opG ∧
      Equiv aggDefs opC opG :=
  decl_generic_agree_acc (exCodec [9]) (exCodec_ok [9]) aggDefs exModes (fun _ => []) aggFmt aggOp [.punct "}"]
    [.punct "}"] aggFmt_wf aggFmt_acc hv hi hd (by simp [clsHd, clsOf])
    { fitsO := by decide
      fitsT := by decide
      fitsR := by decide
      fitsG := by decide
      fitsS := by decide
      tysLen := by decide
      uniqO := by intro h; cases h
      uniqR := by intro _; decide
      uniqG := by decide
      uniqS := by decide
      nodupP := by decide
      nodupA := by decide
      noSegP := by intro p hp; cases hp
      noSegA := by
        intro p hp
        have : p = ("x", 4) := by simpa [aggOp] using hp
        subst this; decide
      retro := by intro k hk; cases hk
      regions := by intro n hn; simp [aggOp] at hn }

/-- the stored sizes matter: with two variadic operand definitions the flat list alone does not
determine the segments, the stored sizes do -/
example :
    let D : Defs := { operandKinds := [.var, .var], operandFixed := [none, none] }
    let op : OpInst := { operands := [[4], [5, 6]], operandTys := [[1], [1, 1]] }
    parseGeneric (exCodec []) D { operands := .sized true } (fun _ => [])
        (printGeneric (exCodec []) { operands := .sized true } op) = some op ∧
    parseGeneric (exCodec []) D { operands := .unique } (fun _ => [])
        (printGeneric (exCodec []) { operands := .unique } op) = none := by decide

end Xdsl.DeclGeneric
