import XdslProofs.Lemmas.Lexer
import XdslProofs.Lemmas.LexerFlags
/-!
# C07 — parsing any text terminates promptly and fails only with diagnostics (lexer part)

"For any input text, the parser finishes in time roughly proportional to the input size and either
returns IR or reports a parse or verification diagnostic; it never hangs and never escapes with an
internal error such as a ValueError, KeyError, IndexError, AssertionError or TypeError."

**Partial by design** (DESIGN.md §5 C07).  The theorems below are about `XdslModel/Lexer.lean`, the
model of `MLIRLexer` (`xdsl/utils/mlir_lexer.py`) *with the C07 repairs* (string-literal regex without
nested quantifier; a number starts with an ASCII digit).  They carry, for every input — every list
of code points with arbitrary `isalpha/isnumeric/isspace` bits —:

* "finishes": the token loop needs no more iterations than code points + 1 (`lex_total`), every
  token consumes at least one code point (`lex_progress`);
* "in time roughly proportional to the input size": the number of code-point reads of all matchers,
  counted by the instrumented model itself, is at most `14·n + 7` (`lex_steps_le`);
* "either returns … or reports a parse diagnostic": the result is a token list ending with EOF at
  `n`, or one of the six lexer `ParseError`s whose span is non-empty and inside the text
  (`lex_total`, `lex_error_span`); no other outcome exists (by type — `lexE_cases`).

What is *not* proved (explored by the harness only, and said so in the evidence): that CPython's
`re` engine runs the repaired regexes in linear wall-clock time, and everything about the parser
proper and the ~80 dialect parsers (exception classes and CPU time per input are searched by
fuzzing).  The full statement, for the record:

  `∀ text, ∃ c, time (Parser ctx text).parse_module ≤ c·|text| ∧ outcome ∈ {IR, ParseError, VerifyException}`
-/
namespace Xdsl.Lexer

/-- The loop invariant of `lexLoop`, on the output `o` of a run that starts at position `pos` of a
text that ends at `n`.  `steps` is a potential: 14 ticks for every code point still ahead, and 7 for
the call that ends the run (EOF or error).  It speaks of `n` and not of the length of the rest, so
that the recursive call has it for the same `n`; `pos ≤ t.start` is there for `sorted` of a longer
run. -/
structure LoopInv (pos n : Nat) (o : Out) : Prop where
  exhausted : o.exhausted = false
  steps : o.steps + 14 * pos ≤ 14 * n + 7
  toks : ∀ t ∈ o.toks, pos ≤ t.start ∧ t.start < t.stop ∧
    ((t.kind ≠ .eof ∧ t.stop ≤ n) ∨ t = ⟨.eof, n, n + 1⟩)
  sorted : o.toks.Pairwise (fun a b => a.stop ≤ b.start)
  err : ∀ e, o.err = some e → e.start < e.stop ∧ e.stop ≤ n
  eof : o.err = none → ∃ ts, o.toks = ts ++ [⟨.eof, n, n + 1⟩]

theorem LoopInv.atEnd {pos n s : Nat} (hp : pos ≤ n) (hs : s + 14 * pos ≤ 14 * n + 7) :
    LoopInv pos n { toks := [⟨.eof, n, n + 1⟩], steps := s } where
  exhausted := rfl
  steps := hs
  toks t ht := by cases List.mem_singleton.mp ht; exact ⟨hp, n.lt_succ_self, .inr rfl⟩
  sorted := List.pairwise_singleton ..
  err := nofun
  eof _ := ⟨[], rfl⟩

theorem LoopInv.error {pos n s a b : Nat} {m : Msg} (h : a < b ∧ b ≤ n)
    (hs : s + 14 * pos ≤ 14 * n + 7) : LoopInv pos n { err := some ⟨m, a, b⟩, steps := s } where
  exhausted := rfl
  steps := hs
  toks _ h := nomatch h
  sorted := .nil
  err := by rintro e ⟨⟩; exact h
  eof := nofun

theorem LoopInv.cons {pos p n s a : Nat} {k : Kind} {o : Out} (ho : LoopInv p n o)
    (h : pos ≤ a ∧ a < p ∧ p ≤ n) (hk : k ≠ .eof) (hs : s + 14 * pos ≤ 14 * p) :
    LoopInv pos n { o with toks := ⟨k, a, p⟩ :: o.toks, steps := s + o.steps } where
  exhausted := ho.exhausted
  steps := by have := ho.steps; show s + o.steps + _ ≤ _; omega
  toks := by
    rintro t (_ | ⟨_, ht⟩)
    · exact ⟨h.1, h.2.1, .inl ⟨hk, h.2.2⟩⟩
    · have := ho.toks t ht
      exact ⟨by omega, this.2⟩
  sorted := List.pairwise_cons.mpr ⟨fun b hb => (ho.toks b hb).1, ho.sorted⟩
  err := ho.err
  eof he := let ⟨ts, hts⟩ := ho.eof he; ⟨_ :: ts, congrArg (_ :: ·) hts⟩

theorem lexLoop_inv {n : Nat} (fuel : Nat) : ∀ (pos : Nat) (rest : List CP), pos + rest.length = n →
    rest.length < fuel → LoopInv pos n (lexLoop fuel pos rest) := by
  induction fuel with
  | zero => intro _ _ _ h; omega
  | succ fuel ih =>
    intro pos rest hn hf
    have hw1 := skipWs_le false rest
    have hw2 := skipWs_ticks false rest
    have hg := lexTok_good (rest.drop (skipWs false rest).1)
    rw [List.length_drop] at hg
    simp only [lexLoop]
    generalize lexTok (rest.drop (skipWs false rest).1) = q at hg ⊢
    obtain ⟨_ | _ | _, t⟩ := q
    · obtain ⟨h1, h2, ht, hk⟩ := hg
      -- `w + 2` ticks for `w` code points of whitespace and `7·len + 5` for the token are within
      -- `14·(w + len)`, because `len ≥ 1`
      refine .cons (ih _ _ ?_ ?_) (by omega) hk (by omega) <;> rw [List.length_drop] <;> omega
    · obtain ⟨rfl, h0⟩ := hg
      obtain rfl : pos + (skipWs false rest).1 = n := by omega
      exact .atEnd (by omega) (by omega)
    · exact .error (by have := hg.2; omega) (by have := hg.1; omega)

theorem lex_inv (cs : List CP) : LoopInv 0 cs.length (lex cs) :=
  lexLoop_inv _ 0 cs (Nat.zero_add _) (Nat.lt_succ_self _)

/-- **lex_progress** — "never hangs": every token of every input consumes at least one code
point (the EOF token is the pseudo-span `(n, n+1)` of the code), lies inside the text, and the
tokens come in order without overlap. -/
theorem lex_progress (cs : List CP) :
    (∀ t ∈ (lex cs).toks, t.start < t.stop ∧
      ((t.kind ≠ .eof ∧ t.stop ≤ cs.length) ∨ t = ⟨.eof, cs.length, cs.length + 1⟩)) ∧
    (lex cs).toks.Pairwise (fun a b => a.stop ≤ b.start) :=
  ⟨fun t ht => ((lex_inv cs).toks t ht).2, (lex_inv cs).sorted⟩

/-- **lex_steps_le** — "finishes in time roughly proportional to the input size", for the model's
matchers: the instrumented count of code-point reads over the whole run (whitespace regex, every
token regex, the extra passes over a string literal with escapes: backslash search, unescaping,
UTF-8 validation of up to four bytes per character) is at most `14·n + 7`. -/
theorem lex_steps_le (cs : List CP) : (lex cs).steps ≤ 14 * cs.length + 7 :=
  (lex_inv cs).steps

/-- **lex_total** — "either returns … or reports a parse diagnostic": the iteration of `lex()`
stops within `n + 1` calls (the fuel is never exhausted) with either one of the six lexer
`ParseError`s or a token list that ends with the EOF token at `n`. -/
theorem lex_total (cs : List CP) :
    (lex cs).exhausted = false ∧
    ((∃ e, (lex cs).err = some e) ∨
      ∃ ts, (lex cs).toks = ts ++ [⟨.eof, cs.length, cs.length + 1⟩]) := by
  refine ⟨(lex_inv cs).exhausted, ?_⟩
  cases he : (lex cs).err with
  | some e => exact .inl ⟨e, rfl⟩
  | none => exact .inr ((lex_inv cs).eof he)

/-- The span of a lexer diagnostic is non-empty and inside the text (what
`Span.print_with_context` is given). -/
theorem lex_error_span (cs : List CP) (e : LexError) (h : (lex cs).err = some e) :
    e.start < e.stop ∧ e.stop ≤ cs.length :=
  (lex_inv cs).err e h

/-- Only `ParseError` leaves the lexer: the `Except` view has exactly the two outcomes, and the
successful one is the EOF-terminated stream. -/
theorem lexE_cases (cs : List CP) :
    (∃ e, lexE cs = .error e ∧ e.start < e.stop ∧ e.stop ≤ cs.length) ∨
    (∃ ts, lexE cs = .ok (ts ++ [⟨.eof, cs.length, cs.length + 1⟩])) := by
  cases he : (lex cs).err with
  | some e => exact Or.inl ⟨e, by simp [lexE, he], lex_error_span cs e he⟩
  | none =>
    right
    rcases (lex_total cs).2 with ⟨e, h⟩ | ⟨ts, h⟩
    · rw [he] at h; cases h
    · exact ⟨ts, by simp [lexE, he, h]⟩

def reflag (f g : CP → Bool) (c : CP) : CP := { c with numeric := f c, space := g c }

section
variable (f g : CP → Bool)

@[simp] theorem reflag_val (c : CP) : (reflag f g c).val = c.val := rfl
@[simp] theorem reflag_alpha (c : CP) : (reflag f g c).alpha = c.alpha := rfl
end

/-- Repair 2 as a theorem: the result does not depend on `str.isnumeric` / `str.isspace` of any code
point (a number starts only at an ASCII digit, `\s` is matched under `re.ASCII`): replacing these
bits arbitrarily (`reflag`) never changes tokens, error or step count. -/
theorem lex_ignores_numeric_space (cs : List CP) (f g : CP → Bool) :
    lex (cs.map (reflag f g)) = lex cs :=
  lex_map (reflag_val f g) (reflag_alpha f g) cs

/-! ## Non-vacuity -/

private def cp (c : Char) : CP := { val := c.toNat, alpha := c.isAlpha }
private def cps (s : String) : List CP := s.toList.map cp

/-- a small well-formed line lexes to the expected kinds (comment skipped, EOF last) -/
example : ((lex (cps "%0 = \"a.b\"() -> i32 // c")).toks.map (·.kind)) =
    [.percentIdent, .equal, .stringLit, .lParen, .rParen, .arrow, .bareIdent, .eof] := by decide +kernel

/-- the input of repaired defect 1: an unterminated literal of 24 characters is a `ParseError` after
at most 28 reads (the unrepaired regex needed ~2²⁴ steps) -/
example : (lex (cps "\"aaaaaaaaaaaaaaaaaaaaaaaa")).err = some ⟨.unterminated, 0, 1⟩ ∧
    (lex (cps "\"aaaaaaaaaaaaaaaaaaaaaaaa")).steps ≤ 28 := by decide +kernel

/-- the input of repaired defect 2: `²` (`isnumeric`, not an ASCII digit) is an unexpected character,
not an INTEGER_LIT that `int()` then rejects with a ValueError -/
example : (lex [{ val := 0xB2, numeric := true }]).err = some ⟨.unexpected, 0, 1⟩ := by decide +kernel

/-- escapes decide STRING_LIT / BYTES_LIT: the unescaped bytes are valid UTF-8 (`\n`, `é` spelled
`\C3\A9`, a raw `é` next to an escape) or not (`\ff`, a lone `\C3`) -/
example : ((lex (cps "\"\\n\" \"\\ff\" \"\\C3\\A9\" \"é\\n\" \"\\C3\"")).toks.map (·.kind)) =
    [.stringLit, .bytesLit, .stringLit, .stringLit, .bytesLit, .eof] := by decide +kernel

end Xdsl.Lexer
