import XdslProofs.Lemmas.SymbolTable
import XdslProofs.Lemmas.SymbolTableRename
/-!
# C29 — property theorems

"Looking up a flat or nested symbol reference from an operation returns the operation with that
name in the nearest enclosing symbol table (following nested tables and refusing private symbols
reached through nesting), or nothing if there is none, and the cached symbol-table lookup agrees
with the direct lookup on every verified module."

Model: `XdslModel/SymbolTable.lean` (`directChild`/`refIn`/`lookupIn`/`lookupNearest` =
`utils/symbol_table.py`; `cachedChild` = `SymbolTableCollection`; `traitsGo`/`traitsLookup` = the
repaired `traits.SymbolTable.lookup_symbol`; `Resolves` = the sentence).  "The operation with that
name" presupposes that a table does not hold the name twice: the `iff`s are stated for trees whose
tables have unique names (`Verified`, which `verifyB_sound` derives from the model of the real
verifier); the `_sound` directions (`lookup_sound`; `direct_sound` in `Lemmas/SymbolTable.lean`) hold on every tree.
-/
namespace Xdsl.SymbolTable

/-- "returns the operation with that name in the nearest enclosing symbol table" — the nearest
table: `get_nearest_symbol_table` returns `t` exactly when `t` is a table on the ancestor chain and
nothing below it on the chain (start operation included) is one; `none` iff the chain has no table. -/
theorem nearest_table_spec (chain : List Op) (t : Op) :
    nearestTable chain = some t ↔ NearestTable chain t :=
  nearestTable_iff chain t

theorem nearest_table_none (chain : List Op) :
    nearestTable chain = none ↔ ∀ x ∈ chain, x.isTable = false := by
  simp [nearestTable_eq_find]

/-- direct resolver, trees with unique names per table: `lookup_symbol_in` returns `r` **iff** the
nesting rules designate `r` ("…or nothing if there is none" is the `none` case, `direct_none`). -/
theorem direct_iff_resolves (root t : Op) (hv : Verified root) (ht : Sub root t)
    (htab : t.isTable = true) (s : Sym) (r : Op) :
    lookupIn directChild t s = some r ↔ ResolvesIn t s.root s.nested r := by
  refine ⟨direct_sound t s r, ?_⟩
  rintro ⟨x, hm, hn⟩
  rw [lookupIn_eq, directChild_of_unique (hv t ht htab) hm]
  exact nestedLast_complete hv (ht.trans hm.sub) hn

/-- "or nothing if there is none" -/
theorem direct_none (root t : Op) (hv : Verified root) (ht : Sub root t) (htab : t.isTable = true)
    (s : Sym) : lookupIn directChild t s = none ↔ ¬ ∃ r, ResolvesIn t s.root s.nested r := by
  constructor
  · rintro h ⟨r, hr⟩
    rw [(direct_iff_resolves root t hv ht htab s r).mpr hr] at h
    exact absurd h (by simp)
  · intro h
    cases hl : lookupIn directChild t s with
    | none => rfl
    | some r => exact absurd ⟨r, direct_sound t s r hl⟩ h

/-- on a verified tree the designated operation is unique: the sentence's "the operation" -/
theorem resolves_unique (root t : Op) (hv : Verified root) (ht : Sub root t)
    (htab : t.isTable = true) (s : Sym) (r r' : Op)
    (h : ResolvesIn t s.root s.nested r) (h' : ResolvesIn t s.root s.nested r') : r = r' := by
  have a := (direct_iff_resolves root t hv ht htab s r).mpr h
  have b := (direct_iff_resolves root t hv ht htab s r').mpr h'
  rw [a] at b
  exact Option.some.inj b

/-- `str`/`StringAttr` and a `SymbolRefAttr` without nested components resolve alike -/
theorem flat_eq_ref_nil (lk : Op → Nat → Option Op) (t : Op) (n : Nat) :
    lookupIn lk t (.ref n []) = lookupIn lk t (.flat n) := by
  rw [lookupIn_eq, lookupIn_eq]; rfl

/-- `all_symbols=True` returns a list whose last element is the single-result answer … -/
theorem all_symbols_last (lk : Op → Nat → Option Op) (t : Op) (s : Sym) :
    (lookupAllIn lk t s).bind List.getLast? = lookupIn lk t s :=
  (lookupIn_eq_last lk t s).symm

/-- … and which has one entry per reference component -/
theorem all_symbols_length (lk : Op → Nat → Option Op) (t : Op) (s : Sym) (l : List Op)
    (h : lookupAllIn lk t s = some l) : l.length = 1 + s.nested.length := by
  rw [lookupAllIn_eq] at h
  obtain ⟨x, _, hx⟩ := Option.bind_eq_some_iff.1 h
  simpa [Nat.add_comm] using refNested_length lk x s.nested [x] l hx

/-- "the cached symbol-table lookup agrees with the direct lookup on every verified module":
single table access (`SymbolTable(op).lookup(name)` vs the block scan) -/
theorem cached_child_eq_direct (root t : Op) (hv : Verified root) (ht : Sub root t)
    (htab : t.isTable = true) (n : Nat) : cachedChild t n = directChild t n :=
  cachedChild_eq_directChild (hv t ht htab) n

/-- … and whole references, both result forms of `SymbolTableCollection.lookup_symbol_in` -/
theorem cached_eq_direct (root t : Op) (hv : Verified root) (ht : Sub root t)
    (htab : t.isTable = true) (s : Sym) :
    lookupIn cachedChild t s = lookupIn directChild t s ∧
    lookupAllIn cachedChild t s = lookupAllIn directChild t s := by
  have hall : lookupAllIn cachedChild t s = lookupAllIn directChild t s := by
    rw [lookupAllIn_eq, lookupAllIn_eq, cachedChild_eq_directChild (hv t ht htab)]
    cases hd : directChild t s.root with
    | none => rfl
    | some x => exact refNested_cached _ _ hv (ht.trans (directChild_member hd).sub)
  exact ⟨by rw [lookupIn_eq_last, lookupIn_eq_last, hall], hall⟩

/-- the repaired `traits.SymbolTable.lookup_symbol` inside its anchor is the direct resolver — on
every tree, verified or not -/
theorem traits_eq_direct (t : Op) (s : Sym) :
    traitsGo true t (s.root :: s.nested) = lookupIn directChild t s := by
  rw [lookupIn_eq]
  simp only [traitsGo, Bool.not_true, Bool.false_and, Bool.false_eq_true, if_false]
  cases directChild t s.root with
  | none => rfl
  | some o => simp only [Option.bind_some]; exact traitsGo_false o s.nested

/-- `traits.lookup_symbol` is `lookup_nearest_symbol_from` with the `ValueError` for a chain without a table — on
every chain -/
theorem traitsLookup_eq (chain : List Op) (s : Sym) :
    traitsLookup chain s =
      (match nearestTable chain with
       | none => .valueError
       | some _ => match lookupNearest directChild chain s with
         | some o => .found o
         | none => .notFound) := by
  rw [lookupNearest_eq]
  unfold traitsLookup
  cases nearestTable chain with
  | none => rfl
  | some t => simp only [traits_eq_direct, Option.bind_some]; cases lookupIn directChild t s <;> rfl

/-- All entry points, started from any operation of a verified tree (the operation at `path`):
`lookup_nearest_symbol_from` returns `r` iff the sentence designates `r`; the cached collection
returns the same; `traits.lookup_symbol` returns the same, raising its documented `ValueError`
exactly when no ancestor is a symbol table. -/
theorem lookup_spec (root : Op) (hv : Verified root) (path : List Nat) (chain : List Op)
    (hc : chainAt root path [] = some chain) (s : Sym) :
    (∀ r, lookupNearest directChild chain s = some r ↔ Resolves chain s r) ∧
    lookupNearest cachedChild chain s = lookupNearest directChild chain s ∧
    traitsLookup chain s =
      (match nearestTable chain with
       | none => .valueError
       | some _ => match lookupNearest directChild chain s with
         | some o => .found o
         | none => .notFound) := by
  have hsub {t} (hn : nearestTable chain = some t) : Sub root t :=
    (chain_is_ancestor_chain root path chain hc).2 t (nearestTable_mem hn)
  refine ⟨fun r => ?_, ?_, traitsLookup_eq chain s⟩
  · rw [lookupNearest_eq, Option.bind_eq_some_iff, resolves_iff]
    exact exists_congr fun t => and_congr_right fun hn =>
      direct_iff_resolves root t hv (hsub hn) (nearestTable_isTable hn) s r
  · rw [lookupNearest_eq, lookupNearest_eq]
    cases hn : nearestTable chain with
    | none => rfl
    | some t => exact (cached_eq_direct root t hv (hsub hn) (nearestTable_isTable hn) s).1

/-- every tree (no verification needed): a result of `lookup_nearest_symbol_from` or of
`traits.lookup_symbol` is designated by the sentence, and the two always coincide. -/
theorem lookup_sound (chain : List Op) (s : Sym) (r : Op) :
    (lookupNearest directChild chain s = some r → Resolves chain s r) ∧
    (traitsLookup chain s = .found r ↔ lookupNearest directChild chain s = some r) := by
  constructor
  · rw [lookupNearest_eq, Option.bind_eq_some_iff, resolves_iff]
    exact Exists.imp fun t h => ⟨h.1, direct_sound t s r h.2⟩
  · rw [traitsLookup_eq, lookupNearest_eq]
    cases nearestTable chain with
    | none => simp
    | some t => simp only [Option.bind_some]; cases lookupIn directChild t s <;> simp

/-- the model of the real verifier (`traits.SymbolTable.verify` run on every table of the module)
establishes the hypothesis `Verified` used above -/
theorem verifyB_sound (root : Op) (h : verifyB root = true) : Verified root :=
  fun _ hs ht => noDupNames_unique (verifyB_table (verifyB_sub h hs) ht)

/-- `builtin.module { func.func @0 ; func.func @1 ; builtin.module @2 { func.func private @1 ;
func.func nested @3 { test.op } } }` -/
def exampleTree : Op :=
  .mk 0 true true none none
    [ .mk 1 false true (some 0) none [] [],
      .mk 2 false true (some 1) none [] [],
      .mk 3 true true (some 2) none
        [ .mk 4 false true (some 1) (some .priv) [] [],
          .mk 5 false true (some 3) (some .nested) [.mk 6 false false none none [] []] [] ] [] ] []

example : verifyB exampleTree = true := by decide

/-- from the `test.op` (path 2.1.0): flat `@3` is found in the inner module, flat `@0` is not (the
nearest table is the inner one); from the root `@2::@3` is found, `@2::@1` is refused (private),
`@0::@1` is refused (`@0` is not a table) although `@1` exists next to `@0`. -/
example :
    ((chainAt exampleTree [2, 1, 0] []).bind fun c => (lookupNearest directChild c (.flat 3)).map Op.id) = some 5
    ∧ ((chainAt exampleTree [2, 1, 0] []).bind fun c => (lookupNearest directChild c (.flat 0)).map Op.id) = none
    ∧ (lookupIn directChild exampleTree (.ref 2 [3])).map Op.id = some 5
    ∧ (lookupIn cachedChild exampleTree (.ref 2 [3])).map Op.id = some 5
    ∧ (traitsGo true exampleTree [2, 3]).map Op.id = some 5
    ∧ (lookupIn directChild exampleTree (.ref 2 [1])).map Op.id = none
    ∧ (traitsGo true exampleTree [2, 1]).map Op.id = none
    ∧ (lookupIn directChild exampleTree (.ref 0 [1])).map Op.id = none
    ∧ (traitsGo true exampleTree [0, 1]).map Op.id = none
    ∧ (lookupIn directChild exampleTree (.flat 1)).map Op.id = some 2 := by decide

/-! ### names are opaque tokens

The property sentence speaks of "the operation with that name": a name is something that is equal
to itself and to nothing else.  The model numbers the names; the real code compares Python strings.
The theorems below say that no entry point of the model uses anything of a name but equality —
respelling all names of the tree and of the reference by an injective map leaves every answer (the
operation found, identified by its position/id) unchanged.  They are what entitles the harness to
compare the real resolvers, run on the same tree under arbitrary spellings (empty string, blanks,
case variants, `::`, NUL, canonically equivalent unicode, …), with the one numbered model. -/

/-- respelling does not move operations: the op at a path of the respelled tree is the respelled op
at that path, with the same ancestor chain -/
theorem rename_chain (f : Nat → Nat) (root : Op) (p : List Nat) :
    chainAt (root.rename f) p [] = (chainAt root p []).map (List.map (Op.rename f)) := by
  simpa using chainAt_rename f root p []

/-- `get_nearest_symbol_table` does not look at names -/
theorem rename_nearest_table (f : Nat → Nat) (chain : List Op) :
    nearestTable (chain.map (Op.rename f)) = (nearestTable chain).map (Op.rename f) :=
  nearestTable_rename f chain

/-- direct lookup (`lookup_symbol_in`, also with `all_symbols`, and `lookup_nearest_symbol_from`):
the answer under an injective respelling is the respelled answer -/
theorem rename_direct {f : Nat → Nat} (hf : Function.Injective f) (t : Op) (chain : List Op) (s : Sym) :
    lookupIn directChild (t.rename f) (s.rename f) = (lookupIn directChild t s).map (Op.rename f)
    ∧ lookupAllIn directChild (t.rename f) (s.rename f)
        = (lookupAllIn directChild t s).map (List.map (Op.rename f))
    ∧ lookupNearest directChild (chain.map (Op.rename f)) (s.rename f)
        = (lookupNearest directChild chain s).map (Op.rename f) :=
  ⟨lookupIn_rename (directChild_rename hf) t s, lookupAllIn_rename (directChild_rename hf) t s,
   lookupNearest_rename (directChild_rename hf) chain s⟩

/-- cached lookup (`SymbolTable.__init__`/`lookup`, `SymbolTableCollection`), on every tree —
verified or not: the dict of `__init__` registers a symbol whatever its name is -/
theorem rename_cached {f : Nat → Nat} (hf : Function.Injective f) (t : Op) (chain : List Op) (s : Sym) :
    cachedChild (t.rename f) (f s.root) = (cachedChild t s.root).map (Op.rename f)
    ∧ lookupIn cachedChild (t.rename f) (s.rename f) = (lookupIn cachedChild t s).map (Op.rename f)
    ∧ lookupAllIn cachedChild (t.rename f) (s.rename f)
        = (lookupAllIn cachedChild t s).map (List.map (Op.rename f))
    ∧ lookupNearest cachedChild (chain.map (Op.rename f)) (s.rename f)
        = (lookupNearest cachedChild chain s).map (Op.rename f) :=
  ⟨cachedChild_rename hf t s.root, lookupIn_rename (cachedChild_rename hf) t s,
   lookupAllIn_rename (cachedChild_rename hf) t s, lookupNearest_rename (cachedChild_rename hf) chain s⟩

/-- `SymbolTable(op).lookup(name)` -/
theorem rename_table_lookup {f : Nat → Nat} (hf : Function.Injective f) (t : Op) (s : Sym) :
    tableLookup (t.rename f) (s.rename f) = (tableLookup t s).map (Option.map (Op.rename f)) := by
  cases s with
  | flat n => simp [Sym.rename, tableLookup, cachedChild_rename hf t n]
  | ref r ns => simp [Sym.rename, tableLookup]

/-- `traits.SymbolTable.lookup_symbol` (what the driver prints: the id found, `none`, or the
`ValueError`) -/
theorem rename_traits {f : Nat → Nat} (hf : Function.Injective f) (chain : List Op) (s : Sym) :
    showTraits (traitsLookup (chain.map (Op.rename f)) (s.rename f)) = showTraits (traitsLookup chain s) := by
  rw [traitsLookup_eq, traitsLookup_eq, lookupNearest_rename (directChild_rename hf), nearestTable_rename]
  cases nearestTable chain with
  | none => rfl
  | some t => cases lookupNearest directChild chain s <;> simp [showTraits]

/-- the symbol-table part of `Operation.verify` -/
theorem rename_verify {f : Nat → Nat} (hf : Function.Injective f) (root : Op) :
    verifyB (root.rename f) = verifyB root := verifyB_rename hf root

/-- All of it at once, as the check uses it: take any tree, any start operation (path `p`), any
reference; respell tree and reference by an injective `f`.  Then the respelled tree verifies iff
the original does, the start operation is at the same path, and every entry point designates the
operation with the same id (or nothing, or the `ValueError`) as before. -/
theorem spelling_irrelevant {f : Nat → Nat} (hf : Function.Injective f) (root : Op) (p : List Nat)
    (chain : List Op) (s : Sym) (h : chainAt root p [] = some chain) :
    verifyB (root.rename f) = verifyB root
    ∧ ∃ chain', chainAt (root.rename f) p [] = some chain' ∧ chain'.map Op.id = chain.map Op.id
      ∧ (nearestTable chain').map Op.id = (nearestTable chain).map Op.id
      ∧ (lookupNearest directChild chain' (s.rename f)).map Op.id
          = (lookupNearest directChild chain s).map Op.id
      ∧ (lookupNearest cachedChild chain' (s.rename f)).map Op.id
          = (lookupNearest cachedChild chain s).map Op.id
      ∧ showTraits (traitsLookup chain' (s.rename f)) = showTraits (traitsLookup chain s) := by
  refine ⟨rename_verify hf root, chain.map (Op.rename f), ?_, ?_, ?_, ?_, ?_, rename_traits hf chain s⟩
  · rw [rename_chain, h]; rfl
  · simp [Function.comp_def]
  · rw [nearestTable_rename]; cases nearestTable chain <;> simp
  · rw [(rename_direct hf root chain s).2.2]; cases lookupNearest directChild chain s <;> simp
  · rw [(rename_cached hf root chain s).2.2.2]; cases lookupNearest cachedChild chain s <;> simp

/-- injectivity is needed: a spelling that identifies two names changes answers (this is what a
resolver that normalises names — strips, lower-cases, treats the empty name as absent — does) -/
theorem rename_noninjective_counterexample :
    (lookupIn directChild (exampleTree.rename fun _ => 0) ((Sym.flat 1).rename fun _ => 0)).map Op.id = some 1
    ∧ (lookupIn directChild exampleTree (.flat 1)).map Op.id = some 2 := by decide

/-- without unique names the cached (last wins) and direct (first wins) resolvers differ: the
hypothesis of `cached_eq_direct` cannot be dropped -/
theorem cached_ne_direct_unverified :
    ∃ t : Op, verifyB t = false ∧
      (cachedChild t 0).map Op.id = some 2 ∧ (directChild t 0).map Op.id = some 1 :=
  ⟨.mk 0 true true none none
      [.mk 1 false true (some 0) none [] [], .mk 2 false true (some 0) none [] []] [],
   by decide⟩

/-- pre-repair code: recursive call `lookup_symbol(o, rest)` re-anchors at `o` when `o` is a table and
otherwise at the table that holds `o`; no visibility check -/
def traitsOld (anchor : Op) : List Nat → Option Op
  | [] => none
  | [n] => directChild anchor n
  | n :: m :: ns =>
    match directChild anchor n with
    | none => none
    | some o => traitsOld (if o.isTable then o else anchor) (m :: ns)

/-- the two clauses the unrepaired `traits.SymbolTable.lookup_symbol` missed (found by the check on
the pinned tree): `@0::@1` through the non-table `@0`, and `@2::@1` reaching a private symbol -/
theorem traits_unrepaired_counterexample :
    (traitsOld exampleTree [0, 1]).map Op.id = some 2 ∧ (traitsGo true exampleTree [0, 1]).map Op.id = none ∧
    (traitsOld exampleTree [2, 1]).map Op.id = some 4 ∧ (traitsGo true exampleTree [2, 1]).map Op.id = none := by
  decide

end Xdsl.SymbolTable
